import Proofs.C15Q
import Proofs.Lemmas.C15D
/-! C15D – `depressed_cubic_dominant` (kurbo/src/common.rs), the resolvent-root finder of `solve_quartic`: discharge of the
    hypothesis `hphi` of C15Q over ℝ.

    All theorems are about the model `Kurbo/Quartic.lean` (`dcdK`, `dcdPhi0`, `dcdNewton`, `depressedCubicDominant`) exactly
    as it is, read over ℝ with the transcendental `Scalar` fields being the real functions they are named after
    (`LawfulReal` of `Lemmas/RealLaws.lean`: `sqrt`, `cbrt`, `cos`; plus `LawfulAcos` stated in `Lemmas/C15D.lean`: `acos = Real.arccos`; both are
    inhabited by `realScalar`, so nothing is postulated).  `q = −g/3`, `r = h/2`, the cubic is `x³ − 3q·x + 2r`.

    What is proved.
    A. start value.
       * `phi0_trig_root` (branch `r² < q³`: `−2√q·cos(acos|t|/3)·sign t`, `t = r/√(q³)`, triple-angle identity),
         `phi0_cardano_root` (branch `r² ≥ q³`: `a = cbrt(−r − sign(r)√(r² − q³))`, `b = q/a` or 0, incl. the case `a = 0`):
         the plain formulas (`k = None`) give a root of `x³ − 3q x + 2r`, for all real `q`, `r` of the branch.
       * `dcdPhi0_formula`: whenever `k = None` or `r ≠ 0` the model's `phi_0` is the plain formula – i.e. the two
         overflow-guarded rewritings (`k = Some(1 − q(q/r)²)` for `|q| < |r|`, `k = Some(sign q·((r/q)²/q − 1))` otherwise;
         `t = r/q/√q`; radicands `−r(1 + √k)` and `−r − copysign(√|q|·q·√k, r)`) are equal in ℝ to the plain ones, and the
         branch test `k < 0` is equivalent to `r² < q³`.  The thresholds `1e102`, `1e154` play no role in ℝ.
       * `dcdPhi0_r_zero`: `k = Some …` and `r = 0`: `phi_0 = 0` (`g > 0`) or `√(−g)`.
       * `dcdPhi0_root`: in every case `phi_0³ + g·phi_0 + h = 0`.
    B. Newton refinement (any lawful scalar).
       * `dcdNewton_root`: an exact root (state `f = 0`) is a fixed point of the loop for every iteration count (either
         `delt_f = 0` → break, or `new_x = x`, `new_f = 0` → return `new_x`).
       * `dcdNewton_residual_le`: the loop never increases `|f|`; `depressedCubicDominant_residual_le`: the value returned by
         `depressed_cubic_dominant` has a residual no larger than that of `phi_0` (whether or not the early-return test fires).
    C. `depressedCubicDominant_root` (ℝ): the returned value is a root of `x³ + g x + h`;
       `depressedCubicDominant_eq_phi0`: it is `phi_0` itself;
       `depressedCubicDominant_dominant`: every real root `y` satisfies `|y| ≤ |returned value|` (from `phi_0² ≥ −g`,
       `dcdPhi0_sq_ge`).
    D. C15Q without `hphi`: `quarticPhi_root` (both modes: the `phi` of `factor_quartic_inner` is a root of the resolvent of
       the quartic), `factorQuarticInner_exact_neg_unconditional`, `factorQuarticInner_exact_zero_unconditional`,
       `factorQuarticInner_none_of_pos_unconditional`, `solveQuartic_general_exact_real_unconditional` – the statements of
       C15Q over ℝ without the hypothesis on the resolvent root; their other hypotheses (`d_2 < 0` above the noise threshold, or
       `d_2 = 0` and `d ≤ l_3²`; general case `c4 ≠ 0`, `c0 ≠ 0`, not biquadratic) remain.  `quarticPhi_isSome`: `phi` is
       always computed.

    What is not proved.
    * Nothing about `Float`: rounding, the purpose of the overflow guards, of the early-return test `|f| < EPS_M·max(…)`, the
      convergence of the Newton loop from an inexact start (only: it never makes the residual worse).
    * Over ℝ the early-return test is irrelevant (`f = 0`); that it is a sensible test for doubles is not addressed.
    * Which root is returned when several have the same largest magnitude is not characterised (only `|y| ≤ |phi|`). -/

namespace Kurbo

theorem phi0_trig_root {q r : ℝ} (h : r * r < q ^ 3) : phi0Trig q r ^ 3 - 3 * q * phi0Trig q r + 2 * r = 0 := by
  have hq : 0 < q := pos_of_sq_lt_cube h
  have hs0 : 0 < √q := Real.sqrt_pos.mpr hq
  have hs2 : √q * √q = q := Real.mul_self_sqrt hq.le
  have hrle : |r| ≤ √(q ^ 3) := Real.abs_le_sqrt (by rw [sq]; exact h.le)
  unfold phi0Trig
  rw [sqrt_cube hq.le] at hrle ⊢
  generalize √q = s at hs0 hs2 hrle ⊢
  have hp : 0 < q * s := mul_pos hq hs0
  have htr : r / (q * s) * (q * s) = r := div_mul_cancel₀ r hp.ne'
  have htabs : |r / (q * s)| ≤ 1 := by rwa [abs_div, abs_of_pos hp, div_le_one hp]
  generalize r / (q * s) = t at htr htabs ⊢
  -- `cos 3θ = |t|` for `θ = acos|t| / 3`, and `cos θ ≥ 0`
  have h3 := Real.cos_three_mul (Real.arccos |t| * (1 / 3))
  rw [show 3 * (Real.arccos |t| * (1 / 3)) = Real.arccos |t| by ring,
    Real.cos_arccos ((neg_nonpos.mpr zero_le_one).trans (abs_nonneg t)) htabs] at h3
  rw [abs_of_nonneg ((div_nonneg (Real.sqrt_nonneg 3) zero_le_two).trans (cos_arccos_third t))]
  generalize Real.cos (Real.arccos |t| * (1 / 3)) = c at h3 ⊢
  by_cases htn : t < 0
  · rw [if_pos htn]
    rw [abs_of_neg htn] at h3
    linear_combination (8 * s * c ^ 3) * hs2 + (-2 * q * s) * h3 + (-2) * htr
  · rw [if_neg htn]
    rw [abs_of_nonneg (not_lt.mp htn)] at h3
    linear_combination (-8 * s * c ^ 3) * hs2 + (2 * q * s) * h3 + (-2) * htr
example : (3 : ℝ) * 3 < (7 / 3) ^ 3 := by norm_num

theorem phi0_cardano_root {q r : ℝ} (h : q ^ 3 ≤ r * r) : phi0Card q r ^ 3 - 3 * q * phi0Card q r + 2 * r = 0 :=
  cardanoSum_root (cardanoArg_quad h) (realCbrt_pow _) cardanoArg_eq_zero
example : (-1 / 3 : ℝ) ^ 3 ≤ (-1) * (-1) := by norm_num

section real
variable [Scalar ℝ] [LawfulScalar ℝ] [LawfulReal] [LawfulAcos]

/-- unless `k = Some …` and `r = 0`, the model's `phi_0` is the plain formula (the overflow-guarded formulas are the
    plain ones rewritten) -/
theorem dcdPhi0_formula (g h : ℝ) (hcase : dcdK (-1 / 3 * g) (1 / 2 * h) = none ∨ 1 / 2 * h ≠ 0) :
    dcdPhi0 g h = if 1 / 2 * h * (1 / 2 * h) < (-1 / 3 * g) ^ 3 then phi0Trig (-1 / 3 * g) (1 / 2 * h)
      else phi0Card (-1 / 3 * g) (1 / 2 * h) := by
  rw [dcdPhi0_eq]
  rcases dcdK_cases (-1 / 3 * g) (1 / 2 * h) with hk | ⟨hlt, hk⟩ | ⟨hlt, hk⟩ <;> rw [hk]
  · rfl
  all_goals
    have hr : 1 / 2 * h ≠ 0 := hcase.resolve_left (by rw [hk]; exact Option.some_ne_none _)
    dsimp only
    rw [if_neg hr]
  · exact phi0Guard_eq_plain hr (Or.inl ⟨hlt, rfl⟩)
  · exact phi0Guard_eq_plain hr (Or.inr ⟨hlt, rfl⟩)
example : (1 / 2 * (6 : ℝ) ≠ 0) := by norm_num

/-- `k = Some …`, `r = 0` -/
theorem dcdPhi0_r_zero (g h kv : ℝ) (hk : dcdK (-1 / 3 * g) (1 / 2 * h) = some kv) (hr : 1 / 2 * h = 0) :
    dcdPhi0 g h = if 0 < g then 0 else √(-g) := by
  rw [dcdPhi0_eq, hk]; exact if_pos hr

-- the guarded regime with `r = 0` is reachable: g = −3·10¹⁰³, h = 0 (q = 10¹⁰³ ≥ 1e102)
example : ∃ kv, dcdK (-1 / 3 * (-3 * 10 ^ 103 : ℝ)) (1 / 2 * 0) = some kv ∧ 1 / 2 * (0 : ℝ) = 0 := by
  unfold dcdK dcdQBig dcdRBig
  simp only [scalar_norm, Nat.cast_one, Bool.and_eq_true, decide_eq_true_eq]
  push_cast
  have e : (-1 / 3 * (-3 * 10 ^ 103) : ℝ) = 10 ^ 103 := by ring
  rw [e, abs_of_pos (by positivity), if_neg (by norm_num)]
  split_ifs <;> exact ⟨_, rfl, by norm_num⟩

/-- the start value is a root, in every branch -/
theorem dcdPhi0_root (g h : ℝ) : dcdPhi0 g h ^ 3 + g * dcdPhi0 g h + h = 0 := by
  by_cases hcase : dcdK (-1 / 3 * g) (1 / 2 * h) = none ∨ 1 / 2 * h ≠ 0
  · rw [dcdPhi0_formula g h hcase]
    split_ifs with hb
    · linear_combination phi0_trig_root hb
    · linear_combination phi0_cardano_root (not_lt.mp hb)
  · rw [not_or, not_not] at hcase
    obtain ⟨kv, hkv⟩ := Option.ne_none_iff_exists'.mp hcase.1
    rw [dcdPhi0_r_zero g h kv hkv hcase.2, show h = 0 by linear_combination 2 * hcase.2]
    exact phi0_r_zero_root g

theorem dcdPhi0_sq_ge (g h : ℝ) : -g ≤ dcdPhi0 g h ^ 2 := by
  by_cases hcase : dcdK (-1 / 3 * g) (1 / 2 * h) = none ∨ 1 / 2 * h ≠ 0
  · rw [dcdPhi0_formula g h hcase]
    split_ifs with hb
    · linear_combination phi0Trig_sq_ge hb
    · linear_combination phi0Card_sq_ge (not_lt.mp hb)
  · rw [not_or, not_not] at hcase
    obtain ⟨kv, hkv⟩ := Option.ne_none_iff_exists'.mp hcase.1
    rw [dcdPhi0_r_zero g h kv hkv hcase.2]
    split_ifs with hg
    · rw [zero_pow two_ne_zero]; exact (neg_neg_of_pos hg).le
    · rw [Real.sq_sqrt (neg_nonneg.mpr (not_lt.mp hg))]

end real

section newton
variable {K : Type} [Field K] [LinearOrder K] [IsStrictOrderedRing K] [FloorRing K] [Scalar K] [LawfulScalar K]

/-- an exact root is a fixed point of the whole loop -/
theorem dcdNewton_root {g h x : K} (hroot : (x * x + g) * x + h = 0) (n : Nat) : dcdNewton g h n x 0 = x :=
  dcdNewton_fixed hroot n
example : ((1 : Rat) * 1 + 1) * 1 + (-2) = 0 := by norm_num
example : dcdNewton (1 : Rat) (-2) 8 1 0 = 1 := by decide +kernel
-- `delt_f = 0` at a root (x = 0 is a triple root of x³): the loop breaks and returns x
example : dcdNewton (0 : Rat) 0 8 0 0 = 0 := by decide +kernel

/-- the loop never increases the residual -/
theorem dcdNewton_residual_le (g h : K) (n : Nat) (x : K) :
    |(dcdNewton g h n x ((x * x + g) * x + h) * dcdNewton g h n x ((x * x + g) * x + h) + g) *
        dcdNewton g h n x ((x * x + g) * x + h) + h| ≤ |(x * x + g) * x + h| := by
  induction n generalizing x with
  | zero => exact le_refl _
  | succ n ih =>
    rw [dcdNewton_succ]
    by_cases hd : 3 * x * x + g = 0
    · rw [if_pos hd]
    · rw [if_neg hd]
      generalize x - ((x * x + g) * x + h) / (3 * x * x + g) = nx
      by_cases h0 : (nx * nx + g) * nx + h = 0
      · rw [if_pos h0, h0, abs_zero]; exact abs_nonneg _
      · rw [if_neg h0]
        by_cases hge : |(x * x + g) * x + h| ≤ |(nx * nx + g) * nx + h|
        · rw [if_pos hge]
        · rw [if_neg hge]
          exact (ih nx).trans (not_le.mp hge).le
-- an inexact start over `Rat`: x³ + x − 2 from x = 2 (f = 8): the loop moves and ends with a smaller residual
example : dcdNewton (1 : Rat) (-2) 2 2 8 ≠ 2 ∧
    |(dcdNewton (1 : Rat) (-2) 2 2 8 * dcdNewton (1 : Rat) (-2) 2 2 8 + 1) * dcdNewton (1 : Rat) (-2) 2 2 8 + (-2)| < 1 := by
  decide +kernel

theorem depressedCubicDominant_residual_le (g h : K) :
    |(depressedCubicDominant g h * depressedCubicDominant g h + g) * depressedCubicDominant g h + h| ≤
      |(dcdPhi0 g h * dcdPhi0 g h + g) * dcdPhi0 g h + h| := by
  rw [depressedCubicDominant_eq]
  split_ifs
  · exact le_refl _
  · exact dcdNewton_residual_le g h 8 _

end newton

section real
variable [Scalar ℝ] [LawfulScalar ℝ] [LawfulReal] [LawfulAcos]

/-- the hypothesis `hphi` of the composite theorems of C15Q -/
theorem depressedCubicDominant_root (g h : ℝ) :
    depressedCubicDominant g h ^ 3 + g * depressedCubicDominant g h + h = 0 := by
  rw [depressedCubicDominant_of_root (by linear_combination dcdPhi0_root g h)]
  exact dcdPhi0_root g h

theorem depressedCubicDominant_eq_phi0 (g h : ℝ) : depressedCubicDominant g h = dcdPhi0 g h :=
  depressedCubicDominant_of_root (by linear_combination dcdPhi0_root g h)

/-- "dominant": no real root of the cubic is larger in magnitude than the returned one -/
theorem depressedCubicDominant_dominant (g h y : ℝ) (hy : y ^ 3 + g * y + h = 0) :
    |y| ≤ |depressedCubicDominant g h| := by
  rw [depressedCubicDominant_eq_phi0]
  exact dominant_of_sq_ge (dcdPhi0_root g h) hy (dcdPhi0_sq_ge g h)

/-- x³ − 7x + 6 = (x − 1)(x − 2)(x + 3), trigonometric branch: the root of largest magnitude, −3, is returned -/
example : depressedCubicDominant (-7 : ℝ) 6 = -3 := by
  have hr := depressedCubicDominant_root (-7) 6
  have hd := depressedCubicDominant_dominant (-7) 6 (-3) (by norm_num)
  generalize depressedCubicDominant (-7 : ℝ) 6 = x at hr hd
  have hfac : (x - 1) * ((x - 2) * (x + 3)) = 0 := by linear_combination hr
  rw [show |(-3 : ℝ)| = 3 by norm_num] at hd
  rcases mul_eq_zero.mp hfac with h1 | h1
  · rw [sub_eq_zero.mp h1] at hd; norm_num at hd
  · rcases mul_eq_zero.mp h1 with h2 | h2
    · rw [sub_eq_zero.mp h2] at hd; norm_num at hd
    · exact eq_neg_of_add_eq_zero_left h2

/-- x³ + x − 2 = (x − 1)(x² + x + 2), Cardano branch: the only real root, 1, is returned -/
example : depressedCubicDominant (1 : ℝ) (-2) = 1 := by
  have hr := depressedCubicDominant_root 1 (-2)
  generalize depressedCubicDominant (1 : ℝ) (-2) = x at hr
  have hfac : (x - 1) * (x ^ 2 + x + 2) = 0 := by linear_combination hr
  refine sub_eq_zero.mp ((mul_eq_zero.mp hfac).resolve_right fun h1 => ?_)
  have : (2 * x + 1) ^ 2 = -7 := by linear_combination 4 * h1
  exact absurd (sq_nonneg (2 * x + 1)) (by rw [this]; norm_num)

/-- the `phi` of `factor_quartic_inner` is a root of the resolvent cubic of the quartic (both modes) -/
theorem quarticPhi_root {a b c d : ℝ} {rescale : Bool} {phi : ℝ} (hq : quarticPhi a b c d rescale = some phi) :
    phi ^ 3 + resolventG a b c d * phi + resolventH a b c d = 0 := by
  obtain ⟨phi', hq', hroot⟩ := quarticPhi_exact a b c d rescale (depressedCubicDominant_root _ _)
  rw [hq] at hq'
  rw [Option.some.inj hq']; exact hroot

theorem quarticPhi_isSome (a b c d : ℝ) (rescale : Bool) : ∃ phi, quarticPhi a b c d rescale = some phi := by
  obtain ⟨phi', hq', -⟩ := quarticPhi_exact a b c d rescale (depressedCubicDominant_root _ _)
  exact ⟨phi', hq'⟩

theorem factorQuarticInner_exact_neg_unconditional {a b c d : ℝ} {rescale : Bool} {phi : ℝ}
    (hq : quarticPhi a b c d rescale = some phi)
    (hneg : ldlD1 a b phi < 0) (hthr : ldlNoise a b phi < |ldlD1 a b phi|) :
    ∃ a1 b1 a2 b2, factorQuarticInner a b c d rescale = some ((a1, b1), (a2, b2)) ∧
      a1 + a2 = a ∧ b1 + a1 * a2 + b2 = b ∧ b1 * a2 + a1 * b2 = c ∧ b1 * b2 = d :=
  factorQuarticInner_exact_neg hq (quarticPhi_root hq) hneg hthr (sqrtExact_real _ (neg_nonneg.mpr hneg.le))

theorem factorQuarticInner_exact_zero_unconditional {a b c d : ℝ} {rescale : Bool} {phi : ℝ}
    (hq : quarticPhi a b c d rescale = some phi) (hD : ldlD1 a b phi = 0)
    (hd3 : d ≤ (ldlSelect a b c d phi).2.1 * (ldlSelect a b c d phi).2.1) :
    ∃ a1 b1 a2 b2, factorQuarticInner a b c d rescale = some ((a1, b1), (a2, b2)) ∧
      a1 + a2 = a ∧ b1 + a1 * a2 + b2 = b ∧ b1 * a2 + a1 * b2 = c ∧ b1 * b2 = d :=
  factorQuarticInner_exact_zero hq (quarticPhi_root hq) hD (sqrtExact_real _ (neg_nonneg.mpr (sub_nonpos.mpr hd3)))

theorem factorQuarticInner_none_of_pos_unconditional {a b c d : ℝ} {rescale : Bool} {phi : ℝ}
    (hq : quarticPhi a b c d rescale = some phi)
    (hpos : 0 < ldlD1 a b phi) (hthr : ldlNoise a b phi < |ldlD1 a b phi|) :
    factorQuarticInner a b c d rescale = none ∧ solveQuarticInner a b c d rescale = none ∧
    ∀ x, x ^ 4 + a * x ^ 3 + b * x ^ 2 + c * x + d = 0 → x = -(ldlSelect a b c d phi).2.2.2 :=
  factorQuarticInner_none_of_pos hq (quarticPhi_root hq) hpos hthr

/-- the general case of `solve_quartic` over ℝ: `phi` is the value the code computes; with `d_2 < 0` above the noise threshold,
    or `d_2 = 0` and `d ≤ l_3²`, exactly the real roots are returned – no hypothesis on `depressed_cubic_dominant` -/
theorem solveQuartic_general_exact_real_unconditional (c0 c1 c2 c3 c4 : ℝ) (h4 : c4 ≠ 0) (h0 : c0 ≠ 0)
    (h31 : ¬ (c3 = 0 ∧ c1 = 0)) (phi : ℝ)
    (hq : quarticPhi (c3 / c4) (c2 / c4) (c1 / c4) (c0 / c4) false = some phi)
    (hcase : (ldlD1 (c3 / c4) (c2 / c4) phi < 0 ∧ ldlNoise (c3 / c4) (c2 / c4) phi < |ldlD1 (c3 / c4) (c2 / c4) phi|) ∨
      (ldlD1 (c3 / c4) (c2 / c4) phi = 0 ∧
        c0 / c4 ≤ (ldlSelect (c3 / c4) (c2 / c4) (c1 / c4) (c0 / c4) phi).2.1 * (ldlSelect (c3 / c4) (c2 / c4) (c1 / c4) (c0 / c4) phi).2.1)) :
    (solveQuartic c0 c1 c2 c3 c4).length ≤ 4 ∧
    ∀ x, x ∈ solveQuartic c0 c1 c2 c3 c4 ↔ c0 + c1 * x + c2 * x ^ 2 + c3 * x ^ 3 + c4 * x ^ 4 = 0 :=
  solveQuartic_general_exact_real c0 c1 c2 c3 c4 h4 h0 h31 phi hq (quarticPhi_root hq) hcase

/-- non-vacuity of the hypotheses: x⁴ − 4x³ + 6x² − 5x + 2 = (x² − x + 1)(x − 1)(x − 2); the resolvent is φ³ − 1, the code
    computes `phi = 1`, `d_2 = −1` -/
example : quarticPhi ((-4 : ℝ) / 1) (6 / 1) (-5 / 1) (2 / 1) false = some 1 ∧
    ldlD1 ((-4 : ℝ) / 1) (6 / 1) 1 < 0 ∧ ldlNoise ((-4 : ℝ) / 1) (6 / 1) 1 < |ldlD1 ((-4 : ℝ) / 1) (6 / 1) 1| := by
  refine ⟨?_, by unfold ldlD1; norm_num, by unfold ldlNoise ldlD1; norm_num⟩
  rw [quarticPhi_false]
  have hG : resolventG ((-4 : ℝ) / 1) (6 / 1) (-5 / 1) (2 / 1) = 0 := by unfold resolventG; norm_num
  have hH : resolventH ((-4 : ℝ) / 1) (6 / 1) (-5 / 1) (2 / 1) = -1 := by unfold resolventH; norm_num
  rw [hG, hH]
  have hr := depressedCubicDominant_root 0 (-1)
  generalize depressedCubicDominant (0 : ℝ) (-1) = x at hr
  have hfac : (x - 1) * (x ^ 2 + x + 1) = 0 := by linear_combination hr
  rw [sub_eq_zero.mp ((mul_eq_zero.mp hfac).resolve_right fun h1 => ?_)]
  have : (2 * x + 1) ^ 2 = -3 := by linear_combination 4 * h1
  exact absurd (sq_nonneg (2 * x + 1)) (by rw [this]; norm_num)

end real

-- the class assumptions are satisfiable: ℝ with Mathlib's functions
example : @LawfulScalar ℝ _ _ _ _ realScalar ∧ @LawfulReal realScalar ∧ @LawfulAcos realScalar :=
  ⟨realScalar_lawful, realScalar_lawfulReal, realScalar_lawfulAcos⟩

end Kurbo
