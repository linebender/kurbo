import Proofs.Lawful
/-! Unfolding lemmas for the hand-written operator instances and constructors of `Kurbo/Types.lean`
    (simp set `kdefs`); the tactic `kring`, which decides polynomial identities between kernel terms; `funext_all` and
    `ge_alg`, the fallback of the obligations in `Proofs/GenEquiv*.lean`. -/
namespace Kurbo
open Ops
variable {K : Type} [Scalar K]

@[kdefs] theorem vec2_add (a b : Vec2 K) : a + b = ⟨a.x + b.x, a.y + b.y⟩ := rfl
@[kdefs] theorem vec2_sub (a b : Vec2 K) : a - b = ⟨a.x - b.x, a.y - b.y⟩ := rfl
@[kdefs] theorem vec2_mul (a : Vec2 K) (t : K) : a * t = ⟨a.x * t, a.y * t⟩ := rfl
@[kdefs] theorem vec2_smul (t : K) (a : Vec2 K) : t * a = ⟨a.x * t, a.y * t⟩ := rfl
@[kdefs] theorem vec2_div (a : Vec2 K) (t : K) : a / t = ⟨a.x * srecip t, a.y * srecip t⟩ := rfl
@[kdefs] theorem vec2_neg (a : Vec2 K) : -a = ⟨-a.x, -a.y⟩ := rfl
@[kdefs] theorem point_add_vec (a : Point K) (b : Vec2 K) : a + b = ⟨a.x + b.x, a.y + b.y⟩ := rfl
@[kdefs] theorem point_sub_vec (a : Point K) (b : Vec2 K) : a - b = ⟨a.x - b.x, a.y - b.y⟩ := rfl
@[kdefs] theorem point_sub (a b : Point K) : a - b = (⟨a.x - b.x, a.y - b.y⟩ : Vec2 K) := rfl

attribute [kdefs] Vec2.new Point.new Size.new Rect.new Insets.new Line.new QuadBez.new CubicBez.new Affine.new
  TranslateScale.new Point.to_vec2 Vec2.to_point Vec2.to_size Size.to_vec2 Vec2.ZERO Point.ZERO Point.ORIGIN

attribute [kdefs] Vec2.dot Vec2.cross Vec2.hypot2 Vec2.lerp Vec2.turn_90 Vec2.rotate_scale
  Point.lerp Point.midpoint Point.distance_squared
  Line.eval Line.subsegment Line.start Line.end Line.reversed Line.midpoint Line.signed_area
  QuadBez.eval QuadBez.subsegment QuadBez.subdivide QuadBez.start QuadBez.end QuadBez.deriv QuadBez.signed_area QuadBez.raise
  CubicBez.eval CubicBez.subsegment CubicBez.subdivide CubicBez.start CubicBez.end CubicBez.deriv CubicBez.signed_area

end Kurbo

/-- decide a polynomial identity between kernel terms over a lawful scalar.
    The `Scalar` operations are rewritten in a second `simp`, in a single pass: in one joint set every `scalar_norm`
    lemma is tried again on each field-arithmetic term it has just produced, and such a try fails only after both
    instance paths have been unfolded. -/
macro "kring" : tactic => `(tactic| (
  (try simp only [kdefs, Kurbo.Point.mk.injEq, Kurbo.Vec2.mk.injEq, Kurbo.Line.mk.injEq,
    Kurbo.QuadBez.mk.injEq, Kurbo.CubicBez.mk.injEq, Kurbo.Affine.mk.injEq, Kurbo.Rect.mk.injEq, Prod.mk.injEq])
  <;> (try simp (config := { singlePass := true }) only [scalar_norm])
  <;> (try push_cast) <;> (repeat' (refine And.intro ?_ ?_)) <;> (first | exact True.intro | ring)))

macro "funext_all" : tactic => `(tactic| (repeat (apply funext; intro)))

open Lean Elab Tactic in
/-- fallback of the GenEquiv obligations; the callees are unfolded through `ge_eqs` -/
syntax "ge_alg" "[" Lean.Parser.Tactic.simpLemma,* "]" : tactic
macro_rules
  | `(tactic| ge_alg [$ls,*]) => `(tactic| (
      simp only [$ls,*, ge_eqs, kdefs, scalar_norm, Kurbo.Point.mk.injEq, Kurbo.Vec2.mk.injEq, Kurbo.Line.mk.injEq,
        Kurbo.QuadBez.mk.injEq, Kurbo.CubicBez.mk.injEq, Kurbo.Affine.mk.injEq, Kurbo.Rect.mk.injEq,
        Kurbo.Size.mk.injEq, Kurbo.Insets.mk.injEq, Kurbo.TranslateScale.mk.injEq, Kurbo.Nearest.mk.injEq, Prod.mk.injEq]
      <;> (try push_cast) <;> (try split_ifs) <;> (try (repeat' constructor)) <;> (try ring_nf) <;> (try norm_num) <;> (try linarith)))
