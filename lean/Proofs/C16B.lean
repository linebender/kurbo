import Proofs.Lemmas.C16BCanon
import Proofs.Lemmas.C16BMeaning
import Proofs.Lemmas.C16BFacts
/-! # C16B – `parse_render`: the SVG path parser reads back every spelled / rendered command list

Continuation of `Proofs/C16.lean` (same model `Kurbo/Svg.lean`, arbitrary `[Scalar K]`, no arithmetic law used, hence verbatim for
the `Float` instantiation).  Definitions and lemmas: `Proofs/Lemmas/C16Cmd.lean`, `C16Spelled.lean`, `C16B*.lean`.

## Vocabulary
* `C16Cmd α` – abstract path command over a type of "numbers" `α`: `moveTo lineTo horiz vert quadTo smoothQuadTo curveTo
  smoothCurveTo close`, each with a flag `rel` (lower-case letter).  `C16Cmd K` = arguments as scalars, `C16Cmd NumChunk` =
  arguments as they are spelled (a `NumChunk` is `ws* number ws* ','?`, C16).  **Arcs are left out.**
* `c16b_interp st c` – meaning of one command = exactly the state update of the `step_*` lemma of C16 (path element appended after
  flushing a pending implicit `MoveTo`, `last_pt`, `first_pt`, `last_ctrl` / reflection rule `smoothQuadCtrl`, `smoothCubicCtrl`,
  `last_cmd`); `c16b_run st cs` = left fold.
* `C16Spelled` – `ws*`, the letter *or nothing* (`explicit = false`: implicit repetition), the spelled arguments; `s.value : C16Cmd K`
  replaces every chunk by `tokValue (parseTok number)`.  `c16b_spell ss tail` = the bytes of all of them, then `tail`.
* `c16b_SpelledOk lc ss tail` – every chunk is well formed *in front of the bytes that follow it* (`NumChunk.Ok`: valid number
  token, cannot be continued by the next byte, the separator is all `optComma` eats), white space is white space, and a letter is
  only omitted where the parser remembers exactly that letter (`lc` = `last_cmd` before the list, threaded by `c16b_nextCmd`:
  `M`/`m` leave `L`/`l`, **`Z`/`z` leave `last_cmd` untouched**) and the command is neither `M` nor `Z`.
* `c16b_render spell cs` – one canonical rendering: letter, then every number spelled by `spell : K → NumParts` followed by one
  space (`M1 2 L3 4 C1 2 3 4 5 6 Z`).

## Proved
1. `parse_spelled_cmd`, `parse_spelled_step`: one spelled command (any of the nine, absolute or relative, letter explicit or
   implied) = one loop iteration = `c16b_interp`.  State invariant used: `st.path ≠ []` unless the command is `M` (re-established by
   every command: `parse_step_invariants`); the C16 invariant `SvgSt.Inv` (`last_cmd` is not `z`) is needed only by the implicit
   step and follows there from "`last_cmd` = the letter of a command that is not `Z`"; it is preserved anyway (`parse_run_inv`).
2. **`parse_spelled`** (the general `parse_render`: every mix of absolute/relative, `H V S T`, implicit repetition, every legal
   choice of white space / comma / no separator, every valid spelling of every number): for a well-formed spelled list that is
   empty or starts with `M`/`m`, `fromSvgBytes` returns `Ok` with the path of the folded meaning – no panic, no error.
   `parse_spelled_loop` / `parse_spelled_run`: the same from any state (induction over the list; fuel: any fuel larger than the
   number of commands suffices, and `data.size + 1` is larger because every command occupies at least one byte).
3. **`parse_render`**: the canonical rendering of any command list that starts with a `moveTo` parses to its meaning, provided
   `spell x` is a valid token with value `x` for the numbers `x` that occur.
4. Corollaries: `parse_spelled_same_value` (two spellings of the same abstract list parse to the same result);
   `parse_render_elements_count` (number of elements = one per command + one per non-move command directly after a `Z`; equal to the
   number of commands if every `Z` is followed by `M` or the end; always between `n` and `2n`), `parse_spelled_elements_count`
   (the same count for a spelled list); `run_absolutize`, `run_normalize` (the meaning of a list, of its absolute form and of
   its normal form have the same path);
   `parse_render_relative_absolute` (a list and its absolute form `c16b_absolutize` parse to the same path);
   `parse_render_normal_form` (… and so does the normal form `c16b_normalize`, which uses absolute `M L Q C Z` only);
   `parse_render_same_normal_form` (lists with equal normal forms parse to the same path).
5. **The output format of `BezPath::write_to`** (`c16b_write spell els`: `M{},{}`, `L{},{}`, `Q{},{} {},{}`, `C{},{} {},{} {},{}`, `Z`,
   one space between elements – transcribed from svg.rs into `Proofs/Lemmas/C16BWriter.lean`, number printer = parameter `spell`):
   `parse_write_format` (it parses to the meaning of its `M L Q C Z` commands), `parse_write_format_roundtrip` (read back
   *identically* if the list starts with `MoveTo` and every `ClosePath` is followed by `MoveTo` or the end),
   `parse_write_format_count` (otherwise one extra `MoveTo` per `ClosePath` followed by a drawing element).
6. Non-vacuity: concrete lists over `Rat`; every hypothesis is decidable (`Proofs/Lemmas/C16BDecide.lean`) and checked by
   `decide`, the conclusion of `parse_render` is cross-checked by direct kernel evaluation of the model.

## NOT proved
* Arcs (`A`/`a`) are not part of `C16Cmd` (C16 has `cmd_arc` for one arc command).
* Nothing about a number *printer*: `spell` is a parameter with the hypothesis "valid token whose `tokValue ∘ parseTok` is `x`" for
  the numbers that occur (it cannot hold for NaN / infinities; for `Float` it is Rust's `Display`/`FromStr` round trip, validated
  only by the correspondence runs).  `c16b_write` is a definition in the proof tree; the model of `write_to` is `svgWrite`
  (`Kurbo/SvgWrite.lean`, tied to the crate by the stratum `writer`), and `Proofs/C16W.lean` proves `c16b_write = svgWrite` and
  restates the theorems of item 5 for the model writer.
* "Same segments" for paths in which a `ClosePath` is followed by a drawing element is stated here only as an element count;
  equality of `segments()` is `svgWrite_same_segments` of `Proofs/C16W.lean` (lawful point equality).
* The converse (every byte string the parser accepts is `c16b_spell` of some well-formed list) is not proved.
-/
namespace Kurbo
variable {K : Type} [Scalar K]

/-- `svgCommand` on the spelled arguments of any of the nine commands (letter already read or implied) is `c16b_interp` -/
theorem parse_spelled_cmd (st : SvgSt K) (l : Lx) (c : C16Cmd NumChunk) (r : List UInt8) (hrem : l.rem = c.argBytes ++ r)
    (hok : c.ArgsOk r) (hp : st.path ≠ [] ∨ c.isMove = true) :
    svgCommand c.letter st l = .ok (c16b_interp st (c.map NumChunk.value)) (l.adv c.argBytes.length) :=
  svgCommand_spelled st l c r hrem hok hp

/-- one loop iteration = one spelled command (letter spelled out, or omitted where it repeats `last_cmd`) -/
theorem parse_spelled_step (fuel : Nat) (st : SvgSt K) (l : Lx) (s : C16Spelled) (r : List UInt8)
    (hrem : l.rem = s.bytes ++ r) (hok : s.Ok st.last_cmd r) (hp : st.path ≠ [] ∨ s.cmd.isMove = true) :
    svgLoop (fuel + 1) st l = svgLoop fuel (c16b_interp st s.value) (l.adv s.bytes.length) :=
  c16b_step fuel st l s r hrem hok hp

/-- what the step re-establishes: the path is non-empty, `last_cmd` is `c16b_nextCmd` (untouched by `close`), `SvgSt.Inv` is kept -/
theorem parse_step_invariants (st : SvgSt K) (c : C16Cmd K) :
    (c16b_interp st c).path ≠ [] ∧ (c16b_interp st c).last_cmd = c16b_nextCmd st.last_cmd c ∧
    (st.Inv → (c16b_interp st c).Inv) := by
  refine ⟨c16b_interp_path_ne st c, c16b_interp_last_cmd st c, ?_⟩
  intro hinv
  unfold SvgSt.Inv at *
  rw [c16b_interp_last_cmd]
  cases c with
  | close rel => exact hinv
  | moveTo rel p => cases rel <;> simp only [c16b_nextCmd, if_true, Bool.false_eq_true, if_false] <;> decide
  | _ => exact c16b_letter_lower_ne_z _ rfl

theorem parse_run_inv (st : SvgSt K) (cs : List (C16Cmd K)) (hinv : st.Inv) : (c16b_run st cs).Inv := by
  induction cs generalizing st with
  | nil => exact hinv
  | cons c cs ih => exact ih _ ((parse_step_invariants st c).2.2 hinv)

/-- from any state (non-empty path, or the list starts with `M`) and any fuel larger than the number of commands -/
theorem parse_spelled_loop (ss : List C16Spelled) (tail : List UInt8) (fuel : Nat) (st : SvgSt K) (l : Lx)
    (hf : ss.length < fuel) (hrem : l.rem = c16b_spell ss tail) (hok : c16b_SpelledOk st.last_cmd ss tail)
    (hp : st.path ≠ [] ∨ c16b_startsWithMove (ss.map (·.cmd))) :
    svgLoop fuel st l = .ok (c16b_run st (ss.map C16Spelled.value)).path :=
  c16b_loop ss tail fuel st l hf hrem hok hp

/-- fuel-free form (`svgRun` = the loop with the fuel `fromSvgBytes` provides for the bytes left) -/
theorem parse_spelled_run (ss : List C16Spelled) (tail : List UInt8) (st : SvgSt K) (l : Lx)
    (hrem : l.rem = c16b_spell ss tail) (hok : c16b_SpelledOk st.last_cmd ss tail)
    (hp : st.path ≠ [] ∨ c16b_startsWithMove (ss.map (·.cmd))) :
    svgRun st l = .ok (c16b_run st (ss.map C16Spelled.value)).path :=
  c16b_svgRun ss tail st l hrem hok hp

/-- **`parse_render`, general form**: the bytes of a well-formed spelled command list that is empty or starts with `M`/`m` parse –
    without panic or error – to the path of the meaning of the list -/
theorem parse_spelled (data : ByteArray) (ss : List C16Spelled) (tail : List UInt8)
    (hdata : data.data.toList = c16b_spell ss tail) (hok : c16b_SpelledOk 0 ss tail)
    (hm : c16b_startsWithMove (ss.map (·.cmd))) :
    fromSvgBytes (K := K) data = .ok (c16b_run svgInit (ss.map C16Spelled.value)).path :=
  c16b_parse data ss tail hdata hok hm

/-- two spellings of the same abstract command list (other letters omitted, other separators, other spellings of the numbers)
    parse to the same result -/
theorem parse_spelled_same_value (data data' : ByteArray) (ss ss' : List C16Spelled) (tail tail' : List UInt8)
    (hdata : data.data.toList = c16b_spell ss tail) (hdata' : data'.data.toList = c16b_spell ss' tail')
    (hok : c16b_SpelledOk 0 ss tail) (hok' : c16b_SpelledOk 0 ss' tail')
    (hm : c16b_startsWithMove (ss.map (·.cmd)))
    (hv : ss.map (C16Spelled.value (K := K)) = ss'.map (C16Spelled.value (K := K))) :
    fromSvgBytes (K := K) data = fromSvgBytes (K := K) data' := by
  have hval : ∀ ts : List C16Spelled,
      ts.map (C16Spelled.value (K := K)) = (ts.map (·.cmd)).map (C16Cmd.map NumChunk.value) :=
    fun ts => (List.map_map).symm
  have hm' : c16b_startsWithMove (ss'.map (·.cmd)) := by
    rw [← c16b_startsWithMove_map (NumChunk.value (K := K)), ← hval, ← hv, hval, c16b_startsWithMove_map]
    exact hm
  rw [parse_spelled data ss tail hdata hok hm, parse_spelled data' ss' tail' hdata' hok' hm', hv]

/-- **`parse_render`**: for every command list that starts with a `moveTo` (or is empty), the canonical rendering
    `letter number␣number␣… letter …` – every number `x` spelled by any valid token `spell x` whose value is `x` – parses to the
    path of the meaning of the list -/
theorem parse_render (spell : K → NumParts) (cs : List (C16Cmd K)) (hm : c16b_startsWithMove cs)
    (hspell : ∀ c ∈ cs, ∀ x ∈ c.scalars, (spell x).Valid ∧ tokValue (parseTok (spell x).bytes) = x) :
    fromSvgBytes (K := K) ⟨(c16b_render spell cs).toArray⟩ = .ok (c16b_run svgInit cs).path := by
  have h := parse_spelled (K := K) ⟨(c16b_render spell cs).toArray⟩ (cs.map (c16b_canon spell)) [] rfl
    (c16b_canon_ok spell cs 0 (fun c hc x hx => (hspell c hc x hx).1)) (c16b_canon_startsWithMove spell cs hm)
  rw [h, c16b_canon_values spell cs (fun c hc x hx => (hspell c hc x hx).2)]

/-- the number of path elements: one per command, plus one implicit `MoveTo` for every non-move command directly after a `Z`;
    so between `n` and `2n`, and exactly `n` if every `Z` is followed by an `M` or the end -/
theorem parse_render_elements_count (spell : K → NumParts) (cs : List (C16Cmd K)) (hm : c16b_startsWithMove cs)
    (hspell : ∀ c ∈ cs, ∀ x ∈ c.scalars, (spell x).Valid ∧ tokValue (parseTok (spell x).bytes) = x) :
    ∃ els, fromSvgBytes (K := K) ⟨(c16b_render spell cs).toArray⟩ = .ok els ∧
      els.length = c16b_elemCount false cs ∧ cs.length ≤ els.length ∧ els.length ≤ 2 * cs.length ∧
      (c16b_closeThenMove cs → els.length = cs.length) := by
  refine ⟨_, parse_render spell cs hm hspell, ?_⟩
  have hlen := c16b_run_init_length (K := K) cs
  have hb := c16b_elemCount_bounds false cs
  refine ⟨hlen, by omega, by omega, fun h => ?_⟩
  rw [hlen, c16b_elemCount_of_closeThenMove false cs h (by intro h; cases h)]

/-- the same count for any spelling -/
theorem parse_spelled_elements_count (data : ByteArray) (ss : List C16Spelled) (tail : List UInt8)
    (hdata : data.data.toList = c16b_spell ss tail) (hok : c16b_SpelledOk 0 ss tail)
    (hm : c16b_startsWithMove (ss.map (·.cmd))) :
    ∃ els, fromSvgBytes (K := K) data = .ok els ∧ els.length = c16b_elemCount false (ss.map (·.cmd)) := by
  refine ⟨_, parse_spelled data ss tail hdata hok hm, ?_⟩
  have hval : ss.map (C16Spelled.value (K := K)) = (ss.map (·.cmd)).map (C16Cmd.map NumChunk.value) := List.map_map.symm
  rw [c16b_run_init_length, hval, c16b_elemCount_map]

/-- the meaning of a list and of its absolute form (every command replaced by the upper-case command with the absolute
    coordinates the parser computes) have the same path, `last_pt`, `first_pt` and `last_ctrl` -/
theorem run_absolutize (st : SvgSt K) (cs : List (C16Cmd K)) :
    (c16b_run st (c16b_absolutize st cs)).path = (c16b_run st cs).path ∧
    (c16b_run st (c16b_absolutize st cs)).last_pt = (c16b_run st cs).last_pt ∧
    (c16b_run st (c16b_absolutize st cs)).first_pt = (c16b_run st cs).first_pt ∧
    (c16b_run st (c16b_absolutize st cs)).last_ctrl = (c16b_run st cs).last_ctrl := by
  have h := c16b_run_absolutize (c16b_StEq.refl st) cs
  exact ⟨h.path.symm, h.last_pt.symm, h.first_pt.symm, h.last_ctrl.symm⟩

/-- … and of its normal form (absolute `M L Q C Z` only: `H`/`V` ↦ `L`, `T` ↦ `Q`, `S` ↦ `C` with the reflected control point) -/
theorem run_normalize (st : SvgSt K) (cs : List (C16Cmd K)) :
    (c16b_run st (c16b_normalize st cs)).path = (c16b_run st cs).path ∧
    (∀ c ∈ c16b_normalize st cs, c.isNormal = true) :=
  ⟨(c16b_run_normalize (c16b_StEq.refl st) cs).path.symm, c16b_normalize_isNormal st cs⟩

/-- **relative vs absolute**: a command list and its absolute form – each rendered canonically, possibly with different number
    spellings – parse to the same path -/
theorem parse_render_relative_absolute (spell spell' : K → NumParts) (cs : List (C16Cmd K)) (hm : c16b_startsWithMove cs)
    (hspell : ∀ c ∈ cs, ∀ x ∈ c.scalars, (spell x).Valid ∧ tokValue (parseTok (spell x).bytes) = x)
    (hspell' : ∀ c ∈ c16b_absolutize svgInit cs, ∀ x ∈ c.scalars,
      (spell' x).Valid ∧ tokValue (parseTok (spell' x).bytes) = x) :
    fromSvgBytes (K := K) ⟨(c16b_render spell' (c16b_absolutize svgInit cs)).toArray⟩ =
      fromSvgBytes (K := K) ⟨(c16b_render spell cs).toArray⟩ := by
  rw [parse_render spell cs hm hspell,
    parse_render spell' _ (c16b_absolutize_startsWithMove _ cs hm) hspell', (run_absolutize svgInit cs).1]

/-- the same for the normal form -/
theorem parse_render_normal_form (spell spell' : K → NumParts) (cs : List (C16Cmd K)) (hm : c16b_startsWithMove cs)
    (hspell : ∀ c ∈ cs, ∀ x ∈ c.scalars, (spell x).Valid ∧ tokValue (parseTok (spell x).bytes) = x)
    (hspell' : ∀ c ∈ c16b_normalize svgInit cs, ∀ x ∈ c.scalars,
      (spell' x).Valid ∧ tokValue (parseTok (spell' x).bytes) = x) :
    fromSvgBytes (K := K) ⟨(c16b_render spell' (c16b_normalize svgInit cs)).toArray⟩ =
      fromSvgBytes (K := K) ⟨(c16b_render spell cs).toArray⟩ := by
  rw [parse_render spell cs hm hspell,
    parse_render spell' _ (c16b_normalize_startsWithMove _ cs hm) hspell', (run_normalize svgInit cs).1]

/-- two command lists with equal normal forms parse to the same path -/
theorem parse_render_same_normal_form (spell spell' : K → NumParts) (cs cs' : List (C16Cmd K))
    (hm : c16b_startsWithMove cs) (hm' : c16b_startsWithMove cs')
    (hspell : ∀ c ∈ cs, ∀ x ∈ c.scalars, (spell x).Valid ∧ tokValue (parseTok (spell x).bytes) = x)
    (hspell' : ∀ c ∈ cs', ∀ x ∈ c.scalars, (spell' x).Valid ∧ tokValue (parseTok (spell' x).bytes) = x)
    (hn : c16b_normalize svgInit cs = c16b_normalize svgInit cs') :
    fromSvgBytes (K := K) ⟨(c16b_render spell cs).toArray⟩ = fromSvgBytes (K := K) ⟨(c16b_render spell' cs').toArray⟩ := by
  rw [parse_render spell cs hm hspell, parse_render spell' cs' hm' hspell', ← (run_normalize svgInit cs).1,
    ← (run_normalize svgInit cs').1, hn]

/-- the parser reads a written element list back as the meaning of the commands `M L Q C Z` it consists of -/
theorem parse_write_format (spell : K → NumParts) (els : List (PathEl K)) (hm : c16b_startsWithMove (els.map c16b_ofEl))
    (hspell : ∀ e ∈ els, ∀ x ∈ (c16b_ofEl e).scalars, (spell x).Valid ∧ tokValue (parseTok (spell x).bytes) = x) :
    fromSvgBytes (K := K) ⟨(c16b_write spell els).toArray⟩ = .ok (c16b_run svgInit (els.map c16b_ofEl)).path := by
  have hb : c16b_write spell els = c16b_spell (c16b_wSpelled spell false els) [] := by
    rw [c16b_wSpelled_bytes]; simp
  have h := parse_spelled (K := K) ⟨(c16b_write spell els).toArray⟩ (c16b_wSpelled spell false els) [] hb
    (c16b_wSpelled_ok spell els 0 false (fun e he x hx => (hspell e he x hx).1))
    (c16b_wSpelled_startsWithMove spell els false hm)
  rw [h, c16b_wSpelled_values spell els false (fun e he x hx => (hspell e he x hx).2)]

/-- **round trip on the format of `write_to`**: an element list that starts with a `MoveTo` (or is empty) and in which every
    `ClosePath` is followed by a `MoveTo` or the end is read back *identically* – under the stated assumption on the number
    printer (`spell x` is a valid token whose parsed value is `x`, for the coordinates that occur) -/
theorem parse_write_format_roundtrip (spell : K → NumParts) (els : List (PathEl K))
    (hm : c16b_startsWithMove (els.map c16b_ofEl)) (hcm : c16b_closeThenMove (els.map c16b_ofEl))
    (hspell : ∀ e ∈ els, ∀ x ∈ (c16b_ofEl e).scalars, (spell x).Valid ∧ tokValue (parseTok (spell x).bytes) = x) :
    fromSvgBytes (K := K) ⟨(c16b_write spell els).toArray⟩ = .ok els := by
  rw [parse_write_format spell els hm hspell, c16b_run_ofEls svgInit els false rfl hcm nofun, svgInit_path, List.nil_append]

/-- without the condition on `ClosePath` the result has one more element per `ClosePath` that is followed by a drawing element
    (the element count only; that the segments are the same is `svgWrite_same_segments` of `Proofs/C16W.lean`) -/
theorem parse_write_format_count (spell : K → NumParts) (els : List (PathEl K)) (hm : c16b_startsWithMove (els.map c16b_ofEl))
    (hspell : ∀ e ∈ els, ∀ x ∈ (c16b_ofEl e).scalars, (spell x).Valid ∧ tokValue (parseTok (spell x).bytes) = x) :
    ∃ els', fromSvgBytes (K := K) ⟨(c16b_write spell els).toArray⟩ = .ok els' ∧
      els'.length = c16b_elemCount false (els.map c16b_ofEl) := by
  exact ⟨_, parse_write_format spell els hm hspell, c16b_run_init_length _⟩

example : c16b_startsWithMove (c16b_exEls.map c16b_ofEl) ∧ c16b_closeThenMove (c16b_exEls.map c16b_ofEl) ∧
    (∀ e ∈ c16b_exEls, ∀ x ∈ (c16b_ofEl e).scalars,
      (c16b_exSpell x).Valid ∧ tokValue (parseTok (c16b_exSpell x).bytes) = x) ∧
    (⟨(c16b_write c16b_exSpell c16b_exEls).toArray⟩ : ByteArray) = "M1,2 L3,4 Q5,6 7,8 C1,2 3,4 -5,6 Z M1,1 L2,2 Z".toUTF8 ∧
    fromSvg (K := Rat) "M1,2 L3,4 Q5,6 7,8 C1,2 3,4 -5,6 Z M1,1 L2,2 Z" = .ok c16b_exEls := by
  have hm : c16b_startsWithMove (c16b_exEls.map c16b_ofEl) := by decide
  have hcm : c16b_closeThenMove (c16b_exEls.map c16b_ofEl) := by decide
  have hspell : ∀ e ∈ c16b_exEls, ∀ x ∈ (c16b_ofEl e).scalars,
      (c16b_exSpell x).Valid ∧ tokValue (parseTok (c16b_exSpell x).bytes) = x := by decide +kernel
  have hb : (⟨(c16b_write c16b_exSpell c16b_exEls).toArray⟩ : ByteArray) =
      "M1,2 L3,4 Q5,6 7,8 C1,2 3,4 -5,6 Z M1,1 L2,2 Z".toUTF8 := by decide +kernel
  exact ⟨hm, hcm, hspell, hb, by rw [fromSvg, ← hb]; exact parse_write_format_roundtrip _ _ hm hcm hspell⟩

/-- `ClosePath` followed by a `LineTo`: read back with an extra `MoveTo` -/
example : fromSvg (K := Rat) "M1,2 L3,4 Z L5,6" =
    .ok [.MoveTo ⟨1, 2⟩, .LineTo ⟨3, 4⟩, .ClosePath, .MoveTo ⟨1, 2⟩, .LineTo ⟨5, 6⟩] := by decide +kernel

/-- the hypotheses of `parse_render` (and of its corollaries) hold for the command list
    `M1 2 L3 4 c1 0 2 -1 3 0 S8 1 9 0 h-2 Zt1 1 Q1 2 3 4 T5 4 V7 z` with the one-digit spelling `c16b_exSpell`;
    its canonical rendering is that string -/
example : c16b_startsWithMove c16b_exCmds ∧
    (∀ c ∈ c16b_exCmds, ∀ x ∈ c.scalars, (c16b_exSpell x).Valid ∧ tokValue (parseTok (c16b_exSpell x).bytes) = x) ∧
    (⟨(c16b_render c16b_exSpell c16b_exCmds).toArray⟩ : ByteArray) =
      "M1 2 L3 4 c1 0 2 -1 3 0 S8 1 9 0 h-2 Zt1 1 Q1 2 3 4 T5 4 V7 z".toUTF8 :=
  c16b_exCmds_hyps

/-- … so `parse_render` gives the result of the parser on that string: relative `c`, reflection for `S` after `c` and for `T` after
    `Q`, no reflection for `t` after `Z` (control point = current point) but a flushed implicit `MoveTo` -/
example : fromSvg (K := Rat) "M1 2 L3 4 c1 0 2 -1 3 0 S8 1 9 0 h-2 Zt1 1 Q1 2 3 4 T5 4 V7 z" =
    .ok [.MoveTo ⟨1, 2⟩, .LineTo ⟨3, 4⟩, .CurveTo ⟨4, 4⟩ ⟨5, 3⟩ ⟨6, 4⟩, .CurveTo ⟨7, 5⟩ ⟨8, 1⟩ ⟨9, 0⟩, .LineTo ⟨7, 0⟩, .ClosePath,
         .MoveTo ⟨1, 2⟩, .QuadTo ⟨1, 2⟩ ⟨2, 3⟩, .QuadTo ⟨1, 2⟩ ⟨3, 4⟩, .QuadTo ⟨5, 6⟩ ⟨5, 4⟩, .LineTo ⟨5, 7⟩, .ClosePath] := by
  obtain ⟨hm, hspell, hb⟩ := c16b_exCmds_hyps
  rw [fromSvg, ← hb, parse_render c16b_exSpell c16b_exCmds hm hspell]
  decide +kernel

/-- the same by direct kernel evaluation of the model (independent of the theorem) -/
example : fromSvg (K := Rat) "M1 2 L3 4 c1 0 2 -1 3 0 S8 1 9 0 h-2 Zt1 1 Q1 2 3 4 T5 4 V7 z" =
    .ok (c16b_run svgInit c16b_exCmds).path := by decide +kernel

/-- the element count: 11 commands, one `Z` followed by a non-move command ⇒ 12 elements -/
example : c16b_elemCount false c16b_exCmds = 12 ∧ c16b_exCmds.length = 11 := by decide

/-- absolute form and normal form of the example list; `c16b_exSpell` spells all their numbers too, so the hypotheses of
    `parse_render_relative_absolute` / `parse_render_normal_form` are met -/
example :
    c16b_absolutize svgInit c16b_exCmds =
      [.moveTo false ⟨1, 2⟩, .lineTo false ⟨3, 4⟩, .curveTo false ⟨4, 4⟩ ⟨5, 3⟩ ⟨6, 4⟩, .smoothCurveTo false ⟨8, 1⟩ ⟨9, 0⟩,
       .horiz false 7, .close false, .smoothQuadTo false ⟨2, 3⟩, .quadTo false ⟨1, 2⟩ ⟨3, 4⟩, .smoothQuadTo false ⟨5, 4⟩,
       .vert false 7, .close false] ∧
    c16b_normalize svgInit c16b_exCmds =
      [.moveTo false ⟨1, 2⟩, .lineTo false ⟨3, 4⟩, .curveTo false ⟨4, 4⟩ ⟨5, 3⟩ ⟨6, 4⟩, .curveTo false ⟨7, 5⟩ ⟨8, 1⟩ ⟨9, 0⟩,
       .lineTo false ⟨7, 0⟩, .close false, .quadTo false ⟨1, 2⟩ ⟨2, 3⟩, .quadTo false ⟨1, 2⟩ ⟨3, 4⟩, .quadTo false ⟨5, 6⟩ ⟨5, 4⟩,
       .lineTo false ⟨5, 7⟩, .close false] ∧
    (∀ c ∈ c16b_absolutize svgInit c16b_exCmds, ∀ x ∈ c.scalars,
      (c16b_exSpell x).Valid ∧ tokValue (parseTok (c16b_exSpell x).bytes) = x) ∧
    (∀ c ∈ c16b_normalize svgInit c16b_exCmds, ∀ x ∈ c.scalars,
      (c16b_exSpell x).Valid ∧ tokValue (parseTok (c16b_exSpell x).bytes) = x) :=
  ⟨by decide +kernel, by decide +kernel, by decide +kernel, by decide +kernel⟩

/-- the hypotheses of `parse_spelled` hold for the spelled list `c16b_exSpelled` with tail `"\n"`, i.e. the string
    `" M1,2 3 4l-1-.5Z\n"`: leading white space, a comma, an implicit `L` after `M`, packed signs, a leading period, trailing
    white space -/
example : (⟨(c16b_spell c16b_exSpelled [10]).toArray⟩ : ByteArray) = " M1,2 3 4l-1-.5Z\n".toUTF8 ∧
    c16b_SpelledOk 0 c16b_exSpelled [10] ∧ c16b_startsWithMove (c16b_exSpelled.map (·.cmd)) ∧
    c16b_exSpelled.map (C16Spelled.value (K := Rat)) =
      [.moveTo false ⟨1, 2⟩, .lineTo false ⟨3, 4⟩, .lineTo true ⟨-1, -1/2⟩, .close false] :=
  ⟨by decide +kernel, by decide +kernel, by decide, by decide +kernel⟩

example : fromSvg (K := Rat) " M1,2 3 4l-1-.5Z\n" = .ok [.MoveTo ⟨1, 2⟩, .LineTo ⟨3, 4⟩, .LineTo ⟨2, 7/2⟩, .ClosePath] := by
  have h := parse_spelled (K := Rat) " M1,2 3 4l-1-.5Z\n".toUTF8 c16b_exSpelled [10] (by decide +kernel) (by decide +kernel)
    (by decide)
  rw [fromSvg, h]
  decide +kernel

/-- the spelling `"M1 2L3 4L2 3.5Z"` of the absolute form of the same list gives the same path, by evaluation
    (`parse_spelled_same_value` does not apply: it needs equal *values*, and here they differ – `l-1-.5` vs `L2 3.5`; the general
    statement is `parse_render_relative_absolute`) -/
example : fromSvg (K := Rat) "M1 2L3 4L2 3.5Z" = fromSvg (K := Rat) " M1,2 3 4l-1-.5Z\n" := by decide +kernel

/-- the invariant discussion of C16 in one example: after `Z` the remembered command is still `L`, so a number after `Z` is an
    implicit `L` (spelled with `explicit := false` after a `close`) -/
example :
    let ss : List C16Spelled :=
      [{ cmd := .moveTo false ⟨{ p := { ip := [49] }, sep := [32] }, { p := { ip := [50] } }⟩ },
       { cmd := .close false },
       { explicit := false, cmd := .lineTo false ⟨{ p := { ip := [51] }, sep := [32] }, { p := { ip := [52] } }⟩ }]
    c16b_SpelledOk 0 ss [] ∧ (⟨(c16b_spell ss []).toArray⟩ : ByteArray) = "M1 2Z3 4".toUTF8 ∧
    fromSvg (K := Rat) "M1 2Z3 4" = .ok [.MoveTo ⟨1, 2⟩, .ClosePath, .MoveTo ⟨1, 2⟩, .LineTo ⟨3, 4⟩] :=
  ⟨by decide +kernel, by decide +kernel, by decide +kernel⟩

/-- a spelling that is not well formed: no separator between `1` and `2` – `"M12 3"` -/
example :
    ¬ c16b_SpelledOk 0
      [{ cmd := .moveTo false ⟨{ p := { ip := [49] } }, { p := { ip := [50] }, sep := [32] }⟩ }] [51] := by decide +kernel

end Kurbo
