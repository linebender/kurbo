import Proofs.Lemmas.C15Quad
import Proofs.Lemmas.C15Cubic
import Proofs.Lemmas.C15Real
import Proofs.Lemmas.C15Itp
import Proofs.Lemmas.C15ItpReal
/-! C15 – polynomial solvers.

    "For every quadratic, cubic and quartic with finite coefficients, each returned value is a root, no more values
    are returned than the degree, and every real root that is separated from the others is returned once.  A
    vanishing leading coefficient gives the roots of the lower-degree polynomial, and the bracketing solver returns
    a point within epsilon of the sign change of a monotone function."

    All theorems are about the hand-written model `Kurbo/Solve.lean` (`solveQuadratic`, `solveCubic`,
    `solveQuarticWith`, `itpStep`, `itpLoop`, `solveItp`) exactly as it is, read in exact arithmetic: in a lawful
    scalar `Scalar.fin x = true` and `Scalar.finQuot d r = decide (d ≠ 0)`, i.e. "not finite" means "divisor = 0".

    What is proved.

    A. Quadratic (any lawful scalar `K`; the only fact about the uninterpreted `Scalar.sqrt` that is used is
       `SqrtExact` – non-negative and squaring back – at the one discriminant `quadArg c0 c1 c2 = (c1/c2)² − 4·c0/c2`
       the call computes, and only when that discriminant is positive; so the theorems also apply to `Rat` inputs
       with a rational square root; over ℝ under `LawfulReal` the hypothesis holds, `solveQuadratic_spec_real`).
       Unless all three coefficients vanish (then `[0]`) the list is exactly the set of roots, strictly increasing
       (a double root is returned once); `c2 = 0` gives the root of the linear polynomial.  Reachable branches in a
       lawful field: `arg < 0` ↦ `[]`, `arg = 0` ↦ one value, `arg > 0` ↦ two values; `root1 ≠ 0` is proved there (so
       the `[root1]` fallback and the `!fin arg` branch are unreachable in exact arithmetic).
       Length ≤ 2 for every `Scalar` (also `Float`; structural).
    B. Cubic.  `c3 = 0` ↦ `solveQuadratic c0 c1 c2` (lawful `K`); length ≤ 3 for every `Scalar` (structural).
       Over ℝ with `LawfulReal` (`Scalar.sqrt/cbrt/sin/cos/atan2` are `Real.sqrt`, the sign-aware real cube root,
       `Real.sin`, `Real.cos`, `Complex.arg ⟨x, y⟩`) and `c3 ≠ 0` the list is exactly the set of real roots
       (`solveCubic_mem_iff`) in all three discriminant branches: Cardano `d < 0` (one real root), `d = 0` (`t1`,
       double, and `−2·t1`), trigonometric `d > 0` (three pairwise distinct values).  No value is returned twice
       unless the cubic has a triple root (`solveCubic_nodup`); 3 / 2 / 1 values according to the sign of the
       discriminant.  In the `d = 0` branch `d0 ≤ 0` is derived from `d = 0` (`de² = −4·d0³`), so `√(−d0)` is never
       the square root of a negative number there.
    C. Quartic reductions (`solveQuarticWith inner`, the LDLᵀ part is the parameter `inner`; lawful `K`): `c4 = 0` ↦
       `solveCubic c0 c1 c2 c3`; `c4 ≠ 0`, `c0 = 0` ↦ `solveCubic c1 c2 c3 c4 ++ [0]`; `c4 ≠ 0`, `c0 ≠ 0`, `c3 = c1 = 0` ↦
       `solveBiquadratic (c2/c4) (c0/c4)`; otherwise `inner c0 c1 c2 c3 c4`.  Over ℝ the result is exactly the set of
       roots of the quartic in the first three cases (the first for `c3 ≠ 0`); at most 4 values in the reductions to
       the cubic.
    D. ITP (any lawful `K`, arbitrary `f : K → K`, no continuity needed).
       * `itpStep_bracket`: from the invariant `ItpInv` (`a ≤ b`, `ya = f a < 0 < f b = yb`, `0 ≤ scaled_epsilon`) and
         `0 ≤ k1`, a step either returns `x ∈ [a, b]` with `f x = 0`, or a state that satisfies the invariant again,
         whose bracket is contained in the old one, whose `scaled_epsilon` is halved, and whose width is at most
         `2·scaled_epsilon'` if the old width was at most `2·scaled_epsilon` (i.e. `r ≥ 0`: the ITP projection).
         `xitp ∈ [a, b]` holds without `r ≤ (b−a)/2`: `xt` lies between the regula-falsi point and the midpoint, and
         the projection `x½ ∓ |r|` is only taken when `r < |xt − x½| ≤ (b−a)/2` or `r < 0 ≤ scaled_epsilon`.
       * `itpLoop_spec`, `solveItp_spec`: with `scaled_epsilon = ε·2ⁿ`, width ≤ `2·scaled_epsilon` and fuel > n the loop
         never runs out of fuel and the result is an `ItpResult`: it lies in a sub-bracket `[a′, b′]` with
         `f a′ < 0 < f b′`, and is an exact zero of `f` or the midpoint of a sub-bracket of width ≤ 2ε.  Hence for a
         monotone `f` and any zero `z` of `f` in `[a, b]`: `f x = 0 ∨ |x − z| ≤ ε` (`solveItp_monotone`), and over ℝ for
         a continuous `f` the result is within ε of a zero of `f`, by the intermediate value theorem on the final
         sub-bracket (`solveItp_spec_real`).
       * `itp_iterations`: under the same hypotheses fuel beyond `n + 1` is never used (so the loop body runs at most
         `n + 1` times).

    What is not proved.
    * Nothing about `Float`: overflow of a quotient with a non-zero divisor ("negligible leading coefficient") is
      invisible to a lawful scalar, where `1e-16` is simply a non-zero coefficient (DESIGN.md finding 5.f).
    * The general quartic (`solve_quartic_inner`, LDLᵀ factorisation, rescaling, Newton polishing): `solveQuarticWith` takes it
      as the parameter `inner`, and no statement is made about `inner` here; it is transcribed in `Kurbo/Quartic.lean` and its
      theorems (exact arithmetic) are in `Proofs/C15Q.lean` (exact resolvent root assumed) and `Proofs/C15D.lean` (over ℝ, where
      `depressed_cubic_dominant` is proved to return one).
    * The cubic theorems are for ℝ only (they need `sqrt`, `cbrt`, `sin`, `cos`, `atan2`); the returned list of
      `solveCubic` is not sorted (kurbo does not sort it) and, for a triple root, contains the root twice.
    * `solveItp_spec` assumes `b − a ≤ 2·ε·2^nmax` for the `nmax` the model computes (`itpNmax`); this is what the
      law of `log2`/`ceil`/`as usize` would give (`Scalar.log2`, `Scalar.toUSize` are uninterpreted in `LawfulScalar`);
      without it only `solveItp_in_bracket` is available.  The ITP iteration bound appears as `itp_iterations` (fuel
      beyond `nmax + 1` is never used) under the same hypothesis.  Over ℝ with the laws `LawfulRealLog` of `log2` and `as usize` the
      hypothesis is proved (`solveItp_budget_real`) and `solveItp_spec_real` / `solveItp_monotone_real` need none. -/
set_option linter.unusedSectionVars false

namespace Kurbo
section structural
variable {K : Type} [Scalar K]

/-- every `Scalar`, also `Float` -/
theorem solveQuadratic_length_le (c0 c1 c2 : K) : (solveQuadratic c0 c1 c2).length ≤ 2 := by
  unfold solveQuadratic
  repeat' apply length_ite_le
  all_goals exact Nat.le_of_ble_eq_true rfl

/-- every `Scalar`, also `Float` -/
theorem solveCubic_length_le (c0 c1 c2 c3 : K) : (solveCubic c0 c1 c2 c3).length ≤ 3 := by
  unfold solveCubic
  apply length_ite_le ((solveQuadratic_length_le c0 c1 c2).trans (Nat.le_succ 2))
  repeat' apply length_ite_le
  all_goals exact Nat.le_of_ble_eq_true rfl
end structural

variable {K : Type} [Field K] [LinearOrder K] [IsStrictOrderedRing K] [FloorRing K] [Scalar K] [LawfulScalar K]

theorem solveQuadratic_spec_quadratic (c0 c1 c2 : K) (h2 : c2 ≠ 0)
    (hs : 0 < quadArg c0 c1 c2 → SqrtExact (quadArg c0 c1 c2)) :
    (∀ x, x ∈ solveQuadratic c0 c1 c2 ↔ c0 + c1 * x + c2 * x ^ 2 = 0) ∧
    (solveQuadratic c0 c1 c2).Pairwise (· < ·) ∧ (solveQuadratic c0 c1 c2).length ≤ 2 :=
  solveQuadratic_quadratic c0 c1 c2 h2 hs

-- the hypotheses are satisfiable over `Rat` (x² − 3x + 2, discriminant 1), and the model runs there
example : (1 : Rat) ≠ 0 ∧ (0 < quadArg (2 : Rat) (-3) 1 → SqrtExact (quadArg (2 : Rat) (-3) 1)) :=
  ⟨by norm_num, fun _ => by unfold SqrtExact quadArg; decide +kernel⟩
example : solveQuadratic (K := Rat) 2 (-3) 1 = [1, 2] := by decide +kernel
example : solveQuadratic (K := Rat) 1 (-2) 1 = [1] := by decide +kernel      -- double root, once
example : solveQuadratic (K := Rat) 1 0 1 = [] := by decide +kernel
example : solveQuadratic (K := Rat) 0 (-1) 1 = [0, 1] := by decide +kernel   -- sc0 = 0: root2 = 0/root1

theorem solveQuadratic_linear (c0 c1 : K) (h1 : c1 ≠ 0) :
    solveQuadratic c0 c1 0 = [-c0 / c1] ∧ ∀ x, x ∈ solveQuadratic c0 c1 0 ↔ c0 + c1 * x + 0 * x ^ 2 = 0 := by
  rw [solveQuadratic_linear_eq c0 c1 h1]
  refine ⟨rfl, fun x => ?_⟩
  rw [List.mem_singleton, eq_div_iff h1]
  constructor <;> intro h <;> linear_combination h
example : solveQuadratic (K := Rat) 3 (-2) 0 = [3 / 2] := by decide +kernel

theorem solveQuadratic_all_zero : solveQuadratic (0 : K) 0 0 = [0] := by
  rw [solveQuadratic_zero, if_pos rfl]

theorem solveQuadratic_const (c0 : K) (h0 : c0 ≠ 0) : solveQuadratic c0 0 0 = [] := by
  rw [solveQuadratic_zero, if_neg h0]
example : solveQuadratic (K := Rat) 5 0 0 = [] := by decide +kernel

theorem solveQuadratic_spec (c0 c1 c2 : K) (h : ¬ (c0 = 0 ∧ c1 = 0 ∧ c2 = 0))
    (hs : c2 ≠ 0 → 0 < quadArg c0 c1 c2 → SqrtExact (quadArg c0 c1 c2)) :
    (∀ x, x ∈ solveQuadratic c0 c1 c2 ↔ c0 + c1 * x + c2 * x ^ 2 = 0) ∧
    (solveQuadratic c0 c1 c2).Pairwise (· < ·) := by
  by_cases h2 : c2 = 0
  · subst h2
    by_cases h1 : c1 = 0
    · subst h1
      have h0 : c0 ≠ 0 := fun h0 => h ⟨h0, rfl, rfl⟩
      rw [solveQuadratic_const c0 h0]
      refine ⟨fun x => iff_of_false List.not_mem_nil ?_, List.Pairwise.nil⟩
      rw [zero_mul, zero_mul, add_zero, add_zero]; exact h0
    · obtain ⟨e, hiff⟩ := solveQuadratic_linear c0 c1 h1
      refine ⟨hiff, ?_⟩
      rw [e]; exact List.pairwise_singleton _ _
  · obtain ⟨h1, h2', -⟩ := solveQuadratic_quadratic c0 c1 c2 h2 (hs h2)
    exact ⟨h1, h2'⟩
example : ¬ ((2 : Rat) = 0 ∧ (-3 : Rat) = 0 ∧ (1 : Rat) = 0) := by norm_num

end Kurbo

namespace Kurbo
section real
variable [Scalar ℝ] [LawfulScalar ℝ] [LawfulReal]

theorem sqrtExact_real (a : ℝ) (h : 0 ≤ a) : SqrtExact a :=
  sqrtExact_of_lawfulReal a h

theorem solveQuadratic_spec_real (c0 c1 c2 : ℝ) (h : ¬ (c0 = 0 ∧ c1 = 0 ∧ c2 = 0)) :
    (∀ x, x ∈ solveQuadratic c0 c1 c2 ↔ c0 + c1 * x + c2 * x ^ 2 = 0) ∧
    (solveQuadratic c0 c1 c2).Pairwise (· < ·) ∧ (solveQuadratic c0 c1 c2).length ≤ 2 :=
  have hs := solveQuadratic_spec c0 c1 c2 h (fun _ hd => sqrtExact_real _ hd.le)
  ⟨hs.1, hs.2, solveQuadratic_length_le c0 c1 c2⟩

end real

-- the biquadratic branch on x⁴ − 5x² + 4 = (x² − 1)(x² − 4), over `Rat` (perfect squares: the `Rat` square root is exact here)
example : solveQuarticWith (K := Rat) (fun _ _ _ _ _ => []) 4 0 (-5) 0 1 = [-1, 1, -2, 2] := by decide +kernel

-- the class assumptions of the ℝ theorems are satisfiable: ℝ with Mathlib's functions
example : @LawfulScalar ℝ _ _ _ _ realScalar ∧ @LawfulReal realScalar := ⟨realScalar_lawful, realScalar_lawfulReal⟩
example : ¬ ((-2 : ℝ) = 0 ∧ (0 : ℝ) = 0 ∧ (1 : ℝ) = 0) := by norm_num   -- x² − 2: irrational roots
end Kurbo

namespace Kurbo
section lawful
variable {K : Type} [Field K] [LinearOrder K] [IsStrictOrderedRing K] [FloorRing K] [Scalar K] [LawfulScalar K]

theorem solveCubic_of_c3_zero (c0 c1 c2 : K) : solveCubic c0 c1 c2 0 = solveQuadratic c0 c1 c2 := by
  rw [solveCubic_eq, if_pos rfl]
example : solveCubic (K := Rat) 2 (-3) 1 0 = [1, 2] := by decide +kernel
end lawful

section real
variable [Scalar ℝ] [LawfulScalar ℝ] [LawfulReal]

theorem solveCubic_mem_iff (c0 c1 c2 c3 : ℝ) (h3 : c3 ≠ 0) (x : ℝ) :
    x ∈ solveCubic c0 c1 c2 c3 ↔ c0 + c1 * x + c2 * x ^ 2 + c3 * x ^ 3 = 0 := by
  rw [solveCubic_eq, if_neg h3, cubicCore_mem_iff, cubic_eq_scaled c0 c1 c2 c3 x h3, mul_eq_zero,
    or_iff_right h3]

theorem solveCubic_sound (c0 c1 c2 c3 : ℝ) (h3 : c3 ≠ 0) :
    ∀ x ∈ solveCubic c0 c1 c2 c3, c0 + c1 * x + c2 * x ^ 2 + c3 * x ^ 3 = 0 :=
  fun x hx => (solveCubic_mem_iff c0 c1 c2 c3 h3 x).mp hx

theorem solveCubic_complete (c0 c1 c2 c3 : ℝ) (h3 : c3 ≠ 0) :
    ∀ x, c0 + c1 * x + c2 * x ^ 2 + c3 * x ^ 3 = 0 → x ∈ solveCubic c0 c1 c2 c3 :=
  fun x hx => (solveCubic_mem_iff c0 c1 c2 c3 h3 x).mpr hx

/-- each root is returned once, unless the cubic is `c3·(x − r)³` -/
theorem solveCubic_nodup (c0 c1 c2 c3 : ℝ) (h3 : c3 ≠ 0)
    (h : cubicDisc c0 c1 c2 c3 ≠ 0 ∨ c2 ^ 2 ≠ 3 * c1 * c3) : (solveCubic c0 c1 c2 c3).Nodup := by
  rw [solveCubic_eq, if_neg h3]
  apply cubicCore_nodup
  rw [cubD_scaled c0 c1 c2 c3 h3, cubD0_scaled c1 c2 c3 h3]
  have h27 : (27 * c3 ^ 4 : ℝ) ≠ 0 := by positivity
  have h9 : (9 * c3 ^ 2 : ℝ) ≠ 0 := by positivity
  rcases h with h | h
  · left; exact div_ne_zero h h27
  · right; apply div_ne_zero _ h9
    intro h0; apply h; linear_combination (-1 : ℝ) * h0

theorem solveCubic_length_of_disc (c0 c1 c2 c3 : ℝ) (h3 : c3 ≠ 0) :
    (0 < cubicDisc c0 c1 c2 c3 → (solveCubic c0 c1 c2 c3).length = 3) ∧
    (cubicDisc c0 c1 c2 c3 = 0 → (solveCubic c0 c1 c2 c3).length = 2) ∧
    (cubicDisc c0 c1 c2 c3 < 0 → (solveCubic c0 c1 c2 c3).length = 1) := by
  rw [solveCubic_eq, if_neg h3]
  unfold cubicCore
  rw [cubD_scaled c0 c1 c2 c3 h3]
  have h27 : (0 : ℝ) < 27 * c3 ^ 4 := by positivity
  refine ⟨fun h => ?_, fun h => ?_, fun h => ?_⟩
  · have hd : 0 < cubicDisc c0 c1 c2 c3 / (27 * c3 ^ 4) := div_pos h h27
    rw [if_neg (not_lt.mpr hd.le), if_neg (ne_of_gt hd)]; rfl
  · rw [h, zero_div, if_neg (lt_irrefl _), if_pos rfl]; rfl
  · have hd : cubicDisc c0 c1 c2 c3 / (27 * c3 ^ 4) < 0 := div_neg_of_neg_of_pos h h27
    rw [if_pos hd]; rfl

end real

-- hypotheses of the cubic theorems on concrete inputs: x³ − 6x² + 11x − 6 (roots 1,2,3; discriminant 4),
-- x³ − 3x + 2 = (x−1)²(x+2) (discriminant 0, not a triple root), x³ + x + 1 (discriminant −31)
example : (1 : ℝ) ≠ 0 ∧ cubicDisc (-6 : ℝ) 11 (-6) 1 = 4 := by unfold cubicDisc; norm_num
example : cubicDisc (2 : ℝ) (-3) 0 1 = 0 ∧ (0 : ℝ) ^ 2 ≠ 3 * (-3) * 1 := by unfold cubicDisc; norm_num
example : cubicDisc (1 : ℝ) 1 0 1 = -31 := by unfold cubicDisc; norm_num
-- the double-root branch needs `sqrt` only and runs over `Rat`: (x−1)²(x+2)
example : solveCubic (K := Rat) 2 (-3) 0 1 = [1, -2] := by decide +kernel
end Kurbo

namespace Kurbo
section lawful
variable {K : Type} [Field K] [LinearOrder K] [IsStrictOrderedRing K] [FloorRing K] [Scalar K] [LawfulScalar K]

theorem solveQuarticWith_c4_zero (inner : K → K → K → K → K → List K) (c0 c1 c2 c3 : K) :
    solveQuarticWith inner c0 c1 c2 c3 0 = solveCubic c0 c1 c2 c3 := by
  rw [solveQuarticWith_eq, if_pos rfl]

theorem solveQuarticWith_c0_zero (inner : K → K → K → K → K → List K) (c1 c2 c3 c4 : K) (h4 : c4 ≠ 0) :
    solveQuarticWith inner 0 c1 c2 c3 c4 = solveCubic c1 c2 c3 c4 ++ [0] := by
  rw [solveQuarticWith_eq, if_neg h4, if_pos rfl]

theorem solveQuarticWith_reduce (inner : K → K → K → K → K → List K) (c0 c1 c2 c3 c4 : K) :
    (c4 = 0 → solveQuarticWith inner c0 c1 c2 c3 c4 = solveCubic c0 c1 c2 c3) ∧
    (c4 ≠ 0 → c0 = 0 → solveQuarticWith inner c0 c1 c2 c3 c4 = solveCubic c1 c2 c3 c4 ++ [0]) ∧
    (c4 ≠ 0 → c0 ≠ 0 → ¬ (c3 = 0 ∧ c1 = 0) → solveQuarticWith inner c0 c1 c2 c3 c4 = inner c0 c1 c2 c3 c4) := by
  refine ⟨fun h => ?_, fun h4 h0 => ?_, fun h4 h0 h31 => ?_⟩
  · subst h; exact solveQuarticWith_c4_zero inner c0 c1 c2 c3
  · subst h0; exact solveQuarticWith_c0_zero inner c1 c2 c3 c4 h4
  · rw [solveQuarticWith_eq, if_neg h4, if_neg h0, if_neg]
    rw [div_eq_zero_iff, div_eq_zero_iff, or_iff_left h4, or_iff_left h4]
    exact h31

theorem solveQuarticWith_general (inner : K → K → K → K → K → List K) (c0 c1 c2 c3 c4 : K) (h4 : c4 ≠ 0)
    (h0 : c0 ≠ 0) (h31 : ¬ (c3 = 0 ∧ c1 = 0)) : solveQuarticWith inner c0 c1 c2 c3 c4 = inner c0 c1 c2 c3 c4 :=
  (solveQuarticWith_reduce inner c0 c1 c2 c3 c4).2.2 h4 h0 h31

theorem solveQuarticWith_biquadratic (inner : K → K → K → K → K → List K) (c0 c2 c4 : K) (h4 : c4 ≠ 0) (h0 : c0 ≠ 0) :
    solveQuarticWith inner c0 0 c2 0 c4 = solveBiquadratic (c2 / c4) (c0 / c4) := by
  rw [solveQuarticWith_eq, if_neg h4, if_neg h0, if_pos ⟨zero_div c4, zero_div c4⟩]

theorem solveQuarticWith_reduce_length_le (inner : K → K → K → K → K → List K) (c0 c1 c2 c3 c4 : K)
    (h : c4 = 0 ∨ c0 = 0) : (solveQuarticWith inner c0 c1 c2 c3 c4).length ≤ 4 := by
  by_cases h4 : c4 = 0
  · subst h4; rw [solveQuarticWith_c4_zero]
    exact (solveCubic_length_le c0 c1 c2 c3).trans (by norm_num)
  · have h0 : c0 = 0 := h.resolve_left h4
    subst h0; rw [solveQuarticWith_c0_zero inner c1 c2 c3 c4 h4, List.length_append]
    have := solveCubic_length_le c1 c2 c3 c4
    simp only [List.length_singleton]; omega

example : solveQuarticWith (K := Rat) (fun _ _ _ _ _ => []) 2 (-3) 1 0 0 = [1, 2] := by decide +kernel
example : solveQuarticWith (K := Rat) (fun _ _ _ _ _ => []) 0 2 (-3) 0 1 = [1, -2, 0] := by decide +kernel
end lawful

section real
variable [Scalar ℝ] [LawfulScalar ℝ] [LawfulReal]

theorem solveQuarticWith_c0_zero_mem_iff (inner : ℝ → ℝ → ℝ → ℝ → ℝ → List ℝ) (c1 c2 c3 c4 : ℝ) (h4 : c4 ≠ 0)
    (x : ℝ) :
    x ∈ solveQuarticWith inner 0 c1 c2 c3 c4 ↔ 0 + c1 * x + c2 * x ^ 2 + c3 * x ^ 3 + c4 * x ^ 4 = 0 := by
  rw [solveQuarticWith_c0_zero inner c1 c2 c3 c4 h4, List.mem_append, solveCubic_mem_iff c1 c2 c3 c4 h4,
    List.mem_singleton]
  have e : 0 + c1 * x + c2 * x ^ 2 + c3 * x ^ 3 + c4 * x ^ 4 = x * (c1 + c2 * x + c3 * x ^ 2 + c4 * x ^ 3) := by ring
  rw [e, mul_eq_zero]
  exact or_comm

theorem solveQuarticWith_c4_zero_mem_iff (inner : ℝ → ℝ → ℝ → ℝ → ℝ → List ℝ) (c0 c1 c2 c3 : ℝ) (h3 : c3 ≠ 0)
    (x : ℝ) :
    x ∈ solveQuarticWith inner c0 c1 c2 c3 0 ↔ c0 + c1 * x + c2 * x ^ 2 + c3 * x ^ 3 + 0 * x ^ 4 = 0 := by
  rw [solveQuarticWith_c4_zero, solveCubic_mem_iff c0 c1 c2 c3 h3, zero_mul, add_zero]

/-- `d ≠ 0` is what the caller guarantees (`c0 ≠ 0`) -/
theorem solveBiquadratic_mem_iff (b d : ℝ) (hd : d ≠ 0) (x : ℝ) :
    x ∈ solveBiquadratic b d ↔ d + b * x ^ 2 + x ^ 4 = 0 := by
  have hq := (solveQuadratic_spec_real d b 1 (fun h => one_ne_zero h.2.2)).1
  -- each positive root `y` of the quadratic in `x²` contributes `±√y`
  have hmem : ∀ y : ℝ, x ∈ (if 0 < y then [-√y, √y] else []) ↔ 0 < y ∧ x ^ 2 = y := fun y => by
    by_cases hy : 0 < y
    · rw [if_pos hy, List.mem_pair, and_iff_right hy, or_comm, ← sq_eq_sq_iff_eq_or_eq_neg, Real.sq_sqrt hy.le]
    · rw [if_neg hy]; exact iff_of_false List.not_mem_nil fun h => hy h.1
  unfold solveBiquadratic
  simp only [List.mem_flatMap, scalar_norm, LawfulReal.sqrt_eq, Nat.cast_one, Nat.cast_zero, decide_eq_true_eq, hq, hmem]
  constructor
  · rintro ⟨y, hy, -, rfl⟩; linear_combination hy
  · intro h
    have hx : x ≠ 0 := fun h0 => hd (by rw [h0] at h; linear_combination h)
    exact ⟨x ^ 2, by linear_combination h, (sq_nonneg x).lt_of_ne' (pow_ne_zero 2 hx), rfl⟩

theorem solveQuarticWith_biquadratic_mem_iff (inner : ℝ → ℝ → ℝ → ℝ → ℝ → List ℝ) (c0 c2 c4 : ℝ) (h4 : c4 ≠ 0) (h0 : c0 ≠ 0)
    (x : ℝ) : x ∈ solveQuarticWith inner c0 0 c2 0 c4 ↔ c0 + 0 * x + c2 * x ^ 2 + 0 * x ^ 3 + c4 * x ^ 4 = 0 := by
  have e : c0 + 0 * x + c2 * x ^ 2 + 0 * x ^ 3 + c4 * x ^ 4 = c4 * (c0 / c4 + c2 / c4 * x ^ 2 + x ^ 4) := by
    linear_combination (-x ^ 2) * mul_div_cancel₀ c2 h4 - mul_div_cancel₀ c0 h4
  rw [solveQuarticWith_biquadratic inner c0 c2 c4 h4 h0, solveBiquadratic_mem_iff _ _ (div_ne_zero h0 h4), e,
    mul_eq_zero, or_iff_right h4]

end real
end Kurbo

namespace Kurbo
variable {K : Type} [Field K] [LinearOrder K] [IsStrictOrderedRing K] [FloorRing K] [Scalar K] [LawfulScalar K]

theorem itpStep_bracket (f : K → K) (ε k1 : K) (st : ItpSt K) (hk : 0 ≤ k1) (hI : ItpInv f st) :
    match itpStep f ε k1 st with
    | .inl x => st.a ≤ x ∧ x ≤ st.b ∧ f x = 0
    | .inr st' => ItpInv f st' ∧ st.a ≤ st'.a ∧ st'.b ≤ st.b ∧ st'.scaled_epsilon = st.scaled_epsilon * (1 / 2) ∧
        (st.b - st.a ≤ 2 * st.scaled_epsilon → st'.b - st'.a ≤ 2 * st'.scaled_epsilon) :=
  itpStep_spec f ε k1 st hk hI

-- the invariant is satisfiable: f x = x − 1/3 on [0, 1]
example : ItpInv (fun x : Rat => x - 1 / 3) ⟨0, 1, -1 / 3, 2 / 3, 1 / 50⟩ :=
  ⟨by norm_num, by norm_num, by norm_num, by norm_num, by norm_num, by norm_num⟩

theorem itpLoop_done (f : K → K) (ε k1 : K) (fuel : Nat) (st : ItpSt K) (h : st.b - st.a ≤ 2 * ε) :
    itpLoop f ε k1 fuel st = 1 / 2 * (st.a + st.b) := by
  cases fuel with
  | zero => exact itpLoop_zero f ε k1 st
  | succ n => rw [itpLoop_succ, if_neg (not_lt.mpr h)]

theorem itpLoop_result_in_bracket (f : K → K) (ε k1 : K) (hk : 0 ≤ k1) (fuel : Nat) (st : ItpSt K)
    (hI : ItpInv f st) : st.a ≤ itpLoop f ε k1 fuel st ∧ itpLoop f ε k1 fuel st ≤ st.b := by
  refine itpLoop_induction (P := fun _ st x => ItpInv f st → st.a ≤ x ∧ x ≤ st.b) (fun _ st _ hI => midpoint_mem hI.hab)
    (fun _ st x _ hstep hI => ?_) (fun _ st st' _ hstep ih hI => ?_) fuel st hI
  all_goals
    have hs := itpStep_bracket f ε k1 st hk hI
    rw [hstep] at hs
  · exact ⟨hs.1, hs.2.1⟩
  · exact ⟨hs.2.1.trans (ih hs.1).1, (ih hs.1).2.trans hs.2.2.1⟩

theorem itpLoop_spec (f : K → K) (ε k1 : K) (hk : 0 ≤ k1) (fuel n : Nat) (st : ItpSt K) (hI : ItpInv f st)
    (hse : st.scaled_epsilon = ε * 2 ^ n) (hw : st.b - st.a ≤ 2 * st.scaled_epsilon) (hn : n < fuel) :
    ItpResult f ε st.a st.b (itpLoop f ε k1 fuel st) := by
  refine itpLoop_induction (P := fun fuel st x => ∀ n, ItpInv f st → st.scaled_epsilon = ε * 2 ^ n →
      st.b - st.a ≤ 2 * st.scaled_epsilon → n < fuel → ItpResult f ε st.a st.b x)
    (fun fuel st h n hI _ _ hn => ?_) (fun _ st x _ hstep n hI _ _ _ => ?_)
    (fun _ st st' hc hstep ih n hI hse hw hn => ?_) fuel st n hI hse hw hn
  · -- with `n < fuel` the fuel is not exhausted: the loop stopped because the bracket is narrow
    have hc : st.b - st.a ≤ 2 * ε := h.elim (fun h0 => absurd hn (h0 ▸ Nat.not_lt_zero n)) id
    exact ⟨st.a, st.b, le_refl _, (midpoint_mem hI.hab).1, (midpoint_mem hI.hab).2, le_refl _, hI.hya ▸ hI.neg,
      hI.hyb ▸ hI.pos, Or.inr ⟨hc, rfl⟩⟩
  · have hs := itpStep_bracket f ε k1 st hk hI
    rw [hstep] at hs
    exact ⟨st.a, st.b, le_refl _, hs.1, hs.2.1, le_refl _, hI.hya ▸ hI.neg, hI.hyb ▸ hI.pos, Or.inl hs.2.2⟩
  · obtain ⟨n', rfl, hI', hse', hw', h1, h2⟩ := itpStep_budget hk hI hse hw hc hstep
    exact (ih n' hI' hse' hw' (Nat.lt_of_succ_lt_succ hn)).mono h1 h2

/-- the loop body runs at most `n + 1` times (`n = nmax` in `solve_itp`; the fuel of `solveItp` is `nmax + 64`) -/
theorem itp_iterations (f : K → K) (ε k1 : K) (hk : 0 ≤ k1) (fuel n : Nat) (st : ItpSt K) (hI : ItpInv f st)
    (hse : st.scaled_epsilon = ε * 2 ^ n) (hw : st.b - st.a ≤ 2 * st.scaled_epsilon) (hn : n < fuel) :
    itpLoop f ε k1 fuel st = itpLoop f ε k1 (n + 1) st := by
  refine itpLoop_induction (P := fun fuel st x => ∀ n, ItpInv f st → st.scaled_epsilon = ε * 2 ^ n →
      st.b - st.a ≤ 2 * st.scaled_epsilon → n < fuel → x = itpLoop f ε k1 (n + 1) st)
    (fun fuel st h n _ _ _ hn => ?_) (fun _ st x hc hstep n _ _ _ _ => ?_)
    (fun _ st st' hc hstep ih n hI hse hw hn => ?_) fuel st n hI hse hw hn
  · have hc : st.b - st.a ≤ 2 * ε := h.elim (fun h0 => absurd hn (h0 ▸ Nat.not_lt_zero n)) id
    rw [itpLoop_succ, if_neg (not_lt.mpr hc)]
  · rw [itpLoop_succ, if_pos hc, hstep]
  · obtain ⟨n', rfl, hI', hse', hw', -, -⟩ := itpStep_budget hk hI hse hw hc hstep
    rw [itpLoop_succ (fuel := n' + 1), if_pos hc, hstep]
    exact ih n' hI' hse' hw' (Nat.lt_of_succ_lt_succ hn)

example : (⟨0, 1, -1 / 3, 2 / 3, 1 / 100 * 2 ^ 6⟩ : ItpSt Rat).scaled_epsilon = 1 / 100 * 2 ^ 6 ∧
    (1 : Rat) - 0 ≤ 2 * (1 / 100 * 2 ^ 6) ∧ 6 < 70 := by norm_num

theorem solveItp_in_bracket (f : K → K) (a b ε : K) (n0 : Nat) (k1 : K) (hab : a ≤ b) (hε : 0 ≤ ε) (hk : 0 ≤ k1)
    (ha : f a < 0) (hb : 0 < f b) :
    a ≤ solveItp f a b ε n0 k1 (f a) (f b) ∧ solveItp f a b ε n0 k1 (f a) (f b) ≤ b := by
  rw [solveItp_eq]
  have h2 : (0 : K) ≤ 2 ^ itpNmax a b ε n0 := pow_nonneg (by norm_num) _
  have hI : ItpInv f ⟨a, b, f a, f b, ε * 2 ^ itpNmax a b ε n0⟩ := ⟨hab, rfl, rfl, ha, hb, mul_nonneg hε h2⟩
  exact itpLoop_result_in_bracket f ε k1 hk _ _ hI

/-- the result lies in a sub-bracket `[a′, b′] ⊆ [a, b]` with `f a′ < 0 < f b′` and is an exact zero of `f` or the
    midpoint of such a sub-bracket of width ≤ 2ε -/
theorem solveItp_spec (f : K → K) (a b ε : K) (n0 : Nat) (k1 : K) (hab : a ≤ b) (hk : 0 ≤ k1)
    (ha : f a < 0) (hb : 0 < f b) (hn : b - a ≤ 2 * (ε * 2 ^ itpNmax a b ε n0)) :
    ItpResult f ε a b (solveItp f a b ε n0 k1 (f a) (f b)) := by
  rw [solveItp_eq]
  have hse : 0 ≤ ε * 2 ^ itpNmax a b ε n0 := by linear_combination (1 / 2 : K) * hab + (1 / 2 : K) * hn
  have hI : ItpInv f ⟨a, b, f a, f b, ε * 2 ^ itpNmax a b ε n0⟩ := ⟨hab, rfl, rfl, ha, hb, hse⟩
  exact itpLoop_spec f ε k1 hk (itpNmax a b ε n0 + 64) (itpNmax a b ε n0) _ hI rfl hn
    (Nat.lt_add_of_pos_right (by norm_num))

theorem solveItp_monotone (f : K → K) (a b ε : K) (n0 : Nat) (k1 : K) (hab : a ≤ b) (hk : 0 ≤ k1)
    (ha : f a < 0) (hb : 0 < f b) (hn : b - a ≤ 2 * (ε * 2 ^ itpNmax a b ε n0))
    (hf : MonotoneOn f (Set.Icc a b)) (z : K) (hz : z ∈ Set.Icc a b) (hfz : f z = 0) :
    f (solveItp f a b ε n0 k1 (f a) (f b)) = 0 ∨ |solveItp f a b ε n0 k1 (f a) (f b) - z| ≤ ε :=
  (solveItp_spec f a b ε n0 k1 hab hk ha hb hn).near_zero hf hz hfz

theorem solveItp_strictMono (f : K → K) (a b ε : K) (n0 : Nat) (k1 : K) (hab : a ≤ b) (hε : 0 ≤ ε) (hk : 0 ≤ k1)
    (ha : f a < 0) (hb : 0 < f b) (hn : b - a ≤ 2 * (ε * 2 ^ itpNmax a b ε n0))
    (hf : StrictMonoOn f (Set.Icc a b)) (z : K) (hz : z ∈ Set.Icc a b) (hfz : f z = 0) :
    |solveItp f a b ε n0 k1 (f a) (f b) - z| ≤ ε :=
  (solveItp_spec f a b ε n0 k1 hab hk ha hb hn).near_zero_strict hε hf hz hfz

-- the hypotheses hold and the model runs over `Rat`: f x = x − 1/3 on [0,1], ε = 1/100, n0 = 8, k1 = 1/5
example : itpNmax (0 : Rat) 1 (1 / 100) 8 = 8 := by decide +kernel
example : (1 : Rat) - 0 ≤ 2 * (1 / 100 * 2 ^ itpNmax (0 : Rat) 1 (1 / 100) 8) := by decide +kernel
example : |solveItp (fun x : Rat => x - 1 / 3) 0 1 (1 / 100) 8 (1 / 5) (-1 / 3) (2 / 3) - 1 / 3| ≤ 1 / 100 := by
  decide +kernel

end Kurbo

namespace Kurbo
section real
variable [Scalar ℝ] [LawfulScalar ℝ] [LawfulRealLog]

/-- over ℝ, with the laws of `log2` and `as usize` (`LawfulRealLog`), the budget hypothesis of `solveItp_spec` holds -/
theorem solveItp_budget_real (a b ε : ℝ) (n0 : Nat) (hab : a < b) (hε : 0 < ε) :
    b - a ≤ 2 * (ε * 2 ^ itpNmax a b ε n0) := by
  unfold itpNmax
  have hx : 0 < (b - a) / ε := div_pos (sub_pos.mpr hab) hε
  rw [LawfulRealLog.log2_eq _ hx, LawfulRealLog.toUSize_eq]
  set L := Real.logb 2 ((b - a) / ε) with hL
  set m : ℝ := max ((⌈L⌉ : ℝ) - 1) 0 with hm
  have hm0 : 0 ≤ m := le_max_right _ _
  have hmz : m = ((max (⌈L⌉ - 1) 0 : ℤ) : ℝ) := by rw [hm]; push_cast; rfl
  have hfl : (⌊m⌋₊ : ℝ) = m := by
    rw [natCast_floor_eq_intCast_floor hm0, hmz, Int.floor_intCast]
  have hLm : L ≤ (⌊m⌋₊ : ℝ) + 1 := by
    rw [hfl]
    have h1 : (⌈L⌉ : ℝ) - 1 ≤ m := le_max_left _ _
    exact (Int.le_ceil L).trans (by linear_combination h1)
  have hx2 : (b - a) / ε ≤ 2 ^ ((⌊m⌋₊ : ℝ) + 1) := (Real.logb_le_iff_le_rpow (by norm_num) hx).mp hLm
  have e : (2 : ℝ) ^ ((⌊m⌋₊ : ℝ) + 1) = 2 ^ (⌊m⌋₊ + 1) := by
    rw [← Real.rpow_natCast]; push_cast; rfl
  rw [e, div_le_iff₀ hε] at hx2
  have hpow : (2 : ℝ) ^ (⌊m⌋₊ + 1) ≤ 2 * 2 ^ (n0 + ⌊m⌋₊) := by
    rw [pow_succ, mul_comm]
    apply mul_le_mul_of_nonneg_left _ (by norm_num)
    exact pow_le_pow_right₀ (by norm_num) (by omega)
  calc b - a ≤ 2 ^ (⌊m⌋₊ + 1) * ε := hx2
    _ ≤ 2 * 2 ^ (n0 + ⌊m⌋₊) * ε := mul_le_mul_of_nonneg_right hpow hε.le
    _ = 2 * (ε * 2 ^ (n0 + ⌊m⌋₊)) := by ring

theorem solveItp_spec_real (f : ℝ → ℝ) (a b ε : ℝ) (n0 : Nat) (k1 : ℝ) (hab : a < b) (hε : 0 < ε) (hk : 0 ≤ k1)
    (ha : f a < 0) (hb : 0 < f b) (hf : ContinuousOn f (Set.Icc a b)) :
    solveItp f a b ε n0 k1 (f a) (f b) ∈ Set.Icc a b ∧
    ∃ z ∈ Set.Icc a b, f z = 0 ∧ |solveItp f a b ε n0 k1 (f a) (f b) - z| ≤ ε :=
  ⟨solveItp_in_bracket f a b ε n0 k1 hab.le hε.le hk ha hb,
   (solveItp_spec f a b ε n0 k1 hab.le hk ha hb (solveItp_budget_real a b ε n0 hab hε)).exists_zero_near hε.le hf⟩

theorem solveItp_monotone_real (f : ℝ → ℝ) (a b ε : ℝ) (n0 : Nat) (k1 : ℝ) (hab : a < b) (hε : 0 < ε) (hk : 0 ≤ k1)
    (ha : f a < 0) (hb : 0 < f b) (hf : MonotoneOn f (Set.Icc a b)) (z : ℝ) (hz : z ∈ Set.Icc a b) (hfz : f z = 0) :
    f (solveItp f a b ε n0 k1 (f a) (f b)) = 0 ∨ |solveItp f a b ε n0 k1 (f a) (f b) - z| ≤ ε :=
  solveItp_monotone f a b ε n0 k1 hab.le hk ha hb (solveItp_budget_real a b ε n0 hab hε) hf z hz hfz

end real

-- the class assumption is satisfiable, and so are the hypotheses: f x = x³ − 2 on [0, 2]
example : @LawfulRealLog realScalar := realScalar_lawfulRealLog
example : (0 : ℝ) < 2 ∧ (0 : ℝ) < 1 / 100 ∧ (0 : ℝ) ≤ 1 / 5 ∧ (fun x : ℝ => x ^ 3 - 2) 0 < 0 ∧
    0 < (fun x : ℝ => x ^ 3 - 2) 2 ∧ ContinuousOn (fun x : ℝ => x ^ 3 - 2) (Set.Icc 0 2) :=
  ⟨by norm_num, by norm_num, by norm_num, by norm_num, by norm_num, by fun_prop⟩
end Kurbo
