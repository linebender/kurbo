import Proofs.C06
import Proofs.Lemmas.C02
import Proofs.Lemmas.C02Seg
/-! C02 – signed area.

    "For every closed path the reported area equals the signed area it encloses (the integral of the winding
    number over the plane), positive for contours that turn from +x towards +y.  It is additive over sub-paths,
    negated by reversing sub-paths, multiplied by the determinant under an affine map, and unchanged when
    segments are split, degree-raised or re-expressed (line as quadratic/cubic)."

    What is proved (about the model functions `Line/QuadBez/CubicBez/PathSeg.signed_area` of `Kurbo/Kernel.lean`
    and `segs`, `pathArea` of `Kurbo/Path.lean`, exactly as they are):

    A. (ℝ) each of the three closed forms is the Green line integral `½∫₀¹ (x·y′ − y·x′) dt` of the segment's own
       `eval`, with `y′, x′` the segment's own `deriv` (for `Line`, which has no `deriv` in the kernel, the constant
       velocity `p1 − p0`, shown to be the derivative of `Line.eval` in `line_eval_hasDerivAt`).
    B. (any lawful scalar, polynomial identities) reversal negates; `raise`, `to_cubic`, line-as-quadratic keep the
       area; the area is additive over any split of the parameter range (no ordering of `t0 t1 t2` assumed), because
       the area of `subsegment ⟨t0, t1⟩` is the increment from `t0` to `t1` of a polynomial primitive of A's integrand
       (`PathSeg.areaTo`); affine law for a single (open) segment with the explicit end-point correction that
       telescopes.
    C. (any lawful scalar, path level) `pathArea` is the sum of the segment areas; additivity over sub-paths
       (`c02_segs_append`, `area_append`, including propagation of the iterator's panic); for chains of segments:
       determinant law with end-point correction, determinant law for closed chains, negation under reversal;
       for element lists made of closed sub-paths (`ClosedPath`: each sub-path is `MoveTo p, body…, ClosePath` or
       `MoveTo p, body…` with the body returning to `p`; body = `LineTo/QuadTo/CurveTo` only):
       `pathArea (A·els) = det A · pathArea els` for every affine `A` (also singular ones, where the closing line
       of `ClosePath` may disappear in the image), and invariance under translation.
       Element-level reversal: for a single sub-path (`MoveTo p, body…, ClosePath` or `MoveTo p, body…`, open or
       not) `reverseSubpaths` does not panic, the segments of its result are the reversed chain (for the closed
       form: rotated so that the reversed closing line comes last), and `pathArea` is negated.
       Orientation: the area of a triangle path is `½·(b−a)×(c−a)`, positive when it turns from +x towards +y.

    What is not proved:
    * "= ∬ winding number dA" (Green's theorem proper for piecewise polynomial loops).  Part A identifies the closed
      forms with the line integral `½∮(x dy − y dx)`; that this line integral equals the integral of the winding
      number over the plane is cited mathematics and is not formalised here.
    * Element-level reversal (`reverseSubpaths`) is proved for element lists consisting of one sub-path only; for
      lists with several sub-paths only the chain-level statement `chain_area_reverse` (and `area_append`) is
      available – no theorem here describes `reverseSubpaths` across `MoveTo` boundaries (a `Rat` example at the
      end of the file evaluates it on a two-sub-path list).
    * The determinant law at path level is for lists of *closed* sub-paths as described above; for open sub-paths
      the correction term of `chain_area_affine` remains (it is not zero in general).
    * Everything is about exact (lawful) scalars; nothing is claimed about `Float` rounding, except the purely
      structural `c02_segs_append`, `chain_reverse_isChain`, which hold for every `Scalar`. -/

/-! ## A. Green integral (ℝ) -/
namespace Kurbo
section real
variable [Scalar ℝ] [LawfulScalar ℝ]

theorem cubic_signedArea_eq_green (c : CubicBez ℝ) :
    c.signed_area = (1 / 2) * ∫ t in (0:ℝ)..1,
      ((c.eval t).x * (c.deriv.eval t).y - (c.eval t).y * (c.deriv.eval t).x) := by
  rw [cubic_green_eq_areaTo, CubicBez.areaTo_one, CubicBez.areaTo_zero, sub_zero]

theorem quad_signedArea_eq_green (q : QuadBez ℝ) :
    q.signed_area = (1 / 2) * ∫ t in (0:ℝ)..1,
      ((q.eval t).x * (q.deriv.eval t).y - (q.eval t).y * (q.deriv.eval t).x) := by
  rw [← q.raise_signed_area, cubic_signedArea_eq_green]
  simp only [quad_raise_eval, c18_raise_deriv_eval]

/-- `Line` has no `deriv` in the kernel; its velocity is the constant `p1 − p0` (next theorem) -/
theorem line_signedArea_eq_green (l : Line ℝ) :
    l.signed_area = (1 / 2) * ∫ t in (0:ℝ)..1,
      ((l.eval t).x * (l.p1.y - l.p0.y) - (l.eval t).y * (l.p1.x - l.p0.x)) := by
  refine (PathSeg.asCubic_signed_area (.Line l)).symm.trans ((cubic_signedArea_eq_green _).trans ?_)
  simp only [PathSeg.asCubic, c18_thirds_eval, c18_thirds_deriv_eval]

theorem line_eval_hasDerivAt (l : Line ℝ) (t : ℝ) :
    HasDerivAt (fun t => (l.eval t).x) (l.p1.x - l.p0.x) t ∧
    HasDerivAt (fun t => (l.eval t).y) (l.p1.y - l.p0.y) t :=
  line_hasDerivAt l t

end real
end Kurbo

/-! ## B. Segment level (any lawful scalar) -/
namespace Kurbo
variable {K : Type} [Field K] [LinearOrder K] [IsStrictOrderedRing K] [FloorRing K] [Scalar K] [LawfulScalar K]

theorem line_signedArea_formula (l : Line K) :
    l.signed_area = (l.p0.x * l.p1.y - l.p0.y * l.p1.x) / 2 := by kring

theorem signedArea_reverse (s : PathSeg K) : s.reverse.signed_area = - s.signed_area :=
  s.reverse_signed_area

theorem line_reversed_signedArea (l : Line K) : l.reversed.signed_area = - l.signed_area :=
  signedArea_reverse (.Line l)

theorem signedArea_raise (q : QuadBez K) : q.raise.signed_area = q.signed_area := q.raise_signed_area

theorem signedArea_line_as_quad (l : Line K) :
    (QuadBez.mk l.p0 l.midpoint l.p1).signed_area = l.signed_area := by kring

theorem signedArea_line_as_quad_any (l : Line K) (s : K) :
    (QuadBez.mk l.p0 (l.eval s) l.p1).signed_area = l.signed_area := by kring

theorem signedArea_line_as_cubic_any (l : Line K) (s u : K) :
    (CubicBez.mk l.p0 (l.eval s) (l.eval u) l.p1).signed_area = l.signed_area := l.as_cubic_signed_area s u

theorem signedArea_line_as_cubic (l : Line K) : (PathSeg.Line l).to_cubic.signed_area = l.signed_area := by
  have h := signedArea_line_as_cubic_any l 0 1
  rwa [(line_eval_zero_one l).1, (line_eval_zero_one l).2] at h

theorem signedArea_toCubic (s : PathSeg K) : s.to_cubic.signed_area = s.signed_area := by
  cases s with
  | Line l => exact signedArea_line_as_cubic l
  | Quad q => exact signedArea_raise q
  | Cubic c => rfl

theorem signedArea_split (s : PathSeg K) (t0 t1 t2 : K) :
    (s.subsegment ⟨t0, t1⟩).signed_area + (s.subsegment ⟨t1, t2⟩).signed_area
      = (s.subsegment ⟨t0, t2⟩).signed_area := by
  simp only [PathSeg.signed_area_subsegment]
  ring

theorem line_signedArea_split (l : Line K) (t0 t1 t2 : K) :
    (l.subsegment ⟨t0, t1⟩).signed_area + (l.subsegment ⟨t1, t2⟩).signed_area
      = (l.subsegment ⟨t0, t2⟩).signed_area := signedArea_split (.Line l) t0 t1 t2
theorem quad_signedArea_split (q : QuadBez K) (t0 t1 t2 : K) :
    (q.subsegment ⟨t0, t1⟩).signed_area + (q.subsegment ⟨t1, t2⟩).signed_area
      = (q.subsegment ⟨t0, t2⟩).signed_area := signedArea_split (.Quad q) t0 t1 t2
theorem cubic_signedArea_split (c : CubicBez K) (t0 t1 t2 : K) :
    (c.subsegment ⟨t0, t1⟩).signed_area + (c.subsegment ⟨t1, t2⟩).signed_area
      = (c.subsegment ⟨t0, t2⟩).signed_area := signedArea_split (.Cubic c) t0 t1 t2

theorem signedArea_subsegment_full (s : PathSeg K) : (s.subsegment ⟨0, 1⟩).signed_area = s.signed_area := by
  rw [PathSeg.signed_area_subsegment, PathSeg.areaTo_one, PathSeg.areaTo_zero, sub_zero]

theorem signedArea_split_at (s : PathSeg K) (t : K) :
    (s.subsegment ⟨0, t⟩).signed_area + (s.subsegment ⟨t, 1⟩).signed_area = s.signed_area := by
  rw [signedArea_split, signedArea_subsegment_full]

theorem cubic_signedArea_subdivide (c : CubicBez K) :
    c.subdivide.1.signed_area + c.subdivide.2.signed_area = c.signed_area := by
  rw [cubic_subdivide]
  exact signedArea_split_at (.Cubic c) (1 / 2)
theorem quad_signedArea_subdivide (q : QuadBez K) :
    q.subdivide.1.signed_area + q.subdivide.2.signed_area = q.signed_area := by
  rw [quad_subdivide]
  exact signedArea_split_at (.Quad q) (1 / 2)

/-- With `A = [a b c d e f]` (`x′ = a·x + c·y + e`, `y′ = b·x + d·y + f`):
    `area(A·s) = det A · area s + ½·(e·Δy′ − f·Δx′)` where `Δ′ = A·end − A·start`.
    The correction telescopes along a chain and vanishes on a closed one (part C). -/
theorem signedArea_affine (A : Affine K) (s : PathSeg K) :
    (A * s).signed_area = A.determinant * s.signed_area
      + (1 / 2) * (A.c4 * ((A * s.end).y - (A * s.start).y) - A.c5 * ((A * s.end).x - (A * s.start).x)) :=
  pathSeg_signedArea_affine A s

theorem line_signedArea_affine (A : Affine K) (l : Line K) :
    (A * l).signed_area = A.determinant * l.signed_area
      + (1 / 2) * (A.c4 * ((A * l.p1).y - (A * l.p0).y) - A.c5 * ((A * l.p1).x - (A * l.p0).x)) :=
  signedArea_affine A (.Line l)
theorem quad_signedArea_affine (A : Affine K) (q : QuadBez K) :
    (A * q).signed_area = A.determinant * q.signed_area
      + (1 / 2) * (A.c4 * ((A * q.p2).y - (A * q.p0).y) - A.c5 * ((A * q.p2).x - (A * q.p0).x)) :=
  signedArea_affine A (.Quad q)
theorem cubic_signedArea_affine (A : Affine K) (c : CubicBez K) :
    (A * c).signed_area = A.determinant * c.signed_area
      + (1 / 2) * (A.c4 * ((A * c.p3).y - (A * c.p0).y) - A.c5 * ((A * c.p3).x - (A * c.p0).x)) :=
  signedArea_affine A (.Cubic c)

/-- the same correction in terms of the original end points: `½ · (translation × linear part (end − start))` -/
theorem signedArea_affine' (A : Affine K) (s : PathSeg K) :
    (A * s).signed_area = A.determinant * s.signed_area
      + (1 / 2) * (A.c4 * (A.c1 * (s.end.x - s.start.x) + A.c3 * (s.end.y - s.start.y))
                 - A.c5 * (A.c0 * (s.end.x - s.start.x) + A.c2 * (s.end.y - s.start.y))) := by
  rw [pathSeg_signedArea_affine, affCorr_eq]

theorem signedArea_linear (A : Affine K) (h4 : A.c4 = 0) (h5 : A.c5 = 0) (s : PathSeg K) :
    (A * s).signed_area = A.determinant * s.signed_area := by
  rw [signedArea_affine, h4, h5]; ring

theorem signedArea_affine_loop (A : Affine K) (s : PathSeg K) (h : s.end = s.start) :
    (A * s).signed_area = A.determinant * s.signed_area := by
  rw [signedArea_affine, h]; ring

theorem determinant_mul (A B : Affine K) : (A * B).determinant = A.determinant * B.determinant := Affine.det_mul A B
theorem determinant_translate (v : Vec2 K) : (Affine.translate v).determinant = 1 := Affine.det_translate v

theorem signedArea_translate (v : Vec2 K) (s : PathSeg K) :
    (Affine.translate v * s).signed_area
      = s.signed_area + (1 / 2) * (v.x * (s.end.y - s.start.y) - v.y * (s.end.x - s.start.x)) := by
  rw [signedArea_affine', determinant_translate]
  simp only [Affine.translate, scalar_norm]
  push_cast; ring

end Kurbo

/-! ## C. Path level (any lawful scalar) -/
namespace Kurbo
variable {K : Type} [Field K] [LinearOrder K] [IsStrictOrderedRing K] [FloorRing K] [Scalar K] [LawfulScalar K]

/-- `pathArea` folds `+` from `0` on the left; in a field that is the sum of the segment areas -/
theorem pathArea_eq_sum (els : List (PathEl K)) :
    pathArea els = (segs els).map (fun ss => (ss.map PathSeg.signed_area).sum) :=
  pathArea_eq_areaSum els

/-- a `MoveTo` resets the iterator; the whole panics iff one of the parts does (holds for every `Scalar`, also `Float`) -/
theorem c02_segs_append {K' : Type} [Scalar K'] (els₁ r : List (PathEl K')) (p : Point K') :
    segs (els₁ ++ .MoveTo p :: r)
      = (segs els₁).bind fun ss₁ => (segs (.MoveTo p :: r)).map (ss₁ ++ ·) := by
  simp only [segs_eq_segsFrom]
  exact segsFrom_append_bind (fun st => segsFrom_moveTo_any st p r) els₁ none

theorem area_append (els₁ r : List (PathEl K)) (p : Point K) :
    pathArea (els₁ ++ .MoveTo p :: r)
      = (pathArea els₁).bind fun a₁ => (pathArea (.MoveTo p :: r)).map (a₁ + ·) :=
  pathArea_append (fun st => segsFrom_moveTo_any st p r) els₁

theorem area_append_some (els₁ els₂ : List (PathEl K)) (p : Point K) (r : List (PathEl K))
    (h : els₂ = .MoveTo p :: r) (ss₁ ss₂ : List (PathSeg K)) (a₁ a₂ : K)
    (h1 : segs els₁ = some ss₁) (h2 : segs els₂ = some ss₂)
    (ha1 : pathArea els₁ = some a₁) (ha2 : pathArea els₂ = some a₂) :
    segs (els₁ ++ els₂) = some (ss₁ ++ ss₂) ∧ pathArea (els₁ ++ els₂) = some (a₁ + a₂) := by
  subst h
  constructor
  · rw [c02_segs_append, h1, h2]; rfl
  · rw [area_append, ha1, ha2]; rfl

theorem chain_area_affine (A : Affine K) (p q : Point K) (ss : List (PathSeg K)) (h : SegChain p ss q) :
    ((ss.map (fun s : PathSeg K => A * s)).map PathSeg.signed_area).sum
      = A.determinant * (ss.map PathSeg.signed_area).sum
        + (1 / 2) * (A.c4 * ((A * q).y - (A * p).y) - A.c5 * ((A * q).x - (A * p).x)) :=
  chain_areaSum_affine A h

theorem chain_area_affine_closed (A : Affine K) (p : Point K) (ss : List (PathSeg K)) (h : SegChain p ss p) :
    ((ss.map (fun s : PathSeg K => A * s)).map PathSeg.signed_area).sum
      = A.determinant * (ss.map PathSeg.signed_area).sum :=
  chain_areaSum_affine_closed A h

theorem chain_area_translate_closed (v : Vec2 K) (p : Point K) (ss : List (PathSeg K)) (h : SegChain p ss p) :
    ((ss.map (fun s : PathSeg K => Affine.translate v * s)).map PathSeg.signed_area).sum
      = (ss.map PathSeg.signed_area).sum := by
  rw [chain_area_affine_closed _ p ss h, determinant_translate, one_mul]

theorem chain_area_reverse (ss : List (PathSeg K)) :
    ((ss.reverse.map PathSeg.reverse).map PathSeg.signed_area).sum = - (ss.map PathSeg.signed_area).sum :=
  areaSum_reverse ss

theorem chain_reverse_isChain {K' : Type} [Scalar K'] (p q : Point K') (ss : List (PathSeg K'))
    (h : SegChain p ss q) : SegChain q (ss.reverse.map PathSeg.reverse) p := by
  induction ss generalizing p with
  | nil => obtain rfl : p = q := h; rfl
  | cons s r ih =>
    obtain ⟨h1, h2⟩ := h
    simp only [List.reverse_cons, List.map_append, List.map_cons, List.map_nil]
    exact segChain_append (ih _ h2) ⟨reverse_start s, (reverse_end s).trans h1⟩

theorem segs_closed_subpath (p : Point K) (body : List (PathEl K)) (hb : IsBody body) :
    segs (.MoveTo p :: body ++ [PathEl.ClosePath])
        = some (bodySegs p body ++ (if bodyEnd p body = p then [] else [.Line ⟨bodyEnd p body, p⟩])) ∧
    SegChain p (bodySegs p body ++ (if bodyEnd p body = p then [] else [.Line ⟨bodyEnd p body, p⟩])) p := by
  rw [← closeSegs_eq_ite, segs_eq_segsFrom, segsFrom_closed_subpath none p body hb]
  exact ⟨rfl, segChain_append (segChain_bodySegs body p hb) (segChain_closeSegs _ _)⟩

theorem area_affine_closed (A : Affine K) (p : Point K) (body : List (PathEl K)) (hb : IsBody body) :
    ∃ a : K, pathArea (.MoveTo p :: body ++ [PathEl.ClosePath]) = some a ∧
      pathArea ((PathEl.MoveTo p :: body ++ [PathEl.ClosePath]).map (fun e : PathEl K => A * e))
        = some (A.determinant * a) :=
  ⟨_, pathArea_closed_subpath p body hb, pathArea_map_closed_subpath A p body hb⟩

/-- any list of closed sub-paths (`ClosedPath`, see `Proofs/Lemmas/SubPaths.lean`: explicitly closed by `ClosePath`, or
    returning to the start point without it) under any affine map: the iterator does not panic on either path and
    the area is multiplied by the determinant -/
theorem area_affine_closedPath (A : Affine K) (els : List (PathEl K)) (h : ClosedPath els) :
    ∃ a : K, pathArea els = some a ∧
      pathArea (els.map (fun e : PathEl K => A * e)) = some (A.determinant * a) := by
  induction h with
  | nil => exact ⟨0, pathArea_nil, by rw [mul_zero]; exact pathArea_nil⟩
  | close p body rest hb hrest ih =>
    obtain ⟨a, ha, hAa⟩ := ih
    refine ⟨_ + a, pathArea_append_some hrest.state_indep (pathArea_closed_subpath p body hb) ha, ?_⟩
    rw [List.map_append, pathArea_append_some (hrest.map A).state_indep
      (pathArea_map_closed_subpath A p body hb) hAa, mul_add]
  | implicit p body rest hb hend hrest ih =>
    obtain ⟨a, ha, hAa⟩ := ih
    refine ⟨_ + a, pathArea_append_some hrest.state_indep (pathArea_open_subpath p body hb) ha, ?_⟩
    rw [List.map_append, pathArea_append_some (hrest.map A).state_indep
      (pathArea_map_implicit_subpath A p body hb hend) hAa, mul_add]

theorem area_translate_closedPath (v : Vec2 K) (els : List (PathEl K)) (h : ClosedPath els) :
    pathArea (els.map (fun e : PathEl K => Affine.translate v * e)) = pathArea els := by
  obtain ⟨a, ha, hA⟩ := area_affine_closedPath (Affine.translate v) els h
  rw [hA, ha, determinant_translate, one_mul]

/-- one explicitly closed sub-path: `reverse_subpaths` does not panic; the reversed path draws the reversed body
    chain followed by the reversed closing line (the reversed closed chain starts with the reversed closing line:
    here it comes last) -/
theorem segs_reverse_closed (p : Point K) (body : List (PathEl K)) (hb : IsBody body) :
    ∃ r : List (PathEl K), reverseSubpaths (.MoveTo p :: body ++ [PathEl.ClosePath]) = some r ∧
      segs r = some ((bodySegs p body).reverse.map PathSeg.reverse
        ++ (if bodyEnd p body = p then [] else [PathSeg.Line ⟨bodyEnd p body, p⟩]).map PathSeg.reverse) := by
  refine ⟨_, reverseSubpaths_closed_subpath p body hb, ?_⟩
  rw [segs_eq_segsFrom, segsFrom_reverse_closed none p body hb, closeSegs_swap, closeSegs_eq_ite]

theorem area_reverse_closed (p : Point K) (body : List (PathEl K)) (hb : IsBody body) :
    ∃ (r : List (PathEl K)) (a : K), reverseSubpaths (.MoveTo p :: body ++ [PathEl.ClosePath]) = some r ∧
      pathArea (.MoveTo p :: body ++ [PathEl.ClosePath]) = some a ∧ pathArea r = some (-a) := by
  refine ⟨_, _, reverseSubpaths_closed_subpath p body hb, pathArea_closed_subpath p body hb, ?_⟩
  · rw [pathArea_eq_segsFrom, segsFrom_reverse_closed none p body hb, closeSegs_swap]
    rw [Option.map_some, areaSum_append, areaSum_append, areaSum_reverse, areaSum_map_reverse, neg_add]

theorem area_reverse_open (p : Point K) (body : List (PathEl K)) (hb : IsBody body) :
    ∃ (r : List (PathEl K)) (a : K), reverseSubpaths (.MoveTo p :: body) = some r ∧
      segs (.MoveTo p :: body) = some (bodySegs p body) ∧
      segs r = some ((bodySegs p body).reverse.map PathSeg.reverse) ∧
      pathArea (.MoveTo p :: body) = some a ∧ pathArea r = some (-a) := by
  refine ⟨_, _, reverseSubpaths_open_subpath p body hb, ?_, ?_, pathArea_open_subpath p body hb, ?_⟩
  · rw [segs_eq_segsFrom, segsFrom_open_subpath none p body hb]
  · rw [segs_eq_segsFrom, segsFrom_reverse_open none p body hb]
  · rw [pathArea_eq_segsFrom, segsFrom_reverse_open none p body hb]
    simp only [Option.map_some, Option.some.injEq]
    exact areaSum_reverse (bodySegs p body)

theorem triangle_area (a b c : Point K) :
    pathArea [.MoveTo a, .LineTo b, .LineTo c, .ClosePath]
      = some (((b.x - a.x) * (c.y - a.y) - (b.y - a.y) * (c.x - a.x)) / 2) := by
  have hb : IsBody [PathEl.LineTo b, PathEl.LineTo c] := by simp [IsBody, IsCurveEl]
  refine (pathArea_closed_subpath a [PathEl.LineTo b, PathEl.LineTo c] hb).trans ?_
  rw [areaSum_closeSegs]
  simp only [bodySegs, bodyEnd, PathEl.end_point, Option.getD_some, areaSum, List.cons_append, List.nil_append,
    List.map_cons, List.map_nil, List.sum_cons, List.sum_nil, PathSeg.signed_area, Line.signed_area, Vec2.cross,
    Point.to_vec2, scalar_norm, Option.some.injEq]
  push_cast; ring

/-- the orientation clause: a counter-clockwise triangle (turning from +x towards +y) has positive area -/
theorem triangle_area_pos (a b c : Point K)
    (h : 0 < (b.x - a.x) * (c.y - a.y) - (b.y - a.y) * (c.x - a.x)) :
    ∃ ar : K, pathArea [.MoveTo a, .LineTo b, .LineTo c, .ClosePath] = some ar ∧ 0 < ar :=
  ⟨_, triangle_area a b c, half_pos h⟩

end Kurbo

/-! ## Non-vacuity: concrete instances over `Rat` (the scalar the driver executes) -/
namespace Kurbo
namespace C02Examples
open PathEl

-- example data `sq` (unit square), `blob` (quadratic + cubic, closed implicitly), `cb`, `aff` (det 7), `proj`
-- (singular) are defined in `Proofs/Lemmas/C02.lean`
example : pathArea sq = some 1 := by decide +kernel
example : pathArea [MoveTo (⟨0, 0⟩ : Point Rat), LineTo ⟨0, 1⟩, LineTo ⟨1, 1⟩, LineTo ⟨1, 0⟩, ClosePath] = some (-1) := by
  decide +kernel
example : pathArea blob = some (28 / 15) := by decide +kernel
-- additivity over sub-paths (hypotheses of `area_append_some`)
example : segs sq ≠ none ∧ segs blob ≠ none ∧ pathArea (sq ++ blob) = some (1 + 28 / 15) := by decide +kernel
-- `ClosedPath`, `IsBody` are inhabited by non-trivial paths (one sub-path of each kind)
example : IsBody [LineTo (⟨1, 0⟩ : Point Rat), QuadTo ⟨3, 1⟩ ⟨2, 2⟩, CurveTo ⟨1, 2⟩ ⟨1, 0⟩ ⟨2, 0⟩] := by decide
example : ClosedPath (sq ++ blob) :=
  ClosedPath.close ⟨0, 0⟩ [LineTo ⟨1, 0⟩, LineTo ⟨1, 1⟩, LineTo ⟨0, 1⟩] blob (by decide)
    (ClosedPath.implicit ⟨2, 0⟩ [QuadTo ⟨3, 1⟩ ⟨2, 2⟩, CurveTo ⟨1, 2⟩ ⟨1, 0⟩ ⟨2, 0⟩] [] (by decide) rfl ClosedPath.nil)
example : aff.determinant = 7 ∧
    pathArea ((sq ++ blob).map (fun e : PathEl Rat => aff * e)) = some (7 * (1 + 28 / 15)) := by decide +kernel
-- singular map: the closing line of the square collapses to a point in the image, the law still holds
example : proj.determinant = 0 ∧ pathArea (sq.map (fun e : PathEl Rat => proj * e)) = some 0 := by decide +kernel
example : SegChain (⟨0, 0⟩ : Point Rat)
    [.Line ⟨⟨0, 0⟩, ⟨1, 0⟩⟩, .Quad ⟨⟨1, 0⟩, ⟨2, 1⟩, ⟨1, 1⟩⟩, .Cubic ⟨⟨1, 1⟩, ⟨1, 2⟩, ⟨0, 2⟩, ⟨0, 0⟩⟩] ⟨0, 0⟩ :=
  ⟨rfl, rfl, rfl, rfl⟩
-- a single segment that is a loop (`signedArea_affine_loop`), and a map without translation (`signedArea_linear`)
example : (PathSeg.Cubic ⟨(⟨0, 0⟩ : Point Rat), ⟨3, 0⟩, ⟨0, 3⟩, ⟨0, 0⟩⟩).end
    = (PathSeg.Cubic ⟨(⟨0, 0⟩ : Point Rat), ⟨3, 0⟩, ⟨0, 3⟩, ⟨0, 0⟩⟩).start := rfl
example : (⟨2, 1, -1, 3, 0, 0⟩ : Affine Rat).c4 = 0 ∧ (⟨2, 1, -1, 3, 0, 0⟩ : Affine Rat).c5 = 0 := ⟨rfl, rfl⟩
-- counter-clockwise triangle (`triangle_area_pos`)
example : (0 : Rat) < ((1 : Rat) - 0) * (1 - 0) - (0 - 0) * (0 - 0) := by norm_num
example : cb.signed_area = 3 / 5 := by decide +kernel
example : (cb.subsegment ⟨0, 1 / 3⟩).signed_area = 16 / 405 ∧ (cb.subsegment ⟨1 / 3, 1⟩).signed_area = 227 / 405 ∧
    (16 / 405 + 227 / 405 : Rat) = 3 / 5 := by decide +kernel
example : (cb.subsegment ⟨2, 1⟩).signed_area = -33 / 5 := by decide +kernel
-- the element-level reversal of the crate on the examples (the second one, with two sub-paths, is not covered by a
-- theorem of this file, see header)
example : (reverseSubpaths sq).bind pathArea = some (-1) := by decide +kernel
example : (reverseSubpaths (sq ++ blob)).bind pathArea = some (-(1 + 28 / 15)) := by decide +kernel

end C02Examples
end Kurbo
