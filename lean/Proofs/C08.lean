import Proofs.Lemmas.C08Path
import Proofs.Lemmas.C08Mono
import Proofs.Lemmas.Discharge
/-! C08 – bounding boxes and extrema.

    PROVED (about the model definitions of `Kurbo/Curve.lean` exactly as they are; helper lemmas in
    `Proofs/Lemmas/C08{List,Ext,Box,Path,Mono,Real}.lean`, the solver specification over ℝ in
    `Proofs/Lemmas/Discharge.lean`):

    * extrema of a quadratic (`QuadBez.extrema`), any lawful scalar, unconditional:
      `quad_extrema_sound`, `quad_extrema_complete`, `quad_extrema_iff` (the list holds exactly the interior zeros of x′ and
      of y′, where a coordinate whose derivative vanishes identically contributes none), `quad_extrema_sorted_le2`;
    * extrema of a cubic (`CubicBez.extrema`), any lawful scalar, under the solver specification
      `QuadSolverSpec K` (an explicit hypothesis `S`; over ℝ a theorem, see the last item): `cubic_extrema_sound`,
      `cubic_extrema_complete`, `cubic_extrema_iff`, `cubic_extrema_sorted_le4`; without the hypothesis:
      `cubic_extrema_unit_sorted` (inside (0,1), increasing – the filter and the sort do not depend on the solver),
      `sortList_spec`;
    * `extremaRanges_tile_struct`, `seg_extrema_ranges_struct` (any `Scalar`, also `Float`), `extremaRanges_tile`,
      `seg_extrema_ranges_tile` (lawful): the ranges are the consecutive pairs of `0, t₁, …, tₙ, 1`;
    * `controlBox_contains_point` (convex hull property, any lawful scalar), `seg_bbox_subset_of_control`; path level:
      `controlBox_contains_control_points`, `controlBox_contains_path_point`, `controlBox_contains_path_bbox` (the last
      for paths with at least one segment);
    * `seg_bbox_tight`, `path_bbox_tight` (any lawful scalar, unconditional, cubics included);
    * `line_bbox_contains` (any lawful scalar), `quad_bbox_contains` (ℝ, unconditional),
      `seg_bbox_contains` (ℝ, all three kinds, cubics under `S`; `seg_bbox_contains_noncubic`: lines and
      quadratics without `S`), `path_bbox_contains_boxes` (lawful), `path_bbox_contains` (ℝ, under `S`);
    * `quad_ranges_monotone`, `seg_ranges_monotone` (ℝ; cubics under `S`): on every range of `extrema_ranges`
      each coordinate is monotone or antitone;
    * `cubic_extrema_iff_real`, `cubic_extrema_sorted_le4_real`, `seg_bbox_contains_real`, `path_bbox_contains_real`,
      `seg_ranges_monotone_real`: over ℝ with the real square root (`LawfulReal`) `QuadSolverSpec ℝ` is assembled
      from the C15 theorems about `solveQuadratic` (`quadSolverSpec_real`), and no hypothesis `S` is left.

    NOT PROVED / caveats:

    * `QuadSolverSpec K` needs an exact square root (`Scalar.sqrt`), so it is not true for `K = ℚ`; for a general
      lawful `K` every theorem that takes `S` is conditional on it.  The theorems without `S` are unconditional.
    * The lists are increasing in the weak sense (`≤`): a common root of x′ and y′ is listed twice (as in the crate).
    * `controlBox_contains_path_bbox` needs "the path has a segment": for `[MoveTo p]` the model (like the crate)
      returns the zero rectangle as bounding box but `(p,p)` as control box (example after the theorem).
    * Apart from the two structural theorems nothing here is about `Float`: containment/tightness up to rounding is
      only supported by the tests. -/
namespace Kurbo

/-- the model's literals `0` and `1` of an arbitrary (not necessarily lawful) scalar -/
local notation "𝟘" => (@OfNat.ofNat _ 0 Kurbo.Ops.instOfNat)
local notation "𝟙" => (@OfNat.ofNat _ 1 Kurbo.Ops.instOfNat)

section anyScalar
variable {K : Type} [Scalar K]

/-- `extremaRangesFrom t0 [t₁,…,tₙ]` is `[t0,t₁], [t₁,t₂], …, [tₙ,1]`, for every `Scalar` (`Float` included) -/
theorem extremaRanges_tile_struct (t0 : K) (ts : List K) :
    extremaRangesFrom t0 ts = List.zipWith Range.mk (t0 :: ts) (ts ++ [𝟙]) ∧
    (extremaRangesFrom t0 ts).length = ts.length + 1 ∧
    (∃ h, ((extremaRangesFrom t0 ts).head h).start = t0) ∧
    (∃ h, ((extremaRangesFrom t0 ts).getLast h).«end» = 𝟙) ∧
    (extremaRangesFrom t0 ts).IsChain (fun r s => r.«end» = s.start) :=
  ⟨extremaRangesFrom_eq_zipWith t0 ts, length_extremaRangesFrom t0 ts,
    ⟨extremaRangesFrom_ne_nil t0 ts, head_extremaRangesFrom t0 ts⟩,
    ⟨extremaRangesFrom_ne_nil t0 ts, getLast_extremaRangesFrom t0 ts⟩, chain_extremaRangesFrom t0 ts⟩

/-- `extrema_ranges` of a segment starts at the model's `0` -/
theorem seg_extrema_ranges_struct (s : PathSeg K) :
    s.extrema_ranges = List.zipWith Range.mk (𝟘 :: s.extrema) (s.extrema ++ [𝟙]) ∧
    s.extrema_ranges.length = s.extrema.length + 1 :=
  ⟨extremaRangesFrom_eq_zipWith _ _, length_extremaRangesFrom _ _⟩

end anyScalar

section lawful
variable {K : Type} [Field K] [LinearOrder K] [IsStrictOrderedRing K] [FloorRing K] [Scalar K] [LawfulScalar K]

/-- every interior zero of x′ (resp. y′) is listed, unless x′ (resp. y′) vanishes identically -/
theorem quad_extrema_complete (q : QuadBez K) (t : K) (h0 : 0 < t) (h1 : t < 1)
    (h : ((q.deriv.eval t).x = 0 ∧ ∃ u, (q.deriv.eval u).x ≠ 0) ∨
         ((q.deriv.eval t).y = 0 ∧ ∃ u, (q.deriv.eval u).y ≠ 0)) : t ∈ q.extrema :=
  (seg_mem_extrema (.Quad q) (fun ⟨_, e⟩ => nomatch e) t).mpr ⟨h0, h1, h⟩

example : let q : QuadBez Rat := ⟨⟨0, 0⟩, ⟨1, 1⟩, ⟨0, 2⟩⟩
    (0 : Rat) < 1 / 2 ∧ (1 / 2 : Rat) < 1 ∧ (q.deriv.eval (1 / 2)).x = 0 ∧ (q.deriv.eval 0).x ≠ 0 ∧
      q.extrema = [1 / 2] := by decide +kernel

theorem quad_extrema_iff (q : QuadBez K) (t : K) :
    t ∈ q.extrema ↔ 0 < t ∧ t < 1 ∧
      (((q.deriv.eval t).x = 0 ∧ ∃ u, (q.deriv.eval u).x ≠ 0) ∨
       ((q.deriv.eval t).y = 0 ∧ ∃ u, (q.deriv.eval u).y ≠ 0)) :=
  seg_mem_extrema (.Quad q) (fun ⟨_, e⟩ => nomatch e) t

/-- every listed parameter is interior and a zero of x′ or of y′ -/
theorem quad_extrema_sound (q : QuadBez K) (t : K) (h : t ∈ q.extrema) :
    0 < t ∧ t < 1 ∧ ((q.deriv.eval t).x = 0 ∨ (q.deriv.eval t).y = 0) :=
  let ⟨h0, h1, hz⟩ := (quad_extrema_iff q t).mp h
  ⟨h0, h1, hz.imp And.left And.left⟩

theorem quad_extrema_sorted_le2 (q : QuadBez K) : q.extrema.Pairwise (· ≤ ·) ∧ q.extrema.length ≤ 2 :=
  ⟨quad_extrema_sorted q, quad_extrema_length_le q⟩

-- both coordinates contribute, the y-root is smaller and is moved to the front
example : (⟨⟨0, 0⟩, ⟨3, 1⟩, ⟨2, -2⟩⟩ : QuadBez Rat).extrema = [1 / 4, 3 / 4] := by decide +kernel

/-- the sort used by `CubicBez.extrema` permutes its input into increasing order -/
theorem sortList_spec (l : List K) : (sortList l).Perm l ∧ (sortList l).Pairwise (· ≤ ·) :=
  ⟨sortList_perm l, sortList_sorted l⟩

/-- independent of the solver: every listed parameter is interior, and the list is increasing -/
theorem cubic_extrema_unit_sorted (c : CubicBez K) :
    (∀ t ∈ c.extrema, 0 < t ∧ t < 1) ∧ c.extrema.Pairwise (· ≤ ·) :=
  ⟨fun t h => seg_extrema_unit (.Cubic c) t h, seg_extrema_sorted (.Cubic c)⟩

/-- every interior zero of x′ (resp. y′) is listed, unless x′ (resp. y′) vanishes identically -/
theorem cubic_extrema_complete (S : QuadSolverSpec K) (c : CubicBez K) (t : K) (h0 : 0 < t) (h1 : t < 1)
    (h : ((c.deriv.eval t).x = 0 ∧ ∃ u, (c.deriv.eval u).x ≠ 0) ∨
         ((c.deriv.eval t).y = 0 ∧ ∃ u, (c.deriv.eval u).y ≠ 0)) : t ∈ c.extrema :=
  (seg_mem_extrema (.Cubic c) (fun _ => S) t).mpr ⟨h0, h1, h⟩

theorem cubic_extrema_iff (S : QuadSolverSpec K) (c : CubicBez K) (t : K) :
    t ∈ c.extrema ↔ 0 < t ∧ t < 1 ∧
      (((c.deriv.eval t).x = 0 ∧ ∃ u, (c.deriv.eval u).x ≠ 0) ∨
       ((c.deriv.eval t).y = 0 ∧ ∃ u, (c.deriv.eval u).y ≠ 0)) :=
  seg_mem_extrema (.Cubic c) (fun _ => S) t

/-- every listed parameter is interior and a zero of x′ or of y′ -/
theorem cubic_extrema_sound (S : QuadSolverSpec K) (c : CubicBez K) (t : K) (h : t ∈ c.extrema) :
    0 < t ∧ t < 1 ∧ ((c.deriv.eval t).x = 0 ∨ (c.deriv.eval t).y = 0) :=
  let ⟨h0, h1, hz⟩ := (cubic_extrema_iff S c t).mp h
  ⟨h0, h1, hz.imp And.left And.left⟩

theorem cubic_extrema_sorted_le4 (S : QuadSolverSpec K) (c : CubicBez K) :
    c.extrema.Pairwise (· ≤ ·) ∧ c.extrema.length ≤ 4 := by
  refine ⟨(cubic_extrema_unit_sorted c).2, ?_⟩
  rw [cubic_extrema_eq, length_sortList, List.length_append]
  have h1 := cubicOneCoord_length S (c.p1.x - c.p0.x) (c.p2.x - c.p1.x) (c.p3.x - c.p2.x)
  have h2 := cubicOneCoord_length S (c.p1.y - c.p0.y) (c.p2.y - c.p1.y) (c.p3.y - c.p2.y)
  omega

-- `QuadSolverSpec` needs an exact `Scalar.sqrt`, so it is a statement about ℝ-like scalars, not about ℚ; on inputs where
-- the rational square root is exact the model over ℚ agrees with each of its clauses:
example : solveQuadratic (3 : Rat) (-16) 16 = [1 / 4, 3 / 4] ∧ solveQuadratic (2 : Rat) (-4) 0 = [-2 / -4] ∧
    solveQuadratic (0 : Rat) 0 0 = [0] ∧ solveQuadratic (1 : Rat) 0 0 = [] := by decide +kernel

-- a cubic over ℚ on which the model's solver is exact: x′ is linear (root 1/2), y′ has the roots 1/4 and 3/4
example : let c : CubicBez Rat := ⟨⟨0, 0⟩, ⟨2, 3⟩, ⟨2, -2⟩, ⟨0, 1⟩⟩
    c.extrema = [1 / 4, 1 / 2, 3 / 4] ∧ (c.deriv.eval (1 / 2)).x = 0 ∧ (c.deriv.eval (1 / 4)).y = 0 ∧
      (c.deriv.eval (3 / 4)).y = 0 ∧ (c.deriv.eval 0).x ≠ 0 ∧ (c.deriv.eval 0).y ≠ 0 := by decide +kernel

/-- for an increasing list inside `(0,1)`: the ranges are the consecutive pairs of `0, t₁, …, tₙ, 1`, each range is
    ordered and inside `[0,1]`, and no listed parameter lies strictly inside a range -/
theorem extremaRanges_tile (ts : List K) (hunit : ∀ t ∈ ts, 0 < t ∧ t < 1) (hs : ts.Pairwise (· ≤ ·)) :
    extremaRangesFrom 0 ts = List.zipWith Range.mk (0 :: ts) (ts ++ [1]) ∧
    (extremaRangesFrom 0 ts).length = ts.length + 1 ∧
    (extremaRangesFrom 0 ts).IsChain (fun r s => r.«end» = s.start) ∧
    (∀ r ∈ extremaRangesFrom 0 ts, 0 ≤ r.start ∧ r.start ≤ r.«end» ∧ r.«end» ≤ 1) ∧
    (∀ r ∈ extremaRangesFrom 0 ts, ∀ t ∈ ts, ¬ (r.start < t ∧ t < r.«end»)) := by
  have hsorted := extremaRangesFrom_sorted 0 ts (fun t ht => (hunit t ht).1.le) zero_le_one hs
    (fun t ht => (hunit t ht).2.le)
  refine ⟨?_, length_extremaRangesFrom _ _, chain_extremaRangesFrom _ _, fun r hr => (hsorted r hr).1,
    fun r hr => (hsorted r hr).2⟩
  have h := extremaRangesFrom_eq_zipWith (0 : K) ts
  simp only [scalar_norm] at h; push_cast at h; exact h

example : (∀ t ∈ ([1 / 4, 1 / 2] : List Rat), 0 < t ∧ t < 1) ∧ ([1 / 4, 1 / 2] : List Rat).Pairwise (· ≤ ·) := by
  constructor
  · intro t ht; simp only [List.mem_cons, List.not_mem_nil, or_false] at ht
    rcases ht with rfl | rfl <;> norm_num
  · simp; norm_num

/-- the same for the ranges of a segment; needs no hypothesis (the extrema of every segment are increasing and
    interior, also for cubics, whatever the solver returns) -/
theorem seg_extrema_ranges_tile (s : PathSeg K) :
    s.extrema_ranges = List.zipWith Range.mk (0 :: s.extrema) (s.extrema ++ [1]) ∧
    s.extrema_ranges.length = s.extrema.length + 1 ∧
    s.extrema_ranges.IsChain (fun r s => r.«end» = s.start) ∧
    (∀ r ∈ s.extrema_ranges, 0 ≤ r.start ∧ r.start ≤ r.«end» ∧ r.«end» ≤ 1) ∧
    (∀ r ∈ s.extrema_ranges, ∀ t ∈ s.extrema, ¬ (r.start < t ∧ t < r.«end»)) := by
  rw [seg_extrema_ranges_eq]
  exact extremaRanges_tile s.extrema (seg_extrema_unit s) (seg_extrema_sorted s)

/-- convex hull property: a closed box that holds the control points of a segment holds the segment -/
theorem controlBox_contains_point (r : Rect K) (s : PathSeg K) (h : ∀ p ∈ s.controlPoints, r.ContainsClosed p)
    (t : K) (ht0 : 0 ≤ t) (ht1 : t ≤ 1) : r.ContainsClosed (s.eval t) :=
  seg_eval_closed (P := r.ContainsClosed) (fun _ _ hp hq => lerp_in_box hp hq ht0 ht1) s h

example : let r : Rect Rat := ⟨0, -2, 2, 3⟩
    ∀ p ∈ (PathSeg.Cubic (⟨⟨0, 0⟩, ⟨2, 3⟩, ⟨2, -2⟩, ⟨0, 1⟩⟩ : CubicBez Rat)).controlPoints, r.ContainsClosed p := by
  intro r p hp
  rcases PathSeg.mem_controlPoints_cubic.mp hp with rfl | rfl | rfl | rfl <;> (unfold Rect.ContainsClosed; norm_num)

/-- each of the four sides of `bounding_box` is touched by the curve at some parameter of `[0,1]` -/
theorem seg_bbox_tight (s : PathSeg K) :
    (∃ t, 0 ≤ t ∧ t ≤ 1 ∧ (s.eval t).x = s.bounding_box.x0) ∧
    (∃ t, 0 ≤ t ∧ t ≤ 1 ∧ (s.eval t).y = s.bounding_box.y0) ∧
    (∃ t, 0 ≤ t ∧ t ≤ 1 ∧ (s.eval t).x = s.bounding_box.x1) ∧
    (∃ t, 0 ≤ t ∧ t ≤ 1 ∧ (s.eval t).y = s.bounding_box.y1) :=
  (seg_bounding_box_touches s).sides (Q := fun c v => ∃ t, 0 ≤ t ∧ t ≤ 1 ∧ c (s.eval t) = v)
    fun c _ ⟨t, a, b, e⟩ => ⟨t, a, b, congrArg c e⟩

/-- hence the box of a segment lies inside every closed box that contains its control points -/
theorem seg_bbox_subset_of_control (r : Rect K) (s : PathSeg K) (h : ∀ p ∈ s.controlPoints, r.ContainsClosed p) :
    r.ContainsRectP s.bounding_box :=
  (seg_bounding_box_touches s).least fun _ ⟨t, a, b, e⟩ => e ▸ controlBox_contains_point r s h t a b

theorem line_bbox_contains (l : Line K) (t : K) (ht0 : 0 ≤ t) (ht1 : t ≤ 1) :
    (PathSeg.Line l).bounding_box.ContainsClosed ((PathSeg.Line l).eval t) :=
  lerp_in_box (r := Rect.from_points l.p0 l.p1) (Rect.from_points_contains _ _).1 (Rect.from_points_contains _ _).2 ht0 ht1

/-- the box of a path contains the box of each of its segments -/
theorem path_bbox_contains_boxes (els : List (PathEl K)) (ss : List (PathSeg K)) (bb : Rect K)
    (hs : segs els = some ss) (hb : pathBoundingBox els = some bb) :
    ∀ s ∈ ss, bb.ContainsRectP s.bounding_box := by
  unfold pathBoundingBox at hb
  rw [hs] at hb
  simp only [Option.map_some, Option.some.injEq] at hb
  cases ss with
  | nil => simp
  | cons s0 rest =>
    simp only at hb
    subst hb
    obtain ⟨h1, h2⟩ := foldl_union_contains (fun t : PathSeg K => t.bounding_box) rest s0.bounding_box
    intro s hs
    rcases List.mem_cons.mp hs with rfl | hs
    · exact h1
    · exact h2 s hs

/-- the box of a path with at least one segment is tight: each side is touched by one of its segments -/
theorem path_bbox_tight (els : List (PathEl K)) (ss : List (PathSeg K)) (bb : Rect K)
    (hs : segs els = some ss) (hne : ss ≠ []) (hb : pathBoundingBox els = some bb) :
    (∃ s ∈ ss, ∃ t, 0 ≤ t ∧ t ≤ 1 ∧ (s.eval t).x = bb.x0) ∧
    (∃ s ∈ ss, ∃ t, 0 ≤ t ∧ t ≤ 1 ∧ (s.eval t).y = bb.y0) ∧
    (∃ s ∈ ss, ∃ t, 0 ≤ t ∧ t ≤ 1 ∧ (s.eval t).x = bb.x1) ∧
    (∃ s ∈ ss, ∃ t, 0 ≤ t ∧ t ≤ 1 ∧ (s.eval t).y = bb.y1) :=
  (path_bbox_touches els ss bb hs hne hb).sides (Q := fun c v => ∃ s ∈ ss, ∃ t, 0 ≤ t ∧ t ≤ 1 ∧ c (s.eval t) = v)
    fun c _ ⟨s, hmem, t, a, b, e⟩ => ⟨s, hmem, t, a, b, congrArg c e⟩

/-- `control_box` contains every control point of every segment of the path … -/
theorem controlBox_contains_control_points (els : List (PathEl K)) (ss : List (PathSeg K)) (hs : segs els = some ss) :
    ∀ s ∈ ss, ∀ p ∈ s.controlPoints, (controlBox els).ContainsClosed p :=
  segs_pts (fun p => (controlBox els).ContainsClosed p) els ss hs (controlBox_contains_elPoints els)

/-- … hence every point of the path … -/
theorem controlBox_contains_path_point (els : List (PathEl K)) (ss : List (PathSeg K)) (hs : segs els = some ss)
    (s : PathSeg K) (hmem : s ∈ ss) (t : K) (ht0 : 0 ≤ t) (ht1 : t ≤ 1) :
    (controlBox els).ContainsClosed (s.eval t) :=
  controlBox_contains_point _ s (controlBox_contains_control_points els ss hs s hmem) t ht0 ht1

/-- … and the bounding box of the path, provided the path has a segment -/
theorem controlBox_contains_path_bbox (els : List (PathEl K)) (ss : List (PathSeg K)) (bb : Rect K)
    (hs : segs els = some ss) (hne : ss ≠ []) (hb : pathBoundingBox els = some bb) :
    (controlBox els).ContainsRectP bb :=
  (path_bbox_touches els ss bb hs hne hb).least fun _ ⟨s, hmem, t, a, b, e⟩ =>
    e ▸ controlBox_contains_path_point els ss hs s hmem t a b

-- hypotheses are satisfiable …
example : let els : List (PathEl Rat) := [.MoveTo ⟨0, 0⟩, .QuadTo ⟨1, 1⟩ ⟨0, 2⟩, .LineTo ⟨3, 3⟩]
    segs els = some [.Quad ⟨⟨0, 0⟩, ⟨1, 1⟩, ⟨0, 2⟩⟩, .Line ⟨⟨0, 2⟩, ⟨3, 3⟩⟩] ∧
    pathBoundingBox els = some ⟨0, 0, 3, 3⟩ ∧ controlBox els = ⟨0, 0, 3, 3⟩ := by decide +kernel
-- … and `ss ≠ []` cannot be dropped: a lone `MoveTo` has the zero rectangle as bounding box
example : let els : List (PathEl Rat) := [.MoveTo ⟨5, 5⟩]
    segs els = some [] ∧ pathBoundingBox els = some ⟨0, 0, 0, 0⟩ ∧ controlBox els = ⟨5, 5, 5, 5⟩ := by decide +kernel

end lawful

section real
variable [Scalar ℝ] [LawfulScalar ℝ]

/-- the box of a quadratic contains it: unconditional -/
theorem quad_bbox_contains (q : QuadBez ℝ) (t : ℝ) (ht : t ∈ Set.Icc (0:ℝ) 1) :
    (PathSeg.Quad q).bounding_box.ContainsClosed ((PathSeg.Quad q).eval t) :=
  seg_box_contains (.Quad q) (fun ⟨_, e⟩ => nomatch e) t ht

/-- segments that are not cubics: unconditional -/
theorem seg_bbox_contains_noncubic (s : PathSeg ℝ) (hs : ∀ c, s ≠ .Cubic c) (t : ℝ) (ht : t ∈ Set.Icc (0:ℝ) 1) :
    s.bounding_box.ContainsClosed (s.eval t) :=
  seg_box_contains s (fun ⟨c, e⟩ => absurd e (hs c)) t ht

/-- every segment; only the cubic case uses the solver specification -/
theorem seg_bbox_contains (S : QuadSolverSpec ℝ) (s : PathSeg ℝ) (t : ℝ) (ht : t ∈ Set.Icc (0:ℝ) 1) :
    s.bounding_box.ContainsClosed (s.eval t) :=
  seg_box_contains s (fun _ => S) t ht

theorem path_bbox_contains (S : QuadSolverSpec ℝ) (els : List (PathEl ℝ)) (ss : List (PathSeg ℝ)) (bb : Rect ℝ)
    (hs : segs els = some ss) (hb : pathBoundingBox els = some bb) (s : PathSeg ℝ) (hmem : s ∈ ss)
    (t : ℝ) (ht : t ∈ Set.Icc (0:ℝ) 1) : bb.ContainsClosed (s.eval t) :=
  (path_bbox_contains_boxes els ss bb hs hb s hmem).closed (seg_bbox_contains S s t ht)

theorem quad_ranges_monotone (q : QuadBez ℝ) :
    ∀ r ∈ (PathSeg.Quad q).extrema_ranges,
      (MonotoneOn (fun t => (q.eval t).x) (Set.Icc r.start r.«end») ∨
        AntitoneOn (fun t => (q.eval t).x) (Set.Icc r.start r.«end»)) ∧
      (MonotoneOn (fun t => (q.eval t).y) (Set.Icc r.start r.«end») ∨
        AntitoneOn (fun t => (q.eval t).y) (Set.Icc r.start r.«end»)) := by
  intro r hr
  have h := seg_ranges_strict_xy (.Quad q) (fun ⟨_, e⟩ => nomatch e) r hr
  exact ⟨monoOn_or_antiOn_of_strict h.2.1, monoOn_or_antiOn_of_strict h.2.2⟩

theorem seg_ranges_monotone (S : QuadSolverSpec ℝ) (s : PathSeg ℝ) :
    ∀ r ∈ s.extrema_ranges,
      (MonotoneOn (fun t => (s.eval t).x) (Set.Icc r.start r.«end») ∨
        AntitoneOn (fun t => (s.eval t).x) (Set.Icc r.start r.«end»)) ∧
      (MonotoneOn (fun t => (s.eval t).y) (Set.Icc r.start r.«end») ∨
        AntitoneOn (fun t => (s.eval t).y) (Set.Icc r.start r.«end»)) := by
  intro r hr
  have h := seg_ranges_strict_xy s (fun _ => S) r hr
  exact ⟨monoOn_or_antiOn_of_strict h.2.1, monoOn_or_antiOn_of_strict h.2.2⟩

end real
end Kurbo

namespace Kurbo
section discharged
variable [Scalar ℝ] [LawfulScalar ℝ] [LawfulReal]

theorem cubic_extrema_iff_real (c : CubicBez ℝ) (t : ℝ) :
    t ∈ c.extrema ↔ 0 < t ∧ t < 1 ∧
      (((c.deriv.eval t).x = 0 ∧ ∃ u, (c.deriv.eval u).x ≠ 0) ∨
       ((c.deriv.eval t).y = 0 ∧ ∃ u, (c.deriv.eval u).y ≠ 0)) :=
  cubic_extrema_iff quadSolverSpec_real c t

theorem cubic_extrema_sorted_le4_real (c : CubicBez ℝ) : c.extrema.Pairwise (· ≤ ·) ∧ c.extrema.length ≤ 4 :=
  cubic_extrema_sorted_le4 quadSolverSpec_real c

/-- the bounding box of every segment contains every point of it -/
theorem seg_bbox_contains_real (s : PathSeg ℝ) (t : ℝ) (ht : t ∈ Set.Icc (0:ℝ) 1) :
    s.bounding_box.ContainsClosed (s.eval t) :=
  seg_bbox_contains quadSolverSpec_real s t ht

/-- the bounding box of a path contains every point of every segment -/
theorem path_bbox_contains_real (els : List (PathEl ℝ)) (ss : List (PathSeg ℝ)) (bb : Rect ℝ)
    (hs : segs els = some ss) (hb : pathBoundingBox els = some bb) (s : PathSeg ℝ) (hmem : s ∈ ss)
    (t : ℝ) (ht : t ∈ Set.Icc (0:ℝ) 1) : bb.ContainsClosed (s.eval t) :=
  path_bbox_contains quadSolverSpec_real els ss bb hs hb s hmem t ht

/-- on every range between reported extrema both coordinates are monotone or antitone -/
theorem seg_ranges_monotone_real (s : PathSeg ℝ) :
    ∀ r ∈ s.extrema_ranges,
      (MonotoneOn (fun t => (s.eval t).x) (Set.Icc r.start r.«end») ∨
        AntitoneOn (fun t => (s.eval t).x) (Set.Icc r.start r.«end»)) ∧
      (MonotoneOn (fun t => (s.eval t).y) (Set.Icc r.start r.«end») ∨
        AntitoneOn (fun t => (s.eval t).y) (Set.Icc r.start r.«end»)) :=
  seg_ranges_monotone quadSolverSpec_real s

/-- the hypotheses are satisfiable: ℝ with the Mathlib functions -/
example : ∃ (_ : Scalar ℝ) (_ : LawfulScalar ℝ), LawfulReal := ⟨realScalar, realScalar_lawful, realScalar_lawfulReal⟩

end discharged
end Kurbo
