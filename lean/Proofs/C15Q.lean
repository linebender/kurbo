import Proofs.Lemmas.C15QSelect
import Proofs.C15
import Proofs.Lemmas.C15QRoots
/-! C15Q – the general path of `solve_quartic` (extension of C15).

    All theorems are about the hand-written model `Kurbo/Quartic.lean` (`epsRel`, `calcEpsQ/T`, `resolventGH`, `quarticPhi`,
    `ldlSelect`, `ldlInit`, `quarticNewton`, `factorQuarticInner`, `solveQuarticInner`, `solveQuarticGeneral`,
    `solveQuartic`) exactly as it is, read in exact arithmetic (a lawful scalar: `is_finite()` is always true, a quotient is
    "not finite" iff its divisor is 0).  `Scalar.sqrt` is uninterpreted there: where the code takes a square root (of `−d_2`,
    of `−d_3`, of a positive discriminant of one of the two quadratics) its exactness at that argument is a hypothesis
    (`SqrtExact`); over ℝ it holds at every non-negative argument (`sqrtExact_real`).  The `Float` instantiation of the same
    definitions is compared bit-for-bit with the crate by `gen/c15.py` (ops `solve.quartic_full`, `solve.factor_quartic`).

    What is proved.
    A. `eps_rel`: `epsRel_eq_zero_iff` (`epsRel raw a = 0 ↔ raw = a`, both branches `a = 0` / `a ≠ 0`), `epsRel_nonneg`;
       `calcEpsT_eq_zero_iff`: `eps_t = 0` iff the four coefficient identities of
       `(x² + α₁x + β₁)(x² + α₂x + β₂) = x⁴ + a x³ + b x² + c x + d` hold.
    B. factorisation soundness.
       * `resolventGH_shift_invariant`: `(g', h')`, which the code computes from the quartic shifted by `quarticShift a b`,
         are the invariants `g = ac − 4d − b²/3`, `h = (ac + 8d − 2b²/9)·b/3 − c² − a²d` of the original quartic (the shift is
         purely numerical: `resolventG_shift`, `resolventH_shift` in `Lemmas/C15QSelect.lean` hold for every shift `s`);
         `resolventGH_rescaled`: with `rescale` they are `g/K_C²`, `h/K_C³`; `quarticPhi_exact`: if the value
         `depressed_cubic_dominant` returns is a root of the cubic it was given, then `phi` (multiplied back by `K_C`) is a
         root of `φ³ + gφ + h`, in both modes.
       * `ldlSelect_exact`: for an exact root `phi` whose `d_2_cand_1 = 2b/3 − φ − a²/4` lies above the noise threshold
         `64ε(|b| + |φ| + a²/4)`, the candidate loop selects candidate 1 and the selected `(l_1, l_3, d_2, l_2)` satisfies the
         LDLᵀ identities `d_2 + l_1² + 2l_3 = b`, `2(d_2 l_2 + l_1 l_3) = c`, `d_2 l_2² + l_3² = d` (and `2 l_1 = a`);
         `ldlSelect_exact_d2_zero`: if `d_2_cand_1 = 0` then `d_2 = 0`, `l_1² + 2l_3 = b`, `2 l_1 l_3 = c`.
         In the statements `(ldlSelect a b c d phi).1`, `.2.1`, `.2.2.1`, `.2.2.2` are `l_1`, `l_3`, `d_2`, `l_2`; whatever `phi` is,
         `l_1 = a/2` and `l_3 = ldlL3 b phi = b/6 + φ/2` (`ldlSelect_l1`, `ldlSelect_l3` in `Lemmas/C15QSelect.lean`).
       * `ldlInit_neg_exact` (branch `d_2 < 0`) and `ldlInit_zero_exact` (branch `d_2 = 0`): from the LDLᵀ identities the
         pair computed before the Newton loop satisfies the four coefficient identities.  The `beta` replacement
         (`beta_2 = d / beta_1` …) returns the value it replaces, and every finite alpha candidate equals the alpha it
         replaces, so the selection changes nothing (lemmas `betaFixNeg_exact`, `betaFixZero_eq_neg`, `alphaSelect_exact`).
       * `factorQuarticInner_exact_neg`, `factorQuarticInner_exact_zero`: the composition – with an exact resolvent root,
         `factor_quartic_inner` returns `Some` of an exact factorisation (the Newton loop sees `eps_t = 0` and returns at once).
    C. Newton loop: `quarticNewton_fixed_of_exact` (zero residuals: input returned unchanged, any iteration count),
       `quarticNewton_monotone` (`eps_t` of the result ≤ `eps_t` of the input), `quarticNewton_eq_or_lt` (the result is the
       input or strictly better).
    D. roots: `solveQuarticInner_roots` – when `factor_quartic_inner` returns a pair, `solve_quartic_inner` returns exactly
       the real roots of the product of the two quadratics, at most 4 values; `solveQuarticInner_exact`: if the pair is an
       exact factorisation these are exactly the real roots of the quartic; `solveQuartic_general_exact` (lawful `K` in
       which every non-negative element has an exact square root) and `solveQuartic_general_exact_real` (ℝ, no
       square-root hypothesis): in the general case (`c4 ≠ 0`, `c0 ≠ 0`, not biquadratic), with an exact resolvent root and
       `d_2 < 0` above the noise threshold, or `d_2 = 0` and `d ≤ l_3²`, `solve_quartic` returns exactly the real roots of
       `c0 + c1 x + c2 x² + c3 x³ + c4 x⁴`.
    E. `d_2 > 0`: `ldlInit_isSome_iff_nonpos` (`None` iff `d_2 > 0`); `quartic_roots_of_pos_d2`: then the quartic is
       `(x² + l_1 x + l_3)² + d_2 (x + l_2)²`, so it has no real root unless `x = −l_2` happens to be a root of
       `x² + l_1 x + l_3` (a real double root of the quartic), in which case that is its only real root
       (`quartic_no_root_of_pos_d2`: no real root otherwise); `factorQuarticInner_none_of_pos`: the composition with an exact
       resolvent root – `factor_quartic_inner` and `solve_quartic_inner` return `None` (what `solve_quartic` then returns
       after its retries is not covered).

    What is not proved.
    * Nothing about `Float` (rounding, overflow, the purpose of the shift, of `K_Q`/`K_C`, of the candidate selections).
    * `depressed_cubic_dominant` itself: that it returns a root of `x³ + gx + h` is a hypothesis (`hphi`) of the composite
      theorems of this file; over ℝ it is proved in `Proofs/C15D.lean` (`depressedCubicDominant_root`), which also restates
      the composite theorems without it.
    * The noise test is part of the model: when `0 < |d_2_cand_1| ≤ 64ε(…)` the code sets `d_2 = 0` and the pair before the
      Newton loop is not exact; only `quarticNewton_monotone` speaks about that case.
    * In case E with the degenerate double root, and when `d_3 = d − l_3² > 0` in the `d_2 = 0` branch (square root of a
      negative number; the quartic then has no real root), nothing is proved about the returned list.
    * The rescaling retries (`K_Q`): only `quarticKQpow_eq` (helper: the divisors are the powers of one constant); that the
      retried attempts return the roots multiplied back is not proved – in exact arithmetic they are reached only when the
      first attempt returned `None`.
    * Completeness/soundness of `solve_quartic` when the first attempt returns `None` (`d_2 > 0`). -/
set_option linter.unusedSectionVars false

namespace Kurbo
variable {K : Type} [Field K] [LinearOrder K] [IsStrictOrderedRing K] [FloorRing K] [Scalar K] [LawfulScalar K]

theorem epsRel_eq_zero_iff (raw a : K) : epsRel raw a = 0 ↔ raw = a := epsRel_eq_zero_iff' raw a

theorem epsRel_nonneg (raw a : K) : 0 ≤ epsRel raw a := epsRel_nonneg' raw a

example : epsRel (3 : Rat) 0 = 3 ∧ epsRel (3 : Rat) 2 = 1 / 2 ∧ epsRel (2 : Rat) 2 = 0 := by decide +kernel

theorem calcEpsT_eq_zero_iff (a b c d a1 b1 a2 b2 : K) :
    calcEpsT a b c d a1 b1 a2 b2 = 0 ↔
      a1 + a2 = a ∧ b1 + a1 * a2 + b2 = b ∧ b1 * a2 + a1 * b2 = c ∧ b1 * b2 = d :=
  calcEpsT_eq_zero_iff' a b c d a1 b1 a2 b2

-- (x² − x + 1)(x² − 3x + 2) = x⁴ − 4x³ + 6x² − 5x + 2
example : calcEpsT (-4 : Rat) 6 (-5) 2 (-1) 1 (-3) 2 = 0 := by decide +kernel

theorem resolventGH_shift_invariant (a b c d : K) :
    resolventGH a b c d false = (resolventG a b c d, resolventH a b c d) := by
  rw [resolventGH_eq]; rfl

theorem resolventGH_rescaled (a b c d : K) :
    resolventGH a b c d true = (resolventG a b c d / (quarticKC : K) ^ 2, resolventH a b c d / (quarticKC : K) ^ 3) := by
  rw [resolventGH_eq]; rfl

example : resolventGH (-4 : Rat) 6 (-5) 2 false = (0, -1) := by decide +kernel

/-- if `depressed_cubic_dominant` returns a root of the cubic it is given, `phi` is a root of the resolvent of the quartic -/
theorem quarticPhi_exact (a b c d : K) (rescale : Bool)
    (hd : (depressedCubicDominant (resolventGH a b c d rescale).1 (resolventGH a b c d rescale).2) ^ 3 +
      (resolventGH a b c d rescale).1 * depressedCubicDominant (resolventGH a b c d rescale).1 (resolventGH a b c d rescale).2 +
      (resolventGH a b c d rescale).2 = 0) :
    ∃ phi, quarticPhi a b c d rescale = some phi ∧ phi ^ 3 + resolventG a b c d * phi + resolventH a b c d = 0 := by
  cases rescale with
  | false =>
    rw [resolventGH_shift_invariant] at hd
    exact ⟨_, quarticPhi_false a b c d, hd⟩
  | true =>
    rw [resolventGH_rescaled] at hd
    exact ⟨_, quarticPhi_true a b c d, resolvent_root_rescale quarticKC_pos.ne' hd⟩

-- over `Rat` the model's cube root is the identity, which is right at ±1: here g = 0, h = −1, phi = 1
example : quarticPhi (-4 : Rat) 6 (-5) 2 false = some 1 := by decide +kernel
example : (1 : Rat) ^ 3 + resolventG (-4 : Rat) 6 (-5) 2 * 1 + resolventH (-4 : Rat) 6 (-5) 2 = 0 := by
  unfold resolventG resolventH; norm_num

theorem ldlSelect_exact {a b c d phi : K} (hphi : phi ^ 3 + resolventG a b c d * phi + resolventH a b c d = 0)
    (hthr : ldlNoise a b phi < |ldlD1 a b phi|) :
    (ldlSelect a b c d phi).2.2.1 = ldlD1 a b phi ∧
    2 * (ldlSelect a b c d phi).1 = a ∧
    (ldlSelect a b c d phi).2.2.1 + (ldlSelect a b c d phi).1 * (ldlSelect a b c d phi).1 + 2 * (ldlSelect a b c d phi).2.1 = b ∧
    2 * ((ldlSelect a b c d phi).2.2.1 * (ldlSelect a b c d phi).2.2.2 + (ldlSelect a b c d phi).1 * (ldlSelect a b c d phi).2.1) = c ∧
    (ldlSelect a b c d phi).2.2.1 * (ldlSelect a b c d phi).2.2.2 * (ldlSelect a b c d phi).2.2.2 +
      (ldlSelect a b c d phi).2.1 * (ldlSelect a b c d phi).2.1 = d := by
  obtain ⟨e, h⟩ := ldlSelect_of_exact_ne hphi hthr
  rw [e]
  exact ⟨rfl, h⟩

example : ldlNoise (-4 : Rat) 6 1 < |ldlD1 (-4 : Rat) 6 1| ∧ ldlD1 (-4 : Rat) 6 1 = -1 := by
  unfold ldlNoise ldlD1; norm_num
example : ldlSelect (-4 : Rat) 6 (-5) 2 1 = (-2, 3 / 2, -1, -1 / 2) := by decide +kernel

theorem ldlSelect_exact_d2_zero {a b c d phi : K} (hphi : phi ^ 3 + resolventG a b c d * phi + resolventH a b c d = 0)
    (hD : ldlD1 a b phi = 0) :
    (ldlSelect a b c d phi).2.2.1 = 0 ∧
    2 * (ldlSelect a b c d phi).1 = a ∧
    (ldlSelect a b c d phi).1 * (ldlSelect a b c d phi).1 + 2 * (ldlSelect a b c d phi).2.1 = b ∧
    2 * ((ldlSelect a b c d phi).1 * (ldlSelect a b c d phi).2.1) = c := by
  obtain ⟨h0, h1, h2⟩ := ldlSelect_of_exact_zero hphi hD
  rw [ldlSelect_l1, ldlSelect_l3]
  exact ⟨h0, by ring, h1, h2⟩

-- (x² + 2x + 1)(x² + 2x + 3) = x⁴ + 4x³ + 8x² + 8x + 3, phi = 4/3
example : (4 / 3 : Rat) ^ 3 + resolventG (4 : Rat) 8 8 3 * (4 / 3) + resolventH (4 : Rat) 8 8 3 = 0 ∧ ldlD1 (4 : Rat) 8 (4 / 3) = 0 := by
  unfold resolventG resolventH ldlD1; norm_num

/-- branch `d_2 < 0`: an exact LDLᵀ decomposition gives an exact pair of quadratics before the Newton loop -/
theorem ldlInit_neg_exact {a b c d l_1 l_3 d_2 l_2 : K} (ha : 2 * l_1 = a) (h1 : d_2 + l_1 * l_1 + 2 * l_3 = b)
    (h2 : 2 * (d_2 * l_2 + l_1 * l_3) = c) (h3 : d_2 * l_2 * l_2 + l_3 * l_3 = d) (hd : d_2 < 0)
    (hs : SqrtExact (-d_2)) :
    ∃ z0, ldlInit a b c d l_1 l_3 d_2 l_2 = some z0 ∧
      z0.1 + z0.2.2.1 = a ∧ z0.2.1 + z0.1 * z0.2.2.1 + z0.2.2.2 = b ∧ z0.2.1 * z0.2.2.1 + z0.1 * z0.2.2.2 = c ∧
      z0.2.1 * z0.2.2.2 = d := by
  have hss := hs.2
  have hex : FactorsQuartic a b c d (l_1 + Scalar.sqrt (-d_2)) (l_3 + Scalar.sqrt (-d_2) * l_2)
      (l_1 - Scalar.sqrt (-d_2)) (l_3 - Scalar.sqrt (-d_2) * l_2) :=
    ⟨by linear_combination ha, by linear_combination h1 - hss, by linear_combination h2 - 2 * l_2 * hss,
      by linear_combination h3 - l_2 * l_2 * hss⟩
  exact ⟨_, ldlInit_neg_of_exact hd hex, hex⟩

example : (2 * (-2 : Rat) = -4 ∧ (-1 : Rat) + (-2) * (-2) + 2 * (3 / 2) = 6 ∧ 2 * ((-1 : Rat) * (-1 / 2) + (-2) * (3 / 2)) = -5 ∧
    (-1 : Rat) * (-1 / 2) * (-1 / 2) + 3 / 2 * (3 / 2) = 2 ∧ (-1 : Rat) < 0) ∧ SqrtExact (-(-1 : Rat)) :=
  ⟨by norm_num, by unfold SqrtExact; decide +kernel⟩
example : ldlInit (-4 : Rat) 6 (-5) 2 (-2) (3 / 2) (-1) (-1 / 2) = some (-1, 1, -3, 2) := by decide +kernel

/-- branch `d_2 = 0`: the quartic is `(x² + l_1 x + l_3)² + d_3` and the pair `x² + l_1 x + l_3 ± √−d_3` is exact -/
theorem ldlInit_zero_exact {a b c d l_1 l_3 l_2 : K} (ha : 2 * l_1 = a) (h1 : l_1 * l_1 + 2 * l_3 = b)
    (h2 : 2 * (l_1 * l_3) = c) (hs : SqrtExact (-(d - l_3 * l_3))) :
    ∃ z0, ldlInit a b c d l_1 l_3 0 l_2 = some z0 ∧
      z0.1 + z0.2.2.1 = a ∧ z0.2.1 + z0.1 * z0.2.2.1 + z0.2.2.2 = b ∧ z0.2.1 * z0.2.2.1 + z0.1 * z0.2.2.2 = c ∧
      z0.2.1 * z0.2.2.2 = d := by
  have e4 : (l_3 + Scalar.sqrt (-(d - l_3 * l_3))) * (l_3 - Scalar.sqrt (-(d - l_3 * l_3))) = d := by
    linear_combination (-1 : K) * hs.2
  refine ⟨_, ldlInit_zero_of_exact e4, ?_, ?_, ?_, e4⟩ <;> dsimp only
  · linear_combination ha
  · linear_combination h1
  · linear_combination h2

example : SqrtExact (-((3 : Rat) - 2 * 2)) := by unfold SqrtExact; decide +kernel
example : ldlInit (4 : Rat) 8 8 3 2 2 0 0 = some (2, 3, 2, 1) := by decide +kernel

/-- `factor_quartic_inner` with an exact resolvent root, `d_2 < 0` above the noise threshold: an exact factorisation -/
theorem factorQuarticInner_exact_neg {a b c d : K} {rescale : Bool} {phi : K}
    (hq : quarticPhi a b c d rescale = some phi)
    (hphi : phi ^ 3 + resolventG a b c d * phi + resolventH a b c d = 0)
    (hneg : ldlD1 a b phi < 0) (hthr : ldlNoise a b phi < |ldlD1 a b phi|) (hs : SqrtExact (-(ldlD1 a b phi))) :
    ∃ a1 b1 a2 b2, factorQuarticInner a b c d rescale = some ((a1, b1), (a2, b2)) ∧
      a1 + a2 = a ∧ b1 + a1 * a2 + b2 = b ∧ b1 * a2 + a1 * b2 = c ∧ b1 * b2 = d := by
  obtain ⟨e1, ha, h1, h2, h3⟩ := ldlSelect_exact hphi hthr
  obtain ⟨z0, hi, hex⟩ := ldlInit_neg_exact ha h1 h2 h3 (by rw [e1]; exact hneg) (by rw [e1]; exact hs)
  exact ⟨_, _, _, _, factorQuarticInner_of_exact_init hq hi hex, hex⟩

example : factorQuarticInner (-4 : Rat) 6 (-5) 2 false = some ((-1, 1), (-3, 2)) := by decide +kernel
example : ldlD1 (-4 : Rat) 6 1 < 0 ∧ SqrtExact (-(ldlD1 (-4 : Rat) 6 1)) :=
  ⟨by unfold ldlD1; norm_num, by unfold SqrtExact ldlD1; decide +kernel⟩

/-- the same in the branch `d_2 = 0` (the two quadratic factors have the same linear coefficient) -/
theorem factorQuarticInner_exact_zero {a b c d : K} {rescale : Bool} {phi : K}
    (hq : quarticPhi a b c d rescale = some phi)
    (hphi : phi ^ 3 + resolventG a b c d * phi + resolventH a b c d = 0)
    (hD : ldlD1 a b phi = 0)
    (hs : SqrtExact (-(d - (ldlSelect a b c d phi).2.1 * (ldlSelect a b c d phi).2.1))) :
    ∃ a1 b1 a2 b2, factorQuarticInner a b c d rescale = some ((a1, b1), (a2, b2)) ∧
      a1 + a2 = a ∧ b1 + a1 * a2 + b2 = b ∧ b1 * a2 + a1 * b2 = c ∧ b1 * b2 = d := by
  obtain ⟨e1, ha, h1, h2⟩ := ldlSelect_exact_d2_zero hphi hD
  obtain ⟨z0, hi, hex⟩ := ldlInit_zero_exact (l_2 := (ldlSelect a b c d phi).2.2.2) (d := d) ha h1 h2 hs
  rw [← e1] at hi
  exact ⟨_, _, _, _, factorQuarticInner_of_exact_init hq hi hex, hex⟩

/-- zero residuals: the loop returns its input unchanged (whatever the iteration count) -/
theorem quarticNewton_fixed_of_exact (a b c d : K) (n : Nat) (z : K × K × K × K)
    (hex : z.1 + z.2.2.1 = a ∧ z.2.1 + z.1 * z.2.2.1 + z.2.2.2 = b ∧ z.2.1 * z.2.2.1 + z.1 * z.2.2.2 = c ∧
      z.2.1 * z.2.2.2 = d) :
    quarticNewton a b c d n z (calcEpsT a b c d z.1 z.2.1 z.2.2.1 z.2.2.2) = z := by
  rw [(calcEpsT_eq_zero_iff' a b c d _ _ _ _).mpr hex]; exact quarticNewton_zero' a b c d n z

theorem quarticNewton_eq_or_lt (a b c d : K) (n : Nat) (z : K × K × K × K) :
    quarticNewton a b c d n z (newtonEps a b c d z) = z ∨
      newtonEps a b c d (quarticNewton a b c d n z (newtonEps a b c d z)) < newtonEps a b c d z := by
  induction n generalizing z with
  | zero => left; rfl
  | succ n ih =>
    rw [quarticNewton_succ]
    by_cases h0 : newtonEps a b c d z = 0
    · rw [if_pos h0]; left; trivial
    · rw [if_neg h0]
      cases hstep : quarticNewtonStep a b c d z.1 z.2.1 z.2.2.1 z.2.2.2 with
      | none => left; rfl
      | some z' =>
        simp only
        by_cases hlt : newtonEps a b c d z' < newtonEps a b c d z
        · -- an accepted step is strictly better, and so is whatever the rest of the loop makes of it
          rw [if_pos hlt]; right
          rcases ih z' with e | h
          · rwa [e]
          · exact h.trans hlt
        · rw [if_neg hlt]; left; trivial

/-- the loop only accepts strict improvements: `calc_eps_t` of the result is at most that of the input -/
theorem quarticNewton_monotone (a b c d : K) (n : Nat) (z : K × K × K × K) :
    newtonEps a b c d (quarticNewton a b c d n z (newtonEps a b c d z)) ≤ newtonEps a b c d z :=
  (quarticNewton_eq_or_lt a b c d n z).elim (fun e => le_of_eq (congrArg _ e)) le_of_lt

-- an inexact start over `Rat`: x⁴ − 4x³ + 6x² − 5x + 2 from (−1, 1, −3, 21/10): eps_t = 13/150; one Newton step is accepted
-- (the residual is linear in beta_2 here, so the step lands on the exact pair)
example : newtonEps (-4 : Rat) 6 (-5) 2 (-1, 1, -3, 21 / 10) = 13 / 150 := by decide +kernel
example : quarticNewton (-4 : Rat) 6 (-5) 2 1 (-1, 1, -3, 21 / 10) (13 / 150) = (-1, 1, -3, 2) := by decide +kernel

theorem solveQuarticInner_roots {a b c d : K} {rescale : Bool} {a1 b1 a2 b2 : K}
    (hf : factorQuarticInner a b c d rescale = some ((a1, b1), (a2, b2)))
    (hs1 : 0 < quadArg b1 a1 1 → SqrtExact (quadArg b1 a1 1)) (hs2 : 0 < quadArg b2 a2 1 → SqrtExact (quadArg b2 a2 1)) :
    ∃ r, solveQuarticInner a b c d rescale = some r ∧ r.length ≤ 4 ∧
      ∀ x, x ∈ r ↔ (x ^ 2 + a1 * x + b1) * (x ^ 2 + a2 * x + b2) = 0 :=
  solveQuarticInner_of_factor hf hs1 hs2

example : (0 < quadArg (1 : Rat) (-1) 1 → SqrtExact (quadArg (1 : Rat) (-1) 1)) ∧
    (0 < quadArg (2 : Rat) (-3) 1 → SqrtExact (quadArg (2 : Rat) (-3) 1)) :=
  ⟨fun h => absurd h (by unfold quadArg; norm_num), fun _ => by unfold SqrtExact quadArg; decide +kernel⟩
example : solveQuarticInner (-4 : Rat) 6 (-5) 2 false = some [1, 2] := by decide +kernel

/-- an exact factorisation: exactly the real roots of the quartic -/
theorem solveQuarticInner_exact {a b c d : K} {rescale : Bool} {a1 b1 a2 b2 : K}
    (hf : factorQuarticInner a b c d rescale = some ((a1, b1), (a2, b2)))
    (hex : a1 + a2 = a ∧ b1 + a1 * a2 + b2 = b ∧ b1 * a2 + a1 * b2 = c ∧ b1 * b2 = d)
    (hs1 : 0 < quadArg b1 a1 1 → SqrtExact (quadArg b1 a1 1)) (hs2 : 0 < quadArg b2 a2 1 → SqrtExact (quadArg b2 a2 1)) :
    ∃ r, solveQuarticInner a b c d rescale = some r ∧ r.length ≤ 4 ∧
      ∀ x, x ∈ r ↔ x ^ 4 + a * x ^ 3 + b * x ^ 2 + c * x + d = 0 := by
  obtain ⟨r, hr, hl, hm⟩ := solveQuarticInner_of_factor hf hs1 hs2
  refine ⟨r, hr, hl, fun x => ?_⟩
  rw [hm x, FactorsQuartic.mul_eq hex x]

/-- the general case of `solve_quartic` (lawful `K`; `hsq`: every non-negative element has an exact square root – so for ℝ,
    not for `Rat`): with an exact resolvent root and `d_2 < 0` above the noise threshold, or `d_2 = 0` and `d ≤ l_3²`, exactly
    the real roots -/
theorem solveQuartic_general_exact (c0 c1 c2 c3 c4 : K) (h4 : c4 ≠ 0) (h0 : c0 ≠ 0) (h31 : ¬ (c3 = 0 ∧ c1 = 0)) (phi : K)
    (hsq : ∀ y : K, 0 ≤ y → SqrtExact y)
    (hq : quarticPhi (c3 / c4) (c2 / c4) (c1 / c4) (c0 / c4) false = some phi)
    (hphi : phi ^ 3 + resolventG (c3 / c4) (c2 / c4) (c1 / c4) (c0 / c4) * phi + resolventH (c3 / c4) (c2 / c4) (c1 / c4) (c0 / c4) = 0)
    (hcase : (ldlD1 (c3 / c4) (c2 / c4) phi < 0 ∧ ldlNoise (c3 / c4) (c2 / c4) phi < |ldlD1 (c3 / c4) (c2 / c4) phi|) ∨
      (ldlD1 (c3 / c4) (c2 / c4) phi = 0 ∧
        c0 / c4 ≤ (ldlSelect (c3 / c4) (c2 / c4) (c1 / c4) (c0 / c4) phi).2.1 * (ldlSelect (c3 / c4) (c2 / c4) (c1 / c4) (c0 / c4) phi).2.1)) :
    (solveQuartic c0 c1 c2 c3 c4).length ≤ 4 ∧
    ∀ x, x ∈ solveQuartic c0 c1 c2 c3 c4 ↔ c0 + c1 * x + c2 * x ^ 2 + c3 * x ^ 3 + c4 * x ^ 4 = 0 := by
  have hf : ∃ a1 b1 a2 b2, factorQuarticInner (c3 / c4) (c2 / c4) (c1 / c4) (c0 / c4) false = some ((a1, b1), (a2, b2)) ∧
      a1 + a2 = c3 / c4 ∧ b1 + a1 * a2 + b2 = c2 / c4 ∧ b1 * a2 + a1 * b2 = c1 / c4 ∧ b1 * b2 = c0 / c4 := by
    rcases hcase with ⟨hneg, hthr⟩ | ⟨hD, hd3⟩
    · exact factorQuarticInner_exact_neg hq hphi hneg hthr (hsq _ (neg_nonneg.mpr hneg.le))
    · exact factorQuarticInner_exact_zero hq hphi hD (hsq _ (neg_nonneg.mpr (sub_nonpos.mpr hd3)))
  obtain ⟨a1, b1, a2, b2, hf, hex⟩ := hf
  obtain ⟨r, hr, hl, hm⟩ := solveQuarticInner_exact hf hex (fun h => hsq _ h.le) (fun h => hsq _ h.le)
  rw [solveQuartic_eq, solveQuarticWith_general _ c0 c1 c2 c3 c4 h4 h0 h31, solveQuarticGeneral_of_some hr]
  refine ⟨hl, fun x => ?_⟩
  rw [hm x, monic_quartic_scaled c0 c1 c2 c3 c4 x h4, mul_eq_zero, or_iff_right h4]

-- the model runs the whole general path over `Rat` on x⁴ − 4x³ + 6x² − 5x + 2 = (x² − x + 1)(x − 1)(x − 2)
example : solveQuartic (K := Rat) 2 (-5) 6 (-4) 1 = [1, 2] := by decide +kernel
example : (1 : Rat) ≠ 0 ∧ (2 : Rat) ≠ 0 ∧ ¬ ((-4 : Rat) = 0 ∧ (-5 : Rat) = 0) := by norm_num

end Kurbo

namespace Kurbo
section real
variable [Scalar ℝ] [LawfulScalar ℝ] [LawfulReal]

/-- over ℝ (`Scalar.sqrt = Real.sqrt`) no hypothesis on the square roots is needed -/
theorem solveQuartic_general_exact_real (c0 c1 c2 c3 c4 : ℝ) (h4 : c4 ≠ 0) (h0 : c0 ≠ 0) (h31 : ¬ (c3 = 0 ∧ c1 = 0)) (phi : ℝ)
    (hq : quarticPhi (c3 / c4) (c2 / c4) (c1 / c4) (c0 / c4) false = some phi)
    (hphi : phi ^ 3 + resolventG (c3 / c4) (c2 / c4) (c1 / c4) (c0 / c4) * phi + resolventH (c3 / c4) (c2 / c4) (c1 / c4) (c0 / c4) = 0)
    (hcase : (ldlD1 (c3 / c4) (c2 / c4) phi < 0 ∧ ldlNoise (c3 / c4) (c2 / c4) phi < |ldlD1 (c3 / c4) (c2 / c4) phi|) ∨
      (ldlD1 (c3 / c4) (c2 / c4) phi = 0 ∧
        c0 / c4 ≤ (ldlSelect (c3 / c4) (c2 / c4) (c1 / c4) (c0 / c4) phi).2.1 * (ldlSelect (c3 / c4) (c2 / c4) (c1 / c4) (c0 / c4) phi).2.1)) :
    (solveQuartic c0 c1 c2 c3 c4).length ≤ 4 ∧
    ∀ x, x ∈ solveQuartic c0 c1 c2 c3 c4 ↔ c0 + c1 * x + c2 * x ^ 2 + c3 * x ^ 3 + c4 * x ^ 4 = 0 :=
  solveQuartic_general_exact c0 c1 c2 c3 c4 h4 h0 h31 phi (fun y hy => sqrtExact_real y hy) hq hphi hcase

end real
-- the class assumptions are satisfiable: ℝ with Mathlib's functions
example : @LawfulScalar ℝ _ _ _ _ realScalar ∧ @LawfulReal realScalar := ⟨realScalar_lawful, realScalar_lawfulReal⟩
end Kurbo

namespace Kurbo
variable {K : Type} [Field K] [LinearOrder K] [IsStrictOrderedRing K] [FloorRing K] [Scalar K] [LawfulScalar K]

/-- `None` is returned exactly when `d_2 > 0` -/
theorem ldlInit_isSome_iff_nonpos (a b c d l_1 l_3 d_2 l_2 : K) : (ldlInit a b c d l_1 l_3 d_2 l_2).isSome ↔ d_2 ≤ 0 := by
  rw [ldlInit_eq]
  split_ifs with h1 h2
  · exact iff_of_true rfl h1.le
  · exact iff_of_true rfl h2.le
  · exact iff_of_false Bool.false_ne_true fun h => (h.lt_or_eq).elim h1 h2

/-- `d_2 > 0` with exact LDLᵀ identities: `quartic = (x² + l_1 x + l_3)² + d_2 (x + l_2)²`; a real root exists only in the
    degenerate case that `−l_2` is a root of `x² + l_1 x + l_3`, and then it is the only one -/
theorem quartic_roots_of_pos_d2 {a b c d l_1 l_3 d_2 l_2 : K} (ha : 2 * l_1 = a) (h1 : d_2 + l_1 * l_1 + 2 * l_3 = b)
    (h2 : 2 * (d_2 * l_2 + l_1 * l_3) = c) (h3 : d_2 * l_2 * l_2 + l_3 * l_3 = d) (hd : 0 < d_2) (x : K) :
    x ^ 4 + a * x ^ 3 + b * x ^ 2 + c * x + d = 0 ↔ x = -l_2 ∧ l_2 ^ 2 - l_1 * l_2 + l_3 = 0 := by
  -- a sum of two squares vanishes only where both do
  have hsq : ∀ A B : K, A ^ 2 + d_2 * B ^ 2 = 0 ↔ B = 0 ∧ A = 0 := fun A B => by
    rw [add_eq_zero_iff_of_nonneg (sq_nonneg A) (mul_nonneg hd.le (sq_nonneg B)), sq_eq_zero_iff, mul_eq_zero,
      or_iff_right hd.ne', sq_eq_zero_iff, and_comm]
  rw [LdlExact.quartic_eq ⟨ha, h1, h2, h3⟩ x, hsq, ← eq_neg_iff_add_eq_zero]
  constructor <;> rintro ⟨rfl, h⟩ <;> exact ⟨rfl, by linear_combination h⟩

-- (x² + 1)² + 2 (x + 1)² = x⁴ + 4x² + 4x + 3: l_1 = 0, l_3 = 1, d_2 = 2, l_2 = 1
example : 2 * (0 : Rat) = 0 ∧ (2 : Rat) + 0 * 0 + 2 * 1 = 4 ∧ 2 * ((2 : Rat) * 1 + 0 * 1) = 4 ∧ (2 : Rat) * 1 * 1 + 1 * 1 = 3 ∧
    (0 : Rat) < 2 := by norm_num

/-- no real root at all when `−l_2` is not a root of `x² + l_1 x + l_3` -/
theorem quartic_no_root_of_pos_d2 {a b c d l_1 l_3 d_2 l_2 : K} (ha : 2 * l_1 = a) (h1 : d_2 + l_1 * l_1 + 2 * l_3 = b)
    (h2 : 2 * (d_2 * l_2 + l_1 * l_3) = c) (h3 : d_2 * l_2 * l_2 + l_3 * l_3 = d) (hd : 0 < d_2)
    (hne : l_2 ^ 2 - l_1 * l_2 + l_3 ≠ 0) (x : K) : x ^ 4 + a * x ^ 3 + b * x ^ 2 + c * x + d ≠ 0 :=
  fun h => hne ((quartic_roots_of_pos_d2 ha h1 h2 h3 hd x).mp h).2
example : (1 : Rat) ^ 2 - 0 * 1 + 1 ≠ 0 := by norm_num

/-- the composition: exact resolvent root, `d_2_cand_1 > 0` above the noise threshold: `factor_quartic_inner` returns `None`
    and the quartic has no real root other than possibly `−l_2` -/
theorem factorQuarticInner_none_of_pos {a b c d : K} {rescale : Bool} {phi : K}
    (hq : quarticPhi a b c d rescale = some phi)
    (hphi : phi ^ 3 + resolventG a b c d * phi + resolventH a b c d = 0)
    (hpos : 0 < ldlD1 a b phi) (hthr : ldlNoise a b phi < |ldlD1 a b phi|) :
    factorQuarticInner a b c d rescale = none ∧ solveQuarticInner a b c d rescale = none ∧
    ∀ x, x ^ 4 + a * x ^ 3 + b * x ^ 2 + c * x + d = 0 →
      x = -(ldlSelect a b c d phi).2.2.2 := by
  obtain ⟨e1, ha, h1, h2, h3⟩ := ldlSelect_exact hphi hthr
  have hd : 0 < (ldlSelect a b c d phi).2.2.1 := by rw [e1]; exact hpos
  have hn : factorQuarticInner a b c d rescale = none := by
    rw [factorQuarticInner_of_phi hq, ldlInit_pos_eq hd]
  exact ⟨hn, solveQuarticInner_none hn, fun x hx => ((quartic_roots_of_pos_d2 ha h1 h2 h3 hd x).mp hx).1⟩

-- x⁴ + 4x² + 4x + 3: `hphi`, `hpos`, `hthr` at the resolvent root phi = 2/3 (d_2_cand_1 = 2).  It is not the dominant root:
-- over ℝ `quarticPhi` computes −4.456…, where d_2_cand_1 = 7.12… is positive and above the threshold as well
example : (2 / 3 : Rat) ^ 3 + resolventG (0 : Rat) 4 4 3 * (2 / 3) + resolventH (0 : Rat) 4 4 3 = 0 ∧
    0 < ldlD1 (0 : Rat) 4 (2 / 3) ∧ ldlNoise (0 : Rat) 4 (2 / 3) < |ldlD1 (0 : Rat) 4 (2 / 3)| := by
  unfold resolventG resolventH ldlD1 ldlNoise; norm_num

end Kurbo
