import Proofs.Lemmas.C01PSpec
import Proofs.Lemmas.C01PSeg
/-! C01P – winding number of curved segments and paths: the reported number is the signed ray-crossing count.

    Builds on `Proofs/C01.lean` (which has the complete story for polylines, and for curves only one y-monotone
    piece at a time) and uses `Proofs/C15.lean` (the solver hypothesis of C01's single-piece theorems is discharged:
    `seg_hon` in `Proofs/Lemmas/C01PSeg.lean`, as in `Proofs/Glue.lean`), the lemma files of C08 (`Lemmas/C08Mono.lean` and below: extrema are complete,
    the ranges between them tile `[0,1]`) and `Proofs/C06.lean` (sub-segments, reversal and degree raising trace the same
    points).  Everything here is over ℝ, for any `Scalar ℝ` structure with `LawfulScalar ℝ` (the scalar operations are
    the field operations) and `LawfulReal` (C15: `sqrt`, `cbrt`, … are the real functions – needed for the solvers inside
    `winding_inner` and `CubicBez.extrema`); the classes are inhabited (`realScalar`, example at the end).  The theorems
    are about the model functions `PathSeg.winding_inner`, `PathSeg.winding`, `pathWinding`, `PathSeg.extrema_ranges`,
    `PathSeg.subsegment`, `PathSeg.reverse`, `QuadBez.raise` exactly as they are.

    The specification (`Proofs/Lemmas/C01PSpec.lean`, namespace `Kurbo.Ray`; it mentions neither the solver nor
    `winding_inner` nor any model function except the structure `Point`): for a curve `f : ℝ → Point ℝ`,
    `rayCross f p a b` is the signed number of crossings of `f|[a,b]` with the closed leftward ray
    `{(x, p.y) | x ≤ p.x}`.  A parameter `t ∈ [a,b]` with `y(t) = p.y`, `x(t) ≤ p.x` (non-strict, as in the code:
    `eval(t).x <= p.x`) contributes minus its local index `[y > p.y just after t] − [y > p.y just before t]`, where
    beyond the ends of `[a,b]` counts as "not above".  So an upward crossing counts `−1`, a downward one `+1` (the
    sign convention of `winding_inner`), a tangential touch `0`, and a point ON the row counts as not above (the
    half-open rule).  `pieceCross f p a b` is the closed form for one piece: row sign (`−1` for
    `y(a) ≤ p.y < y(b)`, `+1` for `y(b) ≤ p.y < y(a)`) times "some parameter of the piece is on the ray".

    What is proved:
    1. what the spec means – `rayCross_monotone_piece`: on a piece where `y` is strictly increasing, strictly
       decreasing or constant, `rayCross = pieceCross`; `pieceCross_def`: the closed form written out;
       `rayCross_additive`: the count over `[a,c]` is the sum of the counts over `[a,b]` and `[b,c]`.
    2. `seg_pieces_monotone`: on every range of `extrema_ranges` of every segment (line, quadratic, cubic) the
       ordinate is strictly increasing, strictly decreasing or constant – the pieces that `winding` hands to
       `winding_inner` are y-monotone (from C08's completeness of `extrema`; cubics through C15's solver theorem).
    3. `windingInner_piece`: for every segment `s` of any kind and every y-monotone parameter range `[a,b]`,
       `(s.subsegment ⟨a,b⟩).winding_inner p = pieceCross s.eval p a b` – for every point `p` (also on the curve, also on
       the rows of the end points).
    4. `winding_eq_rayCross`: `s.winding p = rayCross s.eval p 0 1` for every line, quadratic and cubic segment and every
       point; `seg_crossings_finite`; `rayCross_line_eq_kc` (on a line the count is C01's crossing indicator `kc`).
    5. `pathWinding_eq_crossings`: for every element list (lines, quadratics, cubics; open or closed; any number of
       sub-paths) `pathWinding els p` is the sum over `segs els` of the ray-crossing counts (and `none` exactly when
       `segs` is).
    6. corollaries – the invariances C01 lists, for every point `p`:
       `winding_congr_eval` (segments with the same `eval` have the same winding), `winding_split` (splitting a segment
       of any kind at `t ∈ (0,1)` into its two sub-segments), `winding_split_quad` (the quadratic instance),
       `winding_raise_quad` (degree-raising a quadratic to a cubic), `winding_reverse_seg` (reversal negates),
       `windingSum_split`, `windingSum_reverse` (the same inside a list of segments).
    7. `winding_join` ("shares a coordinate with a vertex / extremum"): two non-degenerate y-injective pieces (of the
       same or of two consecutive segments) meeting in a point on the row of `p`: their `winding_inner` contributions
       add up to exactly one crossing if the curve passes through the row there and the point is on the ray, and to
       zero if it only touches the row (local extremum) or the point is right of `p`.

    What is NOT proved:
    * That the crossing count of a closed curved path equals its topological winding number (degree / angle integral)
      for `p` off the path – C01 proves this for closed polylines only; for curves the remaining step is the homotopy
      invariance of the crossing count, not attempted.  What IS established for curves is that the model computes the
      ray-crossing count with the half-open rule, which is invariant under splitting, degree raising and (up to sign)
      reversal.
    * Element-level versions of the corollaries (replacing a `QuadTo` by two `QuadTo`s inside an element list,
      `reverse_subpaths` of a curved path): only the segment-list forms `windingSum_split`/`windingSum_reverse` are
      given.
    * Nothing about `Float`, and nothing over ℚ beyond the examples (the solvers need real square/cube roots). -/
set_option linter.unusedSectionVars false
namespace Kurbo
open Set Ray
section real
variable [Scalar ℝ] [LawfulScalar ℝ]

theorem rayCross_monotone_piece (f : ℝ → Point ℝ) (p : Point ℝ) (a b : ℝ) (hab : a ≤ b)
    (hc : ContinuousOn (fun t => (f t).y) (Icc a b))
    (hm : StrictMonoOn (fun t => (f t).y) (Icc a b) ∨ StrictAntiOn (fun t => (f t).y) (Icc a b) ∨
      ∀ t ∈ Icc a b, (f t).y = (f a).y) :
    rayCross f p a b = pieceCross f p a b :=
  (rayCross_piece hab hc hm).2

open Classical in
theorem pieceCross_def (f : ℝ → Point ℝ) (p : Point ℝ) (a b : ℝ) :
    pieceCross f p a b =
      if (f a).y ≤ p.y ∧ p.y < (f b).y then
        (if ∃ t, a ≤ t ∧ t ≤ b ∧ (f t).y = p.y ∧ (f t).x ≤ p.x then -1 else 0)
      else if (f b).y ≤ p.y ∧ p.y < (f a).y then
        (if ∃ t, a ≤ t ∧ t ≤ b ∧ (f t).y = p.y ∧ (f t).x ≤ p.x then 1 else 0)
      else 0 := rfl

theorem rayCross_additive (f : ℝ → Point ℝ) (p : Point ℝ) (a b c : ℝ) (hab : a ≤ b) (hbc : b ≤ c)
    (h1 : FinCross f p a b) (h2 : FinCross f p b c) :
    rayCross f p a c = rayCross f p a b + rayCross f p b c :=
  (rayCross_add hab hbc h1 h2).2

variable [LawfulReal]

/-- the ranges between consecutive extrema are ordered and y-monotone (strictly, or `y` is constant) -/
theorem seg_pieces_monotone (s : PathSeg ℝ) :
    ∀ r ∈ s.extrema_ranges, r.start ≤ r.«end» ∧
      (StrictMonoOn (fun t => (s.eval t).y) (Icc r.start r.«end») ∨
       StrictAntiOn (fun t => (s.eval t).y) (Icc r.start r.«end») ∨
       ∀ t ∈ Icc r.start r.«end», (s.eval t).y = (s.eval r.start).y) :=
  seg_ranges_strict s

/-- **one piece**: `winding_inner` of the sub-segment over a y-monotone range is the closed form, for every point -/
theorem windingInner_piece (s : PathSeg ℝ) (p : Point ℝ) (a b : ℝ) (hab : a ≤ b)
    (hm : StrictMonoOn (fun t => (s.eval t).y) (Icc a b) ∨ StrictAntiOn (fun t => (s.eval t).y) (Icc a b) ∨
      ∀ t ∈ Icc a b, (s.eval t).y = (s.eval a).y) :
    (s.subsegment ⟨a, b⟩).winding_inner p = pieceCross (fun t => s.eval t) p a b :=
  windingInner_sub_eq_pieceCross s p a b hab hm

/-- **`winding` of a segment is the signed ray-crossing count of its `eval`**, every kind of segment, every point -/
theorem winding_eq_rayCross (s : PathSeg ℝ) (p : Point ℝ) :
    s.winding p = rayCross (fun t => s.eval t) p 0 1 :=
  (winding_eq_rayCross_aux s p).2

/-- the link to `Proofs/C01.lean`, which proves the sum of `kc` over a closed polyline equal to the topological winding
    number -/
theorem rayCross_line_eq_kc (l : Line ℝ) (p : Point ℝ) :
    rayCross (fun t => l.eval t) p 0 1 = kc (l.p0 - p) (l.p1 - p) := by
  rw [← windingInner_line_eq_kc, ← winding_line]
  exact (winding_eq_rayCross (.Line l) p).symm

theorem seg_crossings_finite (s : PathSeg ℝ) (p : Point ℝ) : FinCross (fun t => s.eval t) p 0 1 :=
  (winding_eq_rayCross_aux s p).1

/-- **`pathWinding` is the sum of the ray-crossing counts of the segments**, for every element list -/
theorem pathWinding_eq_crossings (els : List (PathEl ℝ)) (p : Point ℝ) :
    pathWinding els p = (segs els).map fun ss => (ss.map fun s => rayCross (fun t => s.eval t) p 0 1).sum := by
  rw [pathWinding_eq_sum]
  cases segs els with
  | none => rfl
  | some ss =>
    simp only [Option.map_some]
    exact congrArg some (congrArg List.sum (List.map_congr_left fun s _ => winding_eq_rayCross s p))

theorem winding_congr_eval (s s' : PathSeg ℝ) (h : ∀ t, s.eval t = s'.eval t) (p : Point ℝ) :
    s.winding p = s'.winding p := by
  rw [winding_eq_rayCross, winding_eq_rayCross, funext h]

/-- **splitting** a segment of any kind at `t ∈ (0,1)` into its two sub-segments leaves the winding number unchanged -/
theorem winding_split (s : PathSeg ℝ) (t : ℝ) (h0 : 0 < t) (h1 : t < 1) (p : Point ℝ) :
    (s.subsegment ⟨0, t⟩).winding p + (s.subsegment ⟨t, 1⟩).winding p = s.winding p := by
  have hfin := seg_crossings_finite s p
  rw [winding_eq_rayCross, winding_eq_rayCross, winding_eq_rayCross]
  simp only [pathSeg_subsegment_eval]
  rw [rayCross_comp_affine (f := fun v => s.eval v) h0, rayCross_comp_affine (f := fun v => s.eval v) h1]
  exact ((rayCross_add h0.le h1.le (finCross_sub hfin le_rfl h1.le) (finCross_sub hfin h0.le le_rfl)).2).symm

theorem winding_split_quad (q : QuadBez ℝ) (t : ℝ) (h0 : 0 < t) (h1 : t < 1) (p : Point ℝ) :
    PathSeg.winding (.Quad (q.subsegment ⟨0, t⟩)) p + PathSeg.winding (.Quad (q.subsegment ⟨t, 1⟩)) p
      = PathSeg.winding (.Quad q) p :=
  winding_split (.Quad q) t h0 h1 p

/-- **degree raising** a quadratic to a cubic leaves the winding number unchanged -/
theorem winding_raise_quad (q : QuadBez ℝ) (p : Point ℝ) :
    PathSeg.winding (.Cubic q.raise) p = PathSeg.winding (.Quad q) p :=
  winding_congr_eval (.Cubic q.raise) (.Quad q) (fun t => quad_raise_eval q t) p

/-- **reversal** of a segment negates its contribution -/
theorem winding_reverse_seg (s : PathSeg ℝ) (p : Point ℝ) : s.reverse.winding p = - s.winding p := by
  rw [winding_eq_rayCross, winding_eq_rayCross]
  simp only [pathSeg_reverse_eval]
  rw [rayCross_comp_neg (f := fun v => s.eval v), sub_self, sub_zero]

theorem windingSum_split (ss₁ ss₂ : List (PathSeg ℝ)) (s : PathSeg ℝ) (t : ℝ) (h0 : 0 < t) (h1 : t < 1)
    (p : Point ℝ) :
    ((ss₁ ++ s.subsegment ⟨0, t⟩ :: s.subsegment ⟨t, 1⟩ :: ss₂).map fun s => s.winding p).sum
      = ((ss₁ ++ s :: ss₂).map fun s => s.winding p).sum := by
  simp only [List.map_append, List.map_cons, List.sum_append, List.sum_cons]
  rw [← winding_split s t h0 h1 p]; ring

theorem windingSum_reverse (ss : List (PathSeg ℝ)) (p : Point ℝ) :
    ((ss.reverse.map PathSeg.reverse).map fun s => s.winding p).sum = - (ss.map fun s => s.winding p).sum :=
  sum_reverse_neg (fun s => s.winding p) (fun s => winding_reverse_seg s p) ss

/-- two non-degenerate y-injective pieces `s₁|[a,b]`, `s₂|[c,d]` (of one segment, `b = c` an extremum; or of two
    consecutive segments, `b = 1`, `c = 0`, the shared point a vertex) that meet in a point on the row of `p`: counted
    once if the curve passes through the row there and the point is on the ray, zero if it only touches the row or the
    point is right of `p` -/
theorem winding_join (s₁ s₂ : PathSeg ℝ) (p : Point ℝ) (a b c d : ℝ) (hab : a < b) (hcd : c < d)
    (hv : s₁.eval b = s₂.eval c) (hy : (s₁.eval b).y = p.y)
    (h1 : StrictMonoOn (fun t => (s₁.eval t).y) (Icc a b) ∨ StrictAntiOn (fun t => (s₁.eval t).y) (Icc a b))
    (h2 : StrictMonoOn (fun t => (s₂.eval t).y) (Icc c d) ∨ StrictAntiOn (fun t => (s₂.eval t).y) (Icc c d)) :
    (s₁.subsegment ⟨a, b⟩).winding_inner p + (s₂.subsegment ⟨c, d⟩).winding_inner p =
      if (s₁.eval b).x ≤ p.x then
        (if (s₁.eval a).y < p.y ∧ p.y < (s₂.eval d).y then -1
         else if (s₂.eval d).y < p.y ∧ p.y < (s₁.eval a).y then 1 else 0)
      else 0 := by
  have i1 : InjOn (fun t => (s₁.eval t).y) (Icc a b) := h1.elim (·.injOn) (·.injOn)
  have i2 : InjOn (fun t => (s₂.eval t).y) (Icc c d) := h2.elim (·.injOn) (·.injOn)
  rw [windingInner_piece s₁ p a b hab.le (h1.imp_right Or.inl), windingInner_piece s₂ p c d hcd.le (h2.imp_right Or.inl),
    pieceCross_join (f := fun t => s₁.eval t) (g := fun t => s₂.eval t) hab.le hcd.le hv hy i1 i2]
  -- neither outer end is on the row (the pieces are non-degenerate), so the half-open row test is the strict one
  have hane : (s₁.eval a).y ≠ p.y := fun h => hab.ne (i1 ⟨le_rfl, hab.le⟩ ⟨hab.le, le_rfl⟩ (h.trans hy.symm))
  have hdne : (s₂.eval d).y ≠ p.y := fun h =>
    hcd.ne' (i2 ⟨hcd.le, le_rfl⟩ ⟨le_rfl, hcd.le⟩ (h.trans ((congrArg Point.y hv).symm.trans hy).symm))
  unfold rowSign
  simp only [hane.le_iff_lt, hdne.le_iff_lt, mul_ite, mul_one, mul_zero]

end real
end Kurbo

namespace Kurbo
namespace C01PExamples
open PathEl Set

/-- a parabola arc `x = 2t`, `y = 4t(1−t)` (apex `(1,1)` at the extremum `t = 1/2`) closed by the chord -/
def par : List (PathEl Rat) := [MoveTo ⟨0, 0⟩, QuadTo ⟨1, 2⟩ ⟨2, 0⟩, ClosePath]
def qq : QuadBez Rat := ⟨⟨0, 0⟩, ⟨1, 2⟩, ⟨2, 0⟩⟩
/-- a parabola arc with a minimum: `y = 2 − 4t + 4t²`, lowest point `(1,1)` at `t = 1/2` -/
def qv : QuadBez Rat := ⟨⟨0, 2⟩, ⟨1, 0⟩, ⟨2, 2⟩⟩

-- the model splits the arc at its extremum; a point inside, two outside on the same row (left of both crossings,
-- right of both crossings), a point on the row of the apex
example : qq.extrema = [1/2] ∧ segs par = some [.Quad qq, .Line ⟨⟨2, 0⟩, ⟨0, 0⟩⟩] := by decide +kernel
example : pathWinding par ⟨1, 3/4⟩ = some (-1) ∧ pathWinding par ⟨1/4, 3/4⟩ = some 0 ∧
    pathWinding par ⟨3, 3/4⟩ = some 0 ∧ pathWinding par ⟨2, 1⟩ = some 0 := by decide +kernel
-- one crossing of the arc left of `(1, 3/4)` (at `t = 1/4`, `x = 1/2`), two left of `(3, 3/4)` (they cancel)
example : PathSeg.winding (.Quad qq) ⟨1, 3/4⟩ = -1 ∧ PathSeg.winding (.Quad qq) ⟨3, 3/4⟩ = 0 ∧
    (qq.eval (1/4)).y = 3/4 ∧ (qq.eval (1/4)).x = 1/2 ∧ (qq.eval (3/4)).y = 3/4 ∧ (qq.eval (3/4)).x = 3/2 := by
  decide +kernel
-- splitting at the crossing parameter itself, degree raising, reversal
example : PathSeg.winding (.Quad (qq.subsegment ⟨0, 1/4⟩)) ⟨1, 3/4⟩ = 0 ∧
    PathSeg.winding (.Quad (qq.subsegment ⟨1/4, 1⟩)) ⟨1, 3/4⟩ = -1 ∧
    PathSeg.winding (.Cubic qq.raise) ⟨1, 3/4⟩ = -1 ∧ PathSeg.winding (PathSeg.Quad qq).reverse ⟨1, 3/4⟩ = 1 := by
  decide +kernel
-- `winding_join`, tangential touch at an extremum on the row of `p = (2,1)`: from below both pieces give 0, from above
-- they give `+1` and `−1`
example : PathSeg.winding_inner (.Quad (qq.subsegment ⟨0, 1/2⟩)) ⟨2, 1⟩ = 0 ∧
    PathSeg.winding_inner (.Quad (qq.subsegment ⟨1/2, 1⟩)) ⟨2, 1⟩ = 0 ∧
    PathSeg.winding_inner (.Quad (qv.subsegment ⟨0, 1/2⟩)) ⟨2, 1⟩ = 1 ∧
    PathSeg.winding_inner (.Quad (qv.subsegment ⟨1/2, 1⟩)) ⟨2, 1⟩ = -1 := by decide +kernel

section real
variable [Scalar ℝ] [LawfulScalar ℝ]

def qr : QuadBez ℝ := ⟨⟨0, 0⟩, ⟨1, 2⟩, ⟨2, 0⟩⟩

lemma qr_y (t : ℝ) : (qr.eval t).y = 4 * t - 4 * t ^ 2 := by
  rw [(QuadBez.eval_xy _ _).2]; simp only [qr]; ring

-- hypotheses of `windingInner_piece`, `rayCross_monotone_piece`, `winding_join`: the two halves of the arc are strictly
-- monotone in `y`, they meet at the apex `(1,1)`, which is on the row of `p = (2,1)`
example : StrictMonoOn (fun t => ((PathSeg.Quad qr).eval t).y) (Icc 0 (1/2)) := by
  intro s hs t ht hst
  show (qr.eval s).y < (qr.eval t).y
  rw [qr_y, qr_y]
  have h := mul_pos (sub_pos.mpr hst) (show (0 : ℝ) < 1 - s - t by linarith [ht.2])
  linarith [h, show (t - s) * (1 - s - t) = t - t ^ 2 - (s - s ^ 2) by ring]
example : StrictAntiOn (fun t => ((PathSeg.Quad qr).eval t).y) (Icc (1/2) 1) := by
  intro s hs t ht hst
  show (qr.eval t).y < (qr.eval s).y
  rw [qr_y, qr_y]
  have h := mul_pos (sub_pos.mpr hst) (show (0 : ℝ) < s + t - 1 by linarith [hs.1])
  linarith [h, show (t - s) * (s + t - 1) = s - s ^ 2 - (t - t ^ 2) by ring]
example : ((PathSeg.Quad qr).eval (1/2)).y = (⟨2, 1⟩ : Point ℝ).y ∧ (0 : ℝ) < 1/2 ∧ (1/2 : ℝ) < 1 := by
  refine ⟨?_, by norm_num, by norm_num⟩
  show (qr.eval (1/2)).y = 1
  rw [qr_y]; norm_num
example : ContinuousOn (fun t => ((PathSeg.Quad qr).eval t).y) (Icc 0 (1/2)) := (seg_y_continuous _).continuousOn

end real

/-- the law classes are inhabited (ℝ with the Mathlib functions) -/
example : ∃ (_ : Scalar ℝ) (_ : LawfulScalar ℝ), LawfulReal := ⟨realScalar, realScalar_lawful, realScalar_lawfulReal⟩

end C01PExamples
end Kurbo
