import Proofs.Lemmas.C10ArcTol
/-! C10A – the tolerance claim of C10 for circular arcs, for every radius and every tolerance.

    C10 ("every point of the Bezier outline produced for tolerance T lies within T of the ideal shape") is stated in
    `Proofs/C10.lean` for circles for every `T`; its statements for circular arcs (`Arc` with radii `(R, R)`, no rotation: the
    corner arcs of rounded rectangles and the two arcs of circle segments) carry the superfluous hypothesis
    `1.1163·R/T ≥ 5⁶` (`R/T ≥ 13997.134`).  Here they are stated without it; both rest on `circular_arc_piece_band` and
    `circular_arc_segs_within` of `Lemmas/C10ArcTol.lean`.
    All statements are about the model functions of `Kurbo/Shapes.lean` exactly as they are
    (`Arc.appendParams`, `Arc.append_iter`, `Arc.path_elements`, `RoundedRect.arcs`, `CircleSegment.outer_arc/inner_arc`),
    over ℝ with `LawfulTrig` (`sin cos tan pi` are the real ones) and `LawfulCount` (`as usize`/`powf` are `⌊·⌋₊`/`rpow`).

    `Arc::append_iter`:  `n_err = max((1.1163·R/T)^(1/6), 3.999999)`, `n = ⌈n_err·|sweep|/2π⌉`, `step = sweep/n`, arm
    `4/3·tan(step/4)`.  Hence `|step| ≤ 2π/n_err`, and with `x = |step|/4`, `m = n_err`: `x ≤ π/(2m)`, `m ≥ 3.999999`,
    `1.1163·R/T ≤ m⁶`.  The maximal relative radial deviation of a piece is `√(1 + (4/27)·sin⁶x/cos²x) − 1`
    (`circle_piece_radial_identity_tan`, maximum of `σ² − 4σ³` is `1/108`).

    What is proved
    1. `arc_error_constant_bound` (the analytic core; explains the two constants of the source):
       for every real `m ≥ 3.999999` and `0 ≤ x ≤ π/(2m)`:  `√(1 + (4/27)·sin⁶x/cos²x) − 1 ≤ 1.1163/m⁶`;
       `arc_constant_bound`: the same with the square root and the division removed.
       `arc_error_sixth_power_bound`: the same as an upper bound `err(θ) ≤ 1.1163·(θ/2π)⁶` for the standard cubic of an arc
       of angle `0 ≤ θ ≤ 2π/3.999999` (radius 1).
       At the corner `m = 3.999999`, `x = π/(2m)` (a piece of a hair more than a quarter turn at `R/T = 3669.259`) the two
       sides are `2.7253042e-4` and `2.7253459e-4`: the claim is true there with relative margin `1.53e-5`
       (`err(2π/m)·m⁶ = 1.1162829` against `1.1163`; it decreases to `1.11417` at `m = 5` and to `(2/27)(π/2)⁶ = 1.11272` as
       `m → ∞`; it would exceed `1.1163` for `m < 3.9953`).  The proof is `arc_trig_core` (`Lemmas/C10CircleTol.lean`).
    2. for every arc with radii `(R, R)`, `R ≥ 0`, any centre, start angle and sweep (also negative, also more than a full
       turn, also `0` – then there is no piece), and every `T > 0`:
       `arc_piece_within_tolerance`: every point `B(t)`, `t ∈ [0, 1]`, of the circular-arc cubic that is piece `k`
       (`circular_arc_pieces` of C10) satisfies `|R| ≤ |B(t) − centre| ≤ |R| + T` (within `T` of the circle, and never
       inside it);
       `arc_within_tolerance` (no rotation): the segments of `path_elements T` are `n = (appendParams T).1` cubics and every
       point of every one of them satisfies `| |B(t) − centre| − |R| | ≤ T`.
    3. `roundedRect_corners_within_tolerance_all`, `roundedRect_within_tolerance`, `cseg_arcs_within_tolerance_all`: the
       statement of `arc_within_tolerance` for `path_elements T` of each of the four corner arcs of a rounded rectangle (any
       corner radius `≥ 0`, in particular after `RoundedRect::from_rect`, which makes them `≥ 0`) and of the outer and inner
       arc of a circle segment, without any lower bound on `radius/T`.  These are the arcs outlined on their own, not the
       segments of the shape's `path_elements` (`roundedRect_segs`, `roundedRect_joints`, `cseg_segs` of C10 relate the two).

    What is not proved
    * "within `T` of the arc" as opposed to "within `T` of the circle that carries the arc": that the polar angle of `B(t)`
      stays between the piece's end angles is not shown here (the end points and end tangents are exact:
      `arc_endpoints_on_ellipse`, `arc_arms_tangent`).
    * genuinely elliptical arcs and ellipses (`rx ≠ ry`) – as in C10.
    * `R < 0`: `Arc::append_iter` then takes a sixth root of a negative number: NaN in the crate, which `f64::max` drops, so
      that `n_err` is its floor `3.999999` whatever `T` is; an arbitrary real in `Real.rpow`.  Rounded rectangles built
      through `RoundedRect::from_rect` have nonnegative radii, a circle segment has whatever the caller passes.
    * anything about `Float`; `as usize` saturation is not modelled in `LawfulCount`. -/

namespace Kurbo

/-- `arc_error_constant_bound` with the square root removed exactly: `1 + u ≤ (1 + k)²` with `k = 1.1163/m⁶` -/
theorem arc_constant_bound (m x : ℝ) (hm : 3999999 / 1000000 ≤ m) (hx0 : 0 ≤ x) (hxm : x * m ≤ Real.pi / 2) :
    4 / 27 * Real.sin x ^ 6 * m ^ 6
      ≤ Real.cos x ^ 2 * (2 * (11163 / 10000) + (11163 / 10000) ^ 2 / m ^ 6) :=
  arc_trig_core m x hm hx0 hxm

/-- the left-hand side is the maximal relative radial deviation of the standard cubic of a circular arc of angle `4x`;
    `m` stands for `n_err` -/
theorem arc_error_constant_bound (m x : ℝ) (hm : 3999999 / 1000000 ≤ m) (hx0 : 0 ≤ x) (hxm : x * m ≤ Real.pi / 2) :
    Real.sqrt (1 + 4 / 27 * Real.sin x ^ 6 / Real.cos x ^ 2) - 1 ≤ 11163 / 10000 / m ^ 6 := by
  have hk0 : (0 : ℝ) ≤ 11163 / 10000 / m ^ 6 := by positivity
  obtain ⟨-, h⟩ := tanArm_error_le hm (by rwa [abs_of_nonneg hx0])
  rw [sub_le_iff_le_add', Real.sqrt_le_iff]
  exact ⟨by linear_combination hk0, by linear_combination h⟩

-- non-vacuity: `m = 4`, `x = 1/3 < π/8`
example : (3999999 / 1000000 : ℝ) ≤ 4 ∧ (0 : ℝ) ≤ 1 / 3 ∧ (1 / 3 : ℝ) * 4 ≤ Real.pi / 2 := by
  refine ⟨by norm_num, by norm_num, ?_⟩
  linear_combination (1 / 2) * Real.pi_gt_three

/-- `arc_error_constant_bound` as a sixth-power bound in the angle `θ` of the arc -/
theorem arc_error_sixth_power_bound (θ : ℝ) (h0 : 0 < θ) (h1 : 3999999 / 1000000 * θ ≤ 2 * Real.pi) :
    Real.sqrt (1 + 4 / 27 * Real.sin (θ / 4) ^ 6 / Real.cos (θ / 4) ^ 2) - 1
      ≤ 11163 / 10000 * (θ / (2 * Real.pi)) ^ 6 := by
  have hpi := Real.pi_pos
  have hm : 3999999 / 1000000 ≤ 2 * Real.pi / θ := by rw [le_div_iff₀ h0]; exact h1
  have hxm : θ / 4 * (2 * Real.pi / θ) ≤ Real.pi / 2 := le_of_eq (by field_simp; ring)
  have h := arc_error_constant_bound (2 * Real.pi / θ) (θ / 4) hm (by positivity) hxm
  have e : 11163 / 10000 / (2 * Real.pi / θ) ^ 6 = 11163 / 10000 * (θ / (2 * Real.pi)) ^ 6 := by
    field_simp
  rw [e] at h
  exact h

-- non-vacuity: a quarter turn
example : (0 : ℝ) < Real.pi / 2 ∧ 3999999 / 1000000 * (Real.pi / 2) ≤ 2 * Real.pi :=
  ⟨half_pos Real.pi_pos, by linear_combination (2 - 3999999 / 2000000) * Real.pi_pos.le⟩

section count
variable [Scalar ℝ] [LawfulScalar ℝ] [LawfulTrig] [LawfulCount]

/-- `q` is piece `k` of the arc when there is no rotation (`circular_arc_pieces`): every point of it is within `T` of the
    circle, and not inside it -/
theorem arc_piece_within_tolerance (a : Arc ℝ) (tol R : ℝ) (hr : a.radii = ⟨R, R⟩) (hR : 0 ≤ R) (htol : 0 < tol)
    (k : Nat) (t : ℝ) (h0 : 0 ≤ t) (h1 : t ≤ 1) :
    let q : CubicBez ℝ := circleArcCubic a.center R (a.appendParams tol).2.1
      (accAngle a.start_angle (a.appendParams tol).2.2 k) (accAngle a.start_angle (a.appendParams tol).2.2 (k + 1))
    abs R ≤ Real.sqrt (((q.eval t).x - a.center.x) ^ 2 + ((q.eval t).y - a.center.y) ^ 2) ∧
    Real.sqrt (((q.eval t).x - a.center.x) ^ 2 + ((q.eval t).y - a.center.y) ^ 2) ≤ abs R + tol :=
  circular_arc_piece_band a tol R hr hR htol k h0 h1

/-- the tolerance claim for circular arcs, every tolerance: radii `(R, R)`, `R ≥ 0`, no rotation, any centre, start angle
    and sweep, `T > 0`: the outline's segments are `n = (appendParams T).1` cubics and every point `B(t)`, `t ∈ [0,1]`, of
    every one of them is within `T` of the ideal circle -/
theorem arc_within_tolerance (a : Arc ℝ) (tol R : ℝ) (hr : a.radii = ⟨R, R⟩) (hrot : a.x_rotation = 0)
    (hR : 0 ≤ R) (htol : 0 < tol) :
    ∃ ss, segs (a.path_elements tol) = some ss ∧ ss.length = (a.appendParams tol).1 ∧ ∀ s ∈ ss, ∃ q, s = PathSeg.Cubic q ∧
      ∀ t : ℝ, 0 ≤ t → t ≤ 1 →
        abs (Real.sqrt (((q.eval t).x - a.center.x) ^ 2 + ((q.eval t).y - a.center.y) ^ 2) - abs R) ≤ tol :=
  circular_arc_segs_within a tol R hr hrot hR htol

-- non-vacuity: an arc of 1 rad and radius 1 at tolerance 1/10, and one with `R/T = 3669`, where `n_err` is at its floor
-- `3.999999`
example : (⟨⟨0, 0⟩, ⟨1, 1⟩, 0, 1, 0⟩ : Arc ℝ).radii = ⟨1, 1⟩ ∧ (⟨⟨0, 0⟩, ⟨1, 1⟩, 0, 1, 0⟩ : Arc ℝ).x_rotation = 0 ∧
    (0 : ℝ) ≤ 1 ∧ (0 : ℝ) < 1 / 10 := by
  refine ⟨rfl, rfl, ?_, ?_⟩ <;> norm_num
example : (⟨⟨2, 3⟩, ⟨3669, 3669⟩, 0, 1, 0⟩ : Arc ℝ).radii = ⟨3669, 3669⟩ ∧ (0 : ℝ) ≤ 3669 ∧ (0 : ℝ) < 1 := by
  refine ⟨rfl, ?_, ?_⟩ <;> norm_num

/-- the corner arcs of a rounded rectangle (as outlined on their own from their start points, which by
    `roundedRect_joints` is where the pen is when they are drawn) stay within `T` of the corner circles, for every corner
    radius `ρ ≥ 0` and every `T > 0` -/
theorem roundedRect_corners_within_tolerance_all (s : RoundedRect ℝ) (tol : ℝ) (htol : 0 < tol) :
    ∀ a ∈ s.arcs, 0 ≤ a.radii.x →
      ∃ ss, segs (a.path_elements tol) = some ss ∧ ss.length = (a.appendParams tol).1 ∧ ∀ sg ∈ ss, ∃ q, sg = PathSeg.Cubic q ∧
        ∀ t : ℝ, 0 ≤ t → t ≤ 1 →
          abs (Real.sqrt (((q.eval t).x - a.center.x) ^ 2 + ((q.eval t).y - a.center.y) ^ 2) - abs a.radii.x) ≤ tol :=
  roundedRect_corners_within s tol htol

/-- … all four at once for a rounded rectangle whose four radii are nonnegative (as `RoundedRect::from_rect` makes them) -/
theorem roundedRect_within_tolerance (s : RoundedRect ℝ) (tol : ℝ) (htol : 0 < tol)
    (h1 : 0 ≤ s.radii.top_left) (h2 : 0 ≤ s.radii.top_right) (h3 : 0 ≤ s.radii.bottom_right) (h4 : 0 ≤ s.radii.bottom_left) :
    ∀ a ∈ s.arcs,
      ∃ ss, segs (a.path_elements tol) = some ss ∧ ss.length = (a.appendParams tol).1 ∧ ∀ sg ∈ ss, ∃ q, sg = PathSeg.Cubic q ∧
        ∀ t : ℝ, 0 ≤ t → t ≤ 1 →
          abs (Real.sqrt (((q.eval t).x - a.center.x) ^ 2 + ((q.eval t).y - a.center.y) ^ 2) - abs a.radii.x) ≤ tol :=
  fun a ha => roundedRect_corners_within_tolerance_all s tol htol a ha
    (s.forall_mem_arcs (P := fun a => 0 ≤ a.radii.x) |>.mpr ⟨h1, h2, h3, h4⟩ a ha)

-- non-vacuity: corner radii 1, 2, 0, 1/2
example : (0 : ℝ) ≤ (⟨⟨0, 0, 10, 8⟩, ⟨1, 2, 0, 1 / 2⟩⟩ : RoundedRect ℝ).radii.top_left ∧
    (0 : ℝ) ≤ (⟨⟨0, 0, 10, 8⟩, ⟨1, 2, 0, 1 / 2⟩⟩ : RoundedRect ℝ).radii.top_right ∧
    (0 : ℝ) ≤ (⟨⟨0, 0, 10, 8⟩, ⟨1, 2, 0, 1 / 2⟩⟩ : RoundedRect ℝ).radii.bottom_right ∧
    (0 : ℝ) ≤ (⟨⟨0, 0, 10, 8⟩, ⟨1, 2, 0, 1 / 2⟩⟩ : RoundedRect ℝ).radii.bottom_left := by
  refine ⟨?_, ?_, ?_, ?_⟩ <;> norm_num

theorem cseg_arcs_within_tolerance_all (s : CircleSegment ℝ) (tol : ℝ) (htol : 0 < tol) :
    (0 ≤ s.outer_radius →
      ∃ ss, segs (s.outer_arc.path_elements tol) = some ss ∧ ss.length = (s.outer_arc.appendParams tol).1 ∧
        ∀ sg ∈ ss, ∃ q, sg = PathSeg.Cubic q ∧ ∀ t : ℝ, 0 ≤ t → t ≤ 1 →
          abs (Real.sqrt (((q.eval t).x - s.center.x) ^ 2 + ((q.eval t).y - s.center.y) ^ 2) - abs s.outer_radius) ≤ tol) ∧
    (0 ≤ s.inner_radius →
      ∃ ss, segs (s.inner_arc.path_elements tol) = some ss ∧ ss.length = (s.inner_arc.appendParams tol).1 ∧
        ∀ sg ∈ ss, ∃ q, sg = PathSeg.Cubic q ∧ ∀ t : ℝ, 0 ≤ t → t ≤ 1 →
          abs (Real.sqrt (((q.eval t).x - s.center.x) ^ 2 + ((q.eval t).y - s.center.y) ^ 2) - abs s.inner_radius) ≤ tol) :=
  ⟨fun hR => circular_arc_segs_within s.outer_arc tol _ rfl ofNat_zero_eq hR htol,
   fun hR => circular_arc_segs_within s.inner_arc tol _ rfl ofNat_zero_eq hR htol⟩

-- non-vacuity: outer radius 5, inner radius 2
example : (0 : ℝ) ≤ (⟨⟨0, 0⟩, 5, 2, 0, 1⟩ : CircleSegment ℝ).outer_radius ∧
    (0 : ℝ) ≤ (⟨⟨0, 0⟩, 5, 2, 0, 1⟩ : CircleSegment ℝ).inner_radius := by
  constructor <;> norm_num

end count
end Kurbo
