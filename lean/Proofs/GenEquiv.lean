import Kurbo.Gen.Kernel
import Proofs.KDefs
/-! GENERATED by tools/gen_equiv.py. One obligation per translated item: the definition regenerated from
    the current Rust source (`f_g`) equals the pinned model (`f`) for every lawful scalar.
    `rfl` when the source is unchanged; an algebraic normal-form proof after a refactoring. -/
namespace Kurbo
variable {K : Type} [Field K] [LinearOrder K] [IsStrictOrderedRing K] [FloorRing K] [Scalar K] [LawfulScalar K]
set_option maxRecDepth 4000
set_option linter.unusedSectionVars false
set_option linter.unusedTactic false
set_option linter.unreachableTactic false

attribute [local ge_eqs] Vec2.dot Vec2.cross Vec2.hypot2 Vec2.hypot Vec2.atan2 Vec2.lerp Vec2.normalize Vec2.turn_90
attribute [local ge_eqs] Vec2.rotate_scale Vec2.round Vec2.ceil Vec2.floor Vec2.expand Vec2.trunc Vec2.is_finite Vec2.is_nan
attribute [local ge_eqs] Point.lerp Point.midpoint Point.distance Point.distance_squared Point.round Point.ceil Point.floor Point.expand
attribute [local ge_eqs] Point.trunc Point.is_finite Point.is_nan Size.round Size.ceil Size.floor Size.expand Size.trunc
attribute [local ge_eqs] Size.area Size.max_side Size.min_side Line.eval Line.start Line.end Line.reversed Line.midpoint
attribute [local ge_eqs] Line.arclen Line.inv_arclen Line.signed_area QuadBez.eval QuadBez.start QuadBez.end QuadBez.deriv QuadBez.signed_area
attribute [local ge_eqs] CubicBez.eval CubicBez.deriv CubicBez.start CubicBez.end CubicBez.signed_area QuadBez.raise PathSeg.start PathSeg.end
attribute [local ge_eqs] PathSeg.signed_area PathSeg.as_path_el PathSeg.reverse PathSeg.to_cubic Rect.width Rect.height Rect.min_x Rect.max_x
attribute [local ge_eqs] Rect.min_y Rect.max_y Rect.area Rect.origin Rect.size Rect.center Rect.is_zero_area Rect.contains
attribute [local ge_eqs] Rect.abs Rect.from_points Rect.union Rect.union_pt Rect.intersect Rect.overlaps Rect.contains_rect Rect.inflate
attribute [local ge_eqs] Rect.round Rect.ceil Rect.floor Rect.expand Rect.trunc Rect.scale_from_origin Rect.add_Vec2 Rect.sub_Vec2
attribute [local ge_eqs] Rect.sub_Rect Rect.perimeter Rect.winding Rect.bounding_box Insets.neg Insets.add_Rect Rect.add_Insets Insets.sub_Rect
attribute [local ge_eqs] Rect.sub_Insets Insets.x_value Insets.y_value Insets.size Affine.mul_Point Affine.mul_Affine Affine.scale Affine.scale_non_uniform
attribute [local ge_eqs] Affine.translate Affine.skew Affine.rotate Affine.then_translate Affine.then_rotate Affine.then_scale Affine.then_scale_non_uniform Affine.pre_rotate
attribute [local ge_eqs] Affine.pre_scale Affine.pre_scale_non_uniform Affine.map_unit_square Affine.determinant Affine.inverse Affine.transform_rect_bbox Affine.translation Affine.with_translation
attribute [local ge_eqs] Affine.mul_Line Affine.mul_QuadBez Affine.mul_CubicBez Affine.mul_PathSeg Affine.mul_PathEl TranslateScale.translate TranslateScale.from_scale_about TranslateScale.inverse
attribute [local ge_eqs] TranslateScale.to_affine TranslateScale.mul_Point TranslateScale.mul_TranslateScale TranslateScale.add_Vec2 TranslateScale.sub_Vec2 TranslateScale.mul_Line TranslateScale.mul_Rect TranslateScale.mul_QuadBez
attribute [local ge_eqs] TranslateScale.mul_CubicBez Vec2.div_exact CubicBez.approx_quad_control CubicBez.parameters CubicBez.from_parameters CubicBez.subdivide_3 momentIntegrals CubicOffset.new
attribute [local ge_eqs] TranslateScale.scalar_mul Affine.scalar_mul Affine.scale_about Affine.rotate_about Affine.then_rotate_about Affine.then_scale_about Affine.pre_rotate_about Affine.pre_translate
attribute [local ge_eqs] Affine.reflect Line.subsegment Line.nearest QuadBez.subsegment QuadBez.subdivide CubicBez.subsegment PathSeg.subsegment CubicBez.subdivide
attribute [local ge_eqs] PathSeg.eval CubicOffset.eval_offset CubicOffset.eval CubicOffset.cusp_sign CubicOffset.eval_deriv

@[local ge_eqs] theorem gi_Rect_add_Vec2 (a : Rect K) (b : Vec2 K) : a + b = Rect.add_Vec2 a b := rfl
@[local ge_eqs] theorem gi_Rect_sub_Vec2 (a : Rect K) (b : Vec2 K) : a - b = Rect.sub_Vec2 a b := rfl
@[local ge_eqs] theorem gi_Rect_sub_Rect (a : Rect K) (b : Rect K) : a - b = Rect.sub_Rect a b := rfl
@[local ge_eqs] theorem gi_Insets_add_Rect (a : Insets K) (b : Rect K) : a + b = Insets.add_Rect a b := rfl
@[local ge_eqs] theorem gi_Rect_add_Insets (a : Rect K) (b : Insets K) : a + b = Rect.add_Insets a b := rfl
@[local ge_eqs] theorem gi_Insets_sub_Rect (a : Insets K) (b : Rect K) : a - b = Insets.sub_Rect a b := rfl
@[local ge_eqs] theorem gi_Rect_sub_Insets (a : Rect K) (b : Insets K) : a - b = Rect.sub_Insets a b := rfl
@[local ge_eqs] theorem gi_Affine_mul_Point (a : Affine K) (b : Point K) : a * b = Affine.mul_Point a b := rfl
@[local ge_eqs] theorem gi_Affine_mul_Affine (a : Affine K) (b : Affine K) : a * b = Affine.mul_Affine a b := rfl
@[local ge_eqs] theorem gi_Affine_mul_Line (a : Affine K) (b : Line K) : a * b = Affine.mul_Line a b := rfl
@[local ge_eqs] theorem gi_Affine_mul_QuadBez (a : Affine K) (b : QuadBez K) : a * b = Affine.mul_QuadBez a b := rfl
@[local ge_eqs] theorem gi_Affine_mul_CubicBez (a : Affine K) (b : CubicBez K) : a * b = Affine.mul_CubicBez a b := rfl
@[local ge_eqs] theorem gi_Affine_mul_PathSeg (a : Affine K) (b : PathSeg K) : a * b = Affine.mul_PathSeg a b := rfl
@[local ge_eqs] theorem gi_Affine_mul_PathEl (a : Affine K) (b : PathEl K) : a * b = Affine.mul_PathEl a b := rfl
@[local ge_eqs] theorem gi_TranslateScale_mul_Point (a : TranslateScale K) (b : Point K) : a * b = TranslateScale.mul_Point a b := rfl
@[local ge_eqs] theorem gi_TranslateScale_mul_TranslateScale (a : TranslateScale K) (b : TranslateScale K) : a * b = TranslateScale.mul_TranslateScale a b := rfl

@[local ge_eqs]
theorem ge_Vec2_dot : (Vec2.dot_g (K := K)) = Vec2.dot := by
  first
  | rfl
  | (funext_all; ge_alg [Vec2.dot_g])

@[local ge_eqs]
theorem ge_Vec2_cross : (Vec2.cross_g (K := K)) = Vec2.cross := by
  first
  | rfl
  | (funext_all; ge_alg [Vec2.cross_g])

@[local ge_eqs]
theorem ge_Vec2_hypot2 : (Vec2.hypot2_g (K := K)) = Vec2.hypot2 := by
  first
  | rfl
  | (funext_all; ge_alg [Vec2.hypot2_g])

@[local ge_eqs]
theorem ge_Vec2_hypot : (Vec2.hypot_g (K := K)) = Vec2.hypot := by
  first
  | rfl
  | (funext_all; ge_alg [Vec2.hypot_g])

@[local ge_eqs]
theorem ge_Vec2_atan2 : (Vec2.atan2_g (K := K)) = Vec2.atan2 := by
  first
  | rfl
  | (funext_all; ge_alg [Vec2.atan2_g])

@[local ge_eqs]
theorem ge_Vec2_lerp : (Vec2.lerp_g (K := K)) = Vec2.lerp := by
  first
  | rfl
  | (funext_all; ge_alg [Vec2.lerp_g])

@[local ge_eqs]
theorem ge_Vec2_normalize : (Vec2.normalize_g (K := K)) = Vec2.normalize := by
  first
  | rfl
  | (funext_all; ge_alg [Vec2.normalize_g])

@[local ge_eqs]
theorem ge_Vec2_turn_90 : (Vec2.turn_90_g (K := K)) = Vec2.turn_90 := by
  first
  | rfl
  | (funext_all; ge_alg [Vec2.turn_90_g])

@[local ge_eqs]
theorem ge_Vec2_rotate_scale : (Vec2.rotate_scale_g (K := K)) = Vec2.rotate_scale := by
  first
  | rfl
  | (funext_all; ge_alg [Vec2.rotate_scale_g])

@[local ge_eqs]
theorem ge_Vec2_round : (Vec2.round_g (K := K)) = Vec2.round := by
  first
  | rfl
  | (funext_all; ge_alg [Vec2.round_g])

@[local ge_eqs]
theorem ge_Vec2_ceil : (Vec2.ceil_g (K := K)) = Vec2.ceil := by
  first
  | rfl
  | (funext_all; ge_alg [Vec2.ceil_g])

@[local ge_eqs]
theorem ge_Vec2_floor : (Vec2.floor_g (K := K)) = Vec2.floor := by
  first
  | rfl
  | (funext_all; ge_alg [Vec2.floor_g])

@[local ge_eqs]
theorem ge_Vec2_expand : (Vec2.expand_g (K := K)) = Vec2.expand := by
  first
  | rfl
  | (funext_all; ge_alg [Vec2.expand_g])

@[local ge_eqs]
theorem ge_Vec2_trunc : (Vec2.trunc_g (K := K)) = Vec2.trunc := by
  first
  | rfl
  | (funext_all; ge_alg [Vec2.trunc_g])

@[local ge_eqs]
theorem ge_Vec2_is_finite : (Vec2.is_finite_g (K := K)) = Vec2.is_finite := by
  first
  | rfl
  | (funext_all; ge_alg [Vec2.is_finite_g])

@[local ge_eqs]
theorem ge_Vec2_is_nan : (Vec2.is_nan_g (K := K)) = Vec2.is_nan := by
  first
  | rfl
  | (funext_all; ge_alg [Vec2.is_nan_g])

@[local ge_eqs]
theorem ge_Point_lerp : (Point.lerp_g (K := K)) = Point.lerp := by
  first
  | rfl
  | (funext_all; ge_alg [Point.lerp_g])

@[local ge_eqs]
theorem ge_Point_midpoint : (Point.midpoint_g (K := K)) = Point.midpoint := by
  first
  | rfl
  | (funext_all; ge_alg [Point.midpoint_g])

@[local ge_eqs]
theorem ge_Point_distance : (Point.distance_g (K := K)) = Point.distance := by
  first
  | rfl
  | (funext_all; ge_alg [Point.distance_g])

@[local ge_eqs]
theorem ge_Point_distance_squared : (Point.distance_squared_g (K := K)) = Point.distance_squared := by
  first
  | rfl
  | (funext_all; ge_alg [Point.distance_squared_g])

@[local ge_eqs]
theorem ge_Point_round : (Point.round_g (K := K)) = Point.round := by
  first
  | rfl
  | (funext_all; ge_alg [Point.round_g])

@[local ge_eqs]
theorem ge_Point_ceil : (Point.ceil_g (K := K)) = Point.ceil := by
  first
  | rfl
  | (funext_all; ge_alg [Point.ceil_g])

@[local ge_eqs]
theorem ge_Point_floor : (Point.floor_g (K := K)) = Point.floor := by
  first
  | rfl
  | (funext_all; ge_alg [Point.floor_g])

@[local ge_eqs]
theorem ge_Point_expand : (Point.expand_g (K := K)) = Point.expand := by
  first
  | rfl
  | (funext_all; ge_alg [Point.expand_g])

@[local ge_eqs]
theorem ge_Point_trunc : (Point.trunc_g (K := K)) = Point.trunc := by
  first
  | rfl
  | (funext_all; ge_alg [Point.trunc_g])

@[local ge_eqs]
theorem ge_Point_is_finite : (Point.is_finite_g (K := K)) = Point.is_finite := by
  first
  | rfl
  | (funext_all; ge_alg [Point.is_finite_g])

@[local ge_eqs]
theorem ge_Point_is_nan : (Point.is_nan_g (K := K)) = Point.is_nan := by
  first
  | rfl
  | (funext_all; ge_alg [Point.is_nan_g])

@[local ge_eqs]
theorem ge_Size_round : (Size.round_g (K := K)) = Size.round := by
  first
  | rfl
  | (funext_all; ge_alg [Size.round_g])

@[local ge_eqs]
theorem ge_Size_ceil : (Size.ceil_g (K := K)) = Size.ceil := by
  first
  | rfl
  | (funext_all; ge_alg [Size.ceil_g])

@[local ge_eqs]
theorem ge_Size_floor : (Size.floor_g (K := K)) = Size.floor := by
  first
  | rfl
  | (funext_all; ge_alg [Size.floor_g])

@[local ge_eqs]
theorem ge_Size_expand : (Size.expand_g (K := K)) = Size.expand := by
  first
  | rfl
  | (funext_all; ge_alg [Size.expand_g])

@[local ge_eqs]
theorem ge_Size_trunc : (Size.trunc_g (K := K)) = Size.trunc := by
  first
  | rfl
  | (funext_all; ge_alg [Size.trunc_g])

@[local ge_eqs]
theorem ge_Size_area : (Size.area_g (K := K)) = Size.area := by
  first
  | rfl
  | (funext_all; ge_alg [Size.area_g])

@[local ge_eqs]
theorem ge_Size_max_side : (Size.max_side_g (K := K)) = Size.max_side := by
  first
  | rfl
  | (funext_all; ge_alg [Size.max_side_g])

@[local ge_eqs]
theorem ge_Size_min_side : (Size.min_side_g (K := K)) = Size.min_side := by
  first
  | rfl
  | (funext_all; ge_alg [Size.min_side_g])

@[local ge_eqs]
theorem ge_Line_eval : (Line.eval_g (K := K)) = Line.eval := by
  first
  | rfl
  | (funext_all; ge_alg [Line.eval_g])

@[local ge_eqs]
theorem ge_Line_start : (Line.start_g (K := K)) = Line.start := by
  first
  | rfl
  | (funext_all; ge_alg [Line.start_g])

@[local ge_eqs]
theorem ge_Line_end : (Line.end_g (K := K)) = Line.end := by
  first
  | rfl
  | (funext_all; ge_alg [Line.end_g])

@[local ge_eqs]
theorem ge_Line_reversed : (Line.reversed_g (K := K)) = Line.reversed := by
  first
  | rfl
  | (funext_all; ge_alg [Line.reversed_g])

@[local ge_eqs]
theorem ge_Line_midpoint : (Line.midpoint_g (K := K)) = Line.midpoint := by
  first
  | rfl
  | (funext_all; ge_alg [Line.midpoint_g])

@[local ge_eqs]
theorem ge_Line_arclen : (Line.arclen_g (K := K)) = Line.arclen := by
  first
  | rfl
  | (funext_all; ge_alg [Line.arclen_g])

@[local ge_eqs]
theorem ge_Line_inv_arclen : (Line.inv_arclen_g (K := K)) = Line.inv_arclen := by
  first
  | rfl
  | (funext_all; ge_alg [Line.inv_arclen_g])

@[local ge_eqs]
theorem ge_Line_signed_area : (Line.signed_area_g (K := K)) = Line.signed_area := by
  first
  | rfl
  | (funext_all; ge_alg [Line.signed_area_g])

@[local ge_eqs]
theorem ge_QuadBez_eval : (QuadBez.eval_g (K := K)) = QuadBez.eval := by
  first
  | rfl
  | (funext_all; ge_alg [QuadBez.eval_g])

@[local ge_eqs]
theorem ge_QuadBez_start : (QuadBez.start_g (K := K)) = QuadBez.start := by
  first
  | rfl
  | (funext_all; ge_alg [QuadBez.start_g])

@[local ge_eqs]
theorem ge_QuadBez_end : (QuadBez.end_g (K := K)) = QuadBez.end := by
  first
  | rfl
  | (funext_all; ge_alg [QuadBez.end_g])

@[local ge_eqs]
theorem ge_QuadBez_deriv : (QuadBez.deriv_g (K := K)) = QuadBez.deriv := by
  first
  | rfl
  | (funext_all; ge_alg [QuadBez.deriv_g])

@[local ge_eqs]
theorem ge_QuadBez_signed_area : (QuadBez.signed_area_g (K := K)) = QuadBez.signed_area := by
  first
  | rfl
  | (funext_all; ge_alg [QuadBez.signed_area_g])

@[local ge_eqs]
theorem ge_CubicBez_eval : (CubicBez.eval_g (K := K)) = CubicBez.eval := by
  first
  | rfl
  | (funext_all; ge_alg [CubicBez.eval_g])

@[local ge_eqs]
theorem ge_CubicBez_deriv : (CubicBez.deriv_g (K := K)) = CubicBez.deriv := by
  first
  | rfl
  | (funext_all; ge_alg [CubicBez.deriv_g])

@[local ge_eqs]
theorem ge_CubicBez_start : (CubicBez.start_g (K := K)) = CubicBez.start := by
  first
  | rfl
  | (funext_all; ge_alg [CubicBez.start_g])

@[local ge_eqs]
theorem ge_CubicBez_end : (CubicBez.end_g (K := K)) = CubicBez.end := by
  first
  | rfl
  | (funext_all; ge_alg [CubicBez.end_g])

@[local ge_eqs]
theorem ge_CubicBez_signed_area : (CubicBez.signed_area_g (K := K)) = CubicBez.signed_area := by
  first
  | rfl
  | (funext_all; ge_alg [CubicBez.signed_area_g])

@[local ge_eqs]
theorem ge_QuadBez_raise : (QuadBez.raise_g (K := K)) = QuadBez.raise := by
  first
  | rfl
  | (funext_all; ge_alg [QuadBez.raise_g])

@[local ge_eqs]
theorem ge_PathSeg_start : (PathSeg.start_g (K := K)) = PathSeg.start := by
  first
  | rfl
  | (funext_all; ge_alg [PathSeg.start_g])

@[local ge_eqs]
theorem ge_PathSeg_end : (PathSeg.end_g (K := K)) = PathSeg.end := by
  first
  | rfl
  | (funext_all; ge_alg [PathSeg.end_g])

@[local ge_eqs]
theorem ge_PathSeg_signed_area : (PathSeg.signed_area_g (K := K)) = PathSeg.signed_area := by
  first
  | rfl
  | (funext_all; ge_alg [PathSeg.signed_area_g])

@[local ge_eqs]
theorem ge_PathSeg_as_path_el : (PathSeg.as_path_el_g (K := K)) = PathSeg.as_path_el := by
  first
  | rfl
  | (funext_all; ge_alg [PathSeg.as_path_el_g])

@[local ge_eqs]
theorem ge_PathSeg_reverse : (PathSeg.reverse_g (K := K)) = PathSeg.reverse := by
  first
  | rfl
  | (funext_all; ge_alg [PathSeg.reverse_g])

@[local ge_eqs]
theorem ge_PathSeg_to_cubic : (PathSeg.to_cubic_g (K := K)) = PathSeg.to_cubic := by
  first
  | rfl
  | (funext_all; ge_alg [PathSeg.to_cubic_g])

@[local ge_eqs]
theorem ge_Rect_width : (Rect.width_g (K := K)) = Rect.width := by
  first
  | rfl
  | (funext_all; ge_alg [Rect.width_g])

@[local ge_eqs]
theorem ge_Rect_height : (Rect.height_g (K := K)) = Rect.height := by
  first
  | rfl
  | (funext_all; ge_alg [Rect.height_g])

@[local ge_eqs]
theorem ge_Rect_min_x : (Rect.min_x_g (K := K)) = Rect.min_x := by
  first
  | rfl
  | (funext_all; ge_alg [Rect.min_x_g])

@[local ge_eqs]
theorem ge_Rect_max_x : (Rect.max_x_g (K := K)) = Rect.max_x := by
  first
  | rfl
  | (funext_all; ge_alg [Rect.max_x_g])

@[local ge_eqs]
theorem ge_Rect_min_y : (Rect.min_y_g (K := K)) = Rect.min_y := by
  first
  | rfl
  | (funext_all; ge_alg [Rect.min_y_g])

@[local ge_eqs]
theorem ge_Rect_max_y : (Rect.max_y_g (K := K)) = Rect.max_y := by
  first
  | rfl
  | (funext_all; ge_alg [Rect.max_y_g])

@[local ge_eqs]
theorem ge_Rect_area : (Rect.area_g (K := K)) = Rect.area := by
  first
  | rfl
  | (funext_all; ge_alg [Rect.area_g])

@[local ge_eqs]
theorem ge_Rect_origin : (Rect.origin_g (K := K)) = Rect.origin := by
  first
  | rfl
  | (funext_all; ge_alg [Rect.origin_g])

@[local ge_eqs]
theorem ge_Rect_size : (Rect.size_g (K := K)) = Rect.size := by
  first
  | rfl
  | (funext_all; ge_alg [Rect.size_g])

@[local ge_eqs]
theorem ge_Rect_center : (Rect.center_g (K := K)) = Rect.center := by
  first
  | rfl
  | (funext_all; ge_alg [Rect.center_g])

@[local ge_eqs]
theorem ge_Rect_is_zero_area : (Rect.is_zero_area_g (K := K)) = Rect.is_zero_area := by
  first
  | rfl
  | (funext_all; ge_alg [Rect.is_zero_area_g])

@[local ge_eqs]
theorem ge_Rect_contains : (Rect.contains_g (K := K)) = Rect.contains := by
  first
  | rfl
  | (funext_all; ge_alg [Rect.contains_g])

@[local ge_eqs]
theorem ge_Rect_abs : (Rect.abs_g (K := K)) = Rect.abs := by
  first
  | rfl
  | (funext_all; ge_alg [Rect.abs_g])

@[local ge_eqs]
theorem ge_Rect_from_points : (Rect.from_points_g (K := K)) = Rect.from_points := by
  first
  | rfl
  | (funext_all; ge_alg [Rect.from_points_g])

@[local ge_eqs]
theorem ge_Rect_union : (Rect.union_g (K := K)) = Rect.union := by
  first
  | rfl
  | (funext_all; ge_alg [Rect.union_g])

@[local ge_eqs]
theorem ge_Rect_union_pt : (Rect.union_pt_g (K := K)) = Rect.union_pt := by
  first
  | rfl
  | (funext_all; ge_alg [Rect.union_pt_g])

@[local ge_eqs]
theorem ge_Rect_intersect : (Rect.intersect_g (K := K)) = Rect.intersect := by
  first
  | rfl
  | (funext_all; ge_alg [Rect.intersect_g])

@[local ge_eqs]
theorem ge_Rect_overlaps : (Rect.overlaps_g (K := K)) = Rect.overlaps := by
  first
  | rfl
  | (funext_all; ge_alg [Rect.overlaps_g])

@[local ge_eqs]
theorem ge_Rect_contains_rect : (Rect.contains_rect_g (K := K)) = Rect.contains_rect := by
  first
  | rfl
  | (funext_all; ge_alg [Rect.contains_rect_g])

@[local ge_eqs]
theorem ge_Rect_inflate : (Rect.inflate_g (K := K)) = Rect.inflate := by
  first
  | rfl
  | (funext_all; ge_alg [Rect.inflate_g])

@[local ge_eqs]
theorem ge_Rect_round : (Rect.round_g (K := K)) = Rect.round := by
  first
  | rfl
  | (funext_all; ge_alg [Rect.round_g])

@[local ge_eqs]
theorem ge_Rect_ceil : (Rect.ceil_g (K := K)) = Rect.ceil := by
  first
  | rfl
  | (funext_all; ge_alg [Rect.ceil_g])

@[local ge_eqs]
theorem ge_Rect_floor : (Rect.floor_g (K := K)) = Rect.floor := by
  first
  | rfl
  | (funext_all; ge_alg [Rect.floor_g])

@[local ge_eqs]
theorem ge_Rect_expand : (Rect.expand_g (K := K)) = Rect.expand := by
  first
  | rfl
  | (funext_all; ge_alg [Rect.expand_g])

@[local ge_eqs]
theorem ge_Rect_trunc : (Rect.trunc_g (K := K)) = Rect.trunc := by
  first
  | rfl
  | (funext_all; ge_alg [Rect.trunc_g])

@[local ge_eqs]
theorem ge_Rect_scale_from_origin : (Rect.scale_from_origin_g (K := K)) = Rect.scale_from_origin := by
  first
  | rfl
  | (funext_all; ge_alg [Rect.scale_from_origin_g])

@[local ge_eqs]
theorem ge_Rect_add_Vec2 : (Rect.add_Vec2_g (K := K)) = Rect.add_Vec2 := by
  first
  | rfl
  | (funext_all; ge_alg [Rect.add_Vec2_g])

@[local ge_eqs]
theorem ge_Rect_sub_Vec2 : (Rect.sub_Vec2_g (K := K)) = Rect.sub_Vec2 := by
  first
  | rfl
  | (funext_all; ge_alg [Rect.sub_Vec2_g])

@[local ge_eqs]
theorem ge_Rect_sub_Rect : (Rect.sub_Rect_g (K := K)) = Rect.sub_Rect := by
  first
  | rfl
  | (funext_all; ge_alg [Rect.sub_Rect_g])

@[local ge_eqs]
theorem ge_Rect_perimeter : (Rect.perimeter_g (K := K)) = Rect.perimeter := by
  first
  | rfl
  | (funext_all; ge_alg [Rect.perimeter_g])

@[local ge_eqs]
theorem ge_Rect_winding : (Rect.winding_g (K := K)) = Rect.winding := by
  first
  | rfl
  | (funext_all; ge_alg [Rect.winding_g])

@[local ge_eqs]
theorem ge_Rect_bounding_box : (Rect.bounding_box_g (K := K)) = Rect.bounding_box := by
  first
  | rfl
  | (funext_all; ge_alg [Rect.bounding_box_g])

@[local ge_eqs]
theorem ge_Insets_neg : (Insets.neg_g (K := K)) = Insets.neg := by
  first
  | rfl
  | (funext_all; ge_alg [Insets.neg_g])

@[local ge_eqs]
theorem ge_Insets_add_Rect : (Insets.add_Rect_g (K := K)) = Insets.add_Rect := by
  first
  | rfl
  | (funext_all; ge_alg [Insets.add_Rect_g])

@[local ge_eqs]
theorem ge_Rect_add_Insets : (Rect.add_Insets_g (K := K)) = Rect.add_Insets := by
  first
  | rfl
  | (funext_all; ge_alg [Rect.add_Insets_g])

@[local ge_eqs]
theorem ge_Insets_sub_Rect : (Insets.sub_Rect_g (K := K)) = Insets.sub_Rect := by
  first
  | rfl
  | (funext_all; ge_alg [Insets.sub_Rect_g])

@[local ge_eqs]
theorem ge_Rect_sub_Insets : (Rect.sub_Insets_g (K := K)) = Rect.sub_Insets := by
  first
  | rfl
  | (funext_all; ge_alg [Rect.sub_Insets_g])

@[local ge_eqs]
theorem ge_Insets_x_value : (Insets.x_value_g (K := K)) = Insets.x_value := by
  first
  | rfl
  | (funext_all; ge_alg [Insets.x_value_g])

@[local ge_eqs]
theorem ge_Insets_y_value : (Insets.y_value_g (K := K)) = Insets.y_value := by
  first
  | rfl
  | (funext_all; ge_alg [Insets.y_value_g])

@[local ge_eqs]
theorem ge_Insets_size : (Insets.size_g (K := K)) = Insets.size := by
  first
  | rfl
  | (funext_all; ge_alg [Insets.size_g])

@[local ge_eqs]
theorem ge_Affine_mul_Point : (Affine.mul_Point_g (K := K)) = Affine.mul_Point := by
  first
  | rfl
  | (funext_all; ge_alg [Affine.mul_Point_g])

@[local ge_eqs]
theorem ge_Affine_mul_Affine : (Affine.mul_Affine_g (K := K)) = Affine.mul_Affine := by
  first
  | rfl
  | (funext_all; ge_alg [Affine.mul_Affine_g])

@[local ge_eqs]
theorem ge_Affine_scale : (Affine.scale_g (K := K)) = Affine.scale := by
  first
  | rfl
  | (funext_all; ge_alg [Affine.scale_g])

@[local ge_eqs]
theorem ge_Affine_scale_non_uniform : (Affine.scale_non_uniform_g (K := K)) = Affine.scale_non_uniform := by
  first
  | rfl
  | (funext_all; ge_alg [Affine.scale_non_uniform_g])

@[local ge_eqs]
theorem ge_Affine_translate : (Affine.translate_g (K := K)) = Affine.translate := by
  first
  | rfl
  | (funext_all; ge_alg [Affine.translate_g])

@[local ge_eqs]
theorem ge_Affine_skew : (Affine.skew_g (K := K)) = Affine.skew := by
  first
  | rfl
  | (funext_all; ge_alg [Affine.skew_g])

@[local ge_eqs]
theorem ge_Affine_rotate : (Affine.rotate_g (K := K)) = Affine.rotate := by
  first
  | rfl
  | (funext_all; ge_alg [Affine.rotate_g])

@[local ge_eqs]
theorem ge_Affine_then_translate : (Affine.then_translate_g (K := K)) = Affine.then_translate := by
  first
  | rfl
  | (funext_all; ge_alg [Affine.then_translate_g])

@[local ge_eqs]
theorem ge_Affine_then_rotate : (Affine.then_rotate_g (K := K)) = Affine.then_rotate := by
  first
  | rfl
  | (funext_all; ge_alg [Affine.then_rotate_g])

@[local ge_eqs]
theorem ge_Affine_then_scale : (Affine.then_scale_g (K := K)) = Affine.then_scale := by
  first
  | rfl
  | (funext_all; ge_alg [Affine.then_scale_g])

@[local ge_eqs]
theorem ge_Affine_then_scale_non_uniform : (Affine.then_scale_non_uniform_g (K := K)) = Affine.then_scale_non_uniform := by
  first
  | rfl
  | (funext_all; ge_alg [Affine.then_scale_non_uniform_g])

@[local ge_eqs]
theorem ge_Affine_pre_rotate : (Affine.pre_rotate_g (K := K)) = Affine.pre_rotate := by
  first
  | rfl
  | (funext_all; ge_alg [Affine.pre_rotate_g])

@[local ge_eqs]
theorem ge_Affine_pre_scale : (Affine.pre_scale_g (K := K)) = Affine.pre_scale := by
  first
  | rfl
  | (funext_all; ge_alg [Affine.pre_scale_g])

@[local ge_eqs]
theorem ge_Affine_pre_scale_non_uniform : (Affine.pre_scale_non_uniform_g (K := K)) = Affine.pre_scale_non_uniform := by
  first
  | rfl
  | (funext_all; ge_alg [Affine.pre_scale_non_uniform_g])

@[local ge_eqs]
theorem ge_Affine_map_unit_square : (Affine.map_unit_square_g (K := K)) = Affine.map_unit_square := by
  first
  | rfl
  | (funext_all; ge_alg [Affine.map_unit_square_g])

@[local ge_eqs]
theorem ge_Affine_determinant : (Affine.determinant_g (K := K)) = Affine.determinant := by
  first
  | rfl
  | (funext_all; ge_alg [Affine.determinant_g])

@[local ge_eqs]
theorem ge_Affine_inverse : (Affine.inverse_g (K := K)) = Affine.inverse := by
  first
  | rfl
  | (funext_all; ge_alg [Affine.inverse_g])

@[local ge_eqs]
theorem ge_Affine_transform_rect_bbox : (Affine.transform_rect_bbox_g (K := K)) = Affine.transform_rect_bbox := by
  first
  | rfl
  | (funext_all; ge_alg [Affine.transform_rect_bbox_g])

@[local ge_eqs]
theorem ge_Affine_translation : (Affine.translation_g (K := K)) = Affine.translation := by
  first
  | rfl
  | (funext_all; ge_alg [Affine.translation_g])

@[local ge_eqs]
theorem ge_Affine_with_translation : (Affine.with_translation_g (K := K)) = Affine.with_translation := by
  first
  | rfl
  | (funext_all; ge_alg [Affine.with_translation_g])

@[local ge_eqs]
theorem ge_Affine_mul_Line : (Affine.mul_Line_g (K := K)) = Affine.mul_Line := by
  first
  | rfl
  | (funext_all; ge_alg [Affine.mul_Line_g])

@[local ge_eqs]
theorem ge_Affine_mul_QuadBez : (Affine.mul_QuadBez_g (K := K)) = Affine.mul_QuadBez := by
  first
  | rfl
  | (funext_all; ge_alg [Affine.mul_QuadBez_g])

@[local ge_eqs]
theorem ge_Affine_mul_CubicBez : (Affine.mul_CubicBez_g (K := K)) = Affine.mul_CubicBez := by
  first
  | rfl
  | (funext_all; ge_alg [Affine.mul_CubicBez_g])

@[local ge_eqs]
theorem ge_Affine_mul_PathSeg : (Affine.mul_PathSeg_g (K := K)) = Affine.mul_PathSeg := by
  first
  | rfl
  | (funext_all; ge_alg [Affine.mul_PathSeg_g])

@[local ge_eqs]
theorem ge_Affine_mul_PathEl : (Affine.mul_PathEl_g (K := K)) = Affine.mul_PathEl := by
  first
  | rfl
  | (funext_all; ge_alg [Affine.mul_PathEl_g])

@[local ge_eqs]
theorem ge_TranslateScale_translate : (TranslateScale.translate_g (K := K)) = TranslateScale.translate := by
  first
  | rfl
  | (funext_all; ge_alg [TranslateScale.translate_g])

@[local ge_eqs]
theorem ge_TranslateScale_from_scale_about : (TranslateScale.from_scale_about_g (K := K)) = TranslateScale.from_scale_about := by
  first
  | rfl
  | (funext_all; ge_alg [TranslateScale.from_scale_about_g])

@[local ge_eqs]
theorem ge_TranslateScale_inverse : (TranslateScale.inverse_g (K := K)) = TranslateScale.inverse := by
  first
  | rfl
  | (funext_all; ge_alg [TranslateScale.inverse_g])

@[local ge_eqs]
theorem ge_TranslateScale_to_affine : (TranslateScale.to_affine_g (K := K)) = TranslateScale.to_affine := by
  first
  | rfl
  | (funext_all; ge_alg [TranslateScale.to_affine_g])

@[local ge_eqs]
theorem ge_TranslateScale_mul_Point : (TranslateScale.mul_Point_g (K := K)) = TranslateScale.mul_Point := by
  first
  | rfl
  | (funext_all; ge_alg [TranslateScale.mul_Point_g])

@[local ge_eqs]
theorem ge_TranslateScale_mul_TranslateScale : (TranslateScale.mul_TranslateScale_g (K := K)) = TranslateScale.mul_TranslateScale := by
  first
  | rfl
  | (funext_all; ge_alg [TranslateScale.mul_TranslateScale_g])

@[local ge_eqs]
theorem ge_TranslateScale_add_Vec2 : (TranslateScale.add_Vec2_g (K := K)) = TranslateScale.add_Vec2 := by
  first
  | rfl
  | (funext_all; ge_alg [TranslateScale.add_Vec2_g])

@[local ge_eqs]
theorem ge_TranslateScale_sub_Vec2 : (TranslateScale.sub_Vec2_g (K := K)) = TranslateScale.sub_Vec2 := by
  first
  | rfl
  | (funext_all; ge_alg [TranslateScale.sub_Vec2_g])

@[local ge_eqs]
theorem ge_TranslateScale_mul_Line : (TranslateScale.mul_Line_g (K := K)) = TranslateScale.mul_Line := by
  first
  | rfl
  | (funext_all; ge_alg [TranslateScale.mul_Line_g])

@[local ge_eqs]
theorem ge_TranslateScale_mul_Rect : (TranslateScale.mul_Rect_g (K := K)) = TranslateScale.mul_Rect := by
  first
  | rfl
  | (funext_all; ge_alg [TranslateScale.mul_Rect_g])

@[local ge_eqs]
theorem ge_TranslateScale_mul_QuadBez : (TranslateScale.mul_QuadBez_g (K := K)) = TranslateScale.mul_QuadBez := by
  first
  | rfl
  | (funext_all; ge_alg [TranslateScale.mul_QuadBez_g])

@[local ge_eqs]
theorem ge_TranslateScale_mul_CubicBez : (TranslateScale.mul_CubicBez_g (K := K)) = TranslateScale.mul_CubicBez := by
  first
  | rfl
  | (funext_all; ge_alg [TranslateScale.mul_CubicBez_g])

@[local ge_eqs]
theorem ge_Vec2_div_exact : (Vec2.div_exact_g (K := K)) = Vec2.div_exact := by
  first
  | rfl
  | (funext_all; ge_alg [Vec2.div_exact_g])

@[local ge_eqs]
theorem ge_CubicBez_approx_quad_control : (CubicBez.approx_quad_control_g (K := K)) = CubicBez.approx_quad_control := by
  first
  | rfl
  | (funext_all; ge_alg [CubicBez.approx_quad_control_g])

@[local ge_eqs]
theorem ge_CubicBez_parameters : (CubicBez.parameters_g (K := K)) = CubicBez.parameters := by
  first
  | rfl
  | (funext_all; ge_alg [CubicBez.parameters_g])

@[local ge_eqs]
theorem ge_CubicBez_from_parameters : (CubicBez.from_parameters_g (K := K)) = CubicBez.from_parameters := by
  first
  | rfl
  | (funext_all; ge_alg [CubicBez.from_parameters_g])

@[local ge_eqs]
theorem ge_CubicBez_subdivide_3 : (CubicBez.subdivide_3_g (K := K)) = CubicBez.subdivide_3 := by
  first
  | rfl
  | (funext_all; ge_alg [CubicBez.subdivide_3_g])

@[local ge_eqs]
theorem ge_momentIntegrals : (momentIntegrals_g (K := K)) = momentIntegrals := by
  first
  | rfl
  | (funext_all; ge_alg [momentIntegrals_g])

@[local ge_eqs]
theorem ge_CubicOffset_new : (CubicOffset.new_g (K := K)) = CubicOffset.new := by
  first
  | rfl
  | (funext_all; ge_alg [CubicOffset.new_g])

@[local ge_eqs]
theorem ge_TranslateScale_scalar_mul : (TranslateScale.scalar_mul_g (K := K)) = TranslateScale.scalar_mul := by
  first
  | rfl
  | (funext_all; ge_alg [TranslateScale.scalar_mul_g])

@[local ge_eqs]
theorem ge_Affine_scalar_mul : (Affine.scalar_mul_g (K := K)) = Affine.scalar_mul := by
  first
  | rfl
  | (funext_all; ge_alg [Affine.scalar_mul_g])

@[local ge_eqs]
theorem ge_Affine_scale_about : (Affine.scale_about_g (K := K)) = Affine.scale_about := by
  first
  | rfl
  | (funext_all; ge_alg [Affine.scale_about_g])

@[local ge_eqs]
theorem ge_Affine_rotate_about : (Affine.rotate_about_g (K := K)) = Affine.rotate_about := by
  first
  | rfl
  | (funext_all; ge_alg [Affine.rotate_about_g])

@[local ge_eqs]
theorem ge_Affine_then_rotate_about : (Affine.then_rotate_about_g (K := K)) = Affine.then_rotate_about := by
  first
  | rfl
  | (funext_all; ge_alg [Affine.then_rotate_about_g])

@[local ge_eqs]
theorem ge_Affine_then_scale_about : (Affine.then_scale_about_g (K := K)) = Affine.then_scale_about := by
  first
  | rfl
  | (funext_all; ge_alg [Affine.then_scale_about_g])

@[local ge_eqs]
theorem ge_Affine_pre_rotate_about : (Affine.pre_rotate_about_g (K := K)) = Affine.pre_rotate_about := by
  first
  | rfl
  | (funext_all; ge_alg [Affine.pre_rotate_about_g])

@[local ge_eqs]
theorem ge_Affine_pre_translate : (Affine.pre_translate_g (K := K)) = Affine.pre_translate := by
  first
  | rfl
  | (funext_all; ge_alg [Affine.pre_translate_g])

@[local ge_eqs]
theorem ge_Affine_reflect : (Affine.reflect_g (K := K)) = Affine.reflect := by
  first
  | rfl
  | (funext_all; ge_alg [Affine.reflect_g])

@[local ge_eqs]
theorem ge_Line_subsegment : (Line.subsegment_g (K := K)) = Line.subsegment := by
  first
  | rfl
  | (funext_all; ge_alg [Line.subsegment_g])

@[local ge_eqs]
theorem ge_Line_nearest : (Line.nearest_g (K := K)) = Line.nearest := by
  first
  | rfl
  | (funext_all; ge_alg [Line.nearest_g])

@[local ge_eqs]
theorem ge_QuadBez_subsegment : (QuadBez.subsegment_g (K := K)) = QuadBez.subsegment := by
  first
  | rfl
  | (funext_all; ge_alg [QuadBez.subsegment_g])

@[local ge_eqs]
theorem ge_QuadBez_subdivide : (QuadBez.subdivide_g (K := K)) = QuadBez.subdivide := by
  first
  | rfl
  | (funext_all; ge_alg [QuadBez.subdivide_g])

@[local ge_eqs]
theorem ge_CubicBez_subsegment : (CubicBez.subsegment_g (K := K)) = CubicBez.subsegment := by
  first
  | rfl
  | (funext_all; ge_alg [CubicBez.subsegment_g])

@[local ge_eqs]
theorem ge_PathSeg_subsegment : (PathSeg.subsegment_g (K := K)) = PathSeg.subsegment := by
  first
  | rfl
  | (funext_all; ge_alg [PathSeg.subsegment_g])

@[local ge_eqs]
theorem ge_CubicBez_subdivide : (CubicBez.subdivide_g (K := K)) = CubicBez.subdivide := by
  first
  | rfl
  | (funext_all; ge_alg [CubicBez.subdivide_g])

@[local ge_eqs]
theorem ge_PathSeg_eval : (PathSeg.eval_g (K := K)) = PathSeg.eval := by
  first
  | rfl
  | (funext_all; ge_alg [PathSeg.eval_g])

@[local ge_eqs]
theorem ge_CubicOffset_eval_offset : (CubicOffset.eval_offset_g (K := K)) = CubicOffset.eval_offset := by
  first
  | rfl
  | (funext_all; ge_alg [CubicOffset.eval_offset_g])

@[local ge_eqs]
theorem ge_CubicOffset_eval : (CubicOffset.eval_g (K := K)) = CubicOffset.eval := by
  first
  | rfl
  | (funext_all; ge_alg [CubicOffset.eval_g])

@[local ge_eqs]
theorem ge_CubicOffset_cusp_sign : (CubicOffset.cusp_sign_g (K := K)) = CubicOffset.cusp_sign := by
  first
  | rfl
  | (funext_all; ge_alg [CubicOffset.cusp_sign_g])

@[local ge_eqs]
theorem ge_CubicOffset_eval_deriv : (CubicOffset.eval_deriv_g (K := K)) = CubicOffset.eval_deriv := by
  first
  | rfl
  | (funext_all; ge_alg [CubicOffset.eval_deriv_g])

end Kurbo
