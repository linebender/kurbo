import Proofs.Lemmas.C08Box
import Proofs.Lemmas.CalcMono
/-! C08 helpers over ℝ: the analytic bounding-box argument – an interior extremum is a critical parameter, the critical
    parameters are listed (or the coordinate is constant), so the box folded over the list contains the arc. -/
set_option linter.unusedSectionVars false
namespace Kurbo
variable [Scalar ℝ] [LawfulScalar ℝ]

theorem seg_hasDerivAt (s : PathSeg ℝ) (t : ℝ) :
    HasDerivAt (fun t => (s.eval t).x) (s.vel t).x t ∧ HasDerivAt (fun t => (s.eval t).y) (s.vel t).y t := by
  cases s with
  | Line l => exact line_hasDerivAt l t
  | Quad q => exact quad_deriv_hasDerivAt q t
  | Cubic c => exact cubic_deriv_hasDerivAt c t

theorem crit_Icc {g g' : ℝ → ℝ} (hg : ∀ t, HasDerivAt g (g' t) t) (ex : List ℝ)
    (hc : ∀ t, 0 < t → t < 1 → g' t = 0 → t ∈ ex ∨ ∀ u, g' u = 0) {lo hi : ℝ}
    (h0 : g 0 ∈ Set.Icc lo hi) (h1 : g 1 ∈ Set.Icc lo hi) (hex : ∀ t ∈ ex, g t ∈ Set.Icc lo hi) :
    ∀ t ∈ Set.Icc (0:ℝ) 1, g t ∈ Set.Icc lo hi := by
  have key : ∀ t, 0 < t → t < 1 → g' t = 0 → g t ∈ Set.Icc lo hi := fun t a b hz =>
    (hc t a b hz).elim (hex t) fun hall => const_of_deriv_zero hg hall 0 t ▸ h0
  exact fun t ht => ⟨ge_of_crit_bound hg h0.1 h1.1 (fun t a b h => (key t a b h).1) t ht,
    le_of_crit_bound hg (fun t => g t ≤ hi) (fun t a b h => (key t a b h).2) hi h0.2 h1.2 (fun _ _ _ h => h) t ht⟩

theorem crit_box_contains (f f' : ℝ → Point ℝ)
    (hd : ∀ t, HasDerivAt (fun t => (f t).x) (f' t).x t ∧ HasDerivAt (fun t => (f t).y) (f' t).y t) (ex : List ℝ)
    (hc : (∀ t, 0 < t → t < 1 → (f' t).x = 0 → t ∈ ex ∨ ∀ u, (f' u).x = 0) ∧
      (∀ t, 0 < t → t < 1 → (f' t).y = 0 → t ∈ ex ∨ ∀ u, (f' u).y = 0)) :
    ∀ t ∈ Set.Icc (0:ℝ) 1,
      (ex.foldl (fun bb t => bb.union_pt (f t)) (Rect.from_points (f 0) (f 1))).ContainsClosed (f t) := by
  obtain ⟨hinit, hpts⟩ := foldl_union_pt_contains f ex (Rect.from_points (f 0) (f 1))
  have h0 := (Rect.containsClosed_iff_Icc _ _).mp (hinit.closed (Rect.from_points_contains (f 0) (f 1)).1)
  have h1 := (Rect.containsClosed_iff_Icc _ _).mp (hinit.closed (Rect.from_points_contains (f 0) (f 1)).2)
  have hex := fun u h => (Rect.containsClosed_iff_Icc _ _).mp (hpts u h)
  intro t ht
  rw [Rect.containsClosed_iff_Icc]
  exact ⟨crit_Icc (fun t => (hd t).1) ex hc.1 h0.1 h1.1 (fun u h => (hex u h).1) t ht,
    crit_Icc (fun t => (hd t).2) ex hc.2 h0.2 h1.2 (fun u h => (hex u h).2) t ht⟩

theorem seg_box_contains (s : PathSeg ℝ) (S : (∃ c, s = .Cubic c) → QuadSolverSpec ℝ) :
    ∀ t ∈ Set.Icc (0:ℝ) 1, s.bounding_box.ContainsClosed (s.eval t) := by
  rw [seg_bounding_box_eq]
  exact crit_box_contains (fun t => s.eval t) s.vel (seg_hasDerivAt s) s.extrema (seg_crit s S)

end Kurbo
