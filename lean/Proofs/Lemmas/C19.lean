import Kurbo.FloatFuncs
/-! C19 helper: a small formal vocabulary of the mathematical functions behind the float back ends.
    Identifiers are ASCII code lists (see Kurbo/FloatFuncs.lean). -/
namespace Kurbo.FF

inductive MathFn where
  | Abs | Acos | Asin | Atan | Atan2 | Cbrt | Ceil | Copysign | Cos | Exp | Floor | Fma | Fmod | Hypot | Ln | Log10 | Log2 | Pow | Rint | Round | Sin | SinCos | Sqrt | Tan | Trunc
  deriving DecidableEq, Repr

/-- std method name ↦ (function, types of the arguments after `self`, result type) -/
def stdSpec : List (List Nat × MathFn × List (List Nat) × List Nat) := [
  ([97, 98, 115] /- abs -/, .Abs, [], [83, 101, 108, 102]),
  ([97, 99, 111, 115] /- acos -/, .Acos, [], [83, 101, 108, 102]),
  ([97, 116, 97, 110, 50] /- atan2 -/, .Atan2, [[83, 101, 108, 102]], [83, 101, 108, 102]),
  ([99, 98, 114, 116] /- cbrt -/, .Cbrt, [], [83, 101, 108, 102]),
  ([99, 101, 105, 108] /- ceil -/, .Ceil, [], [83, 101, 108, 102]),
  ([99, 111, 115] /- cos -/, .Cos, [], [83, 101, 108, 102]),
  ([99, 111, 112, 121, 115, 105, 103, 110] /- copysign -/, .Copysign, [[83, 101, 108, 102]], [83, 101, 108, 102]),
  ([102, 108, 111, 111, 114] /- floor -/, .Floor, [], [83, 101, 108, 102]),
  ([104, 121, 112, 111, 116] /- hypot -/, .Hypot, [[83, 101, 108, 102]], [83, 101, 108, 102]),
  ([108, 110] /- ln -/, .Ln, [], [83, 101, 108, 102]),
  ([108, 111, 103, 50] /- log2 -/, .Log2, [], [83, 101, 108, 102]),
  ([109, 117, 108, 95, 97, 100, 100] /- mul_add -/, .Fma, [[83, 101, 108, 102], [83, 101, 108, 102]], [83, 101, 108, 102]),
  ([112, 111, 119, 105] /- powi -/, .Pow, [[105, 51, 50]], [83, 101, 108, 102]),
  ([112, 111, 119, 102] /- powf -/, .Pow, [[83, 101, 108, 102]], [83, 101, 108, 102]),
  ([114, 111, 117, 110, 100] /- round -/, .Round, [], [83, 101, 108, 102]),
  ([115, 105, 110] /- sin -/, .Sin, [], [83, 101, 108, 102]),
  ([115, 105, 110, 95, 99, 111, 115] /- sin_cos -/, .SinCos, [], [40, 83, 101, 108, 102, 44, 32, 83, 101, 108, 102, 41]),
  ([115, 113, 114, 116] /- sqrt -/, .Sqrt, [], [83, 101, 108, 102]),
  ([116, 97, 110] /- tan -/, .Tan, [], [83, 101, 108, 102]),
  ([116, 114, 117, 110, 99] /- trunc -/, .Trunc, [], [83, 101, 108, 102])
]

/-- libm (C99) function name ↦ function; the f32 variant carries the suffix `f` -/
def libmSpec : List (List Nat × MathFn) := [
  ([102, 97, 98, 115] /- fabs -/, .Abs),
  ([97, 99, 111, 115] /- acos -/, .Acos),
  ([97, 116, 97, 110, 50] /- atan2 -/, .Atan2),
  ([99, 98, 114, 116] /- cbrt -/, .Cbrt),
  ([99, 101, 105, 108] /- ceil -/, .Ceil),
  ([99, 111, 115] /- cos -/, .Cos),
  ([99, 111, 112, 121, 115, 105, 103, 110] /- copysign -/, .Copysign),
  ([102, 108, 111, 111, 114] /- floor -/, .Floor),
  ([104, 121, 112, 111, 116] /- hypot -/, .Hypot),
  ([108, 111, 103] /- log -/, .Ln),
  ([108, 111, 103, 50] /- log2 -/, .Log2),
  ([102, 109, 97] /- fma -/, .Fma),
  ([112, 111, 119] /- pow -/, .Pow),
  ([114, 111, 117, 110, 100] /- round -/, .Round),
  ([115, 105, 110] /- sin -/, .Sin),
  ([115, 105, 110, 99, 111, 115] /- sincos -/, .SinCos),
  ([115, 113, 114, 116] /- sqrt -/, .Sqrt),
  ([116, 97, 110] /- tan -/, .Tan),
  ([116, 114, 117, 110, 99] /- trunc -/, .Trunc),
  ([101, 120, 112] /- exp -/, .Exp),
  ([108, 111, 103, 49, 48] /- log10 -/, .Log10),
  ([97, 115, 105, 110] /- asin -/, .Asin),
  ([97, 116, 97, 110] /- atan -/, .Atan),
  ([102, 109, 111, 100] /- fmod -/, .Fmod),
  ([114, 105, 110, 116] /- rint -/, .Rint)
]

/-- the float methods kurbo's sources call that are not available in `core` (counted from `kurbo/src/*.rs`) -/
def usedMethods : List (List Nat) := [
  [97, 98, 115] /- abs -/,
  [112, 111, 119, 105] /- powi -/,
  [115, 113, 114, 116] /- sqrt -/,
  [104, 121, 112, 111, 116] /- hypot -/,
  [99, 101, 105, 108] /- ceil -/,
  [102, 108, 111, 111, 114] /- floor -/,
  [114, 111, 117, 110, 100] /- round -/,
  [116, 114, 117, 110, 99] /- trunc -/,
  [99, 111, 112, 121, 115, 105, 103, 110] /- copysign -/,
  [115, 105, 110, 95, 99, 111, 115] /- sin_cos -/,
  [97, 116, 97, 110, 50] /- atan2 -/,
  [109, 117, 108, 95, 97, 100, 100] /- mul_add -/,
  [112, 111, 119, 102] /- powf -/,
  [108, 110] /- ln -/,
  [99, 98, 114, 116] /- cbrt -/,
  [116, 97, 110] /- tan -/,
  [108, 111, 103, 50] /- log2 -/,
  [99, 111, 115] /- cos -/,
  [97, 99, 111, 115] /- acos -/
]

def lookup {α : Type} (k : List Nat) : List (List Nat × α) → Option α
  | [] => none
  | (k', v) :: r => if k = k' then some v else lookup k r

/-- one row of `define_float_funcs!` is right: the libm name denotes the same function as the std method, the declared argument
    types and result type are those of the std method (`stdSpec`), the f32 name is the f64 name + `f` -/
def rowOk (r : FloatFuncRow) : Bool :=
  match lookup r.method stdSpec, lookup r.libm64 libmSpec with
  | some (f, argTys, ret), some g =>
    f == g && r.args.map (·.2) == argTys && r.ret == ret && r.libm32 == r.libm64 ++ [102]
  | _, _ => false

def coverageOk (rows : List FloatFuncRow) : Bool :=
  usedMethods.all (fun m => rows.any (·.method == m)) && (rows.map (·.method)).Nodup

/-- the hand-written `signum` of the no_std trait: NaN ↦ NaN, otherwise `1.0.copysign(self)` (so `signum(±0.0) = ±1.0`, as in std) -/
def signumBodyPinned : List Nat := [105, 102, 32, 115, 101, 108, 102, 46, 105, 115, 95, 110, 97, 110, 40, 41, 32, 123, 32, 102, 54, 52, 58, 58, 78, 65, 78, 32, 125, 32, 101, 108, 115, 101, 32, 123, 32, 49, 46, 48, 95, 102, 54, 52, 46, 99, 111, 112, 121, 115, 105, 103, 110, 40, 115, 101, 108, 102, 41, 32, 125]

end Kurbo.FF
