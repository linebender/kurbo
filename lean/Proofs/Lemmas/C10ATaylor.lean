import Mathlib.Analysis.SpecialFunctions.Trigonometric.Bounds
import Mathlib.Analysis.SpecialFunctions.Trigonometric.Deriv
import Mathlib.Analysis.Calculus.Deriv.MeanValue
/-! Taylor enclosures of `sin` and `cos` two orders beyond Mathlib's (`1 − x²/2 ≤ cos x`, `x − x³/6 ≤ sin x`), each obtained
    from the one before by the sign of a derivative. -/
namespace Kurbo

theorem le_of_hasDerivAt_le {f g f' g' : ℝ → ℝ} (hf : ∀ t, HasDerivAt f (f' t) t) (hg : ∀ t, HasDerivAt g (g' t) t)
    (h0 : f 0 ≤ g 0) (h' : ∀ t, 0 < t → f' t ≤ g' t) {x : ℝ} (hx : 0 ≤ x) : f x ≤ g x := by
  have hd : ∀ t, HasDerivAt (fun t => g t - f t) (g' t - f' t) t := fun t => (hg t).fun_sub (hf t)
  have hmono : MonotoneOn (fun t => g t - f t) (Set.Ici 0) :=
    monotoneOn_of_hasDerivWithinAt_nonneg (convex_Ici 0)
      (fun t _ => (hd t).continuousAt.continuousWithinAt)
      (fun t _ => (hd t).hasDerivWithinAt)
      (fun t ht => sub_nonneg.mpr (h' t (by rwa [interior_Ici] at ht)))
  have := hmono (Set.mem_Ici.mpr le_rfl) hx hx
  linarith

theorem c10a_cos_le_taylor4 {x : ℝ} (hx : 0 ≤ x) : Real.cos x ≤ 1 - x ^ 2 / 2 + x ^ 4 / 24 := by
  refine le_of_hasDerivAt_le (g := fun t => 1 - t ^ 2 / 2 + t ^ 4 / 24) (g' := fun t => -(t - t ^ 3 / 6))
    (fun t => Real.hasDerivAt_cos t)
    (fun t => (((hasDerivAt_pow 2 t).div_const 2).const_sub 1 |>.fun_add ((hasDerivAt_pow 4 t).div_const 24)).congr_deriv
      (by norm_num; ring))
    (by norm_num) (fun t ht => neg_le_neg (Real.sin_ge_sub_cube ht.le)) hx

theorem c10a_sin_le_taylor5 {x : ℝ} (hx : 0 ≤ x) : Real.sin x ≤ x - x ^ 3 / 6 + x ^ 5 / 120 := by
  refine le_of_hasDerivAt_le (g := fun t => t - t ^ 3 / 6 + t ^ 5 / 120) (g' := fun t => 1 - t ^ 2 / 2 + t ^ 4 / 24)
    (fun t => Real.hasDerivAt_sin t)
    (fun t => (((hasDerivAt_id' t).fun_sub ((hasDerivAt_pow 3 t).div_const 6)).fun_add ((hasDerivAt_pow 5 t).div_const 120)).congr_deriv
      (by norm_num; ring))
    (by norm_num) (fun t ht => c10a_cos_le_taylor4 ht.le) hx

theorem c10a_cos_ge_taylor6 {x : ℝ} (hx : 0 ≤ x) : 1 - x ^ 2 / 2 + x ^ 4 / 24 - x ^ 6 / 720 ≤ Real.cos x := by
  refine le_of_hasDerivAt_le (f := fun t => 1 - t ^ 2 / 2 + t ^ 4 / 24 - t ^ 6 / 720)
    (f' := fun t => -(t - t ^ 3 / 6 + t ^ 5 / 120))
    (fun t => ((((hasDerivAt_pow 2 t).div_const 2).const_sub 1 |>.fun_add ((hasDerivAt_pow 4 t).div_const 24)).fun_sub
      ((hasDerivAt_pow 6 t).div_const 720)).congr_deriv (by norm_num; ring))
    (fun t => Real.hasDerivAt_cos t)
    (by norm_num) (fun t ht => neg_le_neg (c10a_sin_le_taylor5 ht.le)) hx
end Kurbo
