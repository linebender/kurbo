import Mathlib.Algebra.Order.Field.Basic
import Mathlib.Tactic.Ring
import Mathlib.Tactic.LinearCombination
/-! Ordered-field facts with no model term: the frame of an offset vector (`normal_frame`), the miter point, the chord of a
    disc, the point of a segment nearest to a given point (`seg_foot_le`, `clampProj`). -/
namespace Kurbo
variable {K : Type} [Field K] [LinearOrder K] [IsStrictOrderedRing K]

/-- a point `m` on two lines at signed distance `ρ` from the origin, `c × m = ρ·|c|` and `a × m = ρ·|a|` for the directions
    `(ax, ay)` of length `a` and `(cx, cy)` of length `c`, not parallel: `|m|²·(a·c + D) = 2·ρ²·a·c`, `D` the dot product.
    (Cramer's rule gives `X·m = ρ·(a·(cx, cy) − c·(ax, ay))`, `X` the cross product, and `X² = (a·c − D)·(a·c + D)`.) -/
theorem c04_miter_core (ax ay cx cy a c ρ mx my : K) (ha : a * a = ax * ax + ay * ay) (hc : c * c = cx * cx + cy * cy)
    (hX : ax * cy - ay * cx ≠ 0) (h1 : cx * my - cy * mx = ρ * c) (h2 : ax * my - ay * mx = ρ * a) :
    (mx * mx + my * my) * (a * c + (ax * cx + ay * cy)) = 2 * (ρ * ρ) * (a * c) := by
  have ex : (ax * cy - ay * cx) * mx = ρ * (a * cx - c * ax) := by linear_combination cx * h2 - ax * h1
  have ey : (ax * cy - ay * cx) * my = ρ * (a * cy - c * ay) := by linear_combination cy * h2 - ay * h1
  have lagr : (ax * cy - ay * cx) * (ax * cy - ay * cx) = (a * c - (ax * cx + ay * cy)) * (a * c + (ax * cx + ay * cy)) := by
    linear_combination (-(cx * cx + cy * cy)) * ha - (a * a) * hc
  have hne : a * c - (ax * cx + ay * cy) ≠ 0 := fun h0 => hX (mul_self_eq_zero.1 (by rw [lagr, h0, zero_mul]))
  apply mul_left_cancel₀ hne
  have e : (mx * mx + my * my) * ((ax * cy - ay * cx) * (ax * cy - ay * cx))
      = ((ax * cy - ay * cx) * mx) * ((ax * cy - ay * cx) * mx) + ((ax * cy - ay * cx) * my) * ((ax * cy - ay * cx) * my) := by ring
  rw [lagr, ex, ey] at e
  linear_combination e - (ρ * ρ * (c * c)) * ha - (ρ * ρ * (a * a)) * hc

/-- `(x, y)` a direction of length `h`, `k·(−y, x)` its normal scaled to `k·h = ρ`: the stroker's offset vector
    (`c04_norm_frame`, `ρ = w/2`) and the offset curve's (`c18_eval_offset_eq`, `ρ = d`); no `h ≠ 0` is needed (then `ρ = 0`). -/
theorem normal_frame (x y h k ρ : K) (hh : h * h = x * x + y * y) (hk : k * h = ρ) :
    (-y * k) * (-y * k) + (x * k) * (x * k) = ρ * ρ ∧ (-y * k) * x + (x * k) * y = 0 ∧
      x * (x * k) - y * (-y * k) = ρ * h :=
  ⟨by linear_combination (-(k * k)) * hh + (k * h + ρ) * hk, by ring, by linear_combination (-k) * hh + h * hk⟩

theorem normal_len_pos {x y h : K} (h0 : 0 ≤ h) (hh : h * h = x * x + y * y) (hxy : x ≠ 0 ∨ y ≠ 0) : 0 < h := by
  refine lt_of_le_of_ne h0 fun e => ?_
  rw [← e, mul_zero] at hh
  obtain ⟨hx, hy⟩ := mul_self_add_mul_self_eq_zero.1 hh.symm
  exact hxy.elim (fun h => h hx) (fun h => h hy)

theorem c04_miter_within_core (m2 hyp dot r lim : K) (hm : m2 * (hyp + dot) = 2 * r ^ 2 * hyp) (hh : 0 ≤ hyp)
    (htest : 2 * hyp < (hyp + dot) * lim ^ 2) : m2 ≤ (r * lim) ^ 2 := by
  have hpos : 0 < hyp + dot := by
    by_contra hn
    exact absurd (htest.trans_le (mul_nonpos_of_nonpos_of_nonneg (not_lt.1 hn) (sq_nonneg lim)))
      (not_lt.2 (mul_nonneg two_pos.le hh))
  refine le_of_mul_le_mul_right ?_ hpos
  rw [hm, mul_pow]
  exact le_of_eq_of_le (by ring) ((mul_le_mul_of_nonneg_left htest.le (sq_nonneg r)).trans_eq (by ring))

theorem c04_chord_within (ax ay bx by_ s rr : K) (ha : ax * ax + ay * ay = rr) (hb : bx * bx + by_ * by_ = rr)
    (h0 : 0 ≤ s) (h1 : s ≤ 1) :
    ((1 - s) * ax + s * bx) * ((1 - s) * ax + s * bx) + ((1 - s) * ay + s * by_) * ((1 - s) * ay + s * by_) ≤ rr := by
  have hd : 0 ≤ s * (1 - s) * ((ax - bx) * (ax - bx) + (ay - by_) * (ay - by_)) :=
    mul_nonneg (mul_nonneg h0 (sub_nonneg.2 h1)) (add_nonneg (mul_self_nonneg _) (mul_self_nonneg _))
  have key : ((1 - s) * ax + s * bx) * ((1 - s) * ax + s * bx) + ((1 - s) * ay + s * by_) * ((1 - s) * ay + s * by_)
      = rr - s * (1 - s) * ((ax - bx) * (ax - bx) + (ay - by_) * (ay - by_)) := by
    linear_combination (1 - s) * ha + s * hb
  rw [key]
  exact sub_le_self _ hd

/-! ### the point of a segment nearest to a given point

    Coordinates relative to the start of the segment: `t` its direction, `r` the given point, `s·t` (`0 ≤ s ≤ 1`) the points of
    the segment, `N = t·t`, `P = r·t`. -/

/-- A point `s₀·t` whose difference `D = r − s₀·t` from `r` does not lean towards `s·t` (`(s₀ − s)·(D·t) ≥ 0`) is at least as
    near to `r` as `s·t`: `|r − s·t|² = |D|² + 2·(s₀ − s)·(D·t) + (s₀ − s)²·|t|²`. -/
theorem seg_foot_le (tx ty rx ry s₀ s : K) (h : 0 ≤ (s₀ - s) * ((rx - s₀ * tx) * tx + (ry - s₀ * ty) * ty)) :
    (rx - s₀ * tx) ^ 2 + (ry - s₀ * ty) ^ 2 ≤ (rx - s * tx) ^ 2 + (ry - s * ty) ^ 2 := by
  linear_combination 2 * h + add_nonneg (sq_nonneg ((s₀ - s) * tx)) (sq_nonneg ((s₀ - s) * ty))

/-- the parameter of the foot of `r` on the segment: the projection parameter `P/N` clamped to `[0, 1]`, with the tests of
    `Line::nearest` (`0` also for the degenerate segment `N = 0`); `line_nearest_eq` (`Lemmas/C09.lean`) ties it to the model -/
def clampProj (N P : K) : K := if P ≤ 0 then 0 else if N ≤ P then 1 else P / N

theorem clampProj_mem {N P : K} (hN : 0 ≤ N) : 0 ≤ clampProj N P ∧ clampProj N P ≤ 1 := by
  unfold clampProj
  split_ifs with h1 h2
  · exact ⟨le_rfl, zero_le_one⟩
  · exact ⟨zero_le_one, le_rfl⟩
  · exact ⟨div_nonneg (not_le.mp h1).le hN, (div_le_one ((not_le.mp h1).trans (not_le.mp h2))).mpr (not_le.mp h2).le⟩

/-- the hypothesis of `seg_foot_le` at the clamped projection (`D·t = P − s₀·N`): at an end point `D` points outwards, in
    between `D ⟂ t` -/
theorem clampProj_foot {N P : K} (s : K) (h0 : 0 ≤ s) (h1 : s ≤ 1) : 0 ≤ (clampProj N P - s) * (P - clampProj N P * N) := by
  unfold clampProj
  split_ifs with hP hN
  · rw [zero_sub, zero_mul, sub_zero]
    exact mul_nonneg_of_nonpos_of_nonpos (neg_nonpos.mpr h0) hP
  · rw [one_mul]
    exact mul_nonneg (sub_nonneg.mpr h1) (sub_nonneg.mpr hN)
  · rw [div_mul_cancel₀ _ (ne_of_gt ((not_le.mp hP).trans (not_le.mp hN))), sub_self, mul_zero]

theorem clampProj_excess {N P β : K} (h0 : -β ≤ P) (h1 : P ≤ N + β) :
    (clampProj N P * N - P) ^ 2 ≤ β ^ 2 := by
  unfold clampProj
  split_ifs with hP hN
  · rw [zero_mul, zero_sub]
    exact pow_le_pow_left₀ (neg_nonneg.mpr hP) (neg_le.mp h0) 2
  · rw [one_mul, ← neg_sub, neg_sq]
    exact pow_le_pow_left₀ (sub_nonneg.mpr hN) (sub_le_iff_le_add'.mpr h1) 2
  · rw [div_mul_cancel₀ _ (ne_of_gt ((not_le.mp hP).trans (not_le.mp hN))), sub_self, zero_pow two_ne_zero]
    exact sq_nonneg β

theorem c04_le_mul_factors (r A B : K) (hr : 0 ≤ r) (hA : 1 ≤ A) (hB : 1 ≤ B) :
    r ≤ r * A * B ∧ r * A ≤ r * A * B ∧ r * B ≤ r * A * B := by
  have hrA : r ≤ r * A := le_mul_of_one_le_right hr hA
  have hAB : r * A ≤ r * A * B := le_mul_of_one_le_right (hr.trans hrA) hB
  exact ⟨hrA.trans hAB, hAB, mul_le_mul_of_nonneg_right hrA (zero_le_one.trans hB)⟩

end Kurbo
