import Kurbo.Curve
import Proofs.Lemmas.C20
import Mathlib.Data.List.Pairwise
import Mathlib.Data.List.Chain
/-! C08 helpers, list level: `insertSorted` / `sortList` (membership for every `Scalar`, `Float` included; sortedness for
    lawful ones), the structure of `extremaRangesFrom`, and folds of `Rect.union_pt` / `Rect.union`. -/
namespace Kurbo

section anyScalar
variable {K : Type} [Scalar K]

theorem insertSorted_perm (x : K) (l : List K) : (insertSorted x l).Perm (x :: l) := by
  induction l with
  | nil => simp [insertSorted]
  | cons z zs ih =>
    unfold insertSorted
    split
    · exact List.Perm.refl _
    · exact (List.Perm.cons z ih).trans (List.Perm.swap x z zs)

theorem mem_insertSorted (x y : K) (l : List K) : y ∈ insertSorted x l ↔ y = x ∨ y ∈ l :=
  (insertSorted_perm x l).mem_iff.trans List.mem_cons

theorem length_insertSorted (x : K) (l : List K) : (insertSorted x l).length = l.length + 1 :=
  (insertSorted_perm x l).length_eq

theorem foldl_insertSorted_perm (l acc : List K) :
    (l.foldl (fun acc x => insertSorted x acc) acc).Perm (l ++ acc) := by
  induction l generalizing acc with
  | nil => simp
  | cons x xs ih =>
    simp only [List.foldl_cons]
    refine (ih _).trans ?_
    refine (List.Perm.append_left xs (insertSorted_perm x acc)).trans ?_
    simp only [List.cons_append]
    exact List.perm_middle

theorem sortList_perm (l : List K) : (sortList l).Perm l := by
  have h := foldl_insertSorted_perm l []
  simpa [sortList] using h

theorem mem_sortList (l : List K) (y : K) : y ∈ sortList l ↔ y ∈ l := (sortList_perm l).mem_iff

theorem length_sortList (l : List K) : (sortList l).length = l.length := (sortList_perm l).length_eq

theorem extremaRangesFrom_eq_zipWith (t0 : K) (ts : List K) :
    extremaRangesFrom t0 ts = List.zipWith Range.mk (t0 :: ts) (ts ++ [(@OfNat.ofNat K 1 Ops.instOfNat)]) := by
  induction ts generalizing t0 with
  | nil => simp [extremaRangesFrom]
  | cons t ts ih =>
    simp only [extremaRangesFrom, List.cons_append, List.zipWith_cons_cons]
    rw [ih]

theorem length_extremaRangesFrom (t0 : K) (ts : List K) : (extremaRangesFrom t0 ts).length = ts.length + 1 := by
  induction ts generalizing t0 with
  | nil => simp [extremaRangesFrom]
  | cons t ts ih => simp [extremaRangesFrom, ih]

theorem extremaRangesFrom_ne_nil (t0 : K) (ts : List K) : extremaRangesFrom t0 ts ≠ [] := by
  cases ts <;> simp [extremaRangesFrom]

theorem head_extremaRangesFrom (t0 : K) (ts : List K) :
    ((extremaRangesFrom t0 ts).head (extremaRangesFrom_ne_nil t0 ts)).start = t0 := by
  cases ts <;> simp [extremaRangesFrom]

theorem getLast_extremaRangesFrom (t0 : K) (ts : List K) :
    ((extremaRangesFrom t0 ts).getLast (extremaRangesFrom_ne_nil t0 ts)).«end» = (@OfNat.ofNat K 1 Ops.instOfNat) := by
  induction ts generalizing t0 with
  | nil => simp [extremaRangesFrom]
  | cons t ts ih =>
    simp only [extremaRangesFrom]
    rw [List.getLast_cons (extremaRangesFrom_ne_nil t ts)]
    exact ih t

theorem chain_extremaRangesFrom (t0 : K) (ts : List K) :
    (extremaRangesFrom t0 ts).IsChain (fun r s => r.«end» = s.start) := by
  induction ts generalizing t0 with
  | nil => simp [extremaRangesFrom]
  | cons t ts ih =>
    simp only [extremaRangesFrom]
    have h := ih t
    cases ts with
    | nil => simp [extremaRangesFrom]
    | cons u us =>
      simp only [extremaRangesFrom] at h ⊢
      exact List.IsChain.cons_cons rfl h

theorem getElem_extremaRangesFrom (t0 : K) (ts : List K) (i : Nat) (hi : i < (extremaRangesFrom t0 ts).length) :
    (extremaRangesFrom t0 ts)[i] =
      ⟨(t0 :: ts)[i]'(by rw [length_extremaRangesFrom] at hi; simpa using hi),
       (ts ++ [(@OfNat.ofNat K 1 Ops.instOfNat)])[i]'(by rw [length_extremaRangesFrom] at hi; simpa using hi)⟩ := by
  induction ts generalizing t0 i with
  | nil =>
    simp only [extremaRangesFrom, List.length_singleton, Nat.lt_one_iff] at hi
    subst hi; simp [extremaRangesFrom]
  | cons t ts ih =>
    cases i with
    | zero => simp [extremaRangesFrom]
    | succ j =>
      simp only [extremaRangesFrom, List.getElem_cons_succ, List.cons_append]
      exact ih t j _

end anyScalar

section lawful
variable {K : Type} [Field K] [LinearOrder K] [IsStrictOrderedRing K] [FloorRing K] [Scalar K] [LawfulScalar K]

theorem insertSorted_sorted (x : K) (l : List K) (h : l.Pairwise (· ≤ ·)) : (insertSorted x l).Pairwise (· ≤ ·) := by
  induction l with
  | nil => simp [insertSorted]
  | cons z zs ih =>
    unfold insertSorted
    rw [List.pairwise_cons] at h
    simp only [scalar_norm, decide_eq_true_eq]
    split
    · rename_i hxz
      refine List.Pairwise.cons ?_ (List.Pairwise.cons h.1 h.2)
      intro y hy
      rcases List.mem_cons.mp hy with rfl | hy
      · exact hxz.le
      · exact hxz.le.trans (h.1 y hy)
    · rename_i hxz
      refine List.Pairwise.cons ?_ (ih h.2)
      intro y hy
      rcases (mem_insertSorted x y zs).mp hy with rfl | hy
      · exact not_lt.mp hxz
      · exact h.1 y hy

theorem foldl_insertSorted_sorted (l acc : List K) (h : acc.Pairwise (· ≤ ·)) :
    (l.foldl (fun acc x => insertSorted x acc) acc).Pairwise (· ≤ ·) := by
  induction l generalizing acc with
  | nil => simpa using h
  | cons x xs ih => exact ih _ (insertSorted_sorted x acc h)

theorem sortList_sorted (l : List K) : (sortList l).Pairwise (· ≤ ·) :=
  foldl_insertSorted_sorted l [] List.Pairwise.nil

theorem extremaRangesFrom_sorted (t0 : K) (ts : List K) (h0 : ∀ t ∈ ts, t0 ≤ t) (h01 : t0 ≤ 1)
    (hs : ts.Pairwise (· ≤ ·)) (h1 : ∀ t ∈ ts, t ≤ 1) :
    ∀ r ∈ extremaRangesFrom t0 ts, (t0 ≤ r.start ∧ r.start ≤ r.«end» ∧ r.«end» ≤ 1) ∧
      ∀ t ∈ ts, ¬ (r.start < t ∧ t < r.«end») := by
  induction ts generalizing t0 with
  | nil =>
    intro r hr
    simp only [extremaRangesFrom, List.mem_singleton] at hr
    subst hr
    simp only [scalar_norm]; push_cast
    exact ⟨⟨le_rfl, h01, le_rfl⟩, fun _ ht => (List.not_mem_nil ht).elim⟩
  | cons u us ih =>
    intro r hr
    simp only [extremaRangesFrom, List.mem_cons] at hr
    rw [List.pairwise_cons] at hs
    rcases hr with rfl | hr
    · refine ⟨⟨le_rfl, h0 u (by simp), h1 u (by simp)⟩, ?_⟩
      intro t ht ⟨_, h2⟩
      rcases List.mem_cons.mp ht with rfl | ht
      · exact lt_irrefl _ h2
      · exact absurd (hs.1 t ht) (not_le.mpr h2)
    · obtain ⟨⟨ha, hb, hc⟩, hg⟩ := ih u hs.1 (h1 u (by simp)) hs.2 (fun v hv => h1 v (by simp [hv])) r hr
      refine ⟨⟨(h0 u (by simp)).trans ha, hb, hc⟩, ?_⟩
      intro t ht ⟨h2, h3⟩
      rcases List.mem_cons.mp ht with rfl | ht
      · exact absurd ha (not_le.mpr h2)
      · exact hg t ht ⟨h2, h3⟩

theorem foldl_union_contains {α : Type} (f : α → Rect K) (l : List α) (bb : Rect K) :
    (l.foldl (fun bb t => bb.union (f t)) bb).ContainsRectP bb ∧
    ∀ t ∈ l, (l.foldl (fun bb t => bb.union (f t)) bb).ContainsRectP (f t) := by
  induction l generalizing bb with
  | nil => exact ⟨Rect.ContainsRectP.refl _, by simp⟩
  | cons a as ih =>
    simp only [List.foldl_cons]
    obtain ⟨h1, h2⟩ := ih (bb.union (f a))
    refine ⟨h1.trans (Rect.union_contains_left bb (f a)), ?_⟩
    intro t ht
    rcases List.mem_cons.mp ht with rfl | ht
    · exact h1.trans (Rect.union_contains_right bb (f t))
    · exact h2 t ht

theorem foldl_union_pt_contains {α : Type} (f : α → Point K) (l : List α) (bb : Rect K) :
    (l.foldl (fun bb t => bb.union_pt (f t)) bb).ContainsRectP bb ∧
    ∀ t ∈ l, (l.foldl (fun bb t => bb.union_pt (f t)) bb).ContainsClosed (f t) := by
  simpa only [Rect.union_pt_eq_union, Rect.containsClosed_iff_pt] using
    foldl_union_contains (fun t => Rect.pt (f t)) l bb

end lawful
end Kurbo
