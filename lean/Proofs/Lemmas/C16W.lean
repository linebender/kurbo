import Kurbo.SvgWrite
import Proofs.Lemmas.C16BWriter
/-! C16W: the model writer `svgWrite` (Kurbo/SvgWrite.lean, a transcription of svg.rs `write_to`) and the proof-side format
    `c16b_write` (Proofs/Lemmas/C16BWriter.lean) are the same function; hypotheses about the element list and the number printer
    stated directly on `List (PathEl K)` / `K → List UInt8`, and their translation to the vocabulary of C16B. -/
namespace Kurbo

section
variable {K : Type}

/-- the coordinates of an element in the order `write_to` prints them -/
def PathEl.coords : PathEl K → List K
  | .MoveTo p => [p.x, p.y]
  | .LineTo p => [p.x, p.y]
  | .QuadTo p1 p2 => [p1.x, p1.y, p2.x, p2.y]
  | .CurveTo p1 p2 p3 => [p1.x, p1.y, p2.x, p2.y, p3.x, p3.y]
  | .ClosePath => []

/-- the list is empty or starts with a `MoveTo` (the invariant `BezPath::from_vec` / `push` debug-assert) -/
def StartsWithMoveTo : List (PathEl K) → Prop
  | [] => True
  | e :: _ => e.isMove = true

def CloseThenMoveTo : List (PathEl K) → Prop
  | [] => True
  | [_] => True
  | e :: d :: es => (e.isClose = true → d.isMove = true) ∧ CloseThenMoveTo (d :: es)

instance : (els : List (PathEl K)) → Decidable (StartsWithMoveTo els)
  | [] => isTrue trivial
  | e :: _ => inferInstanceAs (Decidable (e.isMove = true))

def decCloseThenMoveTo : (els : List (PathEl K)) → Decidable (CloseThenMoveTo els)
  | [] => isTrue trivial
  | [_] => isTrue trivial
  | e :: d :: es =>
    have := decCloseThenMoveTo (d :: es)
    inferInstanceAs (Decidable ((e.isClose = true → d.isMove = true) ∧ CloseThenMoveTo (d :: es)))

instance (els : List (PathEl K)) : Decidable (CloseThenMoveTo els) := decCloseThenMoveTo els

/-- number of elements the parser produces for the written text: one per element, plus the implicit `MoveTo` the parser inserts
    in front of every non-`MoveTo` element that directly follows a `ClosePath` (`pending` = the previous element was a `ClosePath`) -/
def reparsedCount (pending : Bool) : List (PathEl K) → Nat
  | [] => 0
  | e :: es => (if pending && !e.isMove then 2 else 1) + reparsedCount e.isClose es

theorem c16w_coords (e : PathEl K) : (c16b_ofEl e).scalars = e.coords := by cases e <;> rfl
theorem c16w_isMove (e : PathEl K) : (c16b_ofEl e).isMove = e.isMove := by cases e <;> rfl
theorem c16w_isClose (e : PathEl K) : (c16b_ofEl e).isClose = e.isClose := by cases e <;> rfl

theorem c16w_startsWithMove (els : List (PathEl K)) : c16b_startsWithMove (els.map c16b_ofEl) ↔ StartsWithMoveTo els := by
  cases els with
  | nil => exact Iff.rfl
  | cons e es => simp [c16b_startsWithMove, StartsWithMoveTo, c16w_isMove]

theorem c16w_closeThenMove (els : List (PathEl K)) : c16b_closeThenMove (els.map c16b_ofEl) ↔ CloseThenMoveTo els := by
  induction els with
  | nil => exact Iff.rfl
  | cons e es ih =>
    cases es with
    | nil => exact Iff.rfl
    | cons d es =>
      simp only [List.map_cons, c16b_closeThenMove, CloseThenMoveTo, c16w_isMove, c16w_isClose] at ih ⊢
      rw [ih]

theorem c16w_elemCount (pending : Bool) (els : List (PathEl K)) :
    c16b_elemCount pending (els.map c16b_ofEl) = reparsedCount pending els := by
  induction els generalizing pending with
  | nil => rfl
  | cons e es ih => simp only [List.map_cons, c16b_elemCount, reparsedCount, c16w_isMove, c16w_isClose, ih]

theorem svgWritePt_eq [Scalar K] (spell : K → NumParts) (p : Point K) :
    svgWritePt (fun x => (spell x).bytes) p = c16b_writePt spell p := by
  simp [svgWritePt, c16b_writePt]

theorem svgWriteEl_eq [Scalar K] (spell : K → NumParts) (e : PathEl K) :
    svgWriteEl (fun x => (spell x).bytes) e = c16b_writeEl spell e := by
  cases e <;> simp [svgWriteEl, c16b_writeEl, svgWritePt_eq]

theorem svgWriteFrom_succ (spell : K → List UInt8) (i : Nat) (els : List (PathEl K)) :
    svgWriteFrom spell (i + 1) els = svgWriteFrom spell 1 els := by
  induction els generalizing i with
  | nil => rfl
  | cons e es ih =>
    simp only [svgWriteFrom, Nat.zero_lt_succ, if_true]
    rw [ih (i + 1), ih 1]

theorem svgWrite_cons_cons (spell : K → List UInt8) (e d : PathEl K) (es : List (PathEl K)) :
    svgWrite spell (e :: d :: es) = svgWriteEl spell e ++ 32 :: svgWrite spell (d :: es) := by
  simp only [svgWrite, svgWriteFrom, Nat.lt_irrefl, if_false, Nat.zero_lt_succ, if_true, List.nil_append, Nat.zero_add]
  rw [svgWriteFrom_succ spell 1 es]
  simp

theorem svgWrite_nil (spell : K → List UInt8) : svgWrite spell ([] : List (PathEl K)) = [] := rfl

theorem svgWrite_singleton (spell : K → List UInt8) (e : PathEl K) : svgWrite spell [e] = svgWriteEl spell e := by
  simp [svgWrite, svgWriteFrom]

theorem svgWrite_eq_intercalate (spell : K → List UInt8) (els : List (PathEl K)) :
    svgWrite spell els = [32].intercalate (els.map (svgWriteEl spell)) := by
  induction els with
  | nil => rfl
  | cons e es ih =>
    cases es with
    | nil => simp [svgWrite_singleton, List.intercalate]
    | cons d es =>
      rw [svgWrite_cons_cons, ih]
      simp [List.intercalate]

theorem c16b_write_eq_svgWrite_aux [Scalar K] (spell : K → NumParts) (els : List (PathEl K)) :
    c16b_write spell els = svgWrite (fun x => (spell x).bytes) els := by
  induction els with
  | nil => rfl
  | cons e es ih =>
    cases es with
    | nil => rw [svgWrite_singleton, svgWriteEl_eq]; rfl
    | cons d es => rw [svgWrite_cons_cons, svgWriteEl_eq, ← ih]; rfl

theorem svgWrite_congr (f g : K → List UInt8) (els : List (PathEl K)) (h : ∀ e ∈ els, ∀ x ∈ e.coords, f x = g x) :
    svgWrite f els = svgWrite g els := by
  have hel : ∀ e ∈ els, svgWriteEl f e = svgWriteEl g e := by
    intro e he
    have := h e he
    cases e <;> simp only [PathEl.coords, List.mem_cons, List.not_mem_nil, or_false, forall_eq_or_imp, forall_eq] at this <;>
      simp [svgWriteEl, svgWritePt, this]
  rw [svgWrite_eq_intercalate, svgWrite_eq_intercalate]
  congr 1
  exact List.map_congr_left hel

end

/-- the numerals Rust's `Display for f64` prints for finite numbers – `-?digits(.digits)?`, at least one digit in front of the
    period, no exponent, no `+` (this is the grammar the judge of the correspondence stratum `writer` checks on every numeral
    of the crate's text) -/
def IsDisplayNumeral (bs : List UInt8) : Prop :=
  ∃ (neg : Bool) (ip fd : List UInt8), AllDigits ip ∧ ip ≠ [] ∧ AllDigits fd ∧
    bs = (if neg then [45] else []) ++ ip ++ (if fd = [] then [] else 46 :: fd)

theorem IsDisplayNumeral.parts {bs : List UInt8} (h : IsDisplayNumeral bs) : ∃ p : NumParts, p.Valid ∧ p.bytes = bs := by
  obtain ⟨neg, ip, fd, hip, hne, hfd, rfl⟩ := h
  refine ⟨{ sign := if neg then [45] else [], ip := ip, dot := !fd.isEmpty, fd := fd }, ⟨?_, hip, hfd, ?_, ?_, ?_⟩, ?_⟩
  · cases neg
    · exact .inl rfl
    · exact .inr (.inr rfl)
  · cases fd <;> simp
  · cases ip with
    | nil => exact absurd rfl hne
    | cons a r => simp only [List.length_cons]; omega
  · intro h; cases h
  · cases fd <;> simp [NumParts.bytes, NumParts.mantBytes, NumParts.expBytes]

/-- `bs` is a number token (of the grammar of `get_number`) that denotes `x` -/
def SpellsNumber [Scalar K] (bs : List UInt8) (x : K) : Prop :=
  (∃ p : NumParts, p.Valid ∧ p.bytes = bs) ∧ tokValue (parseTok bs) = x

open Classical in
/-- a `NumParts`-valued printer that agrees with `spell` wherever `spell x` is a token -/
noncomputable def c16w_parts {K : Type} (spell : K → List UInt8) (x : K) : NumParts :=
  if h : ∃ p : NumParts, p.Valid ∧ p.bytes = spell x then Classical.choose h else { ip := [48] }

theorem c16w_parts_spec {K : Type} (spell : K → List UInt8) (x : K) (h : ∃ p : NumParts, p.Valid ∧ p.bytes = spell x) :
    (c16w_parts spell x).Valid ∧ (c16w_parts spell x).bytes = spell x := by
  unfold c16w_parts
  rw [dif_pos h]
  exact Classical.choose_spec h

theorem c16w_to_c16b {K : Type} [Scalar K] (spell : K → List UInt8) (els : List (PathEl K))
    (hspell : ∀ e ∈ els, ∀ x ∈ e.coords, SpellsNumber (spell x) x) :
    svgWrite spell els = c16b_write (c16w_parts spell) els ∧
    ∀ e ∈ els, ∀ x ∈ (c16b_ofEl e).scalars,
      (c16w_parts spell x).Valid ∧ tokValue (parseTok (c16w_parts spell x).bytes) = x := by
  constructor
  · rw [c16b_write_eq_svgWrite_aux]
    apply svgWrite_congr
    intro e he x hx
    exact (c16w_parts_spec spell x (hspell e he x hx).1).2.symm
  · intro e he x hx
    rw [c16w_coords] at hx
    have h := hspell e he x hx
    have hs := c16w_parts_spec spell x h.1
    exact ⟨hs.1, by rw [hs.2]; exact h.2⟩

theorem svgWrite_head {K : Type} (spell : K → List UInt8) (e : PathEl K) (es : List (PathEl K)) :
    ∃ r, svgWrite spell (e :: es) = (c16b_ofEl e).letter :: r := by
  cases es with
  | nil => rw [svgWrite_singleton]; cases e <;> exact ⟨_, rfl⟩
  | cons d es => rw [svgWrite_cons_cons]; cases e <;> exact ⟨_, rfl⟩

theorem c16w_first_byte (data : ByteArray) (c : UInt8) (r : List UInt8) (h : data.data.toList = c :: r)
    (hws : isWs c = false) : getByte (skipWs ⟨data, 0⟩) = some (c, Lx.adv ⟨data, 0⟩ 1) := by
  have hrem : Lx.rem ⟨data, 0⟩ = [] ++ c :: r := (Lx.rem_start data).trans h
  have hs := skipWs_rem (l := ⟨data, 0⟩) hrem (by intro c hc; cases hc) (StopsAt.cons hws)
  rw [hs]
  exact Lx.getByte_cons hrem

end Kurbo
