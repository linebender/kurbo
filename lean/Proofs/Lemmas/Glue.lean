import Proofs.Lemmas.RealLaws
import Proofs.Lemmas.C17Real
import Proofs.Lemmas.C05Scale
import Proofs.Lemmas.C10Real
import Proofs.Lemmas.CanonScalar
/-! For `Proofs/Glue.lean`.  `glue_realScalar`: one `Scalar ℝ` structure that meets the law classes of *both* sides of
    each glue theorem: `LawfulScalar`, `LawfulReal` (`Lemmas/RealLaws.lean`: real `sqrt cbrt sin cos atan2`), `LawfulPowf` (C17: real `powf`,
    `as usize` saturating at `2⁶⁴−1`), `LawfulHypot` (C17), `LawfulSqrt`, `LawfulHypotR` (C05); also `LawfulTrig`
    (`glue_realScalar_lawfulTrig`), which no glue theorem needs.  `realScalar` of `Lemmas/RealLaws.lean` does not saturate `toUSize` (so it
    is not a `LawfulPowf`), `realScalar17` of C17 fills `cbrt sin cos atan2` arbitrarily (so it is not a `LawfulReal`):
    neither serves both sides. -/
namespace Kurbo

/-- ℝ with the Mathlib functions; `as usize` saturates at `usize::MAX = 2⁶⁴−1` as in Rust -/
@[instance_reducible] noncomputable def glue_realScalar : Scalar ℝ where
  add := (· + ·); sub := (· - ·); mul := (· * ·); div := (· / ·); neg := (- ·)
  abs x := |x|
  lt a b := decide (a < b); le a b := decide (a ≤ b); beq a b := decide (a = b)
  ofRat r := (r : ℝ)
  floor x := (⌊x⌋ : ℝ); ceil x := (⌈x⌉ : ℝ)
  round a := if a < 0 then (⌈a - 1/2⌉ : ℝ) else (⌊a + 1/2⌋ : ℝ)
  trunc a := if a < 0 then (⌈a⌉ : ℝ) else (⌊a⌋ : ℝ)
  sqrt := Real.sqrt
  cbrt := realCbrt
  sin := Real.sin
  cos := Real.cos
  tan := Real.tan
  acos := Real.arccos
  atan2 y x := Complex.arg ⟨x, y⟩
  powf x y := x ^ y
  ln := Real.log
  log2 x := Real.log x / Real.log 2
  fma a b c := a * b + c
  hypot x y := Real.sqrt (x * x + y * y)
  copysign a b := if b < 0 then -|a| else |a|
  fin _ := true
  finQuot den _ := decide (den ≠ 0)
  isNan _ := false
  toUSize x := min ⌊x⌋₊ (2 ^ 64 - 1)
  signum x := if x < 0 then -1 else 1
  min a b := min a b
  max a b := max a b
  fmod a b := a - b * (if a / b < 0 then (⌈a / b⌉ : ℝ) else (⌊a / b⌋ : ℝ))
  pi := Real.pi

theorem glue_realScalar_lawful : @LawfulScalar ℝ _ _ _ _ glue_realScalar :=
  canonScalar_lawful glue_realScalar

theorem glue_realScalar_lawfulReal : @LawfulReal glue_realScalar :=
  letI := glue_realScalar
  { sqrt_eq := fun _ => rfl, cbrt_eq := fun _ => rfl, sin_eq := fun _ => rfl, cos_eq := fun _ => rfl,
    atan2_eq := fun _ _ => rfl }

theorem glue_realScalar_lawfulPowf : @LawfulPowf glue_realScalar :=
  letI := glue_realScalar
  { powf_eq := fun _ _ _ => rfl, toUSize_eq := fun _ => rfl }

theorem glue_realScalar_lawfulSqrt : @LawfulSqrt glue_realScalar :=
  letI := glue_realScalar
  { sqrt_eq := fun _ => rfl }

theorem glue_realScalar_lawfulHypotR : @LawfulHypotR glue_realScalar :=
  letI := glue_realScalar
  { hypot_eq := fun _ _ => rfl }

theorem glue_realScalar_lawfulHypot : @LawfulHypot ℝ _ _ glue_realScalar :=
  letI := glue_realScalar
  lawfulHypot_of_sqrt fun x y => by
    show Real.sqrt (x * x + y * y) = Real.sqrt (x ^ 2 + y ^ 2)
    rw [pow_two, pow_two]

theorem glue_realScalar_lawfulTrig : @LawfulTrig glue_realScalar :=
  letI := glue_realScalar
  { sin_eq := fun _ => rfl, cos_eq := fun _ => rfl, tan_eq := fun _ => rfl, pi_eq := rfl }

/-- the two `as usize` laws of the project exclude each other: C17's `LawfulPowf` saturates at `2⁶⁴−1`, C10's
    `LawfulCount` (and C15's `LawfulRealLog`) do not -/
theorem glue_lawfulPowf_not_lawfulCount [Scalar ℝ] [LawfulPowf] : ¬ LawfulCount := by
  intro h
  have h1 := LawfulPowf.toUSize_eq ((2 : ℝ) ^ 64)
  have h2 := h.toUSize_eq ((2 : ℝ) ^ 64)
  rw [h2] at h1
  have e : ⌊(2 : ℝ) ^ 64⌋₊ = 2 ^ 64 := by
    have : ((2 : ℝ) ^ 64) = ((2 ^ 64 : ℕ) : ℝ) := by norm_num
    rw [this, Nat.floor_natCast]
  rw [e] at h1
  omega

/-! ### the non-saturation side condition without the sixth root -/

theorem glue_sat_of_poly (D2 a : ℝ) (hD : 0 ≤ D2) (ha : a ≠ 0)
    (h : D2 ≤ 432 * a ^ 2 * (2 ^ 64 - 1) ^ 6) :
    (D2 / (432 * a ^ 2)) ^ ((1 : ℝ) / 6) ≤ 2 ^ 64 - 1 := by
  have hA : 0 < 432 * a ^ 2 := by positivity
  have hM : (0 : ℝ) ≤ 2 ^ 64 - 1 := by norm_num
  have hr : 0 ≤ D2 / (432 * a ^ 2) := div_nonneg hD hA.le
  have hle : D2 / (432 * a ^ 2) ≤ (2 ^ 64 - 1) ^ 6 := by
    rw [div_le_iff₀ hA]; linarith
  have h6 : ((1 : ℝ) / 6) = ((6 : ℕ) : ℝ)⁻¹ := by norm_num
  calc (D2 / (432 * a ^ 2)) ^ ((1 : ℝ) / 6) ≤ (((2 : ℝ) ^ 64 - 1) ^ 6) ^ ((1 : ℝ) / 6) :=
        Real.rpow_le_rpow hr hle (by norm_num)
    _ = 2 ^ 64 - 1 := by
        rw [h6]
        exact Real.pow_rpow_inv_natCast hM (by norm_num)

/-! ### the curves of the examples of `Proofs/Glue.lean`: `y(t) = t²` as a quadratic and degree-raised, `y(t) = t³` -/
section examples
variable [Scalar ℝ] [LawfulScalar ℝ]

theorem glue_exQuad_y (t : ℝ) : ((⟨⟨0, 0⟩, ⟨1, 0⟩, ⟨0, 1⟩⟩ : QuadBez ℝ).eval t).y = t ^ 2 := by
  rw [(QuadBez.eval_xy _ _).2]; norm_num

theorem glue_exRaised_y (t : ℝ) : ((⟨⟨0, 0⟩, ⟨2/3, 0⟩, ⟨2/3, 1/3⟩, ⟨0, 1⟩⟩ : CubicBez ℝ).eval t).y = t ^ 2 := by
  rw [(CubicBez.eval_xy _ _).2]; norm_num

theorem glue_exCubic_y (t : ℝ) : ((⟨⟨0, 0⟩, ⟨1, 0⟩, ⟨1, 0⟩, ⟨0, 1⟩⟩ : CubicBez ℝ).eval t).y = t ^ 3 := by
  rw [(CubicBez.eval_xy _ _).2]; norm_num

end examples

theorem glue_forall₂_imp_mem {α β : Type} {R S : α → β → Prop} {l₁ : List α} {l₂ : List β}
    (h : List.Forall₂ R l₁ l₂) (himp : ∀ a b, a ∈ l₁ → R a b → S a b) : List.Forall₂ S l₁ l₂ := by
  induction h with
  | nil => exact List.Forall₂.nil
  | cons hab _ ih =>
    exact List.Forall₂.cons (himp _ _ List.mem_cons_self hab)
      (ih fun a b ha hr => himp a b (List.mem_cons_of_mem _ ha) hr)

end Kurbo
