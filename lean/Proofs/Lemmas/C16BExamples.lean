import Proofs.Lemmas.C16BCanon
import Proofs.Lemmas.C16BDecide
import Proofs.Lemmas.C16BWriter
/-! C16B: concrete data for the non-vacuity examples of `Proofs/C16B.lean`. -/
namespace Kurbo

/-- spelling of the integers `-9 … 9` (one digit, `-` for negative ones) -/
def c16b_exSpell (x : Rat) : NumParts := { sign := if x < 0 then [45] else [], ip := [48 + x.num.natAbs.toUInt8] }

/-- `M1 2 L3 4 c1 0 2 -1 3 0 S8 1 9 0 h-2 Zt1 1 Q1 2 3 4 T5 4 V7 z` -/
def c16b_exCmds : List (C16Cmd Rat) :=
  [.moveTo false ⟨1, 2⟩, .lineTo false ⟨3, 4⟩, .curveTo true ⟨1, 0⟩ ⟨2, -1⟩ ⟨3, 0⟩, .smoothCurveTo false ⟨8, 1⟩ ⟨9, 0⟩,
   .horiz true (-2), .close false, .smoothQuadTo true ⟨1, 1⟩, .quadTo false ⟨1, 2⟩ ⟨3, 4⟩, .smoothQuadTo false ⟨5, 4⟩,
   .vert false 7, .close true]

/-- `" M1,2 3 4l-1-.5Z"`: leading white space, a comma, an implicit `L` after `M`, packed signs and a leading period (the examples
    add the tail `"\n"`) -/
def c16b_exSpelled : List C16Spelled :=
  [{ ws := [32], cmd := .moveTo false ⟨{ p := { ip := [49] }, sep := [44] }, { p := { ip := [50] }, sep := [32] }⟩ },
   { explicit := false, cmd := .lineTo false ⟨{ p := { ip := [51] }, sep := [32] }, { p := { ip := [52] } }⟩ },
   { cmd := .lineTo true ⟨{ p := { sign := [45], ip := [49] } }, { p := { sign := [45], ip := [], dot := true, fd := [53] } }⟩ },
   { cmd := .close false }]

/-- `M1,2 L3,4 Q5,6 7,8 C1,2 3,4 -5,6 Z M1,1 L2,2 Z` -/
def c16b_exEls : List (PathEl Rat) :=
  [.MoveTo ⟨1, 2⟩, .LineTo ⟨3, 4⟩, .QuadTo ⟨5, 6⟩ ⟨7, 8⟩, .CurveTo ⟨1, 2⟩ ⟨3, 4⟩ ⟨-5, 6⟩, .ClosePath, .MoveTo ⟨1, 1⟩,
   .LineTo ⟨2, 2⟩, .ClosePath]

def c16b_decCloseThenMove {α : Type} : (cs : List (C16Cmd α)) → Decidable (c16b_closeThenMove cs)
  | [] => isTrue trivial
  | [_] => isTrue trivial
  | c :: d :: cs =>
    have := c16b_decCloseThenMove (d :: cs)
    inferInstanceAs (Decidable ((c.isClose = true → d.isMove = true) ∧ c16b_closeThenMove (d :: cs)))

instance {α : Type} (cs : List (C16Cmd α)) : Decidable (c16b_closeThenMove cs) := c16b_decCloseThenMove cs

end Kurbo
