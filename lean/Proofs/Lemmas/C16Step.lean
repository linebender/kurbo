import Proofs.Lemmas.C16Spec
/-! C16, the step lemmas: the lexer functions on well-formed spellings.  A number, point or flag is spelled as a chunk
    (`NumChunk` = `ws* number ws* ','?`, `PtChunk`, `FlagChunk`; `SepOk` for the separator) and `Ok r` says the chunk is well
    formed in front of the bytes `r`; on such chunks the lexer functions return the value and stop behind the chunk.  Then one
    loop iteration for a spelled letter and for implicit repetition (leading white space is irrelevant to a command that
    starts with a number), the fuel-free loop `svgRun`, and `Decidable` instances for the examples. -/
namespace Kurbo

/-- a separator `ws* ','?` in front of `r` (without a comma, `r` must not start with white space or a comma, so the separator is
    everything `optComma` consumes) -/
def SepOk (s r : List UInt8) : Prop :=
  ∃ ws, (∀ c ∈ ws, isWs c = true) ∧ (s = ws ++ [44] ∨ (s = ws ∧ StopsAt (fun c => isWs c || c == 44) r))

theorem optComma_rem {l : Lx} {s r : List UInt8} (h : l.rem = s ++ r) (hs : SepOk s r) :
    optComma l = some (l.adv s.length) := by
  obtain ⟨ws, hws, hs | ⟨hs, hr⟩⟩ := hs
  · subst hs
    have h' : l.rem = ws ++ (44 :: r) := by rw [h]; simp
    unfold optComma
    simp only
    rw [skipWs_rem h' hws (StopsAt.cons rfl)]
    have h1 : (l.adv ws.length).rem = 44 :: r := Lx.rem_adv h'
    rw [Lx.getByte_cons h1]
    simp [Lx.adv_adv]
  · subst hs
    unfold optComma
    simp only
    rw [skipWs_rem h hws (by intro c r' hc; have := hr c r' hc; simp only [Bool.or_eq_false_iff] at this; exact this.1)]
    have h1 : (l.adv s.length).rem = r := Lx.rem_adv h
    cases r with
    | nil => rw [Lx.rem_nil h1]
    | cons c r' =>
      have hg := Lx.getByte_cons h1
      rw [hg]
      have := hr c r' rfl
      simp only [Bool.or_eq_false_iff] at this
      simp only [bne, this.2, Bool.not_false, if_true]
      exact unget_after_getByte hg

/-- a number with the white space in front of it and the separator behind it: `ws* number ws* ','?` -/
structure NumChunk where
  ws : List UInt8 := []
  p : NumParts
  sep : List UInt8 := []

def NumChunk.bytes (k : NumChunk) : List UInt8 := k.ws ++ k.p.bytes ++ k.sep

structure NumChunk.Ok (k : NumChunk) (r : List UInt8) : Prop where
  ws : ∀ c ∈ k.ws, isWs c = true
  valid : k.p.Valid
  stops : k.p.Stops (k.sep ++ r)
  sep : SepOk k.sep r

section
variable {K : Type} [Scalar K]

/-- the value `getNumber` returns for the chunk -/
def NumChunk.value (k : NumChunk) : K := tokValue (parseTok k.p.bytes)

theorem getNumber_chunk {l : Lx} {k : NumChunk} {r : List UInt8} (h : l.rem = k.bytes ++ r) (hk : k.Ok r) :
    getNumber (K := K) l = .ok k.value (l.adv (k.ws.length + k.p.bytes.length)) ∧
    optComma (l.adv (k.ws.length + k.p.bytes.length)) = some (l.adv k.bytes.length) := by
  have h' : l.rem = k.ws ++ k.p.bytes ++ (k.sep ++ r) := by rw [h]; simp [NumChunk.bytes]
  refine ⟨getNumber_spec_rem l k.ws (k.sep ++ r) k.p hk.valid hk.stops hk.ws h', ?_⟩
  have h1 : (l.adv (k.ws.length + k.p.bytes.length)).rem = k.sep ++ r := by
    rw [← List.length_append]; exact Lx.rem_adv h'
  rw [optComma_rem h1 hk.sep, Lx.adv_adv]
  simp [NumChunk.bytes, Nat.add_assoc]

end

theorem isLetter_not_ws {c : UInt8} (h : (isLower c || isUpper c) = true) : isWs c = false := by
  unfold isWs
  simp only [Bool.or_eq_false_iff, beq_eq_false_iff_ne, ne_eq]
  refine ⟨⟨⟨⟨?_, ?_⟩, ?_⟩, ?_⟩, ?_⟩ <;> (rintro rfl; revert h; decide)

theorem getCmd_letter_rem {l : Lx} {ws r : List UInt8} {c : UInt8} (lc : UInt8) (h : l.rem = ws ++ c :: r)
    (hws : ∀ c ∈ ws, isWs c = true) (hc : (isLower c || isUpper c) = true) :
    getCmd lc l = some (some c, l.adv (ws.length + 1)) := by
  unfold getCmd
  simp only
  rw [skipWs_rem h hws (StopsAt.cons (isLetter_not_ws hc))]
  have h1 : (l.adv ws.length).rem = c :: r := Lx.rem_adv h
  rw [Lx.getByte_cons h1]
  simp [hc, Lx.adv_adv]

theorem getCmd_end_rem {l : Lx} {ws : List UInt8} (lc : UInt8) (h : l.rem = ws) (hws : ∀ c ∈ ws, isWs c = true) :
    getCmd lc l = some (none, l.adv ws.length) := by
  unfold getCmd
  simp only
  have h' : l.rem = ws ++ [] := by simpa using h
  rw [skipWs_rem h' hws (StopsAt.nil _)]
  rw [Lx.rem_nil (Lx.rem_adv h')]

section
variable {K : Type} [Scalar K]

/-- go to the arm of `svgCommand` selected by `hlc : lowerCmd c = <letter>`, given `hpre : svgPre c st = some st1`
    (no proof calls it, the step lemmas go through `svgCommand_eq_interp`) -/
macro "svg_arm" hpre:ident hlc:ident : tactic => `(tactic| (
  unfold svgCommand
  simp only
  split
  · rename_i heq
    have hh : svgPre _ _ = none := heq
    rw [$hpre:ident] at hh; cases hh
  rename_i st1 heq
  have hh : svgPre _ _ = some st1 := heq
  rw [$hpre:ident] at hh
  cases hh
  rw [show (if isUpper _ = true then _ + 32 else _) = lowerCmd _ from rfl, $hlc:ident]))

theorem isNumStart_not_ws {c : UInt8} (h : isNumStart c = true) : isWs c = false := by
  unfold isNumStart at h
  simp only [Bool.or_eq_true, beq_iff_eq] at h
  rcases h with ((rfl | rfl) | rfl) | h
  · decide
  · decide
  · decide
  · exact (isDigit_ne h).2.2.2.2.2

theorem isNumStart_not_letter {c : UInt8} (h : isNumStart c = true) : (isLower c || isUpper c) = false := by
  unfold isNumStart at h
  simp only [Bool.or_eq_true, beq_iff_eq] at h
  rcases h with ((rfl | rfl) | rfl) | h
  · decide
  · decide
  · decide
  · unfold isDigit at h; unfold isLower isUpper
    simp only [Bool.and_eq_true, decide_eq_true_eq] at h
    simp only [Bool.or_eq_false_iff, Bool.and_eq_false_iff, decide_eq_false_iff_not, UInt8.not_le]
    have h1 := UInt8.le_iff_toNat_le.mp h.1
    have h2 := UInt8.le_iff_toNat_le.mp h.2
    simp only [UInt8.lt_iff_toNat_lt]
    simp at h1 h2 ⊢
    omega

theorem getCmd_implicit_rem {l : Lx} {ws r : List UInt8} {c : UInt8} {lc : UInt8} (h : l.rem = ws ++ c :: r)
    (hws : ∀ c ∈ ws, isWs c = true) (hc : isNumStart c = true) (hlc : lc ≠ 0) :
    getCmd lc l = some (some lc, l.adv ws.length) := by
  unfold getCmd
  simp only
  rw [skipWs_rem h hws (StopsAt.cons (isNumStart_not_ws hc))]
  have h1 : (l.adv ws.length).rem = c :: r := Lx.rem_adv h
  have hg := Lx.getByte_cons h1
  rw [hg]
  simp only [isNumStart_not_letter hc, Bool.false_eq_true, if_false]
  have : (lc != 0 && (c == 45 || c == 43 || c == 46 || isDigit c)) = true := by
    simp only [Bool.and_eq_true, bne_iff_ne, ne_eq]
    exact ⟨hlc, hc⟩
  rw [if_pos this, unget_after_getByte hg]; rfl

theorem svgLoop_step_ok (fuel : Nat) {st st' : SvgSt K} {l l1 l2 : Lx} {c : UInt8}
    (hg : getCmd st.last_cmd l = some (some c, l1)) (hs : svgCommand c st l1 = .ok st' l2) :
    svgLoop (fuel + 1) st l = svgLoop fuel st' l2 := by
  rw [svgLoop, hg]; simp only [hs]

theorem svgLoop_step_end (fuel : Nat) {st : SvgSt K} {l l1 : Lx}
    (hg : getCmd st.last_cmd l = some (none, l1)) : svgLoop (fuel + 1) st l = .ok st.path := by
  rw [svgLoop, hg]

theorem svgLoop_step_err (fuel : Nat) {st : SvgSt K} {l l1 : Lx} {c : UInt8} {e : SvgErr}
    (hg : getCmd st.last_cmd l = some (some c, l1)) (hs : svgCommand c st l1 = .err e) :
    svgLoop (fuel + 1) st l = .err e := by
  rw [svgLoop, hg]; simp only [hs]

/-- the parse loop with exactly the fuel `fromSvgBytes` would give it for the remaining bytes -/
def svgRun (st : SvgSt K) (l : Lx) : SvgRes K := svgLoop (l.data.size - l.ix + 1) st l

open Kurbo.Ops in
/-- the initial parser state of `from_svg` (the numerals are the model's `Scalar.ofRat 0`, hence the local `open Ops`) -/
def svgInit : SvgSt K := { first_pt := ⟨0, 0⟩, last_pt := ⟨0, 0⟩ }

theorem fromSvgBytes_eq_run (data : ByteArray) : fromSvgBytes (K := K) data = svgRun svgInit ⟨data, 0⟩ := rfl

theorem svgInit_path : (svgInit (K := K)).path = [] := rfl

theorem svgInit_inv : (svgInit (K := K)).Inv := by
  show lowerCmd 0 ≠ 122
  decide

end

section
variable {K : Type} [Scalar K]

/-- `get_maybe_relative`'s result: relative (lower-case command) or absolute -/
def relPt (c : UInt8) (last p : Point K) : Point K := if isLower c then last + p.to_vec2 else p

structure PtChunk where
  x : NumChunk
  y : NumChunk

def PtChunk.bytes (q : PtChunk) : List UInt8 := q.x.bytes ++ q.y.bytes
def PtChunk.Ok (q : PtChunk) (r : List UInt8) : Prop := q.x.Ok (q.y.bytes ++ r) ∧ q.y.Ok r
def PtChunk.value (q : PtChunk) : Point K := ⟨q.x.value, q.y.value⟩

theorem getNumberPair_pt {l : Lx} {q : PtChunk} {r : List UInt8} (h : l.rem = q.bytes ++ r) (hq : q.Ok r) :
    getNumberPair (K := K) l = .ok q.value (l.adv q.bytes.length) := by
  have h1 : l.rem = q.x.bytes ++ (q.y.bytes ++ r) := by rw [h, PtChunk.bytes, List.append_assoc]
  obtain ⟨ha, hb⟩ := getNumber_chunk (K := K) h1 hq.1
  obtain ⟨hc, hd⟩ := getNumber_chunk (K := K) (Lx.rem_adv h1) hq.2
  unfold getNumberPair
  rw [ha]; simp only [hb]
  rw [hc]; simp only [hd]
  rw [Lx.adv_adv, PtChunk.bytes, List.length_append]; rfl

theorem getMaybeRelative_pt {l : Lx} {q : PtChunk} {r : List UInt8} (cmd : UInt8) (last : Point K)
    (h : l.rem = q.bytes ++ r) (hq : q.Ok r) :
    getMaybeRelative cmd last l = .ok (relPt cmd last q.value) (l.adv q.bytes.length) := by
  rw [getMaybeRelative_eq_bind, getNumberPair_pt h hq]; rfl

end

theorem NumParts.Valid.bytes_head {p : NumParts} (hv : p.Valid) : ∃ c r, p.bytes = c :: r ∧ isNumStart c = true := by
  obtain ⟨m0, mr, hm, hm0⟩ := hv.mant_head
  unfold NumParts.bytes
  rw [hm]
  rcases hv.sign with hs | hs | hs <;> rw [hs]
  · refine ⟨m0, _, rfl, ?_⟩
    unfold isNumStart
    rcases hm0 with h | rfl
    · simp [h]
    · decide
  · exact ⟨43, _, rfl, by decide⟩
  · exact ⟨45, _, rfl, by decide⟩

def NumChunk.noWs (k : NumChunk) : NumChunk := { k with ws := [] }

theorem NumChunk.Ok.noWs {k : NumChunk} {r : List UInt8} (h : k.Ok r) : k.noWs.Ok r :=
  ⟨fun c hc => by simp [NumChunk.noWs] at hc, h.valid, h.stops, h.sep⟩

theorem NumChunk.value_noWs {K : Type} [Scalar K] (k : NumChunk) : (k.noWs.value : K) = k.value := rfl

theorem Lx.adv_wf_of_rem {l : Lx} {xs r : List UInt8} (h : l.rem = xs ++ r) (hx : 0 < xs.length) :
    (l.adv xs.length).ix ≤ l.data.size := by
  have := congrArg List.length h
  simp [Lx.rem] at this
  simp only [Lx.adv_ix]
  omega

theorem svgRun_of_loop_step {K : Type} [Scalar K] {st st' : SvgSt K} {l : Lx} {n : Nat}
    (hstep : ∀ fuel, svgLoop (fuel + 1) st l = svgLoop fuel st' (l.adv n)) (hn : 0 < n)
    (hwf : (l.adv n).ix ≤ l.data.size) (hinv' : st'.Inv) : svgRun st l = svgRun st' (l.adv n) := by
  unfold svgRun
  rw [hstep]
  have hwf' : (l.adv n).WF := hwf
  simp only [Lx.adv_ix] at hwf
  apply svgLoop_fuel_irrel _ _ _ _ hwf' hinv'
  · simp only [Lx.adv_ix, Lx.adv_data]; omega
  · simp only [Lx.adv_ix, Lx.adv_data]; omega

theorem NumParts.stops_nil (p : NumParts) : p.Stops [] := fun c r h => by cases h
theorem NumParts.stops_cons {p : NumParts} {c : UInt8} {r : List UInt8}
    (h : isDigit c = false ∧ (p.hasExp = false → c ≠ 101 ∧ c ≠ 69 ∧ (p.dot = false → c ≠ 46))) : p.Stops (c :: r) := by
  intro c' r' hc; simp only [List.cons.injEq] at hc; rw [← hc.1]; exact h

instance (p : NumParts) : Decidable p.Valid :=
  decidable_of_iff (IsSign p.sign ∧ AllDigits p.ip ∧ AllDigits p.fd ∧ (p.dot = false → p.fd = []) ∧
      0 < p.ip.length + p.fd.length ∧
      (p.hasExp = true → (p.e = 101 ∨ p.e = 69) ∧ IsSign p.esign ∧ AllDigits p.ed ∧ p.ed ≠ []))
    ⟨fun ⟨a, b, c, d, e, f⟩ => ⟨a, b, c, d, e, f⟩, fun h => ⟨h.sign, h.ip, h.fd, h.fd_nil, h.digits, h.exp⟩⟩

instance (p : NumParts) (rest : List UInt8) : Decidable (p.Stops rest) :=
  match rest with
  | [] => isTrue p.stops_nil
  | c :: r => decidable_of_iff _ ⟨NumParts.stops_cons, fun h => h c r rfl⟩

instance (p : UInt8 → Bool) (r : List UInt8) : Decidable (StopsAt p r) :=
  match r with
  | [] => isTrue (StopsAt.nil p)
  | c :: r => decidable_of_iff _ ⟨StopsAt.cons, fun h => h c r rfl⟩

theorem SepOk.comma {ws r : List UInt8} (hws : ∀ c ∈ ws, isWs c = true) : SepOk (ws ++ [44]) r := ⟨ws, hws, .inl rfl⟩
theorem SepOk.ws {ws r : List UInt8} (hws : ∀ c ∈ ws, isWs c = true) (hr : StopsAt (fun c => isWs c || c == 44) r) :
    SepOk ws r := ⟨ws, hws, .inr ⟨rfl, hr⟩⟩

theorem relPt_upper {K : Type} [Scalar K] {c : UInt8} (h : isLower c = false) (last p : Point K) : relPt c last p = p := by
  unfold relPt; rw [h]; rfl

theorem SvgSt.flushed_of_none {K : Type} {st : SvgSt K} (h : st.implicit_moveto = none) : st.flushed = st := by
  unfold SvgSt.flushed; rw [h]

section
variable {K : Type} [Scalar K]

/-! ### leading white space is irrelevant for a command that starts with a number -/

theorem getNumber_skipWs (l : Lx) : getNumber (K := K) (skipWs l) = getNumber l := by
  rw [getNumber_eq, getNumber_eq, skipWs_idem]

theorem getNumberPair_skipWs (l : Lx) : getNumberPair (K := K) (skipWs l) = getNumberPair l := by
  unfold getNumberPair; rw [getNumber_skipWs]

theorem getMaybeRelative_skipWs (c : UInt8) (p : Point K) (l : Lx) :
    getMaybeRelative c p (skipWs l) = getMaybeRelative c p l := by
  unfold getMaybeRelative; rw [getNumberPair_skipWs]

theorem lexArgs_skipWs (c : UInt8) (l : Lx) (hz : lowerCmd c ≠ 122) : lexArgs (K := K) c (skipWs l) = lexArgs c l := by
  -- every arm but `z` starts with a step that skips white space itself
  have h122 : (lowerCmd c == 122) = false := by simpa using hz
  simp only [lexArgs, h122, Bool.false_eq_true, if_false, getNumber_skipWs, getNumberPair_skipWs]

theorem svgCommand_skipWs (c : UInt8) (st : SvgSt K) (l : Lx) (hz : lowerCmd c ≠ 122) :
    svgCommand c st (skipWs l) = svgCommand c st l := by
  rw [svgCommand_eq_interp, svgCommand_eq_interp, lexArgs_skipWs c l hz, svgArcArm, svgArcArm, getNumberPair_skipWs]

/-- what the loop does after `getCmd` returned the command `c` and the lexer `l1` -/
def svgAfterCmd (fuel : Nat) (st : SvgSt K) (c : UInt8) (l1 : Lx) : SvgRes K :=
  match svgCommand c st l1 with
  | .panic => .panic
  | .err e => .err e
  | .ok st' l2 => svgLoop fuel st' l2

theorem svgLoop_succ_of_getCmd (fuel : Nat) {st : SvgSt K} {l l1 : Lx} {c : UInt8}
    (hg : getCmd st.last_cmd l = some (some c, l1)) : svgLoop (fuel + 1) st l = svgAfterCmd fuel st c l1 := by
  rw [svgLoop, hg]; rfl

theorem svgLoop_letter (fuel : Nat) (st : SvgSt K) {l : Lx} {ws r : List UInt8} {c : UInt8} (h : l.rem = ws ++ c :: r)
    (hws : ∀ b ∈ ws, isWs b = true) (hc : (isLower c || isUpper c) = true) :
    svgLoop (fuel + 1) st l = svgAfterCmd fuel st c (l.adv (ws.length + 1)) :=
  svgLoop_succ_of_getCmd fuel (getCmd_letter_rem st.last_cmd h hws hc)

/-- implicit repetition: `getCmd` eats only the white space, which a command that starts with a number skips anyway -/
theorem svgLoop_implicit (fuel : Nat) (st : SvgSt K) {l : Lx} {ws r : List UInt8} {b : UInt8} (h : l.rem = ws ++ b :: r)
    (hws : ∀ b ∈ ws, isWs b = true) (hb : isNumStart b = true) (hlc : st.last_cmd ≠ 0) (hinv : st.Inv) :
    svgLoop (fuel + 1) st l = svgAfterCmd fuel st st.last_cmd l := by
  rw [svgLoop_succ_of_getCmd fuel (getCmd_implicit_rem h hws hb hlc)]
  have : l.adv ws.length = skipWs l :=
    (skipWs_rem h hws (StopsAt.cons (isNumStart_not_ws hb))).symm
  unfold svgAfterCmd
  rw [this, svgCommand_skipWs _ _ _ hinv]

theorem svgLoop_letter_ok (fuel : Nat) (st st' : SvgSt K) {l l2 : Lx} {ws r : List UInt8} {c : UInt8} (h : l.rem = ws ++ c :: r)
    (hws : ∀ b ∈ ws, isWs b = true) (hc : (isLower c || isUpper c) = true)
    (hcmd : svgCommand c st (l.adv (ws.length + 1)) = .ok st' l2) : svgLoop (fuel + 1) st l = svgLoop fuel st' l2 := by
  rw [svgLoop_letter fuel st h hws hc, svgAfterCmd, hcmd]

theorem svgLoop_implicit_ok (fuel : Nat) (st st' : SvgSt K) {l l2 : Lx} {ws r : List UInt8} {b : UInt8} (h : l.rem = ws ++ b :: r)
    (hws : ∀ b ∈ ws, isWs b = true) (hb : isNumStart b = true) (hlc : st.last_cmd ≠ 0) (hinv : st.Inv)
    (hcmd : svgCommand st.last_cmd st l = .ok st' l2) : svgLoop (fuel + 1) st l = svgLoop fuel st' l2 := by
  rw [svgLoop_implicit fuel st h hws hb hlc hinv, svgAfterCmd, hcmd]

end

/-- a flag with the white space in front of it and the separator behind it: `ws* ('0'|'1') ws* ','?` -/
structure FlagChunk where
  ws : List UInt8 := []
  flag : UInt8
  sep : List UInt8 := []

def FlagChunk.bytes (k : FlagChunk) : List UInt8 := k.ws ++ k.flag :: k.sep
def FlagChunk.value (k : FlagChunk) : Bool := k.flag == 49

structure FlagChunk.Ok (k : FlagChunk) (r : List UInt8) : Prop where
  ws : ∀ c ∈ k.ws, isWs c = true
  flag : k.flag = 48 ∨ k.flag = 49
  sep : SepOk k.sep r

theorem getFlag_chunk {l : Lx} {k : FlagChunk} {r : List UInt8} (h : l.rem = k.bytes ++ r) (hk : k.Ok r) :
    getFlag l = .ok k.value (l.adv (k.ws.length + 1)) ∧
    optComma (l.adv (k.ws.length + 1)) = some (l.adv k.bytes.length) := by
  have h' : l.rem = k.ws ++ k.flag :: (k.sep ++ r) := by rw [h]; simp [FlagChunk.bytes]
  have hnws : isWs k.flag = false := by rcases hk.flag with h | h <;> rw [h] <;> decide
  constructor
  · unfold getFlag
    simp only
    rw [skipWs_rem h' hk.ws (StopsAt.cons hnws)]
    have h1 : (l.adv k.ws.length).rem = k.flag :: (k.sep ++ r) := Lx.rem_adv h'
    rw [Lx.getByte_cons h1]
    simp only [Lx.adv_adv, FlagChunk.value]
    rcases hk.flag with hf | hf <;> rw [hf] <;> rfl
  · rw [optComma_rem (Lx.rem_adv_cons h') hk.sep, Lx.adv_adv]
    have : k.bytes.length = k.ws.length + 1 + k.sep.length := by
      simp only [FlagChunk.bytes, List.length_append, List.length_cons]; omega
    rw [this]

-- decidable equality of results, for the concrete `decide +kernel` examples
deriving instance DecidableEq for Lx, LR, SvgSt, SvgRes

end Kurbo
