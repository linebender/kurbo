import Proofs.Lemmas.KernelEqs
import Mathlib.Tactic.LinearCombination
/-! A segment is the curve it traces.  `subsegment ⟨t0, t1⟩` traces `u ↦ eval (t0 + u·(t1 − t0))` (`*.subsegment_eval`)
    and a line, a quadratic, a cubic is determined by the curve it traces (`*_ext_eval`); so two segments built in
    different ways (sub-segment of a sub-segment, of an affine image, a piece of `subdivide`) are compared through
    `eval`, never control point by control point. -/
set_option linter.unusedSectionVars false
namespace Kurbo
variable {K : Type} [Field K] [LinearOrder K] [IsStrictOrderedRing K] [FloorRing K] [Scalar K] [LawfulScalar K]

theorem Line.subsegment_eval (c : Line K) (t0 t1 u : K) :
    (c.subsegment ⟨t0, t1⟩).eval u = c.eval (t0 + u * (t1 - t0)) := by
  simp only [Point.ext_iff, Line.subsegment_eq, Line.eval_xy]
  constructor <;> ring
theorem QuadBez.subsegment_eval (c : QuadBez K) (t0 t1 u : K) :
    (c.subsegment ⟨t0, t1⟩).eval u = c.eval (t0 + u * (t1 - t0)) := by
  simp only [Point.ext_iff, QuadBez.subsegment_eq, QuadBez.eval_xy, QuadBez.deriv_eval_xy]
  constructor <;> ring
theorem CubicBez.subsegment_eval (c : CubicBez K) (t0 t1 u : K) :
    (c.subsegment ⟨t0, t1⟩).eval u = c.eval (t0 + u * (t1 - t0)) := by
  simp only [Point.ext_iff, CubicBez.subsegment_eq, CubicBez.eval_xy, CubicBez.deriv_eval_xy]
  constructor <;> ring

theorem line_ext_eval {l₁ l₂ : Line K} (h : ∀ t, l₁.eval t = l₂.eval t) : l₁ = l₂ := by
  have h0 := h 0
  have h1 := h 1
  simp only [Point.ext_iff, Line.eval_xy, mul_zero, mul_one, add_zero, add_sub_cancel] at h0 h1
  obtain ⟨⟨_, _⟩, ⟨_, _⟩⟩ := l₁
  obtain ⟨⟨_, _⟩, ⟨_, _⟩⟩ := l₂
  simp only at h0 h1
  rw [h0.1, h0.2, h1.1, h1.2]

/-- a quadratic polynomial in Bernstein form is determined by its values at `0`, `1`, `2` -/
theorem bernstein2_inj {a0 a1 a2 b0 b1 b2 : K}
    (h : ∀ t : K, a0 * (1 - t) ^ 2 + 2 * a1 * ((1 - t) * t) + a2 * t ^ 2
      = b0 * (1 - t) ^ 2 + 2 * b1 * ((1 - t) * t) + b2 * t ^ 2) : a0 = b0 ∧ a1 = b1 ∧ a2 = b2 := by
  have e0 : a0 = b0 := by linear_combination h 0
  have e2 : a2 = b2 := by linear_combination h 1
  exact ⟨e0, by linear_combination (1 / 4 : K) * e0 + e2 - (1 / 4 : K) * h 2, e2⟩

theorem quad_ext_eval {q₁ q₂ : QuadBez K} (h : ∀ t, q₁.eval t = q₂.eval t) : q₁ = q₂ := by
  simp only [quad_eval_bern, Point.mk.injEq] at h
  obtain ⟨x0, x1, x2⟩ := bernstein2_inj fun t => (h t).1
  obtain ⟨y0, y1, y2⟩ := bernstein2_inj fun t => (h t).2
  obtain ⟨⟨_, _⟩, ⟨_, _⟩, ⟨_, _⟩⟩ := q₁
  obtain ⟨⟨_, _⟩, ⟨_, _⟩, ⟨_, _⟩⟩ := q₂
  simp only at x0 x1 x2 y0 y1 y2
  rw [x0, x1, x2, y0, y1, y2]

/-- a cubic polynomial in Bernstein form is determined by its values at `0`, `1`, `2`, `-1` -/
theorem bernstein3_inj {a0 a1 a2 a3 b0 b1 b2 b3 : K}
    (h : ∀ t : K, a0 * (1 - t) ^ 3 + 3 * a1 * ((1 - t) ^ 2 * t) + 3 * a2 * ((1 - t) * t ^ 2) + a3 * t ^ 3
      = b0 * (1 - t) ^ 3 + 3 * b1 * ((1 - t) ^ 2 * t) + 3 * b2 * ((1 - t) * t ^ 2) + b3 * t ^ 3) :
    a0 = b0 ∧ a1 = b1 ∧ a2 = b2 ∧ a3 = b3 := by
  have e0 : a0 = b0 := by linear_combination h 0
  have e1 : a3 = b3 := by linear_combination h 1
  have e2 : -a0 + 6 * a1 - 12 * a2 + 8 * a3 = -b0 + 6 * b1 - 12 * b2 + 8 * b3 := by linear_combination h 2
  have e3 : 8 * a0 - 12 * a1 + 6 * a2 - a3 = 8 * b0 - 12 * b1 + 6 * b2 - b3 := by linear_combination h (-1)
  refine ⟨e0, ?_, ?_, e1⟩
  · linear_combination (5 / 6 : K) * e0 + (1 / 3 : K) * e1 - (1 / 18 : K) * e2 - (1 / 9 : K) * e3
  · linear_combination (1 / 3 : K) * e0 + (5 / 6 : K) * e1 - (1 / 9 : K) * e2 - (1 / 18 : K) * e3

theorem cubic_ext_eval {c₁ c₂ : CubicBez K} (h : ∀ t, c₁.eval t = c₂.eval t) : c₁ = c₂ := by
  simp only [cubic_eval_bern, Point.mk.injEq] at h
  obtain ⟨x0, x1, x2, x3⟩ := bernstein3_inj fun t => (h t).1
  obtain ⟨y0, y1, y2, y3⟩ := bernstein3_inj fun t => (h t).2
  obtain ⟨⟨_, _⟩, ⟨_, _⟩, ⟨_, _⟩, ⟨_, _⟩⟩ := c₁
  obtain ⟨⟨_, _⟩, ⟨_, _⟩, ⟨_, _⟩, ⟨_, _⟩⟩ := c₂
  simp only at x0 x1 x2 x3 y0 y1 y2 y3
  rw [x0, x1, x2, x3, y0, y1, y2, y3]

end Kurbo
