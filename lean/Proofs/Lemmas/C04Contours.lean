import Proofs.Lemmas.C04Inv
/-! Helper definitions and lemmas for C04 (structure; any `[Scalar K]`, core Lean only): the tracker of the source
    (`c04_hasSegment`), the rule `c04_loop_rule` by which a relation kept by a line, by `finish` and by `finish_closed` is kept
    by the element loop, and with it what `stroke_undashed` returns on a polyline (`c04_strokeUndashed_summary`). -/
namespace Kurbo
variable {K : Type} [Scalar K]

/-- the stroker's view of the source: start point of the sub-path, current point, and whether some `LineTo`/`ClosePath` so far
    moved the current point (compared with the crate's `!=` on points) -/
structure C04Trk (K : Type) where
  start : Point K
  last : Point K
  seen : Bool

def c04_trkStep (s : C04Trk K) : PathEl K → C04Trk K
  | .MoveTo p => ⟨p, p, s.seen⟩
  | .LineTo p1 => if !(p1.peq s.last) then ⟨s.start, p1, true⟩ else s
  | .ClosePath => if !(s.last.peq s.start) then ⟨s.start, s.start, true⟩ else s
  | _ => s

/-- the initial current point of `StrokeCtx::default()` is the origin -/
def c04_trkInit : C04Trk K := open Ops in ⟨⟨0, 0⟩, ⟨0, 0⟩, false⟩

def c04_trk (els : List (PathEl K)) : C04Trk K := els.foldl c04_trkStep c04_trkInit

/-- some `LineTo` target differs from the current point, or some `ClosePath` finds the current point away from the start -/
def c04_hasSegment (els : List (PathEl K)) : Bool := (c04_trk els).seen

/-- Every step of the element loop is a line to a new point (`hline`; `hback` is the closing line of `ClosePath`), `finish`
    followed by the reset of `MoveTo` (`hmove`), or `finish_closed` on a sub-path in progress whose current point is back at
    the start (`hclosed`): a relation `J` kept by these is kept by the loop on a polyline whose elements satisfy `E`.  The
    tracker `s` runs beside the context and agrees with it on the start point and the current point, so `J` may speak of
    `c04_trk els` at the end. -/
theorem c04_loop_rule (style : StrokeStyle K) (J : C04Trk K → StrokeCtx K → Prop) (E : PathEl K → Prop)
    (hmove : ∀ s c p, E (.MoveTo p) → J s c →
      ∃ c', c.finish style = some c' ∧ J ⟨p, p, s.seen⟩ { c' with start_pt := p, last_pt := p })
    (hline : ∀ s c p1, E (.LineTo p1) → J s c → p1.peq c.last_pt = false → J ⟨s.start, p1, true⟩ (c04_stepLine style c p1))
    (hback : ∀ s c, J s c → c.last_pt.peq c.start_pt = false → J ⟨s.start, s.start, true⟩ (c04_stepLine style c c.start_pt))
    (hclosed : ∀ s c, J s c → c.forward_path ≠ [] → (c.last_pt.peq c.start_pt = true ∨ c.last_pt = c.start_pt) →
      ∃ c', c.finish_closed style = some c' ∧ J s c')
    (els : List (PathEl K)) (s : C04Trk K) (c : StrokeCtx K) (hp : ∀ e ∈ els, c04_isPoly e = true) (hE : ∀ e ∈ els, E e)
    (hs : c.start_pt = s.start) (hl : c.last_pt = s.last) (hJ : J s c) :
    ∃ cf, J (els.foldl c04_trkStep s) cf ∧ strokeLoop style els c = strokeLoop style [] cf := by
  induction els generalizing s c with
  | nil => exact ⟨c, hJ, rfl⟩
  | cons el rest ih =>
    have hel := hp el List.mem_cons_self
    have hEl := hE el List.mem_cons_self
    have hstep : ∃ c1, c04_step style c el = some c1 ∧ J (c04_trkStep s el) c1 ∧ c1.start_pt = (c04_trkStep s el).start ∧
        c1.last_pt = (c04_trkStep s el).last := by
      cases el with
      | QuadTo _ _ => cases hel
      | CurveTo _ _ _ => cases hel
      | MoveTo p =>
        obtain ⟨c', hf, hJ'⟩ := hmove s c p hEl hJ
        exact ⟨_, by simp only [c04_step, hf], hJ', rfl, rfl⟩
      | LineTo p1 =>
        cases hd : p1.peq c.last_pt with
        | true =>
          have : c04_trkStep s (.LineTo p1) = s := by
            simp only [c04_trkStep, ← hl, hd, Bool.not_true, Bool.false_eq_true, if_false]
          rw [this]
          exact ⟨c, by simp only [c04_step, hd, Bool.not_true, Bool.false_eq_true, if_false], hJ, hs, hl⟩
        | false =>
          have : c04_trkStep s (.LineTo p1) = ⟨s.start, p1, true⟩ := by
            simp only [c04_trkStep, ← hl, hd, Bool.not_false, if_true]
          rw [this]
          obtain ⟨-, -, hs1, hl1⟩ := c04_stepLine_fields style c p1
          exact ⟨_, by simp only [c04_step, hd, Bool.not_false, if_true], hline s c p1 hEl hJ hd, hs1.trans hs, hl1⟩
      | ClosePath =>
        show ∃ c1, (c04_closePrep style c).finish_closed style = some c1 ∧ _
        rw [c04_closePrep_eq]
        cases hd : c.last_pt.peq c.start_pt with
        | true =>
          have : c04_trkStep s .ClosePath = s := by
            simp only [c04_trkStep, ← hl, ← hs, hd, Bool.not_true, Bool.false_eq_true, if_false]
          rw [this]
          simp only [Bool.not_true, Bool.false_eq_true, if_false]
          by_cases he : c.forward_path = []
          · exact ⟨c, c04_finish_closed_empty c style he, hJ, hs, hl⟩
          · obtain ⟨c', hc', hJ'⟩ := hclosed s c hJ he (Or.inl hd)
            obtain ⟨f1, f2⟩ := c04_finish_closed_fields style c c' hc'
            exact ⟨c', hc', hJ', f1.trans hs, f2.trans hl⟩
        | false =>
          have : c04_trkStep s .ClosePath = ⟨s.start, s.start, true⟩ := by
            simp only [c04_trkStep, ← hl, ← hs, hd, Bool.not_false, if_true]
          rw [this]
          simp only [Bool.not_false, if_true]
          obtain ⟨hne, -, hs1, hl1⟩ := c04_stepLine_fields style c c.start_pt
          obtain ⟨c', hc', hJ'⟩ := hclosed _ _ (hback s c hJ hd) hne (Or.inr (hl1.trans hs1.symm))
          obtain ⟨f1, f2⟩ := c04_finish_closed_fields style _ c' hc'
          exact ⟨c', hc', hJ', f1.trans (hs1.trans hs), f2.trans (hl1.trans hs)⟩
    obtain ⟨c1, hc1, hJ1, hs1, hl1⟩ := hstep
    obtain ⟨cf, hJf, hres⟩ := ih (c04_trkStep s el) c1 (fun e he => hp e (List.mem_cons_of_mem _ he))
      (fun e he => hE e (List.mem_cons_of_mem _ he)) hs1 hl1 hJ1
    exact ⟨cf, hJf, by rw [c04_strokeLoop_cons style el rest c hel, hc1]; exact hres⟩

/-- `out` is a concatenation of contours of the kind the stroker emits -/
def c04_OutGood (style : StrokeStyle K) (out : List (PathEl K)) : Prop :=
  ∃ cs : List (List (PathEl K)), out = cs.flatten ∧ ∀ x ∈ cs, c04_Good style x

theorem c04_OutGood_append {style : StrokeStyle K} {out : List (PathEl K)} {cs : List (List (PathEl K))}
    (h : c04_OutGood style out) (hcs : ∀ x ∈ cs, c04_Good style x) : c04_OutGood style (out ++ cs.flatten) := by
  obtain ⟨cs0, e0, h0⟩ := h
  refine ⟨cs0 ++ cs, by rw [List.flatten_append, e0], ?_⟩
  intro x hx
  rcases List.mem_append.1 hx with h | h
  · exact h0 x h
  · exact hcs x h

theorem c04_Good_ne_nil {style : StrokeStyle K} {x : List (PathEl K)} (h : c04_Good style x) : x ≠ [] := by
  rcases h with ⟨p, mid, rfl, _⟩ | ⟨_, q, tl, s, n, mid, rfl, _⟩ <;> exact List.cons_ne_nil _ _

theorem c04_Good_flatten_ne_nil {style : StrokeStyle K} {cs : List (List (PathEl K))} (hlen : cs.length = 1)
    (hgood : ∀ x ∈ cs, c04_Good style x) : cs.flatten ≠ [] := by
  match cs, hlen, hgood with
  | [x], _, hg =>
    rw [List.flatten_cons, List.flatten_nil, List.append_nil]
    exact c04_Good_ne_nil (hg x List.mem_cons_self)

/-- what the loop keeps: the context invariant, good contours so far, and the tracker's flag says whether anything has been
    emitted or is in progress -/
def c04_J (style : StrokeStyle K) (s : C04Trk K) (c : StrokeCtx K) : Prop :=
  C04Inv c ∧ c04_OutGood style c.output ∧ (s.seen = false → c.output = [] ∧ c.forward_path = []) ∧
    (s.seen = true → c.output ≠ [] ∨ c.forward_path ≠ [])

theorem c04_J_line (style : StrokeStyle K) (s : C04Trk K) (c : StrokeCtx K) (p1 q : Point K) (h : c04_J style s c) :
    c04_J style ⟨s.start, q, true⟩ (c04_stepLine style c p1) := by
  obtain ⟨hne, ho, -, -⟩ := c04_stepLine_fields style c p1
  exact ⟨c04_stepLine_inv style c p1 h.1, by rw [ho]; exact h.2.1, fun h0 => (nomatch h0), fun _ => Or.inr hne⟩

theorem c04_J_init (style : StrokeStyle K) (jt : K) :
    c04_J style c04_trkInit
      ({ start_pt := open Ops in ⟨0, 0⟩, start_norm := open Ops in ⟨0, 0⟩, start_tan := open Ops in ⟨0, 0⟩,
         last_pt := open Ops in ⟨0, 0⟩, last_tan := open Ops in ⟨0, 0⟩, join_thresh := jt } : StrokeCtx K) :=
  ⟨.of_empty rfl rfl fun _ => rfl, ⟨[], rfl, fun _ h => (nomatch h)⟩, fun _ => ⟨rfl, rfl⟩, fun h => (nomatch h)⟩

theorem c04_J_finish {style : StrokeStyle K} {s : C04Trk K} {c : StrokeCtx K} (h : c04_J style s c) :
    ∃ cs : List (List (PathEl K)), (∀ x ∈ cs, c04_Good style x) ∧ (c.output ++ cs.flatten = [] ↔ s.seen = false) ∧
      c.finish style = some { c with output := c.output ++ cs.flatten, forward_path := [], backward_path := [] } := by
  obtain ⟨hinv, -, hun, hseen⟩ := h
  obtain ⟨cs, hgood, hlen, hnil, hfin⟩ := c04_finish_spec style c hinv
  refine ⟨cs, hgood, ⟨fun h0 => ?_, fun hs => ?_⟩, hfin⟩
  · cases hs : s.seen with
    | false => rfl
    | true =>
      exfalso
      rcases hseen hs with h | h
      · exact h (List.append_eq_nil_iff.1 h0).1
      · exact c04_Good_flatten_ne_nil (hlen h) hgood (List.append_eq_nil_iff.1 h0).2
  · rw [(hun hs).1, hnil (hun hs).2]
    rfl

theorem c04_strokeUndashed_summary (els : List (PathEl K)) (style : StrokeStyle K) (tolerance : K)
    (hp : ∀ e ∈ els, c04_isPoly e = true) :
    ∃ out, strokeUndashed els style tolerance = .ok out ∧ c04_OutGood style out ∧
      (out = [] ↔ c04_hasSegment els = false) := by
  obtain ⟨cf, hJ, hres⟩ := c04_loop_rule style (c04_J style) (fun _ => True)
    (fun s c p _ hJ => by
      obtain ⟨cs1, hgood, hiff, hfin⟩ := c04_J_finish hJ
      exact ⟨_, hfin, .of_empty rfl rfl fun _ => rfl, c04_OutGood_append hJ.2.1 hgood, fun hs => ⟨hiff.2 hs, rfl⟩,
        fun hs => Or.inl fun h0 => Bool.false_ne_true ((hiff.1 h0).symm.trans hs)⟩)
    (fun s c p1 _ h _ => c04_J_line style s c p1 p1 h)
    (fun s c h _ => c04_J_line style s c c.start_pt s.start h)
    (fun s c ⟨hinv, hout, hun, hseen⟩ hne hls => by
      obtain ⟨x1, x2, c', hx1, hx2, hfc, ho, hf, hb⟩ := c04_finish_closed_spec style c hinv hne
      obtain ⟨hs', hl'⟩ := c04_finish_closed_fields style c c' hfc
      refine ⟨c', hfc, .of_empty hf hb fun hps => ?_, ?_, fun h => ?_, fun _ => Or.inl ?_⟩
      · rw [hl', hs']; exact hls.elim (hps _ _) id
      · rw [ho]
        have := c04_OutGood_append (cs := [x1, x2]) hout (by
          intro x hx
          simp only [List.mem_cons, List.not_mem_nil, or_false] at hx
          rcases hx with rfl | rfl
          · exact Or.inl hx1
          · exact Or.inl hx2)
        simpa using this
      · exact absurd (hun h).2 hne
      · rw [ho]
        obtain ⟨p, mid, rfl, _⟩ := hx1
        simp)
    els c04_trkInit _ hp (fun _ _ => trivial) rfl rfl (c04_J_init style (open Ops in (2 : K) * tolerance / style.width))
  obtain ⟨cs, hgood, hiff, hfin⟩ := c04_J_finish hJ
  rw [c04_strokeLoop_nil, hfin] at hres
  exact ⟨_, hres, c04_OutGood_append hJ.2.1 hgood, hiff⟩

end Kurbo
