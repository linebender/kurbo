import Proofs.KDefs
import Proofs.C06
import Kurbo.Quads
import Mathlib.Tactic.LinearCombination
/-! `CubicBez.to_quads`, for all the properties that use it.  Piece `i` of `n` is the quadratic
    `quadOfCubic` put in place of `cubicPiece c n i`, the `i`-th of the `n` equal parameter pieces of the cubic
    (`toQuadsPiece_eq_piece`); a piece at `s` belongs to the parameter `(i + s)/n` of the cubic, and these parameters
    cover `[0,1]` (`uniform_mem`, `uniform_cover`).  The error is computed in two steps: `quadOfCubic seg` differs from
    `seg` by `−D(seg)·s(s−½)(s−1)` (`D` the third difference), and the third difference of a sub-segment of length `h` is
    `h³·D`; the piece count compares `|D|²` with `432·a²` (`toQuadsN_eq`, `toQuadsErr_eq`, `toQuadsMax_eq`). -/
set_option linter.unusedSectionVars false

namespace Kurbo

section structural
variable {K : Type} [Scalar K]

theorem toQuadsN_pos (c : CubicBez K) (a : K) : 1 ≤ toQuadsN c a := by
  unfold toQuadsN
  simp only
  split_ifs with h
  · exact le_refl 1
  · omega

open Ops in
/-- `err` of `to_quads` -/
def toQuadsErr (c : CubicBez K) : K :=
  (((3 : K) * c.p2.to_vec2 - c.p3.to_vec2) - ((3 : K) * c.p1.to_vec2 - c.p0.to_vec2)).hypot2

open Ops in
/-- `max_hypot2` of `to_quads` -/
def toQuadsMax (accuracy : K) : K := (432 : K) * accuracy * accuracy

open Ops in
theorem toQuadsN_eq (c : CubicBez K) (accuracy : K) :
    toQuadsN c accuracy =
      if Scalar.toUSize (Scalar.ceil (Scalar.powf (toQuadsErr c / toQuadsMax accuracy) ((1 : K) / (6 : K)))) < 1 then 1
      else Scalar.toUSize (Scalar.ceil (Scalar.powf (toQuadsErr c / toQuadsMax accuracy) ((1 : K) / (6 : K)))) := rfl

open Ops in
/-- the quadratic that `ToQuads::next` puts in place of the cubic piece `seg`: same end points, control point
    `((3·p1 − p0) + (3·p2 − p3)) / 4` -/
def quadOfCubic (seg : CubicBez K) : QuadBez K :=
  QuadBez.new seg.p0
    ((((3 : K) * seg.p1.to_vec2 - seg.p0.to_vec2) + ((3 : K) * seg.p2.to_vec2 - seg.p3.to_vec2)) / (4 : K)).to_point seg.p3

open Ops in
theorem toQuadsPiece_eq (c : CubicBez K) (n i : Nat) :
    toQuadsPiece c n i = (natK i / natK n, natK (i + 1) / natK n,
      quadOfCubic (c.subsegment ⟨natK i / natK n, natK (i + 1) / natK n⟩)) := rfl

theorem getElem?_to_quads (c : CubicBez K) (a : K) (i : Nat) (p : K × K × QuadBez K) :
    (c.to_quads a)[i]? = some p ↔ i < toQuadsN c a ∧ p = toQuadsPiece c (toQuadsN c a) i := by
  unfold CubicBez.to_quads
  rw [List.getElem?_map]
  by_cases hi : i < toQuadsN c a
  · rw [List.getElem?_range hi]
    exact ⟨fun h => ⟨hi, (Option.some.inj h).symm⟩, fun h => by rw [h.2]; rfl⟩
  · rw [List.getElem?_eq_none (by simpa using hi)]
    exact ⟨fun h => (by cases h), fun h => absurd h.1 hi⟩

theorem mem_to_quads (c : CubicBez K) (a : K) (piece : K × K × QuadBez K) :
    piece ∈ c.to_quads a ↔ ∃ i, i < toQuadsN c a ∧ piece = toQuadsPiece c (toQuadsN c a) i := by
  rw [List.mem_iff_getElem?]
  exact exists_congr fun i => getElem?_to_quads c a i piece

theorem to_quads_ne_nil (c : CubicBez K) (a : K) : c.to_quads a ≠ [] := by
  unfold CubicBez.to_quads
  exact List.ne_nil_of_length_pos (by rw [List.length_map, List.length_range]; exact toQuadsN_pos c a)

end structural

variable {K : Type} [Field K] [LinearOrder K] [IsStrictOrderedRing K] [FloorRing K] [Scalar K] [LawfulScalar K]

@[scalar_norm] theorem natK_eq (n : Nat) : (natK n : K) = (n : K) := by
  simp [natK, scalar_norm]

theorem uniform_param (n i : Nat) (s : K) :
    (i : K) / n + s * (((i : K) + 1) / n - (i : K) / n) = ((i : K) + s) / n := by ring

theorem uniform_mem {n i : Nat} (hi : i < n) {s : K} (hs0 : 0 ≤ s) (hs1 : s ≤ 1) :
    0 ≤ ((i : K) + s) / n ∧ ((i : K) + s) / n ≤ 1 := by
  have hn : (0 : K) < n := Nat.cast_pos.mpr (Nat.zero_lt_of_lt hi)
  have h1 : (i : K) + 1 ≤ n := by exact_mod_cast hi
  exact ⟨div_nonneg (add_nonneg (Nat.cast_nonneg _) hs0) hn.le, (div_le_one hn).mpr (by linarith)⟩

theorem uniform_cover {n : Nat} (hn : 0 < n) {t : K} (ht0 : 0 ≤ t) (ht1 : t ≤ 1) :
    ∃ i, i < n ∧ ∃ s : K, 0 ≤ s ∧ s ≤ 1 ∧ t = ((i : K) + s) / n := by
  have hnK : (0 : K) < n := Nat.cast_pos.mpr hn
  have htn0 : 0 ≤ t * n := mul_nonneg ht0 hnK.le
  have e : ∀ i : Nat, t = ((i : K) + (t * n - i)) / n := fun i => by
    rw [add_sub_cancel, mul_div_cancel_right₀ t hnK.ne']
  rcases lt_or_ge ⌊t * n⌋₊ n with h | h
  · exact ⟨⌊t * n⌋₊, h, t * n - ⌊t * n⌋₊, sub_nonneg.mpr (Nat.floor_le htn0),
      sub_le_iff_le_add'.mpr (Nat.lt_floor_add_one _).le, e _⟩
  · -- only `t = 1` gets here: it is the last piece at `s = 1`
    have h1 : (n : K) ≤ t * n := (Nat.cast_le.mpr h).trans (Nat.floor_le htn0)
    have h2 : t * n ≤ n := (mul_le_mul_of_nonneg_right ht1 hnK.le).trans_eq (one_mul _)
    have hc : ((n - 1 : Nat) : K) = (n : K) - 1 := by rw [Nat.cast_sub hn, Nat.cast_one]
    exact ⟨n - 1, Nat.sub_lt hn Nat.one_pos, t * n - (n - 1 : Nat), by rw [hc]; linarith, by rw [hc]; linarith, e _⟩

theorem uniform_last {n : Nat} (hn : 0 < n) : (((n - 1 : Nat) : K) + 1) / n = 1 := by
  rw [Nat.cast_sub hn, Nat.cast_one, sub_add_cancel, div_self (Nat.cast_pos.mpr hn).ne']

theorem cubic_subsegment_p0 (c : CubicBez K) (a b : K) : (c.subsegment ⟨a, b⟩).p0 = c.eval a := rfl
theorem cubic_subsegment_p3 (c : CubicBez K) (a b : K) : (c.subsegment ⟨a, b⟩).p3 = c.eval b := rfl

/-- the `k`-th of `n` equal parameter pieces of a cubic -/
def cubicPiece (c : CubicBez K) (n k : Nat) : CubicBez K := c.subsegment ⟨(k : K) / n, ((k : K) + 1) / n⟩

theorem cubicPiece_eval (c : CubicBez K) (n k : Nat) (t : K) :
    (cubicPiece c n k).eval t = c.eval (((k : K) + t) / n) := by
  unfold cubicPiece; rw [CubicBez.subsegment_eval, uniform_param]

theorem cubicPiece_p0 (c : CubicBez K) (n k : Nat) : (cubicPiece c n k).p0 = c.eval ((k : K) / n) :=
  cubic_subsegment_p0 c _ _
theorem cubicPiece_p3 (c : CubicBez K) (n k : Nat) : (cubicPiece c n k).p3 = c.eval (((k : K) + 1) / n) :=
  cubic_subsegment_p3 c _ _

theorem cubicPiece_join (c : CubicBez K) (n k : Nat) : (cubicPiece c n k).p3 = (cubicPiece c n (k + 1)).p0 := by
  rw [cubicPiece_p0, cubicPiece_p3]; push_cast; rfl

theorem cubicPiece_first (c : CubicBez K) (n : Nat) : (cubicPiece c n 0).p0 = c.p0 := by
  rw [cubicPiece_p0]; simp only [Nat.cast_zero, zero_div]; exact (cubic_eval_zero_one c).1

theorem cubicPiece_last (c : CubicBez K) (n : Nat) : (cubicPiece c (n + 1) n).p3 = c.p3 := by
  rw [cubicPiece_p3]
  exact (congrArg c.eval (uniform_last (K := K) (Nat.succ_pos n))).trans (cubic_eval_zero_one c).2

theorem toQuadsPiece_eq_piece (c : CubicBez K) (n i : Nat) :
    toQuadsPiece c n i = ((i : K) / n, ((i : K) + 1) / n, quadOfCubic (cubicPiece c n i)) := by
  rw [toQuadsPiece_eq]
  simp only [sn_div, natK_eq, Nat.cast_add, Nat.cast_one, cubicPiece]

theorem toQuadsErr_eq (c : CubicBez K) :
    toQuadsErr c = (c.p3.x - 3 * c.p2.x + 3 * c.p1.x - c.p0.x) ^ 2 + (c.p3.y - 3 * c.p2.y + 3 * c.p1.y - c.p0.y) ^ 2 := by
  unfold toQuadsErr
  kring

theorem toQuadsErr_nonneg (c : CubicBez K) : 0 ≤ toQuadsErr c := by
  rw [toQuadsErr_eq]; positivity

theorem toQuadsMax_eq (a : K) : toQuadsMax a = 432 * a ^ 2 := by
  unfold toQuadsMax
  simp only [scalar_norm]
  push_cast
  ring

theorem quadOfCubic_error (seg : CubicBez K) (s : K) :
    ((quadOfCubic seg).eval s).x - (seg.eval s).x
      = -(seg.p3.x - 3 * seg.p2.x + 3 * seg.p1.x - seg.p0.x) * (s * (s - 1 / 2) * (s - 1)) ∧
    ((quadOfCubic seg).eval s).y - (seg.eval s).y
      = -(seg.p3.y - 3 * seg.p2.y + 3 * seg.p1.y - seg.p0.y) * (s * (s - 1 / 2) * (s - 1)) := by
  unfold quadOfCubic
  kring

theorem third_diff_subsegment (c : CubicBez K) (t0 t1 : K) :
    (c.subsegment ⟨t0, t1⟩).p3.x - 3 * (c.subsegment ⟨t0, t1⟩).p2.x + 3 * (c.subsegment ⟨t0, t1⟩).p1.x
        - (c.subsegment ⟨t0, t1⟩).p0.x = (c.p3.x - 3 * c.p2.x + 3 * c.p1.x - c.p0.x) * (t1 - t0) ^ 3 ∧
    (c.subsegment ⟨t0, t1⟩).p3.y - 3 * (c.subsegment ⟨t0, t1⟩).p2.y + 3 * (c.subsegment ⟨t0, t1⟩).p1.y
        - (c.subsegment ⟨t0, t1⟩).p0.y = (c.p3.y - 3 * c.p2.y + 3 * c.p1.y - c.p0.y) * (t1 - t0) ^ 3 := by
  kring

theorem quadOfCubic_piece_error (c : CubicBez K) (n i : Nat) (s : K) :
    ((quadOfCubic (cubicPiece c n i)).eval s).x - (c.eval (((i : K) + s) / n)).x
      = -(c.p3.x - 3 * c.p2.x + 3 * c.p1.x - c.p0.x) * (1 / (n : K)) ^ 3 * (s * (s - 1 / 2) * (s - 1)) ∧
    ((quadOfCubic (cubicPiece c n i)).eval s).y - (c.eval (((i : K) + s) / n)).y
      = -(c.p3.y - 3 * c.p2.y + 3 * c.p1.y - c.p0.y) * (1 / (n : K)) ^ 3 * (s * (s - 1 / 2) * (s - 1)) := by
  obtain ⟨hx, hy⟩ := quadOfCubic_error (cubicPiece c n i) s
  obtain ⟨dx, dy⟩ := third_diff_subsegment c ((i : K) / n) (((i : K) + 1) / n)
  rw [cubicPiece_eval] at hx hy
  have e : ((i : K) + 1) / n - (i : K) / n = 1 / n := by ring
  unfold cubicPiece at hx hy ⊢
  rw [e] at dx dy
  rw [hx, hy, dx, dy]
  exact ⟨by ring, by ring⟩

theorem cubic_s_bound (s : K) (h0 : 0 ≤ s) (h1 : s ≤ 1) : (s * (s - 1 / 2) * (s - 1)) ^ 2 ≤ 1 / 432 := by
  have hu : 0 ≤ s * (1 - s) := mul_nonneg h0 (sub_nonneg.mpr h1)
  -- with `u = s(1−s)`: `1/432 − (s(s−½)(s−1))² = (u − 1/6)²·(u + 1/12)`
  linear_combination mul_nonneg (sq_nonneg (s * (1 - s) - 1 / 6)) (add_nonneg hu (by norm_num : (0 : K) ≤ 1 / 12))

/-- pure algebra behind the error bound: `δ` is the length `1/n` of a piece (`N = n⁶`) -/
theorem err_alg (Dx Dy a w δ N : K) (hδ : δ ^ 6 * N = 1)
    (h : Dx ^ 2 + Dy ^ 2 ≤ N * (432 * a ^ 2)) (hw : w ^ 2 ≤ 1 / 432) :
    (-Dx * δ ^ 3 * w) ^ 2 + (-Dy * δ ^ 3 * w) ^ 2 ≤ a ^ 2 := by
  have h1 : (Dx ^ 2 + Dy ^ 2) * (δ ^ 6 * w ^ 2) ≤ N * (432 * a ^ 2) * (δ ^ 6 * w ^ 2) :=
    mul_le_mul_of_nonneg_right h (mul_nonneg (Even.pow_nonneg (by decide) δ) (sq_nonneg w))
  have h2 : 432 * a ^ 2 * w ^ 2 ≤ 432 * a ^ 2 * (1 / 432) :=
    mul_le_mul_of_nonneg_left hw (mul_nonneg (by norm_num) (sq_nonneg a))
  linear_combination h1 + h2 + 432 * a ^ 2 * w ^ 2 * hδ

theorem quadOfCubic_piece_error_bound (c : CubicBez K) (n i : Nat) (hn : 1 ≤ n) (a : K)
    (h : (c.p3.x - 3 * c.p2.x + 3 * c.p1.x - c.p0.x) ^ 2 + (c.p3.y - 3 * c.p2.y + 3 * c.p1.y - c.p0.y) ^ 2
        ≤ (n : K) ^ 6 * (432 * a ^ 2))
    (s : K) (hs0 : 0 ≤ s) (hs1 : s ≤ 1) :
    (((quadOfCubic (cubicPiece c n i)).eval s).x - (c.eval (((i : K) + s) / n)).x) ^ 2
      + (((quadOfCubic (cubicPiece c n i)).eval s).y - (c.eval (((i : K) + s) / n)).y) ^ 2 ≤ a ^ 2 := by
  obtain ⟨hx, hy⟩ := quadOfCubic_piece_error c n i s
  rw [hx, hy]
  have hne : (n : K) ≠ 0 := Nat.cast_ne_zero.mpr (by omega)
  exact err_alg _ _ a _ _ _ (by rw [one_div, inv_pow, inv_mul_cancel₀ (pow_ne_zero 6 hne)]) h (cubic_s_bound s hs0 hs1)

end Kurbo
