import Proofs.Lemmas.C01
/-! Helper lemmas for C04C (pure crossing-indicator arithmetic, coordinates relative to the query point): the crossing
    sum (`kcr` of `Proofs/Lemmas/C01.lean`, half-open rule) of a positively oriented TRIANGLE is `≥ 0` at EVERY point (also on
    edges), that of a positively oriented PARALLELOGRAM is `≥ 0` at every point, `1` strictly inside, `0` outside the closed
    parallelogram.  Two facts about single edges carry this: between two vertices strictly on one side of a line through the
    query point the crossing number is a difference of a potential (`kcr_of_halfPlane`), and an edge with the query point on its
    left counts at least that difference (`above_sub_le_kcr`).  `Counts s I C` bundles the three facts in which the property
    theorems use a crossing sum `s`: `≥ 0`, `1` on the open part `I`, `0` off the closed part `C`. -/
set_option linter.unusedSectionVars false
namespace Kurbo
namespace C04C
open C11Tri
variable {K : Type} [Field K] [LinearOrder K] [IsStrictOrderedRing K] [FloorRing K] [Scalar K] [LawfulScalar K]

/-- the potential of `kcr_of_halfPlane`, `above_sub_le_kcr`: `1` strictly above the row of the query point -/
def above (y : K) : Int := if 0 < y then 1 else 0

/-- Two vertices strictly on one side of a line through the query point with direction `t`: the edge between them meets the
    row on the counted side exactly when `t` points upwards (`(a × b)·t.y = (a × t)·b.y − (b × t)·a.y` fixes the sign of
    `a × b` on a crossing edge), so its crossing number is a difference of `above` with a factor depending on `t` alone. -/
theorem kcr_of_halfPlane {ax ay bx by_ tx ty : K} (ha : ax * ty - ay * tx < 0) (hb : bx * ty - by_ * tx < 0) :
    kcr ax ay bx by_ = if 0 < ty then above ay - above by_ else 0 := by
  have I : (ax * by_ - ay * bx) * ty = (ax * ty - ay * tx) * by_ - (bx * ty - by_ * tx) * ay := by ring
  unfold above
  rcases lt_or_ge 0 ay with h1 | h1 <;> rcases lt_or_ge 0 by_ with h2 | h2
  · rw [kcr_above h1 h2, if_pos h1, if_pos h2, sub_self, ite_self]
  · have hp : 0 < (ax * by_ - ay * bx) * ty := by
      rw [I, sub_pos]
      exact (mul_neg_of_neg_of_pos hb h1).trans_le (mul_nonneg_of_nonpos_of_nonpos ha.le h2)
    rw [kcr_downward _ _ h2 h1, if_pos h1, if_neg (not_lt.mpr h2)]
    rcases pos_and_pos_or_neg_and_neg_of_mul_pos hp with ⟨hc, ht⟩ | ⟨hc, ht⟩
    · rw [if_pos hc.le, if_pos ht]; rfl
    · rw [if_neg (not_le.mpr hc), if_neg (not_lt.mpr ht.le)]
  · have hn : (ax * by_ - ay * bx) * ty < 0 := by
      rw [I, sub_neg]
      exact (mul_neg_of_neg_of_pos ha h2).trans_le (mul_nonneg_of_nonpos_of_nonpos hb.le h1)
    rw [kcr_upward _ _ h1 h2, if_neg (not_lt.mpr h1), if_pos h2]
    rcases mul_neg_iff.mp hn with ⟨hc, ht⟩ | ⟨hc, ht⟩
    · rw [if_neg (not_le.mpr hc), if_neg (not_lt.mpr ht.le)]
    · rw [if_pos hc.le, if_pos ht]; rfl
  · rw [kcr_below h1 h2, if_neg (not_lt.mpr h1), if_neg (not_lt.mpr h2), sub_self, ite_self]

def quadSum (ax ay bx by_ cx cy dx dy : K) : Int :=
  kcr ax ay bx by_ + kcr bx by_ cx cy + kcr cx cy dx dy + kcr dx dy ax ay

theorem quadSum_of_halfPlane {ax ay bx by_ cx cy dx dy tx ty : K} (ha : ax * ty - ay * tx < 0)
    (hb : bx * ty - by_ * tx < 0) (hc : cx * ty - cy * tx < 0) (hd : dx * ty - dy * tx < 0) :
    quadSum ax ay bx by_ cx cy dx dy = 0 := by
  unfold quadSum
  rw [kcr_of_halfPlane ha hb, kcr_of_halfPlane hb hc, kcr_of_halfPlane hc hd, kcr_of_halfPlane hd ha]
  split_ifs
  · ring
  · rfl

theorem triSum_of_halfPlane {ax ay bx by_ cx cy tx ty : K} (ha : ax * ty - ay * tx < 0) (hb : bx * ty - by_ * tx < 0)
    (hc : cx * ty - cy * tx < 0) : kcr ax ay bx by_ + kcr bx by_ cx cy + kcr cx cy ax ay = 0 := by
  rw [kcr_of_halfPlane ha hb, kcr_of_halfPlane hb hc, kcr_of_halfPlane hc ha]
  split_ifs
  · ring
  · rfl

/-- An edge that has the query point on its left or on its line counts `1` when it comes down through the row and at worst
    `−1` when it goes up, so around a closed polygon of such edges the crossing numbers add up to `≥ 0`. -/
theorem above_sub_le_kcr {ax ay bx by_ : K} (h : 0 ≤ ax * by_ - ay * bx) : above ay - above by_ ≤ kcr ax ay bx by_ := by
  unfold above
  rcases lt_or_ge 0 ay with h1 | h1 <;> rcases lt_or_ge 0 by_ with h2 | h2
  · rw [kcr_above h1 h2, if_pos h1, if_pos h2, sub_self]
  · rw [kcr_downward _ _ h2 h1, if_pos h1, if_neg (not_lt.mpr h2), if_pos h]
    decide
  · rw [kcr_upward _ _ h1 h2, if_neg (not_lt.mpr h1), if_pos h2]
    split_ifs <;> decide
  · rw [kcr_below h1 h2, if_neg (not_lt.mpr h1), if_neg (not_lt.mpr h2), sub_self]

/-- also for a query point on an edge or at a vertex: in the closed triangle by `above_sub_le_kcr`, beyond an edge by
    `triSum_of_halfPlane` -/
theorem tri_nonneg (ax ay bx by_ cx cy : K)
    (hor : 0 < (ax * by_ - ay * bx) + (bx * cy - by_ * cx) + (cx * ay - cy * ax)) :
    0 ≤ kcr ax ay bx by_ + kcr bx by_ cx cy + kcr cx cy ax ay := by
  by_cases hin : 0 ≤ ax * by_ - ay * bx ∧ 0 ≤ bx * cy - by_ * cx ∧ 0 ≤ cx * ay - cy * ax
  · have h1 := above_sub_le_kcr hin.1
    have h2 := above_sub_le_kcr hin.2.1
    have h3 := above_sub_le_kcr hin.2.2
    omega
  · simp only [not_and_or, not_le] at hin
    rcases hin with h | h | h
    · rw [triSum_of_halfPlane (tx := bx - ax) (ty := by_ - ay) (by linear_combination h) (by linear_combination h)
        (by linear_combination hor + h)]
    · rw [triSum_of_halfPlane (tx := cx - bx) (ty := cy - by_) (by linear_combination hor + h) (by linear_combination h)
        (by linear_combination h)]
    · rw [triSum_of_halfPlane (tx := ax - cx) (ty := ay - cy) (by linear_combination h) (by linear_combination hor + h)
        (by linear_combination h)]

/-- `s` counts a positively oriented region with open part `I` and closed part `C`: never negative, `1` on `I`, `0` off `C` -/
structure Counts (s : Int) (I C : Prop) : Prop where
  nonneg : 0 ≤ s
  inside : I → s = 1
  outside : ¬ C → s = 0

theorem Counts.mono {s : Int} {I C I' C' : Prop} (h : Counts s I C) (hI : I' → I) (hC : C → C') : Counts s I' C' :=
  ⟨h.nonneg, fun i => h.inside (hI i), fun c => h.outside fun c' => c (hC c')⟩

theorem Counts.eq_ite {s : Int} {I C : Prop} [Decidable I] (h : Counts s I C) (hb : C → I) : s = if I then 1 else 0 := by
  split_ifs with i
  · exact h.inside i
  · exact h.outside fun c => i (hb c)

theorem Counts.add_bounds {s1 s2 t : Int} {I1 C1 I2 C2 : Prop} (h1 : Counts s1 I1 C1) (h2 : Counts s2 I2 C2)
    (ht : 0 ≤ t) : 0 ≤ s1 + s2 + t ∧ (I1 ∨ I2 → 1 ≤ s1 + s2 + t) := by
  have a := h1.nonneg
  have b := h2.nonneg
  refine ⟨by omega, fun h => ?_⟩
  rcases h with h | h
  · have := h1.inside h
    omega
  · have := h2.inside h
    omega

/-- `b = ((a·b)/(a·a))·a` when `a × b = 0` -/
theorem cross_of_collinear (ax ay bx by_ mx my : K) (h : ax * by_ - ay * bx = 0) :
    (ax * ax + ay * ay) * (bx * my - by_ * mx) = (ax * bx + ay * by_) * (ax * my - ay * mx) := by
  linear_combination (-(ax * mx + ay * my)) * h

theorem cross_eq_zero_of_collinear {ax ay bx by_ mx my : K} (h : ax * by_ - ay * bx = 0) (hd : 0 < ax * bx + ay * by_)
    (ha : ax * my - ay * mx ≤ 0) (hb : 0 ≤ bx * my - by_ * mx) : ax * my - ay * mx = 0 ∧ bx * my - by_ * mx = 0 := by
  have I1 := cross_of_collinear ax ay bx by_ mx my h
  have I2 := cross_of_collinear bx by_ ax ay mx my (by linear_combination -h)
  have hd' : 0 < bx * ax + by_ * ay := by rwa [mul_comm bx, mul_comm by_]
  have ea : ax * my - ay * mx = 0 :=
    (mul_eq_zero.mp (le_antisymm (mul_nonpos_of_nonneg_of_nonpos hd.le ha)
      (I1 ▸ mul_nonneg (add_nonneg (mul_self_nonneg ax) (mul_self_nonneg ay)) hb))).resolve_left hd.ne'
  rw [ea, mul_zero] at I2
  exact ⟨ea, (mul_eq_zero.mp I2.symm).resolve_left hd'.ne'⟩

abbrev ClosedIn (ax ay bx by_ cx cy dx dy : K) : Prop :=
  0 ≤ ax * by_ - ay * bx ∧ 0 ≤ bx * cy - by_ * cx ∧ 0 ≤ cx * dy - cy * dx ∧ 0 ≤ dx * ay - dy * ax
abbrev StrictIn (ax ay bx by_ cx cy dx dy : K) : Prop :=
  0 < ax * by_ - ay * bx ∧ 0 < bx * cy - by_ * cx ∧ 0 < cx * dy - cy * dx ∧ 0 < dx * ay - dy * ax

theorem kcr_pos {ax ay bx by_ : K} (h : 0 < ax * by_ - ay * bx) :
    kcr ax ay bx by_ = if ¬ (0 < by_) ∧ 0 < ay then 1 else 0 := by
  by_cases h1 : 0 < by_ <;> by_cases h2 : 0 < ay
  · rw [kcr_above h2 h1, if_neg (by tauto)]
  · rw [kcr_upward _ _ (not_lt.mp h2) h1, if_neg (not_le.mpr h), if_neg (by tauto)]
  · rw [kcr_downward _ _ (not_lt.mp h1) h2, if_pos h.le, if_pos ⟨h1, h2⟩]
  · rw [kcr_below (not_lt.mp h2) (not_lt.mp h1), if_neg (by tauto)]

theorem cyc4 (pA pB pC pD : Prop) [Decidable pA] [Decidable pB] [Decidable pC] [Decidable pD]
    (h1 : ¬ (pA ∧ pB ∧ pC ∧ pD)) (h2 : ¬ (¬ pA ∧ ¬ pB ∧ ¬ pC ∧ ¬ pD))
    (h3 : ¬ (pA ∧ ¬ pB ∧ pC ∧ ¬ pD)) (h4 : ¬ (¬ pA ∧ pB ∧ ¬ pC ∧ pD)) :
    (if ¬ pB ∧ pA then (1 : Int) else 0) + (if ¬ pC ∧ pB then 1 else 0) + (if ¬ pD ∧ pC then 1 else 0)
      + (if ¬ pA ∧ pD then 1 else 0) = 1 := by
  by_cases hA : pA <;> by_cases hB : pB <;> by_cases hC : pC <;> by_cases hD : pD <;> simp_all

/-- the query point is the combination of the vertices of a parallelogram with the products of the cross products of the
    two edges NOT at the vertex as weights -/
theorem para_weights (ax ay bx by_ cx cy dx dy : K) (hpx : ax + cx = bx + dx) (hpy : ay + cy = by_ + dy) :
    (bx * cy - by_ * cx) * (cx * dy - cy * dx) * ay + (cx * dy - cy * dx) * (dx * ay - dy * ax) * by_
      + (dx * ay - dy * ax) * (ax * by_ - ay * bx) * cy + (ax * by_ - ay * bx) * (bx * cy - by_ * cx) * dy = 0 := by
  obtain rfl : cx = bx + dx - ax := eq_sub_of_add_eq' hpx
  obtain rfl : cy = by_ + dy - ay := eq_sub_of_add_eq' hpy
  ring

theorem eq_zero_of_nonpos_of_sum {p q r s : K} (hp : p ≤ 0) (hq : q ≤ 0) (hr : r ≤ 0) (hs : s ≤ 0)
    (h : p + q + r + s = 0) : p = 0 ∧ q = 0 := by
  have hp' : p = -(q + r + s) := by linear_combination h
  have hq' : q = -(p + r + s) := by linear_combination h
  exact ⟨le_antisymm hp (hp' ▸ neg_nonneg.mpr (add_nonpos (add_nonpos hq hr) hs)),
    le_antisymm hq (hq' ▸ neg_nonneg.mpr (add_nonpos (add_nonpos hp hr) hs))⟩

/-- Each edge counts `1` exactly when it comes down through the row (`kcr_pos`), and of the four patterns that `cyc4` excludes
    two would put all vertices above the row, or none, against `para_weights`; two contradict `a + c = b + d`. -/
theorem para_inside (ax ay bx by_ cx cy dx dy : K) (hpx : ax + cx = bx + dx) (hpy : ay + cy = by_ + dy)
    (hab : 0 < ax * by_ - ay * bx) (hbc : 0 < bx * cy - by_ * cx) (hcd : 0 < cx * dy - cy * dx)
    (hda : 0 < dx * ay - dy * ax) : quadSum ax ay bx by_ cx cy dx dy = 1 := by
  unfold quadSum
  rw [kcr_pos hab, kcr_pos hbc, kcr_pos hcd, kcr_pos hda]
  have I := para_weights ax ay bx by_ cx cy dx dy hpx hpy
  have wa := mul_pos hbc hcd
  have wb := mul_pos hcd hda
  have wc := mul_pos hda hab
  have wd := mul_pos hab hbc
  refine cyc4 _ _ _ _ ?_ ?_ ?_ ?_
  · rintro ⟨ha, hb, hc, hd⟩
    have := add_pos (add_pos (add_pos (mul_pos wa ha) (mul_pos wb hb)) (mul_pos wc hc)) (mul_pos wd hd)
    rw [I] at this
    exact lt_irrefl _ this
  · rintro ⟨ha, hb, hc, hd⟩
    obtain ⟨ea, eb⟩ := eq_zero_of_nonpos_of_sum (mul_nonpos_of_nonneg_of_nonpos wa.le (not_lt.mp ha))
      (mul_nonpos_of_nonneg_of_nonpos wb.le (not_lt.mp hb)) (mul_nonpos_of_nonneg_of_nonpos wc.le (not_lt.mp hc))
      (mul_nonpos_of_nonneg_of_nonpos wd.le (not_lt.mp hd)) I
    rw [(mul_eq_zero.mp ea).resolve_left wa.ne', (mul_eq_zero.mp eb).resolve_left wb.ne', mul_zero, zero_mul,
      sub_self] at hab
    exact lt_irrefl _ hab
  · rintro ⟨ha, hb, hc, hd⟩
    exact lt_irrefl _ ((add_pos ha hc).trans_le (hpy.le.trans (add_nonpos (not_lt.mp hb) (not_lt.mp hd))))
  · rintro ⟨ha, hb, hc, hd⟩
    exact lt_irrefl _ ((add_pos hb hd).trans_le (hpy.ge.trans (add_nonpos (not_lt.mp ha) (not_lt.mp hc))))

/-- `a b c d` (relative to the query point) is a positively oriented parallelogram -/
structure IsPara (ax ay bx by_ cx cy dx dy : K) : Prop where
  hx : ax + cx = bx + dx
  hy : ay + cy = by_ + dy
  area : 0 < (ax * by_ - ay * bx) + (cx * dy - cy * dx)

section para
variable {ax ay bx by_ cx cy dx dy : K}

/-- read from the second vertex: what is proved for the edge `a b` holds for every edge -/
theorem IsPara.rot (h : IsPara ax ay bx by_ cx cy dx dy) : IsPara bx by_ cx cy dx dy ax ay := by
  obtain ⟨hx, hy, hD⟩ := h
  refine ⟨by rw [add_comm cx, hx], by rw [add_comm cy, hy], ?_⟩
  obtain rfl : cx = bx + dx - ax := eq_sub_of_add_eq' hx
  obtain rfl : cy = by_ + dy - ay := eq_sub_of_add_eq' hy
  linear_combination hD

theorem quadSum_rot (ax ay bx by_ cx cy dx dy : K) :
    quadSum ax ay bx by_ cx cy dx dy = quadSum bx by_ cx cy dx dy ax ay := by
  unfold quadSum
  ring

/-- beyond the edge `a b` all four vertices are strictly on one side of the parallel to it through the query point -/
theorem IsPara.quadSum_of_neg (h : IsPara ax ay bx by_ cx cy dx dy) (hab : ax * by_ - ay * bx < 0) :
    quadSum ax ay bx by_ cx cy dx dy = 0 := by
  obtain ⟨hx, hy, hD⟩ := h
  obtain rfl : cx = bx + dx - ax := eq_sub_of_add_eq' hx
  obtain rfl : cy = by_ + dy - ay := eq_sub_of_add_eq' hy
  exact quadSum_of_halfPlane (tx := bx - ax) (ty := by_ - ay) (by linear_combination hab) (by linear_combination hab)
    (by linear_combination hD + hab) (by linear_combination hD + hab)

theorem IsPara.quadSum_eq_zero (h : IsPara ax ay bx by_ cx cy dx dy) (hnc : ¬ ClosedIn ax ay bx by_ cx cy dx dy) :
    quadSum ax ay bx by_ cx cy dx dy = 0 := by
  simp only [ClosedIn, not_and_or, not_le] at hnc
  rcases hnc with hn | hn | hn | hn
  · exact h.quadSum_of_neg hn
  · rw [quadSum_rot]
    exact h.rot.quadSum_of_neg hn
  · rw [quadSum_rot, quadSum_rot]
    exact h.rot.rot.quadSum_of_neg hn
  · rw [quadSum_rot, quadSum_rot, quadSum_rot]
    exact h.rot.rot.rot.quadSum_of_neg hn

theorem IsPara.quadSum_nonneg (h : IsPara ax ay bx by_ cx cy dx dy) : 0 ≤ quadSum ax ay bx by_ cx cy dx dy := by
  by_cases hc : ClosedIn ax ay bx by_ cx cy dx dy
  · have h1 := above_sub_le_kcr hc.1
    have h2 := above_sub_le_kcr hc.2.1
    have h3 := above_sub_le_kcr hc.2.2.1
    have h4 := above_sub_le_kcr hc.2.2.2
    unfold quadSum
    omega
  · rw [h.quadSum_eq_zero hc]

/-- On the line of the edge `a b` but off the edge, the query point sees the two neighbouring edges from the same side: it is
    beyond one of them – or the area vanishes. -/
theorem IsPara.cross_pos (h : IsPara ax ay bx by_ cx cy dx dy) (o : offEdge ax ay bx by_) (c1 : 0 ≤ ax * by_ - ay * bx)
    (c2 : 0 ≤ bx * cy - by_ * cx) (c4 : 0 ≤ dx * ay - dy * ax) : 0 < ax * by_ - ay * bx := by
  obtain ⟨hx, hy, hD⟩ := h
  obtain rfl : cx = bx + dx - ax := eq_sub_of_add_eq' hx
  obtain rfl : cy = by_ + dy - ay := eq_sub_of_add_eq' hy
  refine lt_of_le_of_ne c1 fun h0 => ?_
  obtain ⟨e1, e2⟩ := cross_eq_zero_of_collinear (mx := dx - ax) (my := dy - ay) h0.symm (o h0.symm)
    (by linear_combination c4) (by linear_combination c2)
  exact lt_irrefl (0 : K) (by linear_combination hD - e1 + e2)

theorem IsPara.strictIn_of_closedIn (h : IsPara ax ay bx by_ cx cy dx dy)
    (oAB : offEdge ax ay bx by_) (oBC : offEdge bx by_ cx cy) (oCD : offEdge cx cy dx dy) (oDA : offEdge dx dy ax ay)
    (hc : ClosedIn ax ay bx by_ cx cy dx dy) : StrictIn ax ay bx by_ cx cy dx dy :=
  ⟨h.cross_pos oAB hc.1 hc.2.1 hc.2.2.2, h.rot.cross_pos oBC hc.2.1 hc.2.2.1 hc.1,
    h.rot.rot.cross_pos oCD hc.2.2.1 hc.2.2.2 hc.2.1, h.rot.rot.rot.cross_pos oDA hc.2.2.2 hc.1 hc.2.2.1⟩

theorem IsPara.counts (h : IsPara ax ay bx by_ cx cy dx dy) :
    Counts (quadSum ax ay bx by_ cx cy dx dy) (StrictIn ax ay bx by_ cx cy dx dy) (ClosedIn ax ay bx by_ cx cy dx dy) :=
  ⟨h.quadSum_nonneg, fun i => para_inside _ _ _ _ _ _ _ _ h.hx h.hy i.1 i.2.1 i.2.2.1 i.2.2.2, h.quadSum_eq_zero⟩

theorem IsPara.quadSum_eq_ite (h : IsPara ax ay bx by_ cx cy dx dy)
    (oAB : offEdge ax ay bx by_) (oBC : offEdge bx by_ cx cy) (oCD : offEdge cx cy dx dy) (oDA : offEdge dx dy ax ay) :
    quadSum ax ay bx by_ cx cy dx dy = if StrictIn ax ay bx by_ cx cy dx dy then 1 else 0 :=
  h.counts.eq_ite (h.strictIn_of_closedIn oAB oBC oCD oDA)

end para

/-- `a b c d` (relative to the query point) is the rectangle with first corner `a` and sides `b − a = σ·T`, `d − a = μ·T^⊥`
    (`T^⊥ = (−T.y, T.x)`); `u = (−a)·T` and `v = a × T` are the coordinates of the query point along the two sides, measured
    from `a` and scaled by `|T|²`. -/
structure IsRect (ax ay bx by_ cx cy dx dy tx ty σ μ u v : K) : Prop where
  hbx : bx = ax + σ * tx
  hby : by_ = ay + σ * ty
  hdx : dx = ax - μ * ty
  hdy : dy = ay + μ * tx
  hcx : ax + cx = bx + dx
  hcy : ay + cy = by_ + dy
  hu : u = -(ax * tx + ay * ty)
  hv : v = ax * ty - ay * tx

section rect
variable {ax ay bx by_ cx cy dx dy tx ty σ μ u v : K}

theorem IsRect.cross (h : IsRect ax ay bx by_ cx cy dx dy tx ty σ μ u v) :
    ax * by_ - ay * bx = σ * v ∧ bx * cy - by_ * cx = μ * (σ * (tx * tx + ty * ty) - u) ∧
      cx * dy - cy * dx = σ * (μ * (tx * tx + ty * ty) - v) ∧ dx * ay - dy * ax = μ * u := by
  obtain ⟨rfl, rfl, rfl, rfl, hcx, hcy, rfl, rfl⟩ := h
  obtain rfl : cx = ax + σ * tx + (ax - μ * ty) - ax := eq_sub_of_add_eq' hcx
  obtain rfl : cy = ay + σ * ty + (ay + μ * tx) - ay := eq_sub_of_add_eq' hcy
  exact ⟨by ring, by ring, by ring, by ring⟩

theorem IsRect.strictIn_iff (h : IsRect ax ay bx by_ cx cy dx dy tx ty σ μ u v) (hσ : 0 < σ) (hμ : 0 < μ) :
    StrictIn ax ay bx by_ cx cy dx dy ↔
      0 < u ∧ u < σ * (tx * tx + ty * ty) ∧ 0 < v ∧ v < μ * (tx * tx + ty * ty) := by
  obtain ⟨e1, e2, e3, e4⟩ := h.cross
  unfold StrictIn
  rw [e1, e2, e3, e4, mul_pos_iff_of_pos_left hσ, mul_pos_iff_of_pos_left hμ, mul_pos_iff_of_pos_left hσ,
    mul_pos_iff_of_pos_left hμ, sub_pos, sub_pos]
  exact ⟨fun ⟨a, b, c, d⟩ => ⟨d, b, a, c⟩, fun ⟨a, b, c, d⟩ => ⟨c, b, d, a⟩⟩

theorem IsRect.closedIn_iff (h : IsRect ax ay bx by_ cx cy dx dy tx ty σ μ u v) (hσ : 0 < σ) (hμ : 0 < μ) :
    ClosedIn ax ay bx by_ cx cy dx dy ↔
      0 ≤ u ∧ u ≤ σ * (tx * tx + ty * ty) ∧ 0 ≤ v ∧ v ≤ μ * (tx * tx + ty * ty) := by
  obtain ⟨e1, e2, e3, e4⟩ := h.cross
  unfold ClosedIn
  rw [e1, e2, e3, e4, mul_nonneg_iff_of_pos_left hσ, mul_nonneg_iff_of_pos_left hμ, mul_nonneg_iff_of_pos_left hσ,
    mul_nonneg_iff_of_pos_left hμ, sub_nonneg, sub_nonneg]
  exact ⟨fun ⟨a, b, c, d⟩ => ⟨d, b, a, c⟩, fun ⟨a, b, c, d⟩ => ⟨c, b, d, a⟩⟩

theorem IsRect.isPara (h : IsRect ax ay bx by_ cx cy dx dy tx ty σ μ u v) (hσ : 0 < σ) (hμ : 0 < μ)
    (hT : 0 < tx * tx + ty * ty) : IsPara ax ay bx by_ cx cy dx dy := by
  refine ⟨h.hcx, h.hcy, ?_⟩
  obtain ⟨e1, _, e3, _⟩ := h.cross
  rw [e1, e3, ← mul_add, add_sub_cancel]
  exact mul_pos hσ (mul_pos hμ hT)

theorem IsRect.counts (h : IsRect ax ay bx by_ cx cy dx dy tx ty σ μ u v) (hσ : 0 < σ) (hμ : 0 < μ)
    (hT : 0 < tx * tx + ty * ty) :
    Counts (quadSum ax ay bx by_ cx cy dx dy)
      (0 < u ∧ u < σ * (tx * tx + ty * ty) ∧ 0 < v ∧ v < μ * (tx * tx + ty * ty))
      (0 ≤ u ∧ u ≤ σ * (tx * tx + ty * ty) ∧ 0 ≤ v ∧ v ≤ μ * (tx * tx + ty * ty)) :=
  (h.isPara hσ hμ hT).counts.mono (h.strictIn_iff hσ hμ).mpr (h.closedIn_iff hσ hμ).mp

theorem IsRect.quadSum_eq_ite (h : IsRect ax ay bx by_ cx cy dx dy tx ty σ μ u v) (hσ : 0 < σ) (hμ : 0 < μ)
    (hT : 0 < tx * tx + ty * ty)
    (oAB : offEdge ax ay bx by_) (oBC : offEdge bx by_ cx cy) (oCD : offEdge cx cy dx dy) (oDA : offEdge dx dy ax ay) :
    quadSum ax ay bx by_ cx cy dx dy
      = if 0 < u ∧ u < σ * (tx * tx + ty * ty) ∧ 0 < v ∧ v < μ * (tx * tx + ty * ty) then 1 else 0 := by
  rw [(h.isPara hσ hμ hT).quadSum_eq_ite oAB oBC oCD oDA]
  exact if_congr (h.strictIn_iff hσ hμ) rfl rfl

end rect

end C04C
end Kurbo
