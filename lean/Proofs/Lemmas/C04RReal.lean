import Proofs.C10A
import Proofs.C12
import Proofs.Lemmas.C04RStruct
/-! Helper lemmas for C04R: the affine maps of `round_join` / `round_join_rev` are similarities with factor `|norm|`
    (any lawful scalar); over ℝ with `LawfulTrig`, `LawfulCount`: the pieces of the unit arc are the standard circular-arc
    cubics, stay in the band `1 ≤ |B(t)| ≤ 1 + T` for the unit tolerance `T > 0` (C10A), start at `(−cos angle, sin angle)` and end at `(−1, 0)`. -/
set_option linter.unusedSectionVars false
namespace Kurbo

section lawful
variable {K : Type} [Field K] [LinearOrder K] [IsStrictOrderedRing K] [FloorRing K] [Scalar K] [LawfulScalar K]

theorem c04rAff_act (c : Point K) (n : Vec2 K) (p : Point K) :
    c04rAff c n * p = ⟨c.x + (n.x * p.x - n.y * p.y), c.y + (n.y * p.x + n.x * p.y)⟩ := by
  unfold c04rAff; kaff

theorem c04rAffRev_act (c : Point K) (n : Vec2 K) (p : Point K) :
    c04rAffRev c n * p = ⟨c.x + (n.x * p.x + n.y * p.y), c.y + (n.y * p.x - n.x * p.y)⟩ := by
  unfold c04rAffRev; kaff

theorem c04rAff_dist_sq (c : Point K) (n : Vec2 K) (p : Point K) :
    ((c04rAff c n * p).x - c.x) ^ 2 + ((c04rAff c n * p).y - c.y) ^ 2 = (n.x ^ 2 + n.y ^ 2) * (p.x ^ 2 + p.y ^ 2) := by
  rw [congrArg Point.x (c04rAff_act c n p), congrArg Point.y (c04rAff_act c n p), add_sub_cancel_left, add_sub_cancel_left]
  ring

theorem c04rAffRev_dist_sq (c : Point K) (n : Vec2 K) (p : Point K) :
    ((c04rAffRev c n * p).x - c.x) ^ 2 + ((c04rAffRev c n * p).y - c.y) ^ 2 = (n.x ^ 2 + n.y ^ 2) * (p.x ^ 2 + p.y ^ 2) := by
  rw [congrArg Point.x (c04rAffRev_act c n p), congrArg Point.y (c04rAffRev_act c n p), add_sub_cancel_left,
    add_sub_cancel_left]
  ring

theorem c04rAff_axis (c : Point K) (n : Vec2 K) (x : K) :
    c04rAff c n * (⟨x, 0⟩ : Point K) = ⟨c.x + n.x * x, c.y + n.y * x⟩ ∧
    c04rAffRev c n * (⟨x, 0⟩ : Point K) = ⟨c.x + n.x * x, c.y + n.y * x⟩ := by
  simp only [c04rAff_act, c04rAffRev_act, mul_zero, sub_zero, add_zero, and_self]

theorem c04_vec2_neg_x (v : Vec2 K) : (-v).x = -v.x := by simp only [vec2_neg, sn_neg]
theorem c04_vec2_neg_y (v : Vec2 K) : (-v).y = -v.y := by simp only [vec2_neg, sn_neg]

theorem c04_point_sub_vec (c : Point K) (n : Vec2 K) : c - n = ⟨c.x + n.x * -1, c.y + n.y * -1⟩ := by
  rw [point_sub_vec, sn_sub, sn_sub, mul_neg_one, mul_neg_one, ← sub_eq_add_neg, ← sub_eq_add_neg]

theorem c04rAff_end (c : Point K) (n : Vec2 K) : c04rAff c n * (⟨-1, 0⟩ : Point K) = c - n := by
  rw [(c04rAff_axis c n (-1)).1, c04_point_sub_vec]
theorem c04rAffRev_end (c : Point K) (n : Vec2 K) : c04rAffRev c n * (⟨-1, 0⟩ : Point K) = c - n := by
  rw [(c04rAff_axis c n (-1)).2, c04_point_sub_vec]

theorem c04rAff_one (c : Point K) (n : Vec2 K) : c04rAff c n * (⟨1, 0⟩ : Point K) = c + n := by
  rw [(c04rAff_axis c n 1).1, point_add_vec, sn_add, sn_add, mul_one, mul_one]

theorem c04r_half_width_tol (w τ : K) (hw : w ≠ 0) : w / 2 * (1 + 2 * τ / w) = w / 2 + τ := by
  rw [mul_add, mul_one, div_mul_div_comm, mul_comm w, mul_div_mul_right _ _ hw, mul_div_cancel_left₀ _ two_ne_zero]

theorem c04rArc_radii (angle : K) : (c04rArc angle).radii = ⟨1, 1⟩ := by
  simp only [c04rArc, scalar_norm, Vec2.mk.injEq]; push_cast; exact ⟨rfl, rfl⟩
theorem c04rArc_rot (angle : K) : (c04rArc angle).x_rotation = 0 := by
  simp only [c04rArc, scalar_norm]; push_cast; rfl
theorem c04rArc_center (angle : K) : (c04rArc angle).center = ⟨0, 0⟩ := by
  simp only [c04rArc, scalar_norm, Point.mk.injEq]; push_cast; exact ⟨rfl, rfl⟩
theorem c04rArc_start (angle : K) : (c04rArc angle).start_angle = Scalar.pi - angle := by
  simp only [c04rArc, scalar_norm]

end lawful

section count
variable [Scalar ℝ] [LawfulScalar ℝ] [LawfulTrig] [LawfulCount]
open LawfulTrig LawfulCount

theorem c04rPiece_eq (T angle : ℝ) (k : Nat) :
    c04rPiece T angle k = circleArcCubic ⟨0, 0⟩ 1 (c04rArm T angle)
      (accAngle (Real.pi - angle) (c04rStep T angle) k) (accAngle (Real.pi - angle) (c04rStep T angle) (k + 1)) := by
  unfold c04rPiece c04rPt c04rC1 c04rC2
  rw [c04rArc_radii, c04rArc_rot, c04rArc_center, c04rArc_start, pi_eq]
  exact arc_piece_circular _ _ _ _ _ _

theorem c04rPiece_band (T : ℝ) (hT : 0 < T) (angle : ℝ) (k : Nat) (t : ℝ) (h0 : 0 ≤ t) (h1 : t ≤ 1) :
    1 ≤ Real.sqrt (((c04rPiece T angle k).eval t).x ^ 2 + ((c04rPiece T angle k).eval t).y ^ 2) ∧
    Real.sqrt (((c04rPiece T angle k).eval t).x ^ 2 + ((c04rPiece T angle k).eval t).y ^ 2) ≤ 1 + T := by
  have h := arc_piece_within_tolerance (c04rArc angle) T 1 (c04rArc_radii angle) (by norm_num) hT k t h0 h1
  simp only [] at h
  rw [c04rArc_center, c04rArc_start, pi_eq] at h
  rw [c04rPiece_eq]
  have e : ∀ v : ℝ, v - (⟨0, 0⟩ : Point ℝ).x = v := fun v => sub_zero v
  simp only [e, abs_one] at h
  unfold c04rArm c04rStep
  exact h

theorem c04rN_eq_zero (T angle : ℝ) (h : c04rN T angle = 0) : angle = 0 :=
  appendParams_eq_zero (c04rArc angle) T h

theorem c04rN_pi_ne_zero (T : ℝ) : c04rN T (Scalar.pi : ℝ) ≠ 0 := by
  intro h
  have := c04rN_eq_zero _ _ h
  rw [pi_eq] at this
  exact Real.pi_ne_zero this

theorem c04rPt_zero (T angle : ℝ) : c04rPt T angle 0 = ⟨-Real.cos angle, Real.sin angle⟩ := by
  unfold c04rPt
  rw [c04rArc_radii, c04rArc_rot, c04rArc_center, c04rArc_start, pi_eq, arcPt, accAngle, center_add_sample_circle,
    circlePt, Real.cos_pi_sub, Real.sin_pi_sub]
  simp

theorem c04rPt_last (T angle : ℝ) : c04rPt T angle (c04rN T angle) = ⟨-1, 0⟩ := by
  have h := arc_last_point_real (c04rArc angle) T
  unfold c04rPt c04rStep c04rN
  rw [h, Arc.endPt, c04rArc_radii, c04rArc_rot, c04rArc_center, c04rArc_start, pi_eq,
    show (c04rArc angle).sweep_angle = angle from rfl, center_add_sample_circle, circlePt,
    show Real.pi - angle + angle = Real.pi by ring, Real.cos_pi, Real.sin_pi]
  simp

theorem c04r_with_ends (T : ℝ) (A : Affine ℝ) (e : Point ℝ) (hA : A * (⟨-1, 0⟩ : Point ℝ) = e) (angle : ℝ) :
    penAfter (A * c04rPt T angle 0) (roundJoinWith T A angle) = e ∧
    (angle ≠ 0 → ∀ p mid, penAfter p (mid ++ roundJoinWith T A angle) = e) ∧
    (angle ≠ 0 → ∃ el, (roundJoinWith T A angle).getLast? = some el ∧ el.end_point = some e) := by
  refine ⟨?_, fun ha p mid => ?_, fun ha => ?_⟩
  · rw [penAfter_roundJoinWith]
    split
    · rename_i h0
      rw [← hA, ← c04rPt_last T angle, h0]
    · rw [c04rPt_last, hA]
  · rw [penAfter_append_roundJoinWith _ _ _ _ _ (fun h => ha (c04rN_eq_zero T angle h)), c04rPt_last, hA]
  · obtain ⟨el, h1, h2⟩ := roundJoinWith_getLast T A angle (fun h => ha (c04rN_eq_zero T angle h))
    rw [c04rPt_last, hA] at h2
    exact ⟨el, h1, h2⟩

/-- every point of the cubic `q` is at a distance between `|n|` and `|n|·(1 + T)` from `c` -/
def c04rInBand (c : Point ℝ) (n : Vec2 ℝ) (T : ℝ) (q : CubicBez ℝ) : Prop :=
  ∀ t : ℝ, 0 ≤ t → t ≤ 1 →
    Real.sqrt (n.x ^ 2 + n.y ^ 2) ≤ Real.sqrt (((q.eval t).x - c.x) ^ 2 + ((q.eval t).y - c.y) ^ 2) ∧
    Real.sqrt (((q.eval t).x - c.x) ^ 2 + ((q.eval t).y - c.y) ^ 2) ≤ Real.sqrt (n.x ^ 2 + n.y ^ 2) * (1 + T)

theorem c04r_image_band (T : ℝ) (hT : 0 < T) (c : Point ℝ) (n : Vec2 ℝ) (A : Affine ℝ)
    (hA : ∀ p : Point ℝ, ((A * p).x - c.x) ^ 2 + ((A * p).y - c.y) ^ 2 = (n.x ^ 2 + n.y ^ 2) * (p.x ^ 2 + p.y ^ 2))
    (angle : ℝ) (k : Nat) : c04rInBand c n T (A * c04rPiece T angle k) := by
  intro t h0 h1
  obtain ⟨b1, b2⟩ := c04rPiece_band T hT angle k t h0 h1
  rw [cubic_eval_commutes, hA, Real.sqrt_mul (add_nonneg (sq_nonneg _) (sq_nonneg _))]
  exact ⟨le_mul_of_one_le_right (Real.sqrt_nonneg _) b1, mul_le_mul_of_nonneg_left b2 (Real.sqrt_nonneg _)⟩

theorem c04r_with_pieces_within (T : ℝ) (hT : 0 < T) (c : Point ℝ) (n : Vec2 ℝ) (A : Affine ℝ)
    (hA : ∀ p : Point ℝ, ((A * p).x - c.x) ^ 2 + ((A * p).y - c.y) ^ 2 = (n.x ^ 2 + n.y ^ 2) * (p.x ^ 2 + p.y ^ 2))
    (angle : ℝ) :
    ∃ ss, segs (PathEl.MoveTo (A * c04rPt T angle 0) :: roundJoinWith T A angle) = some ss ∧
      ss.length = c04rN T angle ∧ ∀ s ∈ ss, ∃ q, s = PathSeg.Cubic q ∧ c04rInBand c n T q := by
  refine ⟨_, roundJoinWith_segs T A angle, by rw [List.length_map, List.length_range], fun s hs => ?_⟩
  obtain ⟨k, -, rfl⟩ := List.mem_map.mp hs
  exact ⟨_, rfl, c04r_image_band T hT c n A hA angle k⟩

end count
end Kurbo
