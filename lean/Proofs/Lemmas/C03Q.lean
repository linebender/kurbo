import Proofs.KDefs
import Kurbo.Arclen
import Proofs.Lemmas.C03QReal
import Proofs.Lemmas.CanonScalar
/-! Helper lemmas for `Proofs/C03Q.lean`: the coefficients `A B C` of `|q′(t)|² = 4 (A t² + B t + C)`, the laws of the
    irrational `Scalar` fields over ℝ (`C03QRealLaws`) with an instance, and what the branch conditions of the model's
    `QuadBez.arclen` imply for them. -/
set_option linter.unusedSectionVars false
namespace Kurbo

section coeffs
variable {K : Type} [Field K]

/-- `a = |p0 − 2 p1 + p2|²` -/
def c03q_A (q : QuadBez K) : K := (q.p0.x - 2 * q.p1.x + q.p2.x) ^ 2 + (q.p0.y - 2 * q.p1.y + q.p2.y) ^ 2
/-- `b = 2 (p0 − 2 p1 + p2) · (p1 − p0)` -/
def c03q_B (q : QuadBez K) : K :=
  2 * ((q.p0.x - 2 * q.p1.x + q.p2.x) * (q.p1.x - q.p0.x) + (q.p0.y - 2 * q.p1.y + q.p2.y) * (q.p1.y - q.p0.y))
/-- `c = |p1 − p0|²` -/
def c03q_C (q : QuadBez K) : K := (q.p1.x - q.p0.x) ^ 2 + (q.p1.y - q.p0.y) ^ 2

end coeffs

/-- the irrational fields of a `Scalar ℝ` instance that `QuadBez::arclen` uses are the real functions -/
class C03QRealLaws [Scalar ℝ] : Prop where
  sqrt_eq : ∀ x : ℝ, Scalar.sqrt x = Real.sqrt x
  hypot_eq : ∀ x y : ℝ, Scalar.hypot x y = Real.sqrt (x ^ 2 + y ^ 2)
  ln_eq : ∀ x : ℝ, Scalar.ln x = Real.log x
  powf_eq : ∀ x y : ℝ, 0 < x → Scalar.powf x y = x ^ y

theorem c03q_C_nonneg (q : QuadBez ℝ) : 0 ≤ c03q_C q := by unfold c03q_C; positivity

theorem c03q_A_pos {q : QuadBez ℝ} {k : ℝ} (hk : 0 ≤ k) (h : ¬ c03q_A q ≤ k * c03q_C q) : 0 < c03q_A q :=
  lt_of_le_of_lt (mul_nonneg hk (c03q_C_nonneg q)) (not_le.mp h)

theorem c03q_disc_nonneg (q : QuadBez ℝ) : 0 ≤ 4 * c03q_A q * c03q_C q - c03q_B q ^ 2 := by
  unfold c03q_A c03q_B c03q_C
  generalize q.p0.x - 2 * q.p1.x + q.p2.x = a₁
  generalize q.p0.y - 2 * q.p1.y + q.p2.y = a₂
  generalize q.p1.x - q.p0.x = b₁
  generalize q.p1.y - q.p0.y = b₂
  rw [show 4 * (a₁ ^ 2 + a₂ ^ 2) * (b₁ ^ 2 + b₂ ^ 2) - (2 * (a₁ * b₁ + a₂ * b₂)) ^ 2 = 4 * (a₁ * b₂ - a₂ * b₁) ^ 2 by ring]
  positivity

theorem c03q_bac2_pos {A B C k : ℝ} (hk : 0 ≤ k) (h : ¬ c03q_bac2 A B C ≤ k * (2 * √C)) : 0 < c03q_bac2 A B C :=
  lt_of_le_of_lt (by positivity) (not_le.mp h)

theorem c03q_sqrt_four_mul (x : ℝ) : √(4 * x) = 2 * √x := by
  rw [Real.sqrt_mul (by norm_num), show (4:ℝ) = 2 ^ 2 by norm_num, Real.sqrt_sq (by norm_num)]

section real
variable [Scalar ℝ] [LawfulScalar ℝ] [C03QRealLaws]

/-- branch (1) of the model (3-point Gauss–Legendre rule), in Mathlib arithmetic -/
noncomputable def c03q_gauss (q : QuadBez ℝ) : ℝ :=
  √((q.p0.x * -(492943519233745 / 1000000000000000) + q.p1.x * (430331482911935 / 1000000000000000) +
        q.p2.x * (626120363218102 / 10000000000000000)) ^ 2 +
      (q.p0.y * -(492943519233745 / 1000000000000000) + q.p1.y * (430331482911935 / 1000000000000000) +
        q.p2.y * (626120363218102 / 10000000000000000)) ^ 2) +
    √(((q.p2.x - q.p0.x) * (4444444444444444 / 10000000000000000)) ^ 2 +
      ((q.p2.y - q.p0.y) * (4444444444444444 / 10000000000000000)) ^ 2) +
    √((q.p0.x * -(626120363218102 / 10000000000000000) - q.p1.x * (430331482911935 / 1000000000000000) +
        q.p2.x * (492943519233745 / 1000000000000000)) ^ 2 +
      (q.p0.y * -(626120363218102 / 10000000000000000) - q.p1.y * (430331482911935 / 1000000000000000) +
        q.p2.y * (492943519233745 / 1000000000000000)) ^ 2)

theorem c03q_A_nonneg (q : QuadBez ℝ) : 0 ≤ c03q_A q := by unfold c03q_A; positivity

end real

/-- ℝ with the Mathlib functions as a `Scalar` (fields that no C03Q statement mentions are filled arbitrarily) -/
@[instance_reducible] noncomputable def c03q_realScalar : Scalar ℝ where
  add := (· + ·); sub := (· - ·); mul := (· * ·); div := (· / ·); neg := (- ·)
  abs x := |x|
  lt a b := decide (a < b); le a b := decide (a ≤ b); beq a b := decide (a = b)
  ofRat r := (r : ℝ)
  floor x := (⌊x⌋ : ℝ); ceil x := (⌈x⌉ : ℝ)
  round a := if a < 0 then (⌈a - 1/2⌉ : ℝ) else (⌊a + 1/2⌋ : ℝ)
  trunc a := if a < 0 then (⌈a⌉ : ℝ) else (⌊a⌋ : ℝ)
  sqrt := Real.sqrt
  cbrt _ := 0
  sin _ := 0
  cos _ := 0
  tan _ := 0
  acos _ := 0
  atan2 _ _ := 0
  powf x y := x ^ y
  ln := Real.log
  log2 _ := 0
  fma a b c := a * b + c
  hypot x y := Real.sqrt (x ^ 2 + y ^ 2)
  copysign a b := if b < 0 then -|a| else |a|
  fin _ := true
  finQuot den _ := decide (den ≠ 0)
  isNan _ := false
  toUSize x := ⌊x⌋₊
  signum x := if x < 0 then -1 else 1
  min a b := min a b
  max a b := max a b
  fmod _ _ := 0
  pi := 0

theorem c03q_realScalar_lawful : @LawfulScalar ℝ _ _ _ _ c03q_realScalar :=
  canonScalar_lawful c03q_realScalar

theorem c03q_realScalar_laws : @C03QRealLaws c03q_realScalar :=
  letI := c03q_realScalar
  { sqrt_eq := fun _ => rfl, hypot_eq := fun _ _ => rfl, ln_eq := fun _ => rfl, powf_eq := fun _ _ _ => rfl }

end Kurbo
