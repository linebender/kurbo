import Proofs.Lemmas.C18S
import Mathlib.Data.List.SplitBy
/-! Facts about the specification functions of C18S.  The split into smooth stretches `simpSplitGo` is `List.splitBy` of the
    relation "no corner" (`c18s_split_eq_splitBy`), and what is used of it comes from Mathlib's lemmas about `splitBy` (the
    only import beyond core Lean); arbitrary `[Scalar K]`. -/
set_option linter.unusedSectionVars false
namespace Kurbo
variable {K : Type} [Scalar K]

def simpSmooth (th : K) (a b : PathSeg K) : Bool := !simpCorner th a b

-- stated for the auxiliary loop of `List.splitBy` because the induction needs its accumulators (Mathlib's lemmas about
-- the loop are private)
theorem c18s_splitByLoop_eq (th : K) :
    ∀ (r : List (PathSeg K)) (a : PathSeg K) (g : List (PathSeg K)) (gs : List (List (PathSeg K))),
      List.splitBy.loop (simpSmooth th) r a g gs = gs.reverse ++ simpSplitGo th (g.reverse ++ [a]) r := by
  intro r
  induction r with
  | nil => intro a g gs; simp [List.splitBy.loop, simpSplitGo]
  | cons b r ih =>
    intro a g gs
    simp only [List.splitBy.loop, simpSplitGo, List.getLast?_append, List.getLast?_singleton, Option.some_or, simpSmooth]
    cases simpCorner th a b <;> simp [ih]

theorem c18s_split_eq_splitBy (th : K) (segs : List (PathSeg K)) :
    simpSplitGo th [] segs = segs.splitBy (simpSmooth th) := by
  cases segs with
  | nil => rfl
  | cons a r => simpa [simpSplitGo, List.splitBy] using (c18s_splitByLoop_eq th r a [] []).symm

theorem c18s_split_flatten (th : K) (segs : List (PathSeg K)) : (simpSplitGo th [] segs).flatten = segs := by
  rw [c18s_split_eq_splitBy, List.flatten_splitBy]

theorem c18s_split_ne (th : K) (segs : List (PathSeg K)) : ∀ g ∈ simpSplitGo th [] segs, g ≠ [] := by
  rw [c18s_split_eq_splitBy]
  exact fun g hg => List.ne_nil_of_mem_splitBy hg

theorem c18s_split_eq_nil (th : K) (segs : List (PathSeg K)) : simpSplitGo th [] segs = [] ↔ segs = [] := by
  rw [c18s_split_eq_splitBy, List.splitBy_eq_nil]

theorem c18s_split_append_corner (th : K) (A : List (PathSeg K)) (b : PathSeg K) (B : List (PathSeg K))
    (h : ∀ a ∈ A.getLast?, simpCorner th a b = true) :
    simpSplitGo th [] (A ++ b :: B) = simpSplitGo th [] A ++ simpSplitGo th [] (b :: B) := by
  simp only [c18s_split_eq_splitBy]
  exact List.splitBy_append_cons B fun a ha => by simp [simpSmooth, h a ha]

theorem c18s_split_getLast (th : K) (segs : List (PathSeg K)) (hs : segs ≠ []) :
    ∃ front g, simpSplitGo th [] segs = front ++ [g] ∧ g ≠ [] ∧ g.getLast? = segs.getLast? := by
  rcases List.eq_nil_or_concat (simpSplitGo th [] segs) with h | ⟨front, g, h⟩
  · exact absurd ((c18s_split_eq_nil th segs).1 h) hs
  · have hg : g ≠ [] := c18s_split_ne th segs g (by simp [h])
    refine ⟨front, g, by simpa using h, hg, ?_⟩
    have hf := c18s_split_flatten th segs
    rw [h] at hf
    rw [← hf]
    simp [List.getLast?_append, List.getLast?_eq_some_getLast hg]

theorem c18s_curve_draw {e : PathEl K} (h : e.simpCurve = true) : e.simpDraw = true := by
  cases e <;> first | rfl | cases h

theorem c18s_draw_not_close {e : PathEl K} (h : e.simpDraw = true) : e.simpClose = false := by
  cases e <;> first | rfl | cases h

theorem c18s_stretchOut_single (fit : List (PathEl K) → List (PathEl K)) (s : PathSeg K) :
    simpStretchOut fit [s] = [s.drawEl] := rfl

theorem c18s_stretchOut_spec {fit : List (PathEl K) → List (PathEl K)} (hfit : C18FitSpec fit) (g : List (PathSeg K))
    (hg : g ≠ []) :
    simpStretchOut fit g ≠ [] ∧ (∀ e ∈ simpStretchOut fit g, e.simpDraw = true) ∧
      simpLastEnd (simpStretchOut fit g) = g.getLast?.map PathSeg.end := by
  cases g with
  | nil => exact absurd rfl hg
  | cons s r =>
    cases r with
    | nil =>
      refine ⟨by simp [simpStretchOut], ?_, ?_⟩
      · intro e he; simp [simpStretchOut] at he; subst he; exact c18s_drawEl_draw s
      · simp [simpStretchOut, simpLastEnd, c18s_drawEl_end]
    | cons s' r' =>
      obtain ⟨cs, h1, h2, h3, h4⟩ :=
        hfit.shape s.start ((s :: s' :: r').map PathSeg.drawEl) (c18s_queue_draw _) (by simp)
      have hq : simpQueue (s :: s' :: r') = .MoveTo s.start :: (s :: s' :: r').map PathSeg.drawEl := rfl
      have e : simpStretchOut fit (s :: s' :: r') = cs := by
        simp only [simpStretchOut, hq, h1, List.drop_succ_cons, List.drop_zero]
      rw [e]
      refine ⟨h2, fun x hx => c18s_curve_draw (h3 x hx), ?_⟩
      rw [h4]
      unfold simpLastEnd
      rw [List.getLast?_map]
      cases (s :: s' :: r').getLast? with
      | none => rfl
      | some x => simp [c18s_drawEl_end]

/-- the drawing elements emitted for the segments of one sub-path -/
def simpChunkDraws (fit : List (PathEl K) → List (PathEl K)) (th : K) (segs : List (PathSeg K)) : List (PathEl K) :=
  ((simpSplitGo th [] segs).map (simpStretchOut fit)).flatten

theorem c18s_chunkOut_nil (fit : List (PathEl K) → List (PathEl K)) (th : K) (start : Point K) (closed : Bool) :
    simpChunkOut fit th ⟨start, [], closed⟩ = if closed then [.MoveTo start, .ClosePath] else [] := by
  cases closed <;> simp [simpChunkOut, simpChunkTail, simpSplitGo]

theorem c18s_chunkOut_cons (fit : List (PathEl K) → List (PathEl K)) (th : K) (start : Point K) (s : PathSeg K)
    (r : List (PathSeg K)) (closed : Bool) :
    simpChunkOut fit th ⟨start, s :: r, closed⟩ =
      .MoveTo start :: simpChunkDraws fit th (s :: r) ++ (if closed then [.ClosePath] else []) := by
  have h : simpSplitGo th [] (s :: r) ≠ [] := fun h => nomatch (c18s_split_eq_nil th _).1 h
  simp [simpChunkOut, simpChunkTail, simpChunkDraws, h]

theorem c18s_flatten_stretch_draw {fit : List (PathEl K) → List (PathEl K)} (hfit : C18FitSpec fit)
    (gs : List (List (PathSeg K))) (hne : ∀ g ∈ gs, g ≠ []) :
    ∀ e ∈ (gs.map (simpStretchOut fit)).flatten, e.simpDraw = true := by
  intro e he
  obtain ⟨l, hl, hel⟩ := List.mem_flatten.1 he
  obtain ⟨g, hg, rfl⟩ := List.mem_map.1 hl
  exact (c18s_stretchOut_spec hfit g (hne g hg)).2.1 e hel

theorem c18s_chunkDraws_spec {fit : List (PathEl K) → List (PathEl K)} (hfit : C18FitSpec fit) (th : K)
    (segs : List (PathSeg K)) (hs : segs ≠ []) :
    simpChunkDraws fit th segs ≠ [] ∧ (∀ e ∈ simpChunkDraws fit th segs, e.simpDraw = true) ∧
      simpLastEnd (simpChunkDraws fit th segs) = segs.getLast?.map PathSeg.end := by
  obtain ⟨front, g, hfront, hg, hlast⟩ := c18s_split_getLast th segs hs
  obtain ⟨o1, -, o3⟩ := c18s_stretchOut_spec hfit g hg
  have hd : simpChunkDraws fit th segs = (front.map (simpStretchOut fit)).flatten ++ simpStretchOut fit g := by
    simp [simpChunkDraws, hfront]
  refine ⟨by simp [hd, o1], c18s_flatten_stretch_draw hfit _ (c18s_split_ne th segs), ?_⟩
  rw [hd, ← hlast, ← o3]
  simp [simpLastEnd, List.getLast?_append, List.getLast?_eq_some_getLast o1]

/-- the current sub-path and the ones after it -/
def simpChunksFrom (start last : Point K) (els : List (PathEl K)) : List (SimpChunk K) :=
  ⟨start, simpHeadSegs last els, simpHeadClosed els⟩ :: simpTailChunks start els

theorem c18s_chunks_moveTo (p : Point K) (r : List (PathEl K)) : simpChunks (.MoveTo p :: r) = simpChunksFrom p p r := rfl

theorem c18s_draws_append (start : Point K) (rest ds : List (PathEl K)) (h : ∀ e ∈ ds, e.simpDraw = true) :
    simpHeadClosed (ds ++ rest) = simpHeadClosed rest ∧
      simpTailChunks start (ds ++ rest) = simpTailChunks start rest := by
  induction ds with
  | nil => exact ⟨rfl, rfl⟩
  | cons d r ih =>
    have hd : d.simpDraw = true := h d (by simp)
    obtain ⟨i1, i2⟩ := ih fun e he => h e (by simp [he])
    refine ⟨?_, ?_⟩
    · simp only [List.cons_append, simpHeadClosed, hd, if_true, i1]
    · rw [List.cons_append, c18s_tailChunks_draw start _ hd, i2]

theorem c18s_headSegs_append_stop (rest : List (PathEl K)) (hrest : ∀ e ∈ rest.head?, e.simpDraw = false) :
    ∀ (ds : List (PathEl K)) (last : Point K), (∀ e ∈ ds, e.simpDraw = true) →
      simpHeadSegs last (ds ++ rest) = simpHeadSegs last ds := by
  intro ds
  induction ds with
  | nil =>
    intro last _
    cases rest with
    | nil => rfl
    | cons e r => simp [simpHeadSegs, hrest e (by simp)]
  | cons d r ih =>
    intro last h
    have hd : d.simpDraw = true := h d (by simp)
    have hr : ∀ e ∈ r, e.simpDraw = true := fun e he => h e (by simp [he])
    simp only [List.cons_append, simpHeadSegs, hd, if_true]
    cases simpElSeg last d with
    | none => exact ih last hr
    | some s => simp only []; rw [ih s.end hr]

theorem c18s_chunksFrom_append (start last : Point K) (ds rest : List (PathEl K)) (hds : ∀ e ∈ ds, e.simpDraw = true)
    (hrest : ∀ e ∈ rest.head?, e.simpDraw = false) :
    simpChunksFrom start last (ds ++ rest) =
      ⟨start, simpHeadSegs last ds, simpHeadClosed rest⟩ :: simpTailChunks start rest := by
  obtain ⟨h1, h2⟩ := c18s_draws_append start rest ds hds
  rw [simpChunksFrom, h1, h2, c18s_headSegs_append_stop rest hrest ds last hds]

theorem c18s_closed_count :
    ∀ (els : List (PathEl K)) (start : Point K) (X : List (PathSeg K)),
      ((⟨start, X, simpHeadClosed els⟩ :: simpTailChunks start els).filter SimpChunk.closed).length =
        els.countP PathEl.simpClose := by
  intro els
  induction els with
  | nil => intro start X; simp [simpHeadClosed, simpTailChunks]
  | cons el r ih =>
    intro start X
    cases el with
    | MoveTo p =>
      simpa [simpHeadClosed, simpTailChunks, PathEl.simpDraw, PathEl.simpClose, List.countP_cons]
        using ih p (simpHeadSegs p r)
    | ClosePath =>
      simpa [simpHeadClosed, simpTailChunks, PathEl.simpDraw, PathEl.simpClose, List.countP_cons]
        using ih start (simpHeadSegs start r)
    | _ =>
      simpa [simpHeadClosed, simpTailChunks, PathEl.simpDraw, PathEl.simpClose, List.countP_cons] using ih start X

theorem c18s_lead_split (els : List (PathEl K)) :
    els = List.replicate (simpLead els) .ClosePath ++ els.drop (simpLead els) := by
  induction els with
  | nil => rfl
  | cons e r ih =>
    cases e with
    | ClosePath => simp only [simpLead, List.replicate_succ, List.drop_succ_cons, List.cons_append]; rw [← ih]
    | _ => rfl

theorem c18s_lead_drop_head (els : List (PathEl K)) : ∀ e ∈ (els.drop (simpLead els)).head?, e.simpClose = false := by
  induction els with
  | nil => intro e he; simp at he
  | cons x r ih =>
    cases x with
    | ClosePath => simpa [simpLead] using ih
    | _ => intro e he; simp [simpLead] at he; subst he; rfl

end Kurbo
