import Proofs.KDefs
import Proofs.Lemmas.C10Struct
import Proofs.Lemmas.C07Inst
import Proofs.Lemmas.RealLaws
import Mathlib.Analysis.SpecialFunctions.Trigonometric.Basic
import Mathlib.Analysis.SpecialFunctions.Trigonometric.Deriv
import Mathlib.Tactic.LinearCombination
/-! The point functions of `Lemmas/C10Struct.lean` in field arithmetic (any lawful scalar) and, over ℝ with the real
    `sin cos tan pi`, as points of the ideal circle or ellipse. -/
set_option linter.unusedSectionVars false
namespace Kurbo

section lawful
variable {K : Type} [Field K] [LinearOrder K] [IsStrictOrderedRing K] [FloorRing K] [Scalar K] [LawfulScalar K]

@[scalar_norm] theorem sn_natK (n : Nat) : (natK n : K) = (n : K) := by
  unfold natK; rw [sn_ofRat]; simp

theorem ofNat_zero_eq : (@OfNat.ofNat K 0 Ops.instOfNat) = (0 : K) := by
  simp only [scalar_norm]; push_cast; rfl

theorem fracPi2_eq : (fracPi2 : K) = Scalar.pi / 2 := by
  unfold fracPi2; simp only [scalar_norm]; push_cast; rfl

theorem twoPi_eq : (twoPi : K) = 2 * Scalar.pi := by
  unfold twoPi; simp only [scalar_norm]; push_cast; rfl

theorem accAngle_succ_eq (start step : K) (k : Nat) : accAngle start step (k + 1) = accAngle start step k + step :=
  sn_add _ _

theorem accAngle_eq (start step : K) (k : Nat) : accAngle start step k = start + k * step := by
  induction k with
  | zero => simp [accAngle]
  | succ k ih => rw [accAngle_succ_eq, ih]; push_cast; ring

theorem sampleEllipse_eq (radii : Vec2 K) (rot θ : K) :
    sampleEllipse radii rot θ
      = ⟨radii.x * Scalar.cos θ * Scalar.cos rot - radii.y * Scalar.sin θ * Scalar.sin rot,
         radii.x * Scalar.cos θ * Scalar.sin rot + radii.y * Scalar.sin θ * Scalar.cos rot⟩ := by
  simp only [sampleEllipse, rotatePt, kdefs, scalar_norm]

theorem circleTheta_eq (n k : Nat) : (circleTheta n k : K) = 2 * Scalar.pi / n * k := by
  simp only [circleTheta, scalar_norm]; push_cast; rfl

theorem circleTh0_eq (n k : Nat) : (circleTh0 n k : K) = 2 * Scalar.pi / n * k := by
  simp only [circleTh0, circleTheta, scalar_norm]; push_cast; ring

theorem circleStart_eq (c : Circle K) : circleStart c = ⟨c.center.x + c.radius, c.center.y⟩ := by
  simp only [circleStart, scalar_norm]

/-- the literal `(0, 1)` of the last piece: the chain of a circle ends exactly on the `MoveTo` point -/
theorem circle_chain_closed (c : Circle K) (n : Nat) :
    chainStart (circleStart c) (circleEnd c n) n = circleStart c := by
  cases n with
  | zero => rfl
  | succ n =>
    show circleEnd c (n + 1) n = _
    rw [circleEnd_last, circleStart_eq]
    simp only [scalar_norm, Point.mk.injEq]; push_cast
    constructor <;> ring

theorem circle_segs_lawful (c : Circle K) (tol : K) :
    segs (c.path_elements tol)
      = some (curveSegs (circleStart c) (circleC1 c (c.pathParams tol).2 (c.pathParams tol).1)
          (circleC2 c (c.pathParams tol).2 (c.pathParams tol).1) (circleEnd c (c.pathParams tol).1) (c.pathParams tol).1) := by
  rw [circle_path_elements_eq, segs_moveTo_curveEls_close, circle_chain_closed, peq_self]
  simp
end lawful

/-- `Scalar.sin/cos/tan/pi` of a `Scalar ℝ` instance are the real functions / the real number they are named after -/
class LawfulTrig [Scalar ℝ] : Prop where
  sin_eq : ∀ x : ℝ, Scalar.sin x = Real.sin x
  cos_eq : ∀ x : ℝ, Scalar.cos x = Real.cos x
  tan_eq : ∀ x : ℝ, Scalar.tan x = Real.tan x
  pi_eq : (Scalar.pi : ℝ) = Real.pi

/-- `as usize` and `powf` over ℝ (saturation at `usize::MAX` is not modelled) -/
class LawfulCount [Scalar ℝ] : Prop where
  toUSize_eq : ∀ x : ℝ, Scalar.toUSize x = ⌊x⌋₊
  powf_eq : ∀ x y : ℝ, Scalar.powf x y = x ^ y

theorem realScalar_lawfulTrig : @LawfulTrig realScalar :=
  letI := realScalar
  { sin_eq := fun _ => rfl, cos_eq := fun _ => rfl, tan_eq := fun _ => rfl, pi_eq := rfl }

theorem realScalar_lawfulCount : @LawfulCount realScalar :=
  letI := realScalar
  { toUSize_eq := fun _ => rfl, powf_eq := fun _ _ => rfl }

/-- `p` lies on the ellipse with centre `c`, semi-axes `rx, ry`, the `rx`-axis turned by `rot` from the x-axis:
    in the frame of the axes, `(u/rx)² + (v/ry)² = 1` -/
def OnEllipse (c : Point ℝ) (rx ry rot : ℝ) (p : Point ℝ) : Prop :=
  (((p.x - c.x) * Real.cos rot + (p.y - c.y) * Real.sin rot) / rx) ^ 2
    + ((-(p.x - c.x) * Real.sin rot + (p.y - c.y) * Real.cos rot) / ry) ^ 2 = 1

def OnCircle (c : Point ℝ) (r : ℝ) (p : Point ℝ) : Prop := (p.x - c.x) ^ 2 + (p.y - c.y) ^ 2 = r ^ 2

noncomputable def circlePt (c : Point ℝ) (r θ : ℝ) : Point ℝ := ⟨c.x + r * Real.cos θ, c.y + r * Real.sin θ⟩

theorem circlePt_onCircle (c : Point ℝ) (r θ : ℝ) : OnCircle c r (circlePt c r θ) := by
  simp only [OnCircle, circlePt]
  linear_combination r ^ 2 * Real.cos_sq_add_sin_sq θ

noncomputable def circleAngle (n k : Nat) : ℝ := 2 * Real.pi / n * k

theorem circleAngle_zero (n : Nat) : circleAngle n 0 = 0 := by simp [circleAngle]
theorem circleAngle_full (n : Nat) (hn : n ≠ 0) : circleAngle n n = 2 * Real.pi := by
  have : (n : ℝ) ≠ 0 := by exact_mod_cast hn
  unfold circleAngle; field_simp
theorem circleAngle_succ (n k : Nat) : circleAngle n (k + 1) = circleAngle n k + 2 * Real.pi / n := by
  unfold circleAngle; push_cast; ring

/-- the cubic that approximates the arc from angle `α` to angle `β` of the circle `(ctr, r)` with arm length `a·r` -/
noncomputable def circleArcCubic (ctr : Point ℝ) (r a α β : ℝ) : CubicBez ℝ :=
  ⟨circlePt ctr r α,
   ⟨ctr.x + r * (Real.cos α - a * Real.sin α), ctr.y + r * (Real.sin α + a * Real.cos α)⟩,
   ⟨ctr.x + r * (Real.cos β + a * Real.sin β), ctr.y + r * (Real.sin β - a * Real.cos β)⟩,
   circlePt ctr r β⟩

theorem natFloor_ceil_cast {x : ℝ} (hx : 0 ≤ x) : ((⌊(⌈x⌉ : ℝ)⌋₊ : ℕ) : ℝ) = (⌈x⌉ : ℝ) := by
  rw [natCast_floor_eq_intCast_floor (by exact_mod_cast Int.ceil_nonneg hx), Int.floor_intCast]

/-- also for `b < 0`, where `b ^ (1/6)` is whatever `Real.rpow` makes of it -/
theorem le_pow_six_of_rpow_le {b m : ℝ} (hm : 0 ≤ m) (h : b ^ ((1 : ℝ) / 6) ≤ m) : b ≤ m ^ 6 := by
  rcases le_or_gt 0 b with hb | hb
  · calc b = (b ^ ((1 : ℝ) / 6)) ^ 6 := by rw [← Real.rpow_natCast, ← Real.rpow_mul hb]; norm_num
      _ ≤ m ^ 6 := pow_le_pow_left₀ (Real.rpow_nonneg hb _) h 6
  · exact hb.le.trans (pow_nonneg hm 6)

theorem cos_q2 : Real.cos (Real.pi / 2 * 2) = -1 := by rw [show Real.pi / 2 * 2 = Real.pi by ring, Real.cos_pi]
theorem sin_q2 : Real.sin (Real.pi / 2 * 2) = 0 := by rw [show Real.pi / 2 * 2 = Real.pi by ring, Real.sin_pi]
theorem cos_q3 : Real.cos (Real.pi / 2 * 3) = 0 := by
  rw [show Real.pi / 2 * 3 = Real.pi + Real.pi / 2 by ring, Real.cos_add_pi_div_two, Real.sin_pi, neg_zero]
theorem sin_q3 : Real.sin (Real.pi / 2 * 3) = -1 := by
  rw [show Real.pi / 2 * 3 = Real.pi + Real.pi / 2 by ring, Real.sin_add_pi_div_two, Real.cos_pi]
theorem cos_q4 : Real.cos (Real.pi / 2 * 3 + Real.pi / 2) = 1 := by
  rw [show Real.pi / 2 * 3 + Real.pi / 2 = 2 * Real.pi by ring, Real.cos_two_pi]
theorem sin_q4 : Real.sin (Real.pi / 2 * 3 + Real.pi / 2) = 0 := by
  rw [show Real.pi / 2 * 3 + Real.pi / 2 = 2 * Real.pi by ring, Real.sin_two_pi]
theorem cos_q2' : Real.cos (Real.pi / 2 * 1 + Real.pi / 2) = -1 := by
  rw [show Real.pi / 2 * 1 + Real.pi / 2 = Real.pi by ring, Real.cos_pi]
theorem sin_q2' : Real.sin (Real.pi / 2 * 1 + Real.pi / 2) = 0 := by
  rw [show Real.pi / 2 * 1 + Real.pi / 2 = Real.pi by ring, Real.sin_pi]
theorem cos_q3' : Real.cos (Real.pi / 2 * 2 + Real.pi / 2) = 0 := by
  rw [show Real.pi / 2 * 2 + Real.pi / 2 = Real.pi / 2 * 3 by ring, cos_q3]
theorem sin_q3' : Real.sin (Real.pi / 2 * 2 + Real.pi / 2) = -1 := by
  rw [show Real.pi / 2 * 2 + Real.pi / 2 = Real.pi / 2 * 3 by ring, sin_q3]

section real
variable [Scalar ℝ] [LawfulScalar ℝ] [LawfulTrig]
open LawfulTrig

theorem sampleEllipse_real (radii : Vec2 ℝ) (rot θ : ℝ) :
    sampleEllipse radii rot θ
      = ⟨radii.x * Real.cos θ * Real.cos rot - radii.y * Real.sin θ * Real.sin rot,
         radii.x * Real.cos θ * Real.sin rot + radii.y * Real.sin θ * Real.cos rot⟩ := by
  rw [sampleEllipse_eq]; simp only [sin_eq, cos_eq]

theorem fracPi2_real : (fracPi2 : ℝ) = Real.pi / 2 := by rw [fracPi2_eq, pi_eq]
theorem twoPi_real : (twoPi : ℝ) = 2 * Real.pi := by rw [twoPi_eq, pi_eq]

theorem sampleEllipse_unrotate (radii : Vec2 ℝ) (rot θ : ℝ) :
    (sampleEllipse radii rot θ).x * Real.cos rot + (sampleEllipse radii rot θ).y * Real.sin rot = radii.x * Real.cos θ ∧
    -(sampleEllipse radii rot θ).x * Real.sin rot + (sampleEllipse radii rot θ).y * Real.cos rot = radii.y * Real.sin θ := by
  rw [sampleEllipse_real]
  constructor
  · linear_combination radii.x * Real.cos θ * Real.cos_sq_add_sin_sq rot
  · linear_combination radii.y * Real.sin θ * Real.cos_sq_add_sin_sq rot

theorem center_add_onEllipse (c : Point ℝ) (radii : Vec2 ℝ) (rot θ : ℝ) (hx : radii.x ≠ 0) (hy : radii.y ≠ 0) :
    OnEllipse c radii.x radii.y rot (c + sampleEllipse radii rot θ) := by
  obtain ⟨h1, h2⟩ := sampleEllipse_unrotate radii rot θ
  simp only [OnEllipse, kdefs, scalar_norm]
  rw [show c.x + (sampleEllipse radii rot θ).x - c.x = (sampleEllipse radii rot θ).x by ring,
    show c.y + (sampleEllipse radii rot θ).y - c.y = (sampleEllipse radii rot θ).y by ring, h1, h2]
  rw [mul_div_cancel_left₀ _ hx, mul_div_cancel_left₀ _ hy]
  exact Real.cos_sq_add_sin_sq θ

theorem sampleEllipse_hasDerivAt (radii : Vec2 ℝ) (rot θ : ℝ) :
    HasDerivAt (fun t => (sampleEllipse radii rot t).x) (sampleEllipse radii rot (θ + fracPi2)).x θ ∧
    HasDerivAt (fun t => (sampleEllipse radii rot t).y) (sampleEllipse radii rot (θ + fracPi2)).y θ := by
  simp only [sampleEllipse_real, fracPi2_real, Real.cos_add_pi_div_two, Real.sin_add_pi_div_two]
  constructor
  · have h := (((Real.hasDerivAt_cos θ).const_mul radii.x).mul_const (Real.cos rot)).fun_sub
      (((Real.hasDerivAt_sin θ).const_mul radii.y).mul_const (Real.sin rot))
    exact h
  · have h := (((Real.hasDerivAt_cos θ).const_mul radii.x).mul_const (Real.sin rot)).fun_add
      (((Real.hasDerivAt_sin θ).const_mul radii.y).mul_const (Real.cos rot))
    exact h

theorem circleSC_real (n k : Nat) (hn : n ≠ 0) :
    (circleSC n k : ℝ × ℝ) = (Real.sin (circleAngle n k), Real.cos (circleAngle n k)) := by
  unfold circleSC
  by_cases h : k = n
  · subst h
    simp only [beq_self_eq_true, if_true, circleAngle_full k hn, Real.sin_two_pi, Real.cos_two_pi, scalar_norm]
    push_cast; rfl
  · have : (k == n) = false := by simpa using h
    rw [this]
    simp only [Bool.false_eq_true, if_false, circleTheta_eq, sin_eq, cos_eq, pi_eq, circleAngle]

theorem circleStart_real (c : Circle ℝ) : circleStart c = circlePt c.center c.radius 0 := by
  rw [circleStart_eq]; simp [circlePt]

theorem circleC1_real (c : Circle ℝ) (a : ℝ) (n k : Nat) :
    circleC1 c a n k = (circleArcCubic c.center c.radius a (circleAngle n k) (circleAngle n (k + 1))).p1 := by
  simp only [circleC1, circleTh0_eq, sin_eq, cos_eq, pi_eq, scalar_norm, circleArcCubic, circleAngle]

theorem circleC2_real (c : Circle ℝ) (a : ℝ) (n k : Nat) (hn : n ≠ 0) :
    circleC2 c a n k = (circleArcCubic c.center c.radius a (circleAngle n k) (circleAngle n (k + 1))).p2 := by
  simp only [circleC2, circleSC_real _ _ hn, scalar_norm, circleArcCubic]

theorem circleEnd_real (c : Circle ℝ) (n k : Nat) (hn : n ≠ 0) :
    circleEnd c n k = circlePt c.center c.radius (circleAngle n (k + 1)) := by
  simp only [circleEnd, circleSC_real _ _ hn, scalar_norm, circlePt]

theorem chainStart_circle_real (c : Circle ℝ) (n k : Nat) (hn : n ≠ 0) :
    chainStart (circleStart c) (circleEnd c n) k = circlePt c.center c.radius (circleAngle n k) := by
  have h := chainStart_knots (fun k => circlePt c.center c.radius (circleAngle n k)) k
  rwa [circleAngle_zero, ← circleStart_real, ← funext fun j => circleEnd_real c n j hn] at h
theorem center_add_sample_circle (c : Point ℝ) (r θ : ℝ) :
    c + sampleEllipse (⟨r, r⟩ : Vec2 ℝ) (0 : ℝ) θ = circlePt c r θ := by
  rw [sampleEllipse_real]
  simp only [kdefs, scalar_norm, circlePt, Real.cos_zero, Real.sin_zero, Point.mk.injEq]
  constructor <;> ring

theorem pointOnCircle_real (c : Point ℝ) (r θ : ℝ) : pointOnCircle c r θ = circlePt c r θ := by
  simp only [pointOnCircle, kdefs, scalar_norm, sin_eq, cos_eq, circlePt, Point.mk.injEq]
  constructor <;> ring

noncomputable def Arc.startPt (a : Arc ℝ) : Point ℝ := a.center + sampleEllipse a.radii a.x_rotation a.start_angle
noncomputable def Arc.endPt (a : Arc ℝ) : Point ℝ :=
  a.center + sampleEllipse a.radii a.x_rotation (a.start_angle + a.sweep_angle)

theorem roundedRect_arc_starts_real (s : RoundedRect ℝ) :
    s.arcTL.startPt = s.p0 ∧ s.arcTR.startPt = s.p1 ∧ s.arcBR.startPt = s.p2 ∧ s.arcBL.startPt = s.p3 := by
  simp only [Arc.startPt, RoundedRect.arcTL, RoundedRect.arcTR, RoundedRect.arcBR, RoundedRect.arcBL, cornerArc,
    RoundedRect.p0, RoundedRect.p1, RoundedRect.p2, RoundedRect.p3, sampleEllipse_real, kdefs, fracPi2_real]
  simp only [scalar_norm]
  push_cast
  simp only [Real.cos_zero, Real.sin_zero, cos_q2, sin_q2, cos_q3, sin_q3, mul_zero, mul_one, Real.cos_pi_div_two,
    Real.sin_pi_div_two, Point.mk.injEq]
  refine ⟨⟨?_, ?_⟩, ⟨?_, ?_⟩, ⟨?_, ?_⟩, ⟨?_, ?_⟩⟩ <;> ring

theorem roundedRect_arc_ends_real (s : RoundedRect ℝ) :
    s.arcTL.endPt = ⟨s.rect.x0 + s.radii.top_left, s.rect.y0⟩ ∧ s.arcTR.endPt = ⟨s.rect.x1, s.rect.y0 + s.radii.top_right⟩ ∧
    s.arcBR.endPt = ⟨s.rect.x1 - s.radii.bottom_right, s.rect.y1⟩ ∧ s.arcBL.endPt = ⟨s.rect.x0, s.rect.y1 - s.radii.bottom_left⟩ := by
  simp only [Arc.endPt, RoundedRect.arcTL, RoundedRect.arcTR, RoundedRect.arcBR, RoundedRect.arcBL, cornerArc,
    sampleEllipse_real, kdefs, fracPi2_real]
  simp only [scalar_norm]
  push_cast
  simp only [Real.cos_zero, Real.sin_zero, cos_q3', sin_q3', cos_q4, sin_q4, mul_zero, mul_one, zero_add,
    Real.cos_pi_div_two, Real.sin_pi_div_two, Point.mk.injEq, add_halves, Real.cos_pi, Real.sin_pi]
  refine ⟨⟨?_, ?_⟩, ⟨?_, ?_⟩, ⟨?_, ?_⟩, ⟨?_, ?_⟩⟩ <;> ring
theorem append_iter_onCircle (a : Arc ℝ) (tol r : ℝ) (hr : a.radii = ⟨r, r⟩) (hrot : a.x_rotation = 0) :
    ∀ el ∈ a.append_iter tol, ∃ p, el.end_point = some p ∧ OnCircle a.center r p :=
  append_iter_forall_sample a tol fun θ => by
    rw [hr, hrot, center_add_sample_circle]
    exact circlePt_onCircle _ _ _

theorem circlePt_hasDerivAt (ctr : Point ℝ) (r θ : ℝ) :
    HasDerivAt (fun t => (circlePt ctr r t).x) (-(r * Real.sin θ)) θ ∧
    HasDerivAt (fun t => (circlePt ctr r t).y) (r * Real.cos θ) θ := by
  simp only [circlePt]
  constructor
  · have h := ((Real.hasDerivAt_cos θ).const_mul r).const_add ctr.x
    rw [show -(r * Real.sin θ) = r * -Real.sin θ by ring]; exact h
  · exact ((Real.hasDerivAt_sin θ).const_mul r).const_add ctr.y


theorem circle_segs_real (c : Circle ℝ) (tol : ℝ) (hn : (c.pathParams tol).1 ≠ 0) :
    segs (c.path_elements tol)
      = some ((List.range (c.pathParams tol).1).map fun k => PathSeg.Cubic
          (circleArcCubic c.center c.radius (c.pathParams tol).2
            (circleAngle (c.pathParams tol).1 k) (circleAngle (c.pathParams tol).1 (k + 1)))) := by
  rw [circle_segs_lawful]
  congr 1
  apply List.map_congr_left
  intro k _
  rw [chainStart_circle_real c _ k hn, circleC1_real, circleC2_real c _ _ k hn, circleEnd_real c _ k hn]
  rfl

theorem circle_elements_onCircle (c : Circle ℝ) (tol : ℝ) :
    ∀ el ∈ c.path_elements tol, el = PathEl.ClosePath ∨ ∃ p, el.end_point = some p ∧ OnCircle c.center c.radius p := by
  intro el h
  rw [circle_path_elements_eq, List.mem_cons, List.mem_append, List.mem_singleton] at h
  rcases h with rfl | h | rfl
  · exact Or.inr ⟨_, rfl, by rw [circleStart_real]; exact circlePt_onCircle _ _ _⟩
  · obtain ⟨k, hk, rfl⟩ := mem_curveEls h
    have hn : (c.pathParams tol).1 ≠ 0 := by omega
    exact Or.inr ⟨_, rfl, by rw [circleEnd_real c _ k hn]; exact circlePt_onCircle _ _ _⟩
  · exact Or.inl rfl

theorem circleArcCubic_arms (ctr : Point ℝ) (r a α β : ℝ) :
    (circleArcCubic ctr r a α β).p1 - (circleArcCubic ctr r a α β).p0 = (⟨a * -(r * Real.sin α), a * (r * Real.cos α)⟩ : Vec2 ℝ) ∧
    (circleArcCubic ctr r a α β).p3 - (circleArcCubic ctr r a α β).p2 = (⟨a * -(r * Real.sin β), a * (r * Real.cos β)⟩ : Vec2 ℝ) := by
  simp only [circleArcCubic, circlePt, kdefs, scalar_norm, Vec2.mk.injEq]
  refine ⟨⟨?_, ?_⟩, ⟨?_, ?_⟩⟩ <;> ring

theorem cseg_arc_points_real (s : CircleSegment ℝ) :
    s.outer_arc.startPt = pointOnCircle s.center s.outer_radius s.start_angle ∧
    s.outer_arc.endPt = pointOnCircle s.center s.outer_radius (s.start_angle + s.sweep_angle) ∧
    s.inner_arc.startPt = pointOnCircle s.center s.inner_radius (s.start_angle + s.sweep_angle) ∧
    s.inner_arc.endPt = pointOnCircle s.center s.inner_radius s.start_angle := by
  simp only [Arc.startPt, Arc.endPt, CircleSegment.outer_arc, CircleSegment.inner_arc, Vec2.new, ofNat_zero_eq,
    center_add_sample_circle, pointOnCircle_real]
  refine ⟨trivial, trivial, by simp only [scalar_norm], ?_⟩
  simp only [scalar_norm]
  rw [show s.start_angle + s.sweep_angle + -s.sweep_angle = s.start_angle by ring]

theorem ellipse_arc_closed_real (e : Ellipse ℝ) : e.arc.endPt = e.arc.startPt := by
  simp only [Arc.startPt, Arc.endPt, Ellipse.arc, sampleEllipse_real, twoPi_real, scalar_norm]
  push_cast
  rw [show (0 : ℝ) + 2 * Real.pi = 2 * Real.pi by ring, Real.cos_two_pi, Real.sin_two_pi, Real.cos_zero, Real.sin_zero]

end real

section fixed
variable [Scalar ℝ] [LawfulScalar ℝ]

theorem pathParams_fixed (c : Circle ℝ) (tol : ℝ) (hb : |c.radius| / tol < 100000000 / 19608) :
    c.pathParams tol = (4, 551915024494 / 1000000000000) := by
  unfold Circle.pathParams
  simp only [scalar_norm]
  push_cast
  rw [if_pos (by rw [one_div_div]; simpa using hb)]

end fixed

section count
variable [Scalar ℝ] [LawfulScalar ℝ] [LawfulTrig] [LawfulCount]
open LawfulTrig LawfulCount

/-- the `max …` is `n_err` of `Arc::append_iter` -/
theorem appendParams_eq (a : Arc ℝ) (tol : ℝ) :
    ((a.appendParams tol).1 : ℝ)
      = ⌈max ((11163 / 10000 * (max a.radii.x a.radii.y / tol)) ^ ((1 : ℝ) / 6)) (3999999 / 1000000) * |a.sweep_angle|
          * (1 / (2 * Real.pi))⌉ ∧
    (a.appendParams tol).2.2 = a.sweep_angle / ((a.appendParams tol).1 : ℝ) ∧
    (a.appendParams tol).2.1
      = 4 / 3 * Real.tan |1 / 4 * (a.sweep_angle / ((a.appendParams tol).1 : ℝ))| * (if a.sweep_angle < 0 then -1 else 1) := by
  simp only [Arc.appendParams, scalar_norm, toUSize_eq, pi_eq, tan_eq, powf_eq]
  push_cast
  rw [natFloor_ceil_cast (mul_nonneg (mul_nonneg (le_trans (by norm_num) (le_max_right _ _)) (abs_nonneg _))
    (one_div_pos.mpr Real.two_pi_pos).le)]
  exact ⟨rfl, rfl, rfl⟩

/-- `m` is `n_err` -/
theorem appendParams_spec (a : Arc ℝ) (tol : ℝ) :
    ∃ m : ℝ, 3999999 / 1000000 ≤ m ∧ 11163 / 10000 * (max a.radii.x a.radii.y / tol) ≤ m ^ 6 ∧
      m * |a.sweep_angle| ≤ 2 * Real.pi * ((a.appendParams tol).1 : ℝ) := by
  have hm : (3999999 / 1000000 : ℝ)
      ≤ max ((11163 / 10000 * (max a.radii.x a.radii.y / tol)) ^ ((1 : ℝ) / 6)) (3999999 / 1000000) := le_max_right _ _
  refine ⟨_, hm, le_pow_six_of_rpow_le (le_trans (by norm_num) hm) (le_max_left _ _), ?_⟩
  rw [(appendParams_eq a tol).1]
  generalize max ((11163 / 10000 * (max a.radii.x a.radii.y / tol)) ^ ((1 : ℝ) / 6)) (3999999 / 1000000) = m
  have hpi : 0 < 2 * Real.pi := Real.two_pi_pos
  calc m * |a.sweep_angle| = 2 * Real.pi * (m * |a.sweep_angle| * (1 / (2 * Real.pi))) := by field_simp
    _ ≤ _ := mul_le_mul_of_nonneg_left (Int.le_ceil _) hpi.le

theorem appendParams_step (a : Arc ℝ) (tol : ℝ) :
    (a.appendParams tol).2.2 = a.sweep_angle / ((a.appendParams tol).1 : ℝ) :=
  (appendParams_eq a tol).2.1

/-- from the floor `3.999999` of `n_err`: a piece spans at most `2π/3.999999` -/
theorem appendParams_sweep_le (a : Arc ℝ) (tol : ℝ) :
    3999999 / 1000000 * |a.sweep_angle| ≤ 2 * Real.pi * ((a.appendParams tol).1 : ℝ) := by
  obtain ⟨m, hm, -, hn⟩ := appendParams_spec a tol
  exact (mul_le_mul_of_nonneg_right hm (abs_nonneg _)).trans hn

theorem appendParams_eq_zero (a : Arc ℝ) (tol : ℝ) (h0 : (a.appendParams tol).1 = 0) : a.sweep_angle = 0 := by
  have h := appendParams_sweep_le a tol
  rw [h0, Nat.cast_zero, mul_zero] at h
  exact abs_eq_zero.mp (le_antisymm (by linear_combination (1000000 / 3999999) * h) (abs_nonneg _))

theorem arc_accAngle_total (a : Arc ℝ) (tol : ℝ) :
    accAngle a.start_angle (a.appendParams tol).2.2 (a.appendParams tol).1 = a.start_angle + a.sweep_angle := by
  rw [accAngle_eq, appendParams_step]
  by_cases h0 : (a.appendParams tol).1 = 0
  · rw [appendParams_eq_zero a tol h0, h0]; simp
  · have : ((a.appendParams tol).1 : ℝ) ≠ 0 := by exact_mod_cast h0
    field_simp

/-- the formula branch of `Circle::path_elements`; `n ≥ 5` because `1.1163/1.9608e-4 > 4⁶` -/
theorem pathParams_formula (c : Circle ℝ) (tol : ℝ) (hb : 100000000 / 19608 ≤ |c.radius| / tol) :
    11163 / 10000 * (|c.radius| / tol) ≤ ((c.pathParams tol).1 : ℝ) ^ 6 ∧ 5 ≤ (c.pathParams tol).1 ∧
    (c.pathParams tol).2 = 4 / 3 * Real.tan (Real.pi / 2 / ((c.pathParams tol).1 : ℝ)) := by
  have hb0 : 0 ≤ 11163 / 10000 * (|c.radius| / tol) := mul_nonneg (by norm_num) (le_trans (by norm_num) hb)
  have hz0 := Real.rpow_nonneg hb0 ((1 : ℝ) / 6)
  have key : ((c.pathParams tol).1 : ℝ) = ⌈(11163 / 10000 * (|c.radius| / tol)) ^ ((1 : ℝ) / 6)⌉ ∧
      (c.pathParams tol).2 = 4 / 3 * Real.tan (Real.pi / 2 / ((c.pathParams tol).1 : ℝ)) := by
    unfold Circle.pathParams
    simp only [scalar_norm, fracPi2_real, tan_eq, toUSize_eq, powf_eq]
    push_cast
    rw [if_neg (by rw [one_div_div]; simpa using hb)]
    exact ⟨natFloor_ceil_cast hz0, rfl⟩
  have hpow : 11163 / 10000 * (|c.radius| / tol) ≤ ((c.pathParams tol).1 : ℝ) ^ 6 := by
    rw [key.1]
    exact le_pow_six_of_rpow_le (by exact_mod_cast Int.ceil_nonneg hz0) (Int.le_ceil _)
  refine ⟨hpow, ?_, key.2⟩
  have h4 : (4 : ℝ) ^ 6 < ((c.pathParams tol).1 : ℝ) ^ 6 :=
    (lt_of_lt_of_le (by norm_num) (mul_le_mul_of_nonneg_left hb (by norm_num))).trans_le hpow
  exact_mod_cast lt_of_pow_lt_pow_left₀ 6 (Nat.cast_nonneg _) h4

theorem arc_last_point_real (a : Arc ℝ) (tol : ℝ) :
    arcPt a.center a.radii a.x_rotation (a.appendParams tol).2.2 a.start_angle (a.appendParams tol).1 = a.endPt := by
  rw [arcPt, arc_accAngle_total, Arc.endPt]

theorem penAfter_arc_real (a : Arc ℝ) (tol : ℝ) : penAfter a.startPt (a.append_iter tol) = a.endPt := by
  rw [append_iter_eq, show a.startPt = arcPt a.center a.radii a.x_rotation (a.appendParams tol).2.2 a.start_angle 0 from rfl,
    penAfter_curveEls, chainStart_arc, arc_last_point_real]

end count

end Kurbo
