import Proofs.Lemmas.C05Real
/-! C05: the emission loop of a cubic over a lawful scalar with non-negative `val`s, as a statement about the scalar
    recursion `cubicUs` (the `target`/`val_sum` invariant; the loop parameters of each piece increase in `[0,1)`; exact
    count).  Over ℝ `val ≥ 0` for `sqrt_tol ≥ 0`, and increasing loop parameters give strictly increasing curve
    parameters inside each quadratic. -/
namespace Kurbo

section lawful
variable {K : Type} [Field K] [LinearOrder K] [IsStrictOrderedRing K] [FloorRing K] [Scalar K] [LawfulScalar K]

/-- what is known about the loop parameters inside one piece of non-negative `val` -/
def UsOK (v : K) (us : List K) : Prop :=
  us.Pairwise (· < ·) ∧ (∀ u ∈ us, 0 ≤ u ∧ u < 1) ∧ (us ≠ [] → 0 < v)

/-- the loop with the invariant `val_sum ≤ i·step` and (`i = 1` or `(i−1)·step < val_sum`): a statement about numbers -/
theorem cubicUs_exact (step : K) (n : Nat) (hstep : 0 ≤ step) : ∀ (vals : List K) (_ : ∀ v ∈ vals, 0 ≤ v) (i : Nat) (vs : K)
    (_ : vs + vals.sum ≤ (n : K) * step) (_ : vs ≤ (i : K) * step) (_ : i = 1 ∨ ((i : K) - 1) * step < vs),
    List.Forall₂ UsOK vals (cubicUs step n vals i vs) ∧
    vs + vals.sum ≤ ((i + (cubicUs step n vals i vs).flatten.length : Nat) : K) * step ∧
    (i + (cubicUs step n vals i vs).flatten.length = 1 ∨
      (((i + (cubicUs step n vals i vs).flatten.length : Nat) : K) - 1) * step < vs + vals.sum)
  | [], _, i, vs, _, h1, h2 => by
    simp only [cubicUs, List.sum_nil, add_zero, List.flatten_nil, List.length_nil]
    exact ⟨List.Forall₂.nil, h1, h2⟩
  | v :: vals, hval, i, vs, hS, h1, h2 => by
    have hv : 0 ≤ v := hval v List.mem_cons_self
    have hrest : 0 ≤ vals.sum := List.sum_nonneg fun x hx => hval x (List.mem_cons_of_mem _ hx)
    rw [List.sum_cons, ← add_assoc] at hS ⊢
    rw [cubicUs, LawfulScalar.add_eq]
    -- the head piece: the run of indices with `j·step < vs + v`
    obtain ⟨hj, hex⟩ := whileLen_run (cubicAsk step vs v) n (fun j hj => Bool.eq_false_iff.mpr fun h =>
      absurd ((cubicAsk_iff step vs v j).mp h) (not_lt.mpr (((le_add_iff_nonneg_right _).mpr hrest).trans
        (hS.trans (mul_le_mul_of_nonneg_right (Nat.cast_le.mpr hj) hstep))))) (n + 2) i (by omega)
    generalize whileLen (cubicAsk step vs v) n (n + 2) i = m at hj hex ⊢
    have hj' : ∀ j, i ≤ j → j < i + m → (j : K) * step < vs + v := fun j a b => (cubicAsk_iff step vs v j).mp (hj j a b)
    have hex' : vs + v ≤ ((i + m : Nat) : K) * step :=
      not_lt.mp fun h => by rw [(cubicAsk_iff step vs v _).mpr h] at hex; cases hex
    have h2' : i + m = 1 ∨ (((i + m : Nat) : K) - 1) * step < vs + v := by
      rcases Nat.eq_zero_or_pos m with rfl | hm
      · exact h2.imp id fun h => h.trans_le (le_add_of_nonneg_right hv)
      · right
        have := hj' (i + m - 1) (by omega) (by omega)
        rwa [Nat.cast_sub (by omega), Nat.cast_one] at this
    obtain ⟨ih1, ih2, ih3⟩ := cubicUs_exact step n hstep vals (fun x hx => hval x (List.mem_cons_of_mem _ hx))
      (i + m) (vs + v) hS hex' h2'
    rw [List.flatten_cons, List.length_append, List.length_map, List.length_range', ← Nat.add_assoc]
    refine ⟨List.Forall₂.cons ?_ ih1, ih2, ih3⟩
    rcases Nat.eq_zero_or_pos m with rfl | hm
    · exact ⟨List.Pairwise.nil, fun _ h => absurd h List.not_mem_nil, fun h => (h rfl).elim⟩
    · have hi := hj' i le_rfl (by omega)
      have hvpos : 0 < v := by linarith
      have hstep' : 0 < step := hstep.lt_of_ne fun h0 => by
        rw [← h0, mul_zero] at hS hi
        exact absurd hi (not_lt.mpr (((le_add_iff_nonneg_right _).mpr hrest).trans hS))
      refine ⟨?_, ?_, fun _ => hvpos⟩
      · rw [List.pairwise_map]
        refine List.Pairwise.imp (fun hab => ?_) List.pairwise_lt_range'
        rw [cubicU_eq, cubicU_eq]
        exact div_lt_div_of_pos_right
          (sub_lt_sub_right (mul_lt_mul_of_pos_right (Nat.cast_lt.mpr hab) hstep') vs) hvpos
      · intro u hu
        obtain ⟨j, hjm, rfl⟩ := List.mem_map.mp hu
        rw [List.mem_range'_1] at hjm
        have h3 : vs ≤ (j : K) * step := h1.trans (mul_le_mul_of_nonneg_right (Nat.cast_le.mpr hjm.1) hstep)
        rw [cubicU_eq]
        exact ⟨div_nonneg (sub_nonneg.mpr h3) hvpos.le,
          (div_lt_one hvpos).mpr (sub_lt_iff_lt_add'.mpr (hj' j hjm.1 hjm.2))⟩

theorem estimate_subdiv_val_eq_zero (q : QuadBez K) (s : K) (h : q.subdivX0 = q.subdivX2) :
    (q.estimate_subdiv s).val = 0 := by
  have hden : q.subdivDen = 0 := by
    unfold QuadBez.subdivDen
    rw [h]
    simp only [scalar_norm]
    simp
  rw [estimate_subdiv_val, hden]
  simp only [scalar_norm]
  simp

end lawful

section real

theorem intR_nonneg {x : ℝ} (hx : 0 ≤ x) : 0 ≤ intR (67/100) x := div_nonneg hx (intR_den_pos (by norm_num) x).le

variable [Scalar ℝ] [LawfulScalar ℝ] [LawfulSqrt]

theorem estimate_subdiv_val_nonneg (q : QuadBez ℝ) (s : ℝ) (hs : 0 ≤ s) : 0 ≤ (q.estimate_subdiv s).val := by
  rw [estimate_subdiv_val]
  simp only [scalar_norm, LawfulSqrt.sqrt_eq, approxParabolaIntegral_real]
  refine ite_nonneg (ite_nonneg ?_ ?_) ?_
  · exact mul_nonneg (abs_nonneg _) (Real.sqrt_nonneg _)
  · exact div_nonneg (mul_nonneg hs (abs_nonneg _)) (intR_nonneg (div_nonneg hs (Real.sqrt_nonneg _)))
  · simp

theorem estimate_subdiv_a0_ne_a2_of_val_pos (q : QuadBez ℝ) (s : ℝ) (h : 0 < (q.estimate_subdiv s).val) :
    (q.estimate_subdiv s).a0 ≠ (q.estimate_subdiv s).a2 := by
  rw [estimate_subdiv_a0, estimate_subdiv_a2, approxParabolaIntegral_real, approxParabolaIntegral_real]
  intro he
  have := estimate_subdiv_val_eq_zero q s (intR_strictMono.injective he)
  linarith

def GroupMono (q : QuadBez ℝ) (g : List (PathEl ℝ)) : Prop :=
  ∃ ts : List ℝ, g = ts.map (fun t => PathEl.LineTo (q.eval t)) ∧ ts.Pairwise (· < ·) ∧ ∀ t ∈ ts, 0 ≤ t ∧ t < 1

theorem groupMono_of_usOK (q : QuadBez ℝ) (s : ℝ) (us : List ℝ) (h : UsOK (q.estimate_subdiv s).val us) :
    GroupMono q (us.map (quadPt q (q.estimate_subdiv s))) := by
  obtain ⟨hpw, hb, hne⟩ := h
  by_cases hus : us = []
  · exact ⟨[], by rw [hus]; rfl, List.Pairwise.nil, by simp⟩
  · have hval := hne hus
    have hne' := estimate_subdiv_a0_ne_a2_of_val_pos q s hval
    have hwf := estimate_subdiv_wf q s
    have h0 : q.determine_subdiv_t (q.estimate_subdiv s) 0 = 0 := determine_subdiv_t_zero q _ hwf
    have h1 : q.determine_subdiv_t (q.estimate_subdiv s) 1 = 1 :=
      determine_subdiv_t_one q _ hwf (invInt_ne_of_ne _ _ hne')
    refine ⟨us.map (fun u => q.determine_subdiv_t (q.estimate_subdiv s) u), ?_, ?_, ?_⟩
    · rw [List.map_map]; rfl
    · rw [List.pairwise_map]
      exact List.Pairwise.imp (fun hab => determine_subdiv_t_lt q _ hwf hne' hab) hpw
    · intro t ht
      obtain ⟨u, hu, rfl⟩ := List.mem_map.mp ht
      obtain ⟨hu0, hu1⟩ := hb u hu
      constructor
      · rw [← h0]; exact determine_subdiv_t_le q _ hwf hu0
      · rw [← h1]; exact determine_subdiv_t_lt q _ hwf hne' hu1

theorem flattenCubicBuf_val_nonneg (c : CubicBez ℝ) (tol s : ℝ) (hs : 0 ≤ s) :
    ∀ qp ∈ flattenCubicBuf c tol s, 0 ≤ qp.2.val := by
  intro qp hqp
  rw [flattenCubicBuf_eq] at hqp
  obtain ⟨tq, -, rfl⟩ := List.mem_map.mp hqp
  apply estimate_subdiv_val_nonneg
  simp only [scalar_norm, LawfulSqrt.sqrt_eq]
  exact mul_nonneg hs (Real.sqrt_nonneg _)

end real
end Kurbo
