import Kurbo.Svg
/-! Helper lemmas for C16/C14 (SVG path lexer): index invariants and panic freedom of the lexer functions.
    Everything is for an arbitrary `[Scalar K]`. -/
namespace Kurbo

def Lx.WF (l : Lx) : Prop := l.ix ≤ l.data.size

structure Lx.Le (l l' : Lx) : Prop where
  data : l'.data = l.data
  ix : l.ix ≤ l'.ix
  wf : l.WF → l'.WF

structure Lx.Lt (l l' : Lx) : Prop where
  data : l'.data = l.data
  ix : l.ix < l'.ix
  wf : l.WF → l'.WF

theorem Lx.Le.refl (l : Lx) : l.Le l := ⟨rfl, Nat.le_refl _, id⟩
theorem Lx.Le.trans {a b c : Lx} (h1 : a.Le b) (h2 : b.Le c) : a.Le c :=
  ⟨h2.data.trans h1.data, Nat.le_trans h1.ix h2.ix, fun h => h2.wf (h1.wf h)⟩
theorem Lx.Lt.le {a b : Lx} (h : a.Lt b) : a.Le b := ⟨h.data, Nat.le_of_lt h.ix, h.wf⟩
theorem Lx.Lt.trans_le {a b c : Lx} (h1 : a.Lt b) (h2 : b.Le c) : a.Lt c :=
  ⟨h2.data.trans h1.data, Nat.lt_of_lt_of_le h1.ix h2.ix, fun h => h2.wf (h1.wf h)⟩
theorem Lx.Le.trans_lt {a b c : Lx} (h1 : a.Le b) (h2 : b.Lt c) : a.Lt c :=
  ⟨h2.data.trans h1.data, Nat.lt_of_le_of_lt h1.ix h2.ix, fun h => h2.wf (h1.wf h)⟩

/-- the `?` of the Rust source: continue with `f` on a value, stop at the first `panic` / `err` -/
def LR.bind {α β : Type} (r : LR α) (f : α → Lx → LR β) : LR β :=
  match r with
  | .panic => .panic
  | .err e => .err e
  | .ok a l => f a l

@[simp] theorem LR.bind_ok {α β : Type} (a : α) (l : Lx) (f : α → Lx → LR β) : (LR.ok a l).bind f = f a l := rfl

theorem LR.bind_assoc {α β γ : Type} (r : LR α) (f : α → Lx → LR β) (g : β → Lx → LR γ) :
    (r.bind f).bind g = r.bind fun a l => (f a l).bind g := by
  cases r <;> rfl

theorem LR.bind_ite {α β : Type} (p : Prop) [Decidable p] (a b : LR α) (f : α → Lx → LR β) :
    (if p then a else b).bind f = if p then a.bind f else b.bind f := by
  split <;> rfl

theorem LR.bind_err {α β : Type} (e : SvgErr) (f : α → Lx → LR β) : (LR.err e).bind f = .err e := rfl

def LR.PostE {α : Type} (E : SvgErr → Prop) (Q : α → Lx → Prop) : LR α → Prop
  | .panic => False
  | .err e => E e
  | .ok a l => Q a l

theorem LR.PostE.ne_panic {α : Type} {r : LR α} {E : SvgErr → Prop} {Q : α → Lx → Prop} (h : r.PostE E Q) : r ≠ .panic := by
  rintro rfl; exact h

theorem LR.PostE.err {α : Type} {r : LR α} {E : SvgErr → Prop} {Q : α → Lx → Prop} {e : SvgErr} (h : r.PostE E Q)
    (he : r = .err e) : E e := by
  subst he; exact h

theorem LR.PostE.ok {α : Type} {r : LR α} {E : SvgErr → Prop} {Q : α → Lx → Prop} {a : α} {l : Lx} (h : r.PostE E Q)
    (hok : r = .ok a l) : Q a l := by
  subst hok; exact h

theorem LR.PostE.imp {α : Type} {r : LR α} {E : SvgErr → Prop} {Q Q' : α → Lx → Prop} (h : r.PostE E Q)
    (hQ : ∀ a l, Q a l → Q' a l) : r.PostE E Q' := by
  cases r with
  | panic => exact h
  | err e => exact h
  | ok a l => exact hQ a l h

theorem LR.PostE.mono {α : Type} {r : LR α} {E E' : SvgErr → Prop} {Q : α → Lx → Prop} (h : r.PostE E Q)
    (hE : ∀ e, E e → E' e) : r.PostE E' Q := by
  cases r with
  | panic => exact h
  | err e => exact hE e h
  | ok a l => exact h

theorem LR.PostE.ite {α : Type} {p : Prop} [Decidable p] {a b : LR α} {E : SvgErr → Prop} {Q : α → Lx → Prop}
    (ha : p → a.PostE E Q) (hb : ¬p → b.PostE E Q) : (if p then a else b).PostE E Q := by
  split
  · exact ha ‹_›
  · exact hb ‹_›

abbrev LR.Post {α : Type} (Q : α → Lx → Prop) : LR α → Prop := LR.PostE (fun e => e = .wrong ∨ e = .unexpectedEof) Q

theorem LR.Post.bind {α β : Type} {r : LR α} {f : α → Lx → LR β} {Q : α → Lx → Prop} {Q' : β → Lx → Prop}
    (hr : r.Post Q) (hf : ∀ a l, Q a l → (f a l).Post Q') : (r.bind f).Post Q' := by
  cases r with
  | panic => exact hr
  | err e => exact hr
  | ok a l => exact hf a l hr

theorem getByte_lt {l l' : Lx} {c : UInt8} (h : getByte l = some (c, l')) : l.Lt l' := by
  obtain ⟨hd, hi, hlt⟩ := getByte_spec h
  exact ⟨hd, by omega, fun _ => by unfold Lx.WF; rw [hd, hi]; omega⟩

theorem getByte_none {l : Lx} (h : getByte l = none) : l.data.size ≤ l.ix := by
  unfold getByte at h
  split at h
  · simp at h
  · omega

theorem getByte_eq_none_iff {l : Lx} : getByte l = none ↔ l.data.size ≤ l.ix := by
  constructor
  · exact getByte_none
  · intro h; unfold getByte; rw [dif_neg (by omega)]

theorem getByte_eq_some {l : Lx} (h : l.ix < l.data.size) :
    getByte l = some (l.data[l.ix], { l with ix := l.ix + 1 }) := by
  unfold getByte; rw [dif_pos h]

/-- every `unget` of the lexer happens right after a successful `getByte`, hence at `ix ≥ 1` -/
theorem unget_after_getByte {l l' : Lx} {c : UInt8} (h : getByte l = some (c, l')) : unget l' = some l := by
  obtain ⟨hd, hi, hlt⟩ := getByte_spec h
  unfold unget
  rw [if_neg (by omega)]
  cases l; cases l'; simp_all

theorem unget_some {l l' : Lx} (h : unget l = some l') : l'.data = l.data ∧ l'.ix + 1 = l.ix := by
  unfold unget at h
  split at h
  · simp at h
  · simp only [Option.some.injEq] at h; subst h; exact ⟨rfl, by simp; omega⟩

theorem skipWs_le (l : Lx) : l.Le (skipWs l) := by
  fun_induction skipWs l with
  | case1 l h hw ih =>
    have h1 : l.Le { l with ix := l.ix + 1 } := ⟨rfl, Nat.le_succ _, fun _ => h⟩
    exact h1.trans ih
  | case2 l h hw => exact Lx.Le.refl _
  | case3 l h => exact Lx.Le.refl _

theorem skipWs_stop (l : Lx) (h : (skipWs l).ix < (skipWs l).data.size) :
    isWs (skipWs l).data[(skipWs l).ix] = false := by
  fun_induction skipWs l with
  | case1 l h hw ih => exact ih h
  | case2 l h' hw => simpa using hw
  | case3 l h' => omega

theorem skipWs_idem (l : Lx) : skipWs (skipWs l) = skipWs l := by
  generalize hm : skipWs l = m
  unfold skipWs
  split
  · rename_i h
    have := skipWs_stop l (by rw [hm]; exact h)
    simp only [hm] at this
    rw [if_neg (by simp [this])]
  · rfl

theorem digitsLoop_post (l : Lx) (cnt : Nat) (seen : Bool) :
    (digitsLoop l cnt seen).PostE (fun _ => False) fun n l' => l.Le l' ∧ cnt ≤ n ∧ n - cnt ≤ l'.ix - l.ix := by
  fun_induction digitsLoop l cnt seen with
  | case1 l cnt seen hg => exact ⟨Lx.Le.refl _, Nat.le_refl _, by omega⟩
  | case2 l cnt seen c l1 hg hd ih =>
    refine ih.imp fun n l' ⟨h1, h2, h3⟩ => ?_
    have := (getByte_lt hg).ix
    have := h1.ix
    exact ⟨(getByte_lt hg).le.trans h1, by omega, by omega⟩
  | case3 l cnt seen c l1 hg hd hdot ih =>
    refine ih.imp fun n l' ⟨h1, h2, h3⟩ => ?_
    have := (getByte_lt hg).ix
    have := h1.ix
    exact ⟨(getByte_lt hg).le.trans h1, by omega, by omega⟩
  | case4 l cnt seen c l1 hg hd hdot l2 hu =>
    rw [unget_after_getByte hg] at hu
    simp only [Option.some.injEq] at hu; subst hu
    exact ⟨Lx.Le.refl _, Nat.le_refl _, by omega⟩
  | case5 l cnt seen c l' hg _ _ hu =>
    rw [unget_after_getByte hg] at hu; simp at hu

theorem digitsLoop_ne_panic (l : Lx) (cnt : Nat) (seen : Bool) : digitsLoop l cnt seen ≠ .panic :=
  (digitsLoop_post l cnt seen).ne_panic
theorem digitsLoop_no_err (l : Lx) (cnt : Nat) (seen : Bool) (e : SvgErr) : digitsLoop l cnt seen ≠ .err e :=
  fun h => (digitsLoop_post l cnt seen).err h
theorem digitsLoop_ok {l : Lx} {cnt : Nat} {seen : Bool} {n : Nat} {l' : Lx}
    (h : digitsLoop l cnt seen = .ok n l') : l.Le l' ∧ cnt ≤ n ∧ n - cnt ≤ l'.ix - l.ix := (digitsLoop_post l cnt seen).ok h

theorem expDigits_post (l : Lx) : (expDigits l).PostE (fun _ => False) fun _ l' => l.Le l' := by
  fun_induction expDigits l with
  | case1 l hg => exact Lx.Le.refl _
  | case2 l c l1 hg hd l2 hu =>
    rw [unget_after_getByte hg] at hu
    simp only [Option.some.injEq] at hu; subst hu
    exact Lx.Le.refl _
  | case3 l c l' hg _ hu =>
    rw [unget_after_getByte hg] at hu; simp at hu
  | case4 l c l1 hg hd ih => exact ih.imp fun _ _ h => (getByte_lt hg).le.trans h

theorem expDigits_no_err (l : Lx) (e : SvgErr) : expDigits l ≠ .err e := fun h => (expDigits_post l).err h
theorem expDigits_ok {l : Lx} {u : Unit} {l' : Lx} (h : expDigits l = .ok u l') : l.Le l' := (expDigits_post l).ok h

/-- the exponent part of `getNumber` (the `afterExp` block of the model), as a function of the lexer after the mantissa -/
def expPart (l3 : Lx) : LR Unit :=
  match getByte l3 with
  | none => .ok () l3
  | some (c, l4) =>
    if c == 101 || c == 69 then
      match getByte l4 with
      | none => .err .wrong
      | some (c1, l5) =>
        let sd : LR UInt8 :=
          if c1 == 45 || c1 == 43 then
            match getByte l5 with
            | none => .err .wrong
            | some (c2, l6) => .ok c2 l6
          else .ok c1 l5
        match sd with
        | .ok cd l7 => if !isDigit cd then .err .wrong else expDigits l7
        | .err e => .err e
        | .panic => .panic
    else
      match unget l4 with
      | some l5 => .ok () l5
      | none => .panic

theorem expPart_post (l : Lx) : (expPart l).PostE (· = .wrong) fun _ l' => l.Le l' := by
  unfold expPart
  split
  · exact Lx.Le.refl _
  rename_i c l4 hg
  split
  · split
    · exact rfl
    rename_i c1 l5 hg5
    simp only
    split
    · rename_i cd l7 hsd
      have h47 : l4.Le l7 := by
        split at hsd
        · split at hsd
          · cases hsd
          · rename_i c2 l6 hg6
            simp only [LR.ok.injEq] at hsd; obtain ⟨_, rfl⟩ := hsd
            exact (getByte_lt hg5).le.trans (getByte_lt hg6).le
        · simp only [LR.ok.injEq] at hsd; obtain ⟨_, rfl⟩ := hsd
          exact (getByte_lt hg5).le
      split
      · exact rfl
      · refine ((expDigits_post l7).imp fun _ _ h => (getByte_lt hg).le.trans (h47.trans h)).mono ?_
        exact fun _ h => h.elim
    · rename_i e hsd
      split at hsd
      · split at hsd
        · simp only [LR.err.injEq] at hsd; exact hsd.symm
        · cases hsd
      · cases hsd
    · rename_i hsd
      split at hsd
      · split at hsd <;> cases hsd
      · cases hsd
  · rw [unget_after_getByte hg]; exact Lx.Le.refl _

theorem expPart_ne_panic (l : Lx) : expPart l ≠ .panic := (expPart_post l).ne_panic
theorem expPart_err {l : Lx} {e : SvgErr} (h : expPart l = .err e) : e = .wrong := (expPart_post l).err h
theorem expPart_ok {l : Lx} {u : Unit} {l' : Lx} (h : expPart l = .ok u l') : l.Le l' := (expPart_post l).ok h

section
variable {K : Type} [Scalar K]

/-- `getNumber` written with `expPart` and with the sign step simplified (`unget` right after `getByte` restores the lexer) -/
theorem getNumber_eq (l0 : Lx) : getNumber (K := K) l0 =
    (match getByte (skipWs l0) with
     | none => .err .unexpectedEof
     | some (c, l1) =>
       match digitsLoop (if c == 45 || c == 43 then l1 else skipWs l0) 0 false with
       | .panic => .panic
       | .err e => .err e
       | .ok n l3 =>
         match expPart l3 with
         | .panic => .panic
         | .err e => .err e
         | .ok _ l8 =>
           if n > 0 then .ok (tokValue (parseTok ((l8.data.extract (skipWs l0).ix l8.ix).toList))) l8
           else .err .wrong) := by
  unfold getNumber
  simp only
  cases hg : getByte (skipWs l0) with
  | none => rfl
  | some p =>
    obtain ⟨c, l1⟩ := p
    simp only
    have hu := unget_after_getByte hg
    by_cases hc : (c == 45 || c == 43) = true
    · simp only [hc, Bool.not_true, Bool.false_eq_true, if_false, if_true]
      rfl
    · simp only [hc, Bool.not_false, if_true, hu, if_false, Bool.false_eq_true]
      rfl


theorem getNumber_post (l0 : Lx) : (getNumber (K := K) l0).Post fun _ l' => l0.Lt l' := by
  rw [getNumber_eq]
  split
  · exact .inr rfl
  · rename_i c l1 hg
    split
    · rename_i h; exact absurd h (digitsLoop_ne_panic _ _ _)
    · rename_i h; exact absurd h (digitsLoop_no_err _ _ _ _)
    · rename_i n l3 hd
      split
      · rename_i h; exact absurd h (expPart_ne_panic _)
      · rename_i h; exact .inl (expPart_err h)
      · rename_i u l8 he
        split
        · obtain ⟨h1, h2, h3⟩ := digitsLoop_ok hd
          have h12 : (skipWs l0).Le (if (c == 45 || c == 43) = true then l1 else skipWs l0) := by
            split
            · exact (getByte_lt hg).le
            · exact Lx.Le.refl _
          have h23 : Lx.Lt (if (c == 45 || c == 43) = true then l1 else skipWs l0) l3 := ⟨h1.data, by omega, h1.wf⟩
          exact ((skipWs_le l0).trans h12).trans_lt (h23.trans_le (expPart_ok he))
        · exact .inl rfl

theorem getNumber_ne_panic (l0 : Lx) : getNumber (K := K) l0 ≠ .panic := (getNumber_post l0).ne_panic
theorem getNumber_err {l0 : Lx} {e : SvgErr} (h : getNumber (K := K) l0 = .err e) : e = .wrong ∨ e = .unexpectedEof :=
  (getNumber_post l0).err h
theorem getNumber_ok {l0 l' : Lx} {x : K} (h : getNumber (K := K) l0 = .ok x l') : l0.Lt l' := (getNumber_post l0).ok h

theorem digitsLoop_stop {l l1 : Lx} {c : UInt8} (cnt : Nat) (seen : Bool) (hg : getByte l = some (c, l1))
    (hd : isDigit c = false) (hdot : (c == 46 && !seen) = false) : digitsLoop l cnt seen = .ok cnt l := by
  unfold digitsLoop
  split
  · rename_i h; rw [hg] at h
  · rename_i c' l' h
    rw [hg] at h; simp only [Option.some.injEq, Prod.mk.injEq] at h; obtain ⟨rfl, rfl⟩ := h
    simp only [hd, hdot, Bool.false_eq_true, if_false, unget_after_getByte hg]

theorem optComma_some (l0 : Lx) : ∃ l', optComma l0 = some l' ∧ l0.Le l' := by
  unfold optComma
  simp only
  split
  · exact ⟨_, rfl, skipWs_le l0⟩
  · rename_i c l1 hg
    split
    · exact ⟨_, unget_after_getByte hg, skipWs_le l0⟩
    · exact ⟨_, rfl, (skipWs_le l0).trans (getByte_lt hg).le⟩

theorem optComma_ne_panic (l0 : Lx) : optComma l0 ≠ none := by
  obtain ⟨l', h, _⟩ := optComma_some l0; rw [h]; simp

theorem optComma_le {l0 l' : Lx} (h : optComma l0 = some l') : l0.Le l' := by
  obtain ⟨l'', h', hle⟩ := optComma_some l0
  rw [h] at h'; simp only [Option.some.injEq] at h'; subst h'; exact hle

/-- `optComma` as a step (its `none` is the panic of `unget`) -/
def commaLR (l : Lx) : LR Unit :=
  match optComma l with
  | none => .panic
  | some l' => .ok () l'

theorem commaLR_of_some {l l' : Lx} (h : optComma l = some l') : commaLR l = .ok () l' := by
  unfold commaLR; rw [h]

theorem commaLR_post (l : Lx) : (commaLR l).Post fun _ l' => l.Le l' := by
  obtain ⟨l', h, hle⟩ := optComma_some l
  rw [commaLR_of_some h]; exact hle

theorem getFlag_post (l0 : Lx) : (getFlag l0).Post fun _ l' => l0.Lt l' := by
  unfold getFlag; simp only
  split
  · exact .inr rfl
  · rename_i c l1 hg
    have := (skipWs_le l0).trans_lt (getByte_lt hg)
    split
    · exact this
    · split
      · exact this
      · exact .inl rfl

theorem getFlag_ne_panic (l0 : Lx) : getFlag l0 ≠ .panic := (getFlag_post l0).ne_panic
theorem getFlag_ok {l0 l' : Lx} {b : Bool} (h : getFlag l0 = .ok b l') : l0.Lt l' := (getFlag_post l0).ok h
theorem getFlag_err {l0 : Lx} {e : SvgErr} (h : getFlag l0 = .err e) : e = .wrong ∨ e = .unexpectedEof :=
  (getFlag_post l0).err h

theorem getNumberPair_eq (l : Lx) : getNumberPair (K := K) l =
    (getNumber (K := K) l).bind fun x l1 => (commaLR l1).bind fun _ l2 => (getNumber (K := K) l2).bind fun y l3 =>
      (commaLR l3).bind fun _ l4 => .ok ⟨x, y⟩ l4 := by
  unfold getNumberPair
  cases getNumber (K := K) l with
  | panic => rfl
  | err e => rfl
  | ok x l1 =>
    simp only [LR.bind_ok, commaLR]
    cases optComma l1 with
    | none => rfl
    | some l2 =>
      simp only [LR.bind_ok]
      cases getNumber (K := K) l2 with
      | panic => rfl
      | err e => rfl
      | ok y l3 =>
        simp only [LR.bind_ok]
        cases optComma l3 <;> rfl

theorem getNumberPair_post (l : Lx) : (getNumberPair (K := K) l).Post fun _ l' => l.Lt l' := by
  rw [getNumberPair_eq]
  exact (getNumber_post l).bind fun x l1 h1 => (commaLR_post l1).bind fun _ l2 h2 => (getNumber_post l2).bind fun y l3 h3 =>
    (commaLR_post l3).bind fun _ l4 h4 => h1.trans_le (h2.trans (h3.le.trans h4))

theorem getNumberPair_ne_panic (l : Lx) : getNumberPair (K := K) l ≠ .panic := (getNumberPair_post l).ne_panic
theorem getNumberPair_ok {l l' : Lx} {p : Point K} (h : getNumberPair (K := K) l = .ok p l') : l.Lt l' :=
  (getNumberPair_post l).ok h
theorem getNumberPair_err {l : Lx} {e : SvgErr} (h : getNumberPair (K := K) l = .err e) :
    e = .wrong ∨ e = .unexpectedEof := (getNumberPair_post l).err h

theorem getMaybeRelative_post (cmd : UInt8) (p : Point K) (l : Lx) :
    (getMaybeRelative cmd p l).Post fun _ l' => l.Lt l' := by
  unfold getMaybeRelative
  have := getNumberPair_post (K := K) l
  revert this
  cases getNumberPair (K := K) l with
  | panic => exact id
  | err e => exact id
  | ok q l1 => intro h; simp only; split <;> exact h

theorem getMaybeRelative_ne_panic (cmd : UInt8) (p : Point K) (l : Lx) : getMaybeRelative cmd p l ≠ .panic :=
  (getMaybeRelative_post cmd p l).ne_panic
theorem getMaybeRelative_ok {cmd : UInt8} {p q : Point K} {l l' : Lx}
    (h : getMaybeRelative cmd p l = .ok q l') : l.Lt l' := (getMaybeRelative_post cmd p l).ok h
theorem getMaybeRelative_err {cmd : UInt8} {p : Point K} {l : Lx} {e : SvgErr}
    (h : getMaybeRelative cmd p l = .err e) : e = .wrong ∨ e = .unexpectedEof := (getMaybeRelative_post cmd p l).err h

def isNumStart (c : UInt8) : Bool := c == 45 || c == 43 || c == 46 || isDigit c

theorem getCmd_cases (lc : UInt8) (l0 : Lx) :
    (∃ l', getCmd lc l0 = some (none, l') ∧ l0.Le l') ∨
    (∃ c l', getCmd lc l0 = some (some c, l') ∧ (isLower c || isUpper c) = true ∧ l0.Lt l') ∨
    (∃ c l1, getCmd lc l0 = some (some lc, skipWs l0) ∧ lc ≠ 0 ∧ getByte (skipWs l0) = some (c, l1) ∧ isNumStart c = true) := by
  unfold getCmd; simp only
  split
  · exact .inl ⟨_, rfl, skipWs_le l0⟩
  · rename_i c l1 hg
    split
    · rename_i hc
      exact .inr (.inl ⟨c, l1, rfl, hc, (skipWs_le l0).trans_lt (getByte_lt hg)⟩)
    · rw [unget_after_getByte hg]
      split
      · rename_i hc
        simp only [Bool.and_eq_true, bne_iff_ne, ne_eq] at hc
        exact .inr (.inr ⟨c, l1, rfl, hc.1, hg, hc.2⟩)
      · exact .inl ⟨_, rfl, skipWs_le l0⟩

theorem getCmd_ne_panic (lc : UInt8) (l0 : Lx) : getCmd lc l0 ≠ none := by
  rcases getCmd_cases lc l0 with ⟨l', h, _⟩ | ⟨c, l', h, _⟩ | ⟨c, l1, h, _⟩ <;> rw [h] <;> simp

end

end Kurbo
