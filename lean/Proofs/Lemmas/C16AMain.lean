import Proofs.Lemmas.C16AStage
import Proofs.Lemmas.C07Inst
/-! C16A helpers: the hypotheses of the geometry lemmas discharged for the values the model computes
    (`is_straight_line = false` gives positive radii and a non-zero chord; the sanitized radii are large enough), and the
    closed form of `Arc.from_svg_arc` over ℝ. -/
set_option linter.unusedSectionVars false
namespace Kurbo
open Real SvgArcR

/-- a rotation moves only the origin to the origin -/
theorem rot_eq_zero_iff {c s x y : ℝ} (hcs : c ^ 2 + s ^ 2 = 1) : c * x - s * y = 0 ∧ s * x + c * y = 0 ↔ x = 0 ∧ y = 0 := by
  constructor
  · rintro ⟨h1, h2⟩
    exact ⟨by linear_combination c * h1 + s * h2 - x * hcs, by linear_combination c * h2 - s * h1 - y * hcs⟩
  · rintro ⟨rfl, rfl⟩
    rw [mul_zero, mul_zero, sub_zero, add_zero]
    exact ⟨rfl, rfl⟩

section real
variable [Scalar ℝ] [LawfulScalar ℝ] [LawfulReal] [LawfulRealAngle]

theorem is_straight_line_false_iff (arc : SvgArc ℝ) :
    arc.is_straight_line = false ↔ (1/100000 < |arc.radii.x| ∧ 1/100000 < |arc.radii.y| ∧ arc.from ≠ arc.to) := by
  unfold SvgArc.is_straight_line
  rw [Bool.or_eq_false_iff, Bool.or_eq_false_iff, peq_false_iff]
  simp only [scalar_norm, decide_eq_false_iff_not, not_le]
  push_cast
  exact and_assoc

theorem p_turned_back (arc : SvgArc ℝ) :
    cos arc.x_rotation * pX arc - sin arc.x_rotation * pY arc = (arc.from.x - arc.to.x) * (1/2) ∧
    sin arc.x_rotation * pX arc + cos arc.x_rotation * pY arc = (arc.from.y - arc.to.y) * (1/2) := by
  have hcs := Real.cos_sq_add_sin_sq arc.x_rotation
  unfold pX pY
  constructor
  · linear_combination ((arc.from.x - arc.to.x) * (1/2)) * hcs
  · linear_combination ((arc.from.y - arc.to.y) * (1/2)) * hcs

theorem p_ne_zero {arc : SvgArc ℝ} (h : arc.from ≠ arc.to) : pX arc ≠ 0 ∨ pY arc ≠ 0 := by
  by_contra hc
  rw [not_or, not_not, not_not] at hc
  obtain ⟨e1, e2⟩ := p_turned_back arc
  rw [hc.1, hc.2, mul_zero, mul_zero, sub_zero] at e1
  rw [hc.1, hc.2, mul_zero, mul_zero, add_zero] at e2
  have h2 : (1 / 2 : ℝ) ≠ 0 := one_div_ne_zero two_ne_zero
  apply h
  show (⟨arc.from.x, arc.from.y⟩ : Point ℝ) = ⟨arc.to.x, arc.to.y⟩
  rw [sub_eq_zero.mp ((mul_eq_zero.mp e1.symm).resolve_right h2), sub_eq_zero.mp ((mul_eq_zero.mp e2.symm).resolve_right h2)]

noncomputable def scaleR (arc : SvgArc ℝ) : ℝ := if 1 < rfR arc then √(rfR arc) else 1

/-- the components of `svgRadii` over ℝ -/
noncomputable def radX (arc : SvgArc ℝ) : ℝ := |arc.radii.x| * scaleR arc
noncomputable def radY (arc : SvgArc ℝ) : ℝ := |arc.radii.y| * scaleR arc

theorem svgRadii_eq (arc : SvgArc ℝ) : svgRadii arc = (radX arc, radY arc) := by
  simp only [svgRadii, svgRf_eq, scalar_norm, LawfulReal.sqrt_eq, decide_eq_true_eq, radX, radY, scaleR]
  push_cast
  split_ifs
  · rfl
  · rw [mul_one, mul_one]

theorem scaleR_pos (arc : SvgArc ℝ) : 0 < scaleR arc := by
  unfold scaleR; split_ifs with h
  · exact Real.sqrt_pos.mpr (one_pos.trans h)
  · exact one_pos

theorem scaleR_sq (arc : SvgArc ℝ) : scaleR arc ^ 2 = max (rfR arc) 1 := by
  unfold scaleR; split_ifs with h
  · rw [Real.sq_sqrt (one_pos.trans h).le, max_eq_left h.le]
  · rw [one_pow, max_eq_right (not_lt.mp h)]

/-- for the sanitized radii `S = min(rf, 1)·(rx·ry)²`: scaling by `t` multiplies `S` by `t²` and `(rx·ry)²` by `t⁴`, and
    `rf = min(rf, 1)·t²` -/
theorem sumSq_rad (arc : SvgArc ℝ) (hx : radX arc ≠ 0) (hy : radY arc ≠ 0) :
    sumSq (pX arc) (pY arc) (radX arc) (radY arc)
      = min (rfR arc) 1 * ((radX arc * radY arc) * (radX arc * radY arc)) := by
  have hr : rfR arc = min (rfR arc) 1 * scaleR arc ^ 2 := by rw [scaleR_sq, min_mul_max, mul_one]
  have h1 : rfR arc * (|arc.radii.x| * |arc.radii.x| * (|arc.radii.y| * |arc.radii.y|))
      = pX arc * pX arc * (|arc.radii.y| * |arc.radii.y|) + |arc.radii.x| * |arc.radii.x| * (pY arc * pY arc) := by
    have hxx := mul_self_ne_zero.mpr (left_ne_zero_of_mul hx)
    have hyy := mul_self_ne_zero.mpr (left_ne_zero_of_mul hy)
    rw [rfR, div_add_div _ _ hxx hyy, div_mul_cancel₀ _ (mul_ne_zero hxx hyy)]
  unfold sumSq radX radY
  linear_combination -scaleR arc ^ 2 * h1
    + (|arc.radii.x| * |arc.radii.x| * (|arc.radii.y| * |arc.radii.y|) * scaleR arc ^ 2) * hr

theorem svg_fits (arc : SvgArc ℝ) (h : arc.is_straight_line = false) : Fits (pX arc) (pY arc) (radX arc) (radY arc) := by
  obtain ⟨h1, h2, h3⟩ := (is_straight_line_false_iff arc).mp h
  have hx : 0 < radX arc := mul_pos (lt_trans (by norm_num) h1) (scaleR_pos arc)
  have hy : 0 < radY arc := mul_pos (lt_trans (by norm_num) h2) (scaleR_pos arc)
  refine ⟨hx, hy, p_ne_zero h3, ?_⟩
  rw [sumSq_rad arc hx.ne' hy.ne']
  exact mul_le_of_le_one_left (mul_self_nonneg _) (min_le_right _ _)

theorem sumSq_lt_iff (arc : SvgArc ℝ) (h : arc.is_straight_line = false) :
    sumSq (pX arc) (pY arc) (radX arc) (radY arc) < (radX arc * radY arc) * (radX arc * radY arc) ↔ rfR arc < 1 := by
  have hf := svg_fits arc h
  rw [sumSq_rad arc hf.rx_pos.ne' hf.ry_pos.ne', mul_lt_iff_lt_one_left hf.rxry_sq_pos, min_lt_iff,
    or_iff_left (lt_irrefl 1)]

theorem sumSq_eq_iff (arc : SvgArc ℝ) (h : arc.is_straight_line = false) :
    sumSq (pX arc) (pY arc) (radX arc) (radY arc) = (radX arc * radY arc) * (radX arc * radY arc) ↔ 1 ≤ rfR arc := by
  have hf := svg_fits arc h
  rw [sumSq_rad arc hf.rx_pos.ne' hf.ry_pos.ne', mul_eq_right₀ hf.rxry_sq_pos.ne', min_eq_right_iff]

/-- the arc the model returns, over ℝ -/
noncomputable def arcR (arc : SvgArc ℝ) : Arc ℝ := tailR arc (radX arc) (radY arc)

theorem from_svg_arc_real (arc : SvgArc ℝ) (h : arc.is_straight_line = false) :
    Arc.from_svg_arc arc = some (arcR arc) := by
  rw [from_svg_arc_stages, h, svgRadii_eq, svgTail_eq]
  rfl

theorem eq_arcR (arc : SvgArc ℝ) (h : arc.is_straight_line = false) (a : Arc ℝ)
    (ha : Arc.from_svg_arc arc = some a) : a = arcR arc :=
  Option.some.inj (ha.symm.trans (from_svg_arc_real arc h))

/-- the point of the arc at an angle `θ` with `(rx·cos θ, ry·sin θ) = ε·p − (tcx, tcy)`: the chord midpoint plus `ε` times half the
    chord (the centre's offset cancels, `p` turned by `x_rotation` is half the chord); `ε = 1` is the start, `ε = −1` the end -/
theorem arcR_point (arc : SvgArc ℝ) {θ ε : ℝ}
    (hu : radX arc * cos θ = ε * pX arc - tcx arc.large_arc arc.sweep (pX arc) (pY arc) (radX arc) (radY arc))
    (hv : radY arc * sin θ = ε * pY arc - tcy arc.large_arc arc.sweep (pX arc) (pY arc) (radX arc) (radY arc)) :
    (arcR arc).center + sampleEllipse (arcR arc).radii (arcR arc).x_rotation θ
      = ⟨(arc.from.x + arc.to.x) * (1/2) + ε * ((arc.from.x - arc.to.x) * (1/2)),
         (arc.from.y + arc.to.y) * (1/2) + ε * ((arc.from.y - arc.to.y) * (1/2))⟩ := by
  obtain ⟨e1, e2⟩ := p_turned_back arc
  rw [sampleEllipse_eq]
  simp only [arcR, tailR, kdefs, scalar_norm, LawfulReal.sin_eq, LawfulReal.cos_eq, Point.mk.injEq]
  constructor
  · linear_combination cos arc.x_rotation * hu - sin arc.x_rotation * hv + ε * e1
  · linear_combination sin arc.x_rotation * hu + cos arc.x_rotation * hv + ε * e2

/-- `1 ≤ rf` exactly when `coe = 0` -/
theorem center_mid_iff (arc : SvgArc ℝ) (h : arc.is_straight_line = false) (a : Arc ℝ)
    (ha : Arc.from_svg_arc arc = some a) :
    a.center = ⟨(arc.from.x + arc.to.x) * (1/2), (arc.from.y + arc.to.y) * (1/2)⟩ ↔ 1 ≤ rfR arc := by
  obtain rfl := eq_arcR arc h a ha
  have hf := svg_fits arc h
  rw [← sumSq_eq_iff arc h, ← hf.coe_eq_zero_iff (la := arc.large_arc) (sw := arc.sweep), ← hf.tc_eq_zero_iff,
    ← rot_eq_zero_iff (Real.cos_sq_add_sin_sq arc.x_rotation), arcR, tailR, Point.mk.injEq, add_eq_right, add_eq_right]

end real
end Kurbo

namespace Kurbo
/-- `(0,0) → (2,0)`, radii `(1,1)`: the radii fit exactly (`rf = 1`) -/
noncomputable def exFit : SvgArc ℝ := ⟨⟨0, 0⟩, ⟨2, 0⟩, ⟨1, 1⟩, 0, false, true⟩
/-- `(0,0) → (2,0)`, radii `(2,−2)` (a negative radius is allowed), large arc, negative direction: `rf = 1/4` -/
noncomputable def exBig : SvgArc ℝ := ⟨⟨0, 0⟩, ⟨2, 0⟩, ⟨2, -2⟩, 0, true, false⟩
/-- `(0,0) → (2,0)`, radii `(1/2,1/2)`: too small, `rf = 4`, scaled up by `√4` -/
noncomputable def exSmall : SvgArc ℝ := ⟨⟨0, 0⟩, ⟨2, 0⟩, ⟨1/2, 1/2⟩, 0, false, true⟩

section real
variable [Scalar ℝ] [LawfulScalar ℝ] [LawfulReal] [LawfulRealAngle]

/-- the chord `(0,0) → (2,0)`, no rotation, which the three examples share -/
theorem chord_ok (r : Vec2 ℝ) (la sw : Bool) (hx : 1/100000 < |r.x|) (hy : 1/100000 < |r.y|) :
    (⟨⟨0, 0⟩, ⟨2, 0⟩, r, 0, la, sw⟩ : SvgArc ℝ).is_straight_line = false :=
  (is_straight_line_false_iff _).mpr ⟨hx, hy, by norm_num⟩

theorem rfR_chord (r : Vec2 ℝ) (la sw : Bool) : rfR ⟨⟨0, 0⟩, ⟨2, 0⟩, r, 0, la, sw⟩ = 1 / (|r.x| * |r.x|) := by
  norm_num [rfR, pX, pY]

theorem exFit_ok : exFit.is_straight_line = false := chord_ok _ _ _ (by norm_num) (by norm_num)
theorem exBig_ok : exBig.is_straight_line = false := chord_ok _ _ _ (by norm_num) (by norm_num)
theorem exSmall_ok : exSmall.is_straight_line = false := chord_ok _ _ _ (by norm_num) (by norm_num)

theorem rfR_exFit : rfR exFit = 1 := (rfR_chord _ _ _).trans (by norm_num)
theorem rfR_exBig : rfR exBig = 1/4 := (rfR_chord _ _ _).trans (by norm_num)
theorem rfR_exSmall : rfR exSmall = 4 := (rfR_chord _ _ _).trans (by norm_num)

end real
end Kurbo
