import Proofs.Lemmas.C16BMeaning
import Proofs.Lemmas.C07Path
/-! C16W: what the parser makes of a written element list (`reparse`, `Lemmas/C16BMeaning`: an implicit `MoveTo first` in front of
    every non-`MoveTo` element that directly follows a `ClosePath`) is the normal form of the path – its sub-paths (`subpaths`,
    `Lemmas/C07Path`) written out with explicit `MoveTo`s – so it has the segments of the original (for a lawful point equality)
    for the same reason as the path reversed twice. -/
namespace Kurbo
variable {K : Type} [Scalar K]

/-- `subpathsAux` written out, against `reparse`: once the current sub-path is known to be written (`pend`, or a non-empty body)
    the parser has put its `MoveTo` and body; directly after a `ClosePath` it holds the `MoveTo` back (`pending`) -/
theorem render_subpathsAux (rest : List (PathEl K)) (start : Point K) :
    (∀ pend body, (pend = true ∨ body ≠ []) →
      (subpathsAux start pend body rest).flatMap Subpath.render = .MoveTo start :: body ++ reparse start false rest) ∧
    (subpathsAux start false [] rest).flatMap Subpath.render = reparse start true rest := by
  induction rest generalizing start with
  | nil =>
    refine ⟨fun pend body h => ?_, rfl⟩
    exact (flush_render start pend body h).trans (List.append_nil _).symm
  | cons el rest ih =>
    -- a drawing element joins the body, and from then on the sub-path counts as written
    have hd : ∀ e : PathEl K,
        (∀ pend body, subpathsAux start pend body (e :: rest) = subpathsAux start false (body ++ [e]) rest) →
        (∀ pend, reparse start pend (e :: rest) = (if pend then [.MoveTo start] else []) ++ e :: reparse start false rest) →
        (∀ pend body, (pend = true ∨ body ≠ []) →
          (subpathsAux start pend body (e :: rest)).flatMap Subpath.render
            = .MoveTo start :: body ++ reparse start false (e :: rest)) ∧
        (subpathsAux start false [] (e :: rest)).flatMap Subpath.render = reparse start true (e :: rest) := by
      intro e h1 h2
      have h := fun body => (ih start).1 false (body ++ [e]) (Or.inr (List.append_ne_nil_of_right_ne_nil _ (List.cons_ne_nil _ _)))
      refine ⟨fun pend body _ => ?_, ?_⟩
      · rw [h1, h2, h body, List.cons_append, List.cons_append, List.append_assoc]; rfl
      · rw [h1, h2]; exact h []
    cases el with
    | MoveTo q =>
      have hq := (ih q).1 true [] (Or.inl rfl)
      refine ⟨fun pend body h => ?_, hq⟩
      show (flush start pend body ++ subpathsAux q true [] rest).flatMap Subpath.render = _
      rw [List.flatMap_append, flush_render start pend body h, hq]; rfl
    | ClosePath =>
      refine ⟨fun pend body _ => ?_, ?_⟩
      · show Subpath.render ⟨start, body, true⟩ ++ (subpathsAux start false [] rest).flatMap Subpath.render = _
        rw [(ih start).2, render_closed, List.append_assoc]; rfl
      · show Subpath.render ⟨start, [], true⟩ ++ (subpathsAux start false [] rest).flatMap Subpath.render = _
        rw [(ih start).2]; rfl
    | LineTo p => exact hd _ (fun _ _ => rfl) (fun _ => rfl)
    | QuadTo p1 p2 => exact hd _ (fun _ _ => rfl) (fun _ => rfl)
    | CurveTo p1 p2 p3 => exact hd _ (fun _ _ => rfl) (fun _ => rfl)

/-- the right-hand side is also the list that `reverse_subpaths` applied twice produces (`reverse_reverse_els`) -/
theorem reparse_eq_render (first p : Point K) (tl : List (PathEl K)) :
    reparse first false (.MoveTo p :: tl) = (subpaths (.MoveTo p :: tl)).flatMap Subpath.render :=
  ((render_subpathsAux tl p).1 true [] (Or.inl rfl)).symm

theorem segs_reparse [LawfulPeq K] (first p : Point K) (tl : List (PathEl K)) :
    segs (reparse first false (.MoveTo p :: tl)) = segs (.MoveTo p :: tl) := by
  rw [reparse_eq_render, segs_normalForm _ (Or.inr ⟨p, tl, rfl⟩)]

end Kurbo
