import Kurbo.Quartic
import Proofs.Lemmas.C15Real
import Mathlib.Analysis.SpecialFunctions.Trigonometric.Inverse
import Mathlib.Tactic.LinearCombination
/-! helper lemmas for C15D: `depressed_cubic_dominant` over ℝ – what "the start value `phi_0` is a root of `x³ + g x + h` of
    largest magnitude" rests on (the angle of the trigonometric branch, the algebra of Cardano's formula, the
    overflow-guarded rewritings of both, `phi_0` in terms of these), and the Newton refinement. -/
set_option linter.unusedSectionVars false
namespace Kurbo
open Real

/-- `f64::acos` is the real arc cosine (the law `LawfulReal` lacks; inhabited by `realScalar`, see below) -/
class LawfulAcos [Scalar ℝ] : Prop where
  acos_eq : ∀ x : ℝ, Scalar.acos x = Real.arccos x

theorem realScalar_lawfulAcos : @LawfulAcos realScalar :=
  letI := realScalar
  { acos_eq := fun _ => rfl }

/-! ### the plain formulas (`k = None`), with `q = −g/3`, `r = h/2`: the cubic is `x³ − 3q·x + 2r` -/

noncomputable def phi0Trig (q r : ℝ) : ℝ :=
  -2 * √q * (if r / √(q ^ 3) < 0 then -|cos (arccos |r / √(q ^ 3)| * (1 / 3))| else |cos (arccos |r / √(q ^ 3)| * (1 / 3))|)

/-- the radicand of the cube root in the Cardano branch: `−r − copysign(√(r² − q³), r)` -/
noncomputable def cardanoArg (q r : ℝ) : ℝ :=
  -r - if r < 0 then -|√(r * r - q ^ 3)| else |√(r * r - q ^ 3)|

/-- `a + b` with `b = q / a` (or 0) -/
noncomputable def cardanoSum (q a : ℝ) : ℝ := a + if a = 0 then 0 else q / a

noncomputable def phi0Card (q r : ℝ) : ℝ := cardanoSum q (realCbrt (cardanoArg q r))

noncomputable def phi0Plain (q r : ℝ) : ℝ := if r * r < q ^ 3 then phi0Trig q r else phi0Card q r

theorem pos_of_sq_lt_cube {q r : ℝ} (h : r * r < q ^ 3) : 0 < q :=
  lt_of_not_ge fun hq => not_lt.mpr (Odd.pow_nonpos (by decide) hq) ((mul_self_nonneg r).trans_lt h)

theorem sqrt_cube {q : ℝ} (hq : 0 ≤ q) : √(q ^ 3) = q * √q := by
  have e : q ^ 3 = (q * √q) ^ 2 := by
    have := Real.mul_self_sqrt hq
    calc q ^ 3 = q ^ 2 * (√q * √q) := by rw [this]; ring
      _ = (q * √q) ^ 2 := by ring
  rw [e]; exact Real.sqrt_sq (mul_nonneg hq (Real.sqrt_nonneg _))

/-- the angle `θ = acos|t| / 3` of the trigonometric branch lies in `[0, π/6]`: `cos θ ≥ cos(π/6)` -/
theorem cos_arccos_third (t : ℝ) : √3 / 2 ≤ cos (arccos |t| * (1 / 3)) := by
  have h0 := Real.arccos_nonneg |t|
  have h1 := Real.arccos_le_pi_div_two.mpr (abs_nonneg t)
  have hpi := Real.pi_pos
  rw [← Real.cos_pi_div_six]
  exact Real.cos_le_cos_of_nonneg_of_le_pi (mul_nonneg h0 (by norm_num)) (div_le_self hpi.le (by norm_num))
    (by linear_combination (1 / 3 : ℝ) * h1)

theorem cardanoArg_quad {q r : ℝ} (h : q ^ 3 ≤ r * r) :
    cardanoArg q r ^ 2 + 2 * r * cardanoArg q r + q ^ 3 = 0 := by
  unfold cardanoArg
  linear_combination copysign_mul_self (√(r * r - q ^ 3)) r + Real.mul_self_sqrt (sub_nonneg.mpr h)

theorem cardanoArg_eq_zero {q r : ℝ} (h0 : cardanoArg q r = 0) : r = 0 := by
  unfold cardanoArg at h0
  -- `r = −copysign(…, r)` has the sign of `−r`
  have := mul_copysign_nonneg (√(r * r - q ^ 3)) r
  exact mul_self_eq_zero.mp (le_antisymm (by linear_combination this - r * h0) (mul_self_nonneg r))

theorem cardanoSum_root {q r A a : ℝ} (hA : A ^ 2 + 2 * r * A + q ^ 3 = 0) (ha3 : a ^ 3 = A) (hr : A = 0 → r = 0) :
    cardanoSum q a ^ 3 - 3 * q * cardanoSum q a + 2 * r = 0 := by
  unfold cardanoSum
  by_cases ha : a = 0
  · rw [if_pos ha]
    have hA0 : A = 0 := by rw [← ha3, ha]; ring
    have hr0 := hr hA0
    have hq3 : q ^ 3 = 0 := by rw [hA0] at hA; linear_combination hA
    have hq : q = 0 := by simpa using hq3
    rw [ha, hq, hr0]; ring
  · rw [if_neg ha]
    have hAne : A ≠ 0 := by rw [← ha3]; exact pow_ne_zero 3 ha
    set b := q / a with hb
    have hab : a * b = q := by rw [hb]; field_simp
    have hb3 : A * b ^ 3 = q ^ 3 := by rw [← ha3, ← hab]; ring
    have hsum : A + b ^ 3 + 2 * r = 0 := by
      have : A * (A + b ^ 3 + 2 * r) = 0 := by linear_combination hA + hb3
      rcases mul_eq_zero.mp this with h' | h'
      · exact absurd h' hAne
      · exact h'
    linear_combination ha3 + hsum + 3 * (a + b) * hab

/-! ### the overflow-guarded formulas (`k = Some kv`, `r ≠ 0`) are the plain ones rewritten

`kv_A`, `guardArg_A`: the case `|q| < |r|` (`kv = 1 − q (q/r)²`); `kv_B`, `guardAbs_B`: the other one (`kv = sign q · ((r/q)²/q − 1)`). -/

/-- `phi_0` as computed when `k = Some kv` and `r ≠ 0` -/
noncomputable def phi0Guard (q r kv : ℝ) : ℝ :=
  if kv < 0 then
    -2 * √q * (if r / q / √q < 0 then -|cos (arccos |r / q / √q| * (1 / 3))| else |cos (arccos |r / q / √q| * (1 / 3))|)
  else
    cardanoSum q (realCbrt
      (if |q| < |r| then -r * (1 + √kv)
       else -r - if r < 0 then -|√|q| * q * √kv| else |√|q| * q * √kv|))

theorem trigArg_eq {q : ℝ} (hq : 0 < q) (r : ℝ) : r / q / √q = r / √(q ^ 3) := by
  rw [sqrt_cube hq.le, div_div]

theorem kv_A {q r : ℝ} (hr : r ≠ 0) : 1 - q * (q / r) ^ 2 = (r * r - q ^ 3) / (r * r) := by
  field_simp

theorem kv_B {q : ℝ} (hq : q ≠ 0) (r : ℝ) :
    (if q < 0 then -1 else 1) * ((r / q) ^ 2 / q - 1) = (r * r - q ^ 3) / |q| ^ 3 := by
  split_ifs with h
  · rw [abs_of_neg h]; field_simp
  · have h' : 0 < q := lt_of_le_of_ne (not_lt.mp h) (Ne.symm hq)
    rw [abs_of_pos h']; field_simp

theorem guardArg_A {q r : ℝ} (hr : r ≠ 0) (hD : q ^ 3 ≤ r * r) :
    -r * (1 + √((r * r - q ^ 3) / (r * r))) = cardanoArg q r := by
  unfold cardanoArg
  rw [Real.sqrt_div (sub_nonneg.mpr hD), Real.sqrt_mul_self_eq_abs, abs_of_nonneg (Real.sqrt_nonneg _)]
  set d := √(r * r - q ^ 3)
  split_ifs with h
  · rw [abs_of_neg h]; field_simp; ring
  · have h' : 0 < r := lt_of_le_of_ne (not_lt.mp h) (Ne.symm hr)
    rw [abs_of_pos h']; field_simp; ring

theorem guardAbs_B {q : ℝ} (hq : q ≠ 0) (r : ℝ) (hD : q ^ 3 ≤ r * r) :
    |√|q| * q * √((r * r - q ^ 3) / |q| ^ 3)| = |√(r * r - q ^ 3)| := by
  have ha : 0 < |q| := abs_pos.mpr hq
  rw [Real.sqrt_div (sub_nonneg.mpr hD), sqrt_cube ha.le]
  set d := √(r * r - q ^ 3)
  have hw : 0 < √|q| := Real.sqrt_pos.mpr ha
  set w := √|q|
  have e : w * q * (d / (|q| * w)) = q / |q| * d := by field_simp
  rw [e, abs_mul, abs_div, abs_abs, div_self ha.ne', one_mul]

theorem phi0Guard_eq_plain {q r kv : ℝ} (hr : r ≠ 0)
    (hk : (|q| < |r| ∧ kv = 1 - q * (q / r) ^ 2) ∨
      (¬ |q| < |r| ∧ kv = (if q < 0 then -1 else 1) * ((r / q) ^ 2 / q - 1))) :
    phi0Guard q r kv = phi0Plain q r := by
  have hr2 : 0 < r * r := mul_self_pos.mpr hr
  -- in both cases `kv = (r² − q³) / p` with `p > 0`
  have hneg : kv < 0 ↔ r * r < q ^ 3 := by
    rcases hk with ⟨_, e⟩ | ⟨hlt, e⟩
    · rw [e, kv_A hr, div_lt_iff₀ hr2, zero_mul, sub_neg]
    · have hq : q ≠ 0 := by
        rintro rfl
        exact hlt (by rw [abs_zero]; exact abs_pos.mpr hr)
      have hp : 0 < |q| ^ 3 := pow_pos (abs_pos.mpr hq) 3
      rw [e, kv_B hq, div_lt_iff₀ hp, zero_mul, sub_neg]
  unfold phi0Guard phi0Plain
  by_cases hD : r * r < q ^ 3
  · rw [if_pos (hneg.mpr hD), if_pos hD]
    unfold phi0Trig
    rw [trigArg_eq (pos_of_sq_lt_cube hD)]
  · rw [if_neg (fun h' => hD (hneg.mp h')), if_neg hD]
    have hD' := not_lt.mp hD
    unfold phi0Card
    congr 2
    rcases hk with ⟨hlt, e⟩ | ⟨hlt, e⟩
    · rw [if_pos hlt, e, kv_A hr, guardArg_A hr hD']
    · have hq : q ≠ 0 := by
        rintro rfl
        exact hlt (by rw [abs_zero]; exact abs_pos.mpr hr)
      rw [if_neg hlt, e, kv_B hq, guardAbs_B hq r hD']
      rfl

/-- `k = Some …`, `r = 0`: the cubic is `x (x² + g)` -/
theorem phi0_r_zero_root (g : ℝ) :
    (if 0 < g then 0 else √(-g)) ^ 3 + g * (if 0 < g then 0 else √(-g)) + 0 = 0 := by
  split_ifs with h
  · ring
  · have := Real.mul_self_sqrt (neg_nonneg.mpr (not_lt.mp h))
    set x := √(-g)
    linear_combination x * this

/-! ### "dominant": `phi_0² ≥ 3q = −g`, hence no real root is larger in magnitude -/

theorem phi0Trig_sq_ge {q r : ℝ} (h : r * r < q ^ 3) : 3 * q ≤ phi0Trig q r ^ 2 := by
  have hq := pos_of_sq_lt_cube h
  unfold phi0Trig
  generalize r / √(q ^ 3) = t
  have hc2 : 3 / 4 ≤ cos (arccos |t| * (1 / 3)) * cos (arccos |t| * (1 / 3)) := by
    have := mul_self_le_mul_self (div_nonneg (Real.sqrt_nonneg 3) zero_le_two) (cos_arccos_third t)
    linear_combination this - (1 / 4 : ℝ) * Real.mul_self_sqrt (show (0 : ℝ) ≤ 3 by norm_num)
  linear_combination (4 * q) * hc2 - (4 * cos (arccos |t| * (1 / 3)) * cos (arccos |t| * (1 / 3))) * Real.mul_self_sqrt hq.le
    - (4 * √q * √q) * copysign_mul_self (cos (arccos |t| * (1 / 3))) t

theorem cardanoSum_sq_ge {q a : ℝ} (h0 : a = 0 → q ≤ 0) : 3 * q ≤ cardanoSum q a ^ 2 := by
  unfold cardanoSum
  by_cases ha : a = 0
  · rw [if_pos ha, ha]; linear_combination 3 * h0 ha
  · rw [if_neg ha]
    have hab : a * (q / a) = q := mul_div_cancel₀ q ha
    generalize q / a = b at hab
    rw [← hab]
    linear_combination (1 / 2 : ℝ) * sq_nonneg (a - b) + (1 / 2 : ℝ) * sq_nonneg a + (1 / 2 : ℝ) * sq_nonneg b

theorem phi0Card_sq_ge {q r : ℝ} (h : q ^ 3 ≤ r * r) : 3 * q ≤ phi0Card q r ^ 2 := by
  apply cardanoSum_sq_ge
  intro ha
  have hA0 : cardanoArg q r = 0 := by rw [← realCbrt_pow (cardanoArg q r), ha]; ring
  have hq3 : q ^ 3 = 0 := by have := cardanoArg_quad h; rw [hA0] at this; linear_combination this
  exact (pow_eq_zero_iff three_ne_zero).mp hq3 |>.le

theorem dominant_of_sq_ge {g h x y : ℝ} (hx : x ^ 3 + g * x + h = 0) (hy : y ^ 3 + g * y + h = 0)
    (hsq : -g ≤ x ^ 2) : |y| ≤ |x| := by
  have hfac : (y - x) * (y ^ 2 + x * y + x ^ 2 + g) = 0 := by linear_combination hy - hx
  rcases mul_eq_zero.mp hfac with h1 | h1
  · rw [sub_eq_zero.mp h1]
  · -- `y² = −xy − (x² + g) ≤ |x|·|y|`
    rcases (abs_nonneg y).eq_or_lt with h0 | h0
    · rw [← h0]; exact abs_nonneg x
    · refine le_of_mul_le_mul_right ?_ h0
      calc |y| * |y| = y ^ 2 := by rw [abs_mul_abs_self, sq]
        _ ≤ -(x * y) := by linear_combination hsq + h1
        _ ≤ |x * y| := neg_le_abs _
        _ = |x| * |y| := abs_mul x y

section newton
variable {K : Type} [Field K] [LinearOrder K] [IsStrictOrderedRing K] [FloorRing K] [Scalar K] [LawfulScalar K]

theorem dcdNewton_succ (g h : K) (n : Nat) (x f : K) :
    dcdNewton g h (n + 1) x f =
      if 3 * x * x + g = 0 then x
      else if ((x - f / (3 * x * x + g)) * (x - f / (3 * x * x + g)) + g) * (x - f / (3 * x * x + g)) + h = 0 then
        x - f / (3 * x * x + g)
      else if |f| ≤ |((x - f / (3 * x * x + g)) * (x - f / (3 * x * x + g)) + g) * (x - f / (3 * x * x + g)) + h| then x
      else dcdNewton g h n (x - f / (3 * x * x + g))
        (((x - f / (3 * x * x + g)) * (x - f / (3 * x * x + g)) + g) * (x - f / (3 * x * x + g)) + h) := by
  rw [dcdNewton]
  simp only [scalar_norm, Nat.cast_ofNat, Nat.cast_zero, decide_eq_true_eq]

theorem dcdNewton_fixed {g h x : K} (hroot : (x * x + g) * x + h = 0) (n : Nat) : dcdNewton g h n x 0 = x := by
  cases n with
  | zero => rfl
  | succ n =>
    rw [dcdNewton_succ]
    by_cases hd : 3 * x * x + g = 0
    · rw [if_pos hd]
    · rw [if_neg hd]
      have e : x - 0 / (3 * x * x + g) = x := by rw [zero_div, sub_zero]
      rw [e, if_pos hroot]

theorem depressedCubicDominant_eq (g h : K) :
    depressedCubicDominant g h =
      if |(dcdPhi0 g h * dcdPhi0 g h + g) * dcdPhi0 g h + h| <
          (dcdEpsM : K) * max (max (dcdPhi0 g h ^ 3) (g * dcdPhi0 g h)) h then dcdPhi0 g h
      else dcdNewton g h 8 (dcdPhi0 g h) ((dcdPhi0 g h * dcdPhi0 g h + g) * dcdPhi0 g h + h) := by
  unfold depressedCubicDominant
  simp only [scalar_norm, decide_eq_true_eq]

theorem depressedCubicDominant_of_root {g h : K} (hroot : (dcdPhi0 g h * dcdPhi0 g h + g) * dcdPhi0 g h + h = 0) :
    depressedCubicDominant g h = dcdPhi0 g h := by
  rw [depressedCubicDominant_eq, hroot]
  split_ifs
  · rfl
  · exact dcdNewton_fixed hroot 8

end newton

section model
variable [Scalar ℝ] [LawfulScalar ℝ] [LawfulReal] [LawfulAcos]

theorem dcdK_cases (q r : ℝ) : dcdK q r = none ∨ (|q| < |r| ∧ dcdK q r = some (1 - q * (q / r) ^ 2)) ∨
    (¬ |q| < |r| ∧ dcdK q r = some ((if q < 0 then -1 else 1) * ((r / q) ^ 2 / q - 1))) := by
  unfold dcdK
  simp only [scalar_norm, Nat.cast_one, Bool.and_eq_true, decide_eq_true_eq]
  by_cases h1 : |q| < (dcdQBig : ℝ) ∧ |r| < (dcdRBig : ℝ)
  · rw [if_pos h1]; exact Or.inl rfl
  · rw [if_neg h1]
    by_cases h2 : |q| < |r|
    · rw [if_pos h2]; exact Or.inr (Or.inl ⟨h2, rfl⟩)
    · rw [if_neg h2]; exact Or.inr (Or.inr ⟨h2, rfl⟩)

theorem dcdPhi0_eq (g h : ℝ) :
    dcdPhi0 g h =
      match dcdK (-1 / 3 * g) (1 / 2 * h) with
      | none => phi0Plain (-1 / 3 * g) (1 / 2 * h)
      | some kv =>
        if 1 / 2 * h = 0 then (if 0 < g then 0 else √(-g)) else phi0Guard (-1 / 3 * g) (1 / 2 * h) kv := by
  unfold dcdPhi0
  simp only [scalar_norm, LawfulReal.sqrt_eq, LawfulReal.cbrt_eq, LawfulReal.cos_eq, LawfulAcos.acos_eq]
  push_cast
  cases dcdK (-1 / 3 * g) (1 / 2 * h) with
  | none =>
    simp only [Option.isSome_none, Bool.false_eq_true, if_false, decide_eq_true_eq]
    rfl
  | some kv =>
    by_cases hr : 1 / 2 * h = 0
    · simp only [Option.isSome_some, decide_eq_true_eq, hr, Bool.true_and, decide_true, if_true]
    · simp only [Option.isSome_some, decide_eq_true_eq, hr, Bool.true_and, decide_false, if_true, Bool.false_eq_true,
        if_false]
      rfl
end model

end Kurbo
