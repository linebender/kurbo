import Proofs.KDefs
import Proofs.Lemmas.C20
import Kurbo.Shapes
import Mathlib.Tactic.LinearCombination
/-! C11 helpers, rounded-rectangle part: the clamp-and-circle test of `RoundedRect::winding` in one quadrant is
    membership in the ideal shape, the radius selection `rrRadius`,
    the vocabulary `RoundedRect.RadiiOk` / `RoundedRect.Ideal`, and the lift to the whole `RoundedRect.winding`. -/
set_option linter.unusedSectionVars false
namespace Kurbo
variable {K : Type} [Field K] [LinearOrder K] [IsStrictOrderedRing K] [FloorRing K] [Scalar K] [LawfulScalar K]

namespace C11RR

/-- steps 3–5 of `RoundedRect::winding` -/
def inside (u v hw hh r : K) : Prop :=
  let ihw := max (hw - r) 0
  let ihh := max (hh - r) 0
  let px := max (u - ihw) 0
  let py := max (v - ihh) 0
  px * px + py * py ≤ r * r

/-- the ideal shape in that quadrant: inside the rectangle, and outside the corner square or inside the corner disc -/
def ideal (u v hw hh r : K) : Prop :=
  u ≤ hw ∧ v ≤ hh ∧ (u ≤ hw - r ∨ v ≤ hh - r ∨ (u - (hw - r)) * (u - (hw - r)) + (v - (hh - r)) * (v - (hh - r)) ≤ r * r)

/-- the test in terms of the offsets `a`, `b` of the point beyond the centre of the corner disc -/
theorem clamp_circle_iff {a b r : K} (hr : 0 ≤ r) :
    max a 0 * max a 0 + max b 0 * max b 0 ≤ r * r ↔ a ≤ r ∧ b ≤ r ∧ (a ≤ 0 ∨ b ≤ 0 ∨ a * a + b * b ≤ r * r) := by
  have sq : ∀ {x : K}, 0 ≤ x → (x * x ≤ r * r ↔ x ≤ r) := fun hx => (mul_self_le_mul_self_iff hx hr).symm
  rcases le_total a 0 with ha | ha <;> rcases le_total b 0 with hb | hb
  · rw [max_eq_right ha, max_eq_right hb, mul_zero, add_zero]
    exact ⟨fun _ => ⟨ha.trans hr, hb.trans hr, Or.inl ha⟩, fun _ => mul_self_nonneg r⟩
  · rw [max_eq_right ha, max_eq_left hb, mul_zero, zero_add, sq hb]
    exact ⟨fun h => ⟨ha.trans hr, h, Or.inl ha⟩, fun h => h.2.1⟩
  · rw [max_eq_left ha, max_eq_right hb, mul_zero, add_zero, sq ha]
    exact ⟨fun h => ⟨h, hb.trans hr, Or.inr (Or.inl hb)⟩, fun h => h.1⟩
  · rw [max_eq_left ha, max_eq_left hb]
    constructor
    · intro h
      exact ⟨(sq ha).mp ((le_add_of_nonneg_right (mul_self_nonneg b)).trans h),
        (sq hb).mp ((le_add_of_nonneg_left (mul_self_nonneg a)).trans h), Or.inr (Or.inr h)⟩
    · rintro ⟨h1, h2, h | h | h⟩
      · obtain rfl := le_antisymm h ha
        rw [mul_zero, zero_add]
        exact (sq hb).mpr h2
      · obtain rfl := le_antisymm h hb
        rw [mul_zero, add_zero]
        exact (sq ha).mpr h1
      · exact h

theorem inside_iff_ideal (u v hw hh r : K) (hr : 0 ≤ r) (hrw : r ≤ hw) (hrh : r ≤ hh) :
    inside u v hw hh r ↔ ideal u v hw hh r := by
  have e : ∀ x h : K, x - (h - r) ≤ r ↔ x ≤ h := fun x h => by rw [sub_le_iff_le_add, add_sub_cancel]
  unfold inside ideal
  simp only
  rw [max_eq_left (sub_nonneg.mpr hrw), max_eq_left (sub_nonneg.mpr hrh), clamp_circle_iff hr, e, e, sub_nonpos,
    sub_nonpos]

/-- one axis, the half below the centre: the folded coordinate `|p - c|` against the half extent, in terms of the low
    edge `lo` and the corner centre `lo + r` -/
theorem axis_lo {lo hi p r : K} (h : p - 1 / 2 * (lo + hi) < 0) :
    (|p - 1 / 2 * (lo + hi)| ≤ (hi - lo) / 2 ↔ lo ≤ p) ∧
    (|p - 1 / 2 * (lo + hi)| ≤ (hi - lo) / 2 - r ↔ ¬ p < lo + r) ∧
    (|p - 1 / 2 * (lo + hi)| - ((hi - lo) / 2 - r)) * (|p - 1 / 2 * (lo + hi)| - ((hi - lo) / 2 - r))
      = (p - (lo + r)) ^ 2 := by
  have e : |p - 1 / 2 * (lo + hi)| = (hi - lo) / 2 - (p - lo) := by rw [abs_of_neg h]; ring
  rw [e, sub_le_self_iff, sub_nonneg, sub_le_sub_iff_left, not_lt, le_sub_iff_add_le']
  exact ⟨Iff.rfl, Iff.rfl, by ring⟩

theorem axis_hi {lo hi p r : K} (h : 0 ≤ p - 1 / 2 * (lo + hi)) :
    (|p - 1 / 2 * (lo + hi)| ≤ (hi - lo) / 2 ↔ p ≤ hi) ∧
    (|p - 1 / 2 * (lo + hi)| ≤ (hi - lo) / 2 - r ↔ ¬ hi - r < p) ∧
    (|p - 1 / 2 * (lo + hi)| - ((hi - lo) / 2 - r)) * (|p - 1 / 2 * (lo + hi)| - ((hi - lo) / 2 - r))
      = (p - (hi - r)) ^ 2 := by
  have e : |p - 1 / 2 * (lo + hi)| = (hi - lo) / 2 - (hi - p) := by rw [abs_of_nonneg h]; ring
  rw [e, sub_le_self_iff, sub_nonneg, sub_le_sub_iff_left, not_lt, le_sub_comm]
  exact ⟨Iff.rfl, Iff.rfl, by ring⟩

/-- the quadrant test read along the two axes (`axis_lo` / `axis_hi` supply the hypotheses) -/
theorem ideal_iff_of_axes {u v hw hh r dx dy : K} {X Y SX SY : Prop}
    (hx : (u ≤ hw ↔ X) ∧ (u ≤ hw - r ↔ ¬ SX) ∧ (u - (hw - r)) * (u - (hw - r)) = dx)
    (hy : (v ≤ hh ↔ Y) ∧ (v ≤ hh - r ↔ ¬ SY) ∧ (v - (hh - r)) * (v - (hh - r)) = dy) :
    ideal u v hw hh r ↔ X ∧ Y ∧ (SX → SY → dx + dy ≤ r ^ 2) := by
  unfold ideal
  rw [hx.1, hx.2.1, hx.2.2, hy.1, hy.2.1, hy.2.2, ← imp_iff_not_or, ← imp_iff_not_or, sq]

theorem half_lo {lo hi p : K} (h : p - 1 / 2 * (lo + hi) < 0) (hle : lo ≤ hi) :
    p ≤ hi ∧ ∀ r, 2 * r ≤ hi - lo → ¬ hi - r < p :=
  ⟨by linear_combination h + (1 / 2) * hle, fun r hr => not_lt.2 (by linear_combination h + (1 / 2) * hr)⟩

theorem half_hi {lo hi p : K} (h : 0 ≤ p - 1 / 2 * (lo + hi)) (hle : lo ≤ hi) :
    lo ≤ p ∧ ∀ r, 2 * r ≤ hi - lo → ¬ p < lo + r :=
  ⟨by linear_combination h + (1 / 2) * hle, fun r hr => not_lt.2 (by linear_combination h + (1 / 2) * hr)⟩

theorem sq_sub_le_right {u c c' : K} (h1 : c ≤ c') (h2 : c' ≤ u) : (u - c') ^ 2 ≤ (u - c) ^ 2 :=
  pow_le_pow_left₀ (sub_nonneg.2 h2) (sub_le_sub_left h1 u) 2

theorem sq_sub_le_left {u c c' : K} (h1 : c' ≤ c) (h2 : u ≤ c') : (u - c') ^ 2 ≤ (u - c) ^ 2 := by
  rw [← neg_sub c' u, ← neg_sub c u, neg_sq, neg_sq]
  exact pow_le_pow_left₀ (sub_nonneg.2 h2) (sub_le_sub_right h1 u) 2

theorem disc_bounds {u v c e r : K} (hr : 0 ≤ r) (hd : (u - c) ^ 2 + (v - e) ^ 2 ≤ r ^ 2) :
    c - r ≤ u ∧ u ≤ c + r ∧ e - r ≤ v ∧ v ≤ e + r := by
  have a := abs_le_of_sq_le_sq ((le_add_of_nonneg_right (sq_nonneg _)).trans hd) hr
  have b := abs_le_of_sq_le_sq ((le_add_of_nonneg_left (sq_nonneg _)).trans hd) hr
  exact ⟨sub_le_of_abs_sub_le_left a, sub_le_iff_le_add'.1 (abs_sub_le_iff.1 a).1,
    sub_le_of_abs_sub_le_left b, sub_le_iff_le_add'.1 (abs_sub_le_iff.1 b).1⟩

end C11RR

theorem ite_one_zero_eq_one_iff (c : Prop) [Decidable c] : (if c then (1 : Int) else 0) = 1 ↔ c := by
  split_ifs with h <;> simp [h]

theorem ite_one_zero_zero_or_one (c : Prop) [Decidable c] :
    (if c then (1 : Int) else 0) = 0 ∨ (if c then (1 : Int) else 0) = 1 :=
  (em c).elim (fun h => Or.inr (if_pos h)) fun h => Or.inl (if_neg h)

/-- the corner radius `RoundedRect::winding` selects for the centred coordinates `(dx, dy)` -/
def rrRadius (s : RoundedRect K) (dx dy : K) : K :=
  if dx < 0 ∧ dy < 0 then s.radii.top_left
  else if 0 ≤ dx ∧ dy < 0 then s.radii.top_right
  else if 0 ≤ dx ∧ 0 ≤ dy then s.radii.bottom_right
  else if dx < 0 ∧ 0 ≤ dy then s.radii.bottom_left
  else 0

theorem RoundedRect.winding_eq_one_iff_inside (s : RoundedRect K) (p : Point K) :
    s.winding p = 1 ↔
      C11RR.inside |p.x - 1 / 2 * (s.rect.x0 + s.rect.x1)| |p.y - 1 / 2 * (s.rect.y0 + s.rect.y1)|
        ((s.rect.x1 - s.rect.x0) / 2) ((s.rect.y1 - s.rect.y0) / 2)
        (rrRadius s (p.x - 1 / 2 * (s.rect.x0 + s.rect.x1)) (p.y - 1 / 2 * (s.rect.y0 + s.rect.y1))) := by
  unfold RoundedRect.winding C11RR.inside rrRadius
  simp only [kdefs, Rect.center, Rect.width, Rect.height, scalar_norm, Bool.and_eq_true, decide_eq_true_eq]
  push_cast
  rw [ite_one_zero_eq_one_iff]

theorem RoundedRect.winding_zero_or_one (s : RoundedRect K) (p : Point K) : s.winding p = 0 ∨ s.winding p = 1 := by
  unfold RoundedRect.winding
  dsimp only
  exact ite_one_zero_zero_or_one _

/-- the radii are admissible for the rectangle: each lies in `[0, min(width, height)/2]` (what `from_rect` ensures) -/
def RoundedRect.RadiiOk (s : RoundedRect K) : Prop :=
  (0 ≤ s.radii.top_left ∧ s.radii.top_left ≤ min (s.rect.x1 - s.rect.x0) (s.rect.y1 - s.rect.y0) / 2) ∧
  (0 ≤ s.radii.top_right ∧ s.radii.top_right ≤ min (s.rect.x1 - s.rect.x0) (s.rect.y1 - s.rect.y0) / 2) ∧
  (0 ≤ s.radii.bottom_right ∧ s.radii.bottom_right ≤ min (s.rect.x1 - s.rect.x0) (s.rect.y1 - s.rect.y0) / 2) ∧
  (0 ≤ s.radii.bottom_left ∧ s.radii.bottom_left ≤ min (s.rect.x1 - s.rect.x0) (s.rect.y1 - s.rect.y0) / 2)

/-- the ideal rounded rectangle (closed set): the closed rectangle minus, at each corner, the part of the corner
    square `r × r` that lies outside the disc of radius `r` inscribed in that corner (`r` = that corner's radius;
    "top" is `y0`, "left" is `x0`, as in kurbo's y-down convention) -/
def RoundedRect.Ideal (s : RoundedRect K) (p : Point K) : Prop :=
  (s.rect.x0 ≤ p.x ∧ p.x ≤ s.rect.x1 ∧ s.rect.y0 ≤ p.y ∧ p.y ≤ s.rect.y1) ∧
  (p.x < s.rect.x0 + s.radii.top_left → p.y < s.rect.y0 + s.radii.top_left →
    (p.x - (s.rect.x0 + s.radii.top_left)) ^ 2 + (p.y - (s.rect.y0 + s.radii.top_left)) ^ 2 ≤ s.radii.top_left ^ 2) ∧
  (s.rect.x1 - s.radii.top_right < p.x → p.y < s.rect.y0 + s.radii.top_right →
    (p.x - (s.rect.x1 - s.radii.top_right)) ^ 2 + (p.y - (s.rect.y0 + s.radii.top_right)) ^ 2 ≤ s.radii.top_right ^ 2) ∧
  (s.rect.x1 - s.radii.bottom_right < p.x → s.rect.y1 - s.radii.bottom_right < p.y →
    (p.x - (s.rect.x1 - s.radii.bottom_right)) ^ 2 + (p.y - (s.rect.y1 - s.radii.bottom_right)) ^ 2
      ≤ s.radii.bottom_right ^ 2) ∧
  (p.x < s.rect.x0 + s.radii.bottom_left → s.rect.y1 - s.radii.bottom_left < p.y →
    (p.x - (s.rect.x0 + s.radii.bottom_left)) ^ 2 + (p.y - (s.rect.y1 - s.radii.bottom_left)) ^ 2
      ≤ s.radii.bottom_left ^ 2)

theorem RoundedRect.RadiiOk.bounds {s : RoundedRect K} (hr : s.RadiiOk) :
    (0 ≤ s.radii.top_left ∧ 2 * s.radii.top_left ≤ s.rect.x1 - s.rect.x0 ∧ 2 * s.radii.top_left ≤ s.rect.y1 - s.rect.y0) ∧
    (0 ≤ s.radii.top_right ∧ 2 * s.radii.top_right ≤ s.rect.x1 - s.rect.x0 ∧ 2 * s.radii.top_right ≤ s.rect.y1 - s.rect.y0) ∧
    (0 ≤ s.radii.bottom_right ∧ 2 * s.radii.bottom_right ≤ s.rect.x1 - s.rect.x0 ∧
      2 * s.radii.bottom_right ≤ s.rect.y1 - s.rect.y0) ∧
    (0 ≤ s.radii.bottom_left ∧ 2 * s.radii.bottom_left ≤ s.rect.x1 - s.rect.x0 ∧
      2 * s.radii.bottom_left ≤ s.rect.y1 - s.rect.y0) := by
  have key : ∀ {r : K}, r ≤ min (s.rect.x1 - s.rect.x0) (s.rect.y1 - s.rect.y0) / 2 →
      2 * r ≤ s.rect.x1 - s.rect.x0 ∧ 2 * r ≤ s.rect.y1 - s.rect.y0 := fun h =>
    ⟨by linear_combination 2 * h + min_le_left (s.rect.x1 - s.rect.x0) (s.rect.y1 - s.rect.y0),
      by linear_combination 2 * h + min_le_right (s.rect.x1 - s.rect.x0) (s.rect.y1 - s.rect.y0)⟩
  exact ⟨⟨hr.1.1, key hr.1.2⟩, ⟨hr.2.1.1, key hr.2.1.2⟩, ⟨hr.2.2.1.1, key hr.2.2.1.2⟩, ⟨hr.2.2.2.1, key hr.2.2.2.2⟩⟩

theorem RoundedRect.winding_eq_one_iff_ideal (s : RoundedRect K) (hn : s.rect.Nonneg) (hr : s.RadiiOk) (p : Point K) :
    s.winding p = 1 ↔ s.Ideal p := by
  rw [RoundedRect.winding_eq_one_iff_inside]
  obtain ⟨⟨tl0, tlw, tlh⟩, ⟨tr0, trw, trh⟩, ⟨br0, brw, brh⟩, ⟨bl0, blw, blh⟩⟩ := hr.bounds
  have half : ∀ {r w : K}, 2 * r ≤ w → r ≤ w / 2 := fun h => (le_div_iff₀' two_pos).2 h
  unfold RoundedRect.Ideal
  -- in each quadrant the selected corner's condition is the quadrant test and the other three are void
  rcases lt_or_ge (p.x - 1 / 2 * (s.rect.x0 + s.rect.x1)) 0 with hdx | hdx <;>
    rcases lt_or_ge (p.y - 1 / 2 * (s.rect.y0 + s.rect.y1)) 0 with hdy | hdy
  · obtain ⟨hx, X⟩ := C11RR.half_lo hdx hn.1
    obtain ⟨hy, Y⟩ := C11RR.half_lo hdy hn.2
    rw [rrRadius, if_pos ⟨hdx, hdy⟩, C11RR.inside_iff_ideal _ _ _ _ _ tl0 (half tlw) (half tlh),
      C11RR.ideal_iff_of_axes (C11RR.axis_lo hdx) (C11RR.axis_lo hdy)]
    exact ⟨fun ⟨h1, h2, h3⟩ => ⟨⟨h1, hx, h2, hy⟩, h3, fun a => absurd a (X _ trw), fun a => absurd a (X _ brw),
      fun _ b => absurd b (Y _ blh)⟩, fun ⟨⟨h1, _, h2, _⟩, h3, _⟩ => ⟨h1, h2, h3⟩⟩
  · obtain ⟨hx, X⟩ := C11RR.half_lo hdx hn.1
    obtain ⟨hy, Y⟩ := C11RR.half_hi hdy hn.2
    rw [rrRadius, if_neg (fun h => absurd h.2 (not_lt.mpr hdy)), if_neg (fun h => absurd hdx (not_lt.mpr h.1)),
      if_neg (fun h => absurd hdx (not_lt.mpr h.1)), if_pos ⟨hdx, hdy⟩,
      C11RR.inside_iff_ideal _ _ _ _ _ bl0 (half blw) (half blh),
      C11RR.ideal_iff_of_axes (C11RR.axis_lo hdx) (C11RR.axis_hi hdy)]
    exact ⟨fun ⟨h1, h2, h3⟩ => ⟨⟨h1, hx, hy, h2⟩, fun _ b => absurd b (Y _ tlh), fun a => absurd a (X _ trw),
      fun a => absurd a (X _ brw), h3⟩, fun ⟨⟨h1, _, _, h2⟩, _, _, _, h3⟩ => ⟨h1, h2, h3⟩⟩
  · obtain ⟨hx, X⟩ := C11RR.half_hi hdx hn.1
    obtain ⟨hy, Y⟩ := C11RR.half_lo hdy hn.2
    rw [rrRadius, if_neg (fun h => absurd h.1 (not_lt.mpr hdx)), if_pos ⟨hdx, hdy⟩,
      C11RR.inside_iff_ideal _ _ _ _ _ tr0 (half trw) (half trh),
      C11RR.ideal_iff_of_axes (C11RR.axis_hi hdx) (C11RR.axis_lo hdy)]
    exact ⟨fun ⟨h1, h2, h3⟩ => ⟨⟨hx, h1, h2, hy⟩, fun a => absurd a (X _ tlw), h3, fun _ b => absurd b (Y _ brh),
      fun a => absurd a (X _ blw)⟩, fun ⟨⟨_, h1, h2, _⟩, _, h3, _⟩ => ⟨h1, h2, h3⟩⟩
  · obtain ⟨hx, X⟩ := C11RR.half_hi hdx hn.1
    obtain ⟨hy, Y⟩ := C11RR.half_hi hdy hn.2
    rw [rrRadius, if_neg (fun h => absurd h.1 (not_lt.mpr hdx)), if_neg (fun h => absurd h.2 (not_lt.mpr hdy)),
      if_pos ⟨hdx, hdy⟩, C11RR.inside_iff_ideal _ _ _ _ _ br0 (half brw) (half brh),
      C11RR.ideal_iff_of_axes (C11RR.axis_hi hdx) (C11RR.axis_hi hdy)]
    exact ⟨fun ⟨h1, h2, h3⟩ => ⟨⟨hx, h1, hy, h2⟩, fun a => absurd a (X _ tlw), fun _ b => absurd b (Y _ trh), h3,
      fun a => absurd a (X _ blw)⟩, fun ⟨⟨_, h1, _, h2⟩, _, _, h3, _⟩ => ⟨h1, h2, h3⟩⟩

/-- moving the centre of the disc to a corner's centre, towards the point, only shortens the distance -/
theorem RoundedRect.ideal_of_disc {rect : Rect K} {r c e : K} (hr0 : 0 ≤ r) (hc : rect.x0 + r ≤ c ∧ c ≤ rect.x1 - r)
    (he : rect.y0 + r ≤ e ∧ e ≤ rect.y1 - r) {p : Point K} (hd : (p.x - c) ^ 2 + (p.y - e) ^ 2 ≤ r ^ 2) :
    (⟨rect, ⟨r, r, r, r⟩⟩ : RoundedRect K).Ideal p := by
  obtain ⟨b1, b2, b3, b4⟩ := C11RR.disc_bounds hr0 hd
  unfold RoundedRect.Ideal
  simp only
  exact ⟨⟨(le_sub_iff_add_le.2 hc.1).trans b1, b2.trans (le_sub_iff_add_le.1 hc.2), (le_sub_iff_add_le.2 he.1).trans b3,
      b4.trans (le_sub_iff_add_le.1 he.2)⟩,
    fun a b => (add_le_add (C11RR.sq_sub_le_left hc.1 a.le) (C11RR.sq_sub_le_left he.1 b.le)).trans hd,
    fun a b => (add_le_add (C11RR.sq_sub_le_right hc.2 a.le) (C11RR.sq_sub_le_left he.1 b.le)).trans hd,
    fun a b => (add_le_add (C11RR.sq_sub_le_right hc.2 a.le) (C11RR.sq_sub_le_right he.2 b.le)).trans hd,
    fun a b => (add_le_add (C11RR.sq_sub_le_left hc.1 a.le) (C11RR.sq_sub_le_right he.2 b.le)).trans hd⟩

end Kurbo
