import Proofs.Lemmas.C16AGeom
/-! C16A helpers: the sweep angle of `Arc::from_svg_arc` over ℝ is, up to the sign of the sweep flag, the turn from `start_v` to
    `end_v` in the sense of that flag (`Lemmas/Angle.lean`): it ends on `end_v`, lies in `(0, 2π)`, and its sine is `±start_v × end_v`,
    which decides the large-arc choice. -/
namespace Kurbo.SvgArcR
open Real

section
variable {la sw : Bool} {px py rx ry : ℝ}

theorem Fits.sweep_turn (h : Fits px py rx ry) :
    ∃ r, (0 < r ∧ r < 2 * π) ∧ sweepAngle la sw px py rx ry = swSign sw * r ∧
      sin r = swSign sw * coe la sw px py rx ry * (2 * sumSq px py rx ry / ((rx * ry) * (rx * ry))) := by
  obtain ⟨-, r, hr, e, hs⟩ := svgSweep_spec h.startV_norm h.endV_norm (h.startV_ne_endV (la := la) (sw := sw)) sw
  rw [sweepAngle]
  refine ⟨r, hr, e, ?_⟩
  rw [hs, cross_eq h.rx_pos.ne' h.ry_pos.ne']
  ring

theorem Fits.cos_sin_end (h : Fits px py rx ry) :
    cos (Complex.arg (startV la sw px py rx ry) + sweepAngle la sw px py rx ry) = (endV la sw px py rx ry).re ∧
    sin (Complex.arg (startV la sw px py rx ry) + sweepAngle la sw px py rx ry) = (endV la sw px py rx ry).im := by
  rw [sweepAngle]
  exact (svgSweep_spec h.startV_norm h.endV_norm (h.startV_ne_endV (la := la) (sw := sw)) sw).1

/-- in the sense of the sweep, the centre lies on the far side of the chord exactly for the large arc -/
theorem Fits.swSign_mul_coe (h : Fits px py rx ry) (hlt : sumSq px py rx ry < (rx * ry) * (rx * ry)) :
    (la = true → swSign sw * coe la sw px py rx ry < 0) ∧ (la = false → 0 < swSign sw * coe la sw px py rx ry) := by
  have hq : 0 < √|((rx * ry) * (rx * ry) - sumSq px py rx ry) / sumSq px py rx ry| :=
    Real.sqrt_pos.mpr (abs_pos.mpr (div_pos (sub_pos.mpr hlt) h.sumSq_pos).ne')
  -- `coe = ∓√…` with `−` for `la = sw`: four sign cases
  unfold coe
  cases la <;> cases sw <;> simp [swSign, hq]

theorem Fits.large_arc_strict (h : Fits px py rx ry) (hlt : sumSq px py rx ry < (rx * ry) * (rx * ry)) :
    (la = true → π < |sweepAngle la sw px py rx ry|) ∧ (la = false → |sweepAngle la sw px py rx ry| < π) := by
  obtain ⟨r, ⟨r0, r1⟩, e, hs⟩ := h.sweep_turn (la := la) (sw := sw)
  obtain ⟨c1, c2, -⟩ := cmp_pi_of_sin r0 r1
  obtain ⟨k1, k2⟩ := h.swSign_mul_coe (la := la) (sw := sw) hlt
  have hq : 0 < 2 * sumSq px py rx ry / ((rx * ry) * (rx * ry)) := div_pos (mul_pos two_pos h.sumSq_pos) h.rxry_sq_pos
  rw [e, abs_mul, abs_swSign, one_mul, abs_of_pos r0]
  exact ⟨fun e => c2 (hs ▸ mul_neg_of_neg_of_pos (k1 e) hq), fun e => c1 (hs ▸ mul_pos (k2 e) hq)⟩

theorem Fits.half_turn (h : Fits px py rx ry) (heq : sumSq px py rx ry = (rx * ry) * (rx * ry)) :
    |sweepAngle la sw px py rx ry| = π := by
  obtain ⟨r, ⟨r0, r1⟩, e, hs⟩ := h.sweep_turn (la := la) (sw := sw)
  rw [e, abs_mul, abs_swSign, one_mul, abs_of_pos r0]
  refine (cmp_pi_of_sin r0 r1).2.2 ?_
  rw [hs, h.coe_eq_zero_iff.mpr heq, mul_zero, zero_mul]

end
end Kurbo.SvgArcR
