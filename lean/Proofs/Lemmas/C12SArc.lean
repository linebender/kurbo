import Proofs.Lemmas.Svd
/-! Helper lemmas for C12S (on `Svd.lean`): the ideal point of an arc (`Arc.pointAt`), `Ellipse::new` and the fields of
    `Affine * Arc` (`mul_Arc_*`); what `Proofs/C12S.lean` needs of them for `Affine * Ellipse` and `Affine * Arc` over ℝ. -/
set_option linter.unusedSectionVars false
namespace Kurbo
open Real

/-- the ideal point of an arc at angle `θ`: `center + sample_ellipse(radii, x_rotation, θ)` -/
def Arc.pointAt {K : Type} [Scalar K] (a : Arc K) (θ : K) : Point K := a.center + sampleEllipse a.radii a.x_rotation θ

section lawful
variable {K : Type} [Field K] [LinearOrder K] [IsStrictOrderedRing K] [FloorRing K] [Scalar K] [LawfulScalar K]

theorem ellipse_new_inner (c : Point K) (radii : Vec2 K) (rot : K) :
    (Ellipse.new c radii rot).inner
      = ⟨Scalar.cos rot * |radii.x|, Scalar.sin rot * |radii.x|, -Scalar.sin rot * |radii.y|, Scalar.cos rot * |radii.y|,
          c.x, c.y⟩ := by
  simp only [Ellipse.new, Ellipse.private_new, Affine.translate_eq, Affine.rotate_eq, Affine.scale_non_uniform_eq,
    Affine.mul_eq, sn_sabs, one_mul, zero_mul, mul_zero, add_zero, zero_add]

theorem ellipse_new_act (c : Point K) (radii : Vec2 K) (rot : K) (p : Point K) :
    (Ellipse.new c radii rot).inner * p
      = ⟨c.x + (Scalar.cos rot * (|radii.x| * p.x) - Scalar.sin rot * (|radii.y| * p.y)),
         c.y + (Scalar.sin rot * (|radii.x| * p.x) + Scalar.cos rot * (|radii.y| * p.y))⟩ := by
  simp only [ellipse_new_inner, Affine.act_eq, Point.mk.injEq]
  constructor <;> ring

theorem ellipse_new_center (c : Point K) (radii : Vec2 K) (rot : K) : (Ellipse.new c radii rot).center = c := by
  rw [Ellipse.center, ellipse_new_inner]
  rfl

end lawful

section real
variable [Scalar ℝ] [LawfulScalar ℝ] [LawfulTrig]

theorem ellipse_new_det_real (c : Point ℝ) (radii : Vec2 ℝ) (rot : ℝ) :
    (Ellipse.new c radii rot).inner.determinant = |radii.x| * |radii.y| := by
  simp only [ellipse_new_inner, Affine.determinant_eq, LawfulTrig.sin_eq, LawfulTrig.cos_eq]
  linear_combination (|radii.x| * |radii.y|) * Real.cos_sq_add_sin_sq rot

theorem ellipse_new_unit (c : Point ℝ) (radii : Vec2 ℝ) (rot α : ℝ) :
    (Ellipse.new c radii rot).inner * (⟨cos α, sin α⟩ : Point ℝ)
      = c + sampleEllipse ⟨|radii.x|, |radii.y|⟩ rot α := by
  rw [ellipse_new_act, sampleEllipse_real, LawfulTrig.sin_eq, LawfulTrig.cos_eq]
  simp only [kdefs, scalar_norm, Point.mk.injEq]
  constructor <;> ring

theorem sampleEllipse_abs (radii : Vec2 ℝ) (rot θ : ℝ) (hx : radii.x ≠ 0) (hy : radii.y ≠ 0) :
    sampleEllipse radii rot θ
      = sampleEllipse ⟨|radii.x|, |radii.y|⟩ rot
          (sgnNeg (radii.x * radii.y) * θ + (if radii.x < 0 then Real.pi else 0)) := by
  rw [sampleEllipse_real, sampleEllipse_real]
  rcases lt_or_gt_of_ne hx with hx | hx <;> rcases lt_or_gt_of_ne hy with hy | hy
  · rw [sgnNeg_of_nonneg (not_lt.mpr (mul_pos_of_neg_of_neg hx hy).le), if_pos hx, abs_of_neg hx, abs_of_neg hy,
      one_mul, Real.cos_add_pi, Real.sin_add_pi]
    simp only [Vec2.mk.injEq]; constructor <;> ring
  · rw [sgnNeg_of_neg (mul_neg_of_neg_of_pos hx hy), if_pos hx, abs_of_neg hx, abs_of_pos hy,
      show -1 * θ + Real.pi = Real.pi - θ by ring, Real.cos_pi_sub, Real.sin_pi_sub]
    simp only [Vec2.mk.injEq]; constructor <;> ring
  · rw [sgnNeg_of_neg (mul_neg_of_pos_of_neg hx hy), if_neg (not_lt.mpr hx.le), abs_of_pos hx, abs_of_neg hy,
      show -1 * θ + 0 = -θ by ring, Real.cos_neg, Real.sin_neg]
    simp only [Vec2.mk.injEq]; constructor <;> ring
  · rw [sgnNeg_of_nonneg (not_lt.mpr (mul_pos hx hy).le), if_neg (not_lt.mpr hx.le), abs_of_pos hx, abs_of_pos hy,
      one_mul, add_zero]

theorem sampleEllipse_congr (radii : Vec2 ℝ) (rot α β x : ℝ) (hc : cos α = cos β) (hs : sin α = sin β) :
    sampleEllipse radii rot (α + x) = sampleEllipse radii rot (β + x) := by
  rw [sampleEllipse_real, sampleEllipse_real, Real.cos_add, Real.sin_add, Real.cos_add, Real.sin_add, hc, hs]

end real

section arc
variable [Scalar ℝ] [LawfulScalar ℝ] [LawfulTrig] [LawfulReal]

/-- the affine map of the image ellipse of `Affine * Arc` -/
def arcImgInner (A : Affine ℝ) (arc : Arc ℝ) : Affine ℝ := A * (Ellipse.new arc.center arc.radii arc.x_rotation).inner

theorem arcImgInner_det (A : Affine ℝ) (arc : Arc ℝ) :
    (arcImgInner A arc).determinant = A.determinant * (|arc.radii.x| * |arc.radii.y|) := by
  rw [arcImgInner, Affine.det_mul, ellipse_new_det_real]

theorem mul_Arc_center (A : Affine ℝ) (arc : Arc ℝ) :
    (A.mul_Arc arc).center = (arcImgInner A arc).translation.to_point := rfl
theorem mul_Arc_radii (A : Affine ℝ) (arc : Arc ℝ) : (A.mul_Arc arc).radii = (arcImgInner A arc).svd.1 := rfl
theorem mul_Arc_rot (A : Affine ℝ) (arc : Arc ℝ) : (A.mul_Arc arc).x_rotation = (arcImgInner A arc).svd.2 := rfl

theorem mul_Arc_radii_pos (A : Affine ℝ) (arc : Arc ℝ) (hdet : A.determinant ≠ 0)
    (hx : arc.radii.x ≠ 0) (hy : arc.radii.y ≠ 0) : 0 < (A.mul_Arc arc).radii.x ∧ 0 < (A.mul_Arc arc).radii.y := by
  rw [mul_Arc_radii]
  refine svd_radii_pos _ ?_
  rw [arcImgInner_det]
  exact mul_ne_zero hdet (mul_ne_zero (abs_ne_zero.mpr hx) (abs_ne_zero.mpr hy))

theorem mul_Arc_sweep (A : Affine ℝ) (arc : Arc ℝ) :
    (A.mul_Arc arc).sweep_angle = sgnNeg A.determinant * arc.sweep_angle := by
  unfold Affine.mul_Arc
  simp only [scalar_norm, decide_eq_true_eq]
  unfold sgnNeg
  push_cast
  split_ifs <;> ring

theorem mul_Arc_start (A : Affine ℝ) (arc : Arc ℝ) :
    (A.mul_Arc arc).start_angle
      = Complex.arg
          ⟨(cos (A.mul_Arc arc).x_rotation * ((A * arc.pointAt arc.start_angle).x - (A.mul_Arc arc).center.x)
              + sin (A.mul_Arc arc).x_rotation * ((A * arc.pointAt arc.start_angle).y - (A.mul_Arc arc).center.y))
            * (A.mul_Arc arc).radii.y,
           (cos (A.mul_Arc arc).x_rotation * ((A * arc.pointAt arc.start_angle).y - (A.mul_Arc arc).center.y)
              - sin (A.mul_Arc arc).x_rotation * ((A * arc.pointAt arc.start_angle).x - (A.mul_Arc arc).center.x))
            * (A.mul_Arc arc).radii.x⟩ := by
  rw [mul_Arc_center, mul_Arc_radii, mul_Arc_rot]
  unfold Affine.mul_Arc
  simp only [LawfulReal.atan2_eq, LawfulReal.sin_eq, LawfulReal.cos_eq, Arc.pointAt, Vec2.new, kdefs, scalar_norm]
  rfl

theorem arc_point_image (A : Affine ℝ) (arc : Arc ℝ) (hx : arc.radii.x ≠ 0) (hy : arc.radii.y ≠ 0) (θ : ℝ) :
    A * arc.pointAt θ
      = (A.mul_Arc arc).center + sampleEllipse (A.mul_Arc arc).radii (A.mul_Arc arc).x_rotation
          (sgnNeg A.determinant * (sgnNeg (arc.radii.x * arc.radii.y) * θ
            + (if arc.radii.x < 0 then Real.pi else 0) - svdPhase (arcImgInner A arc))) := by
  have hpos : 0 < |arc.radii.x| * |arc.radii.y| := mul_pos (abs_pos.mpr hx) (abs_pos.mpr hy)
  have hsg : sgnNeg (arcImgInner A arc).determinant = sgnNeg A.determinant := by
    rw [arcImgInner_det]
    by_cases h : A.determinant < 0
    · rw [sgnNeg_of_neg h, sgnNeg_of_neg (mul_neg_of_neg_of_pos h hpos)]
    · rw [sgnNeg_of_nonneg h, sgnNeg_of_nonneg (not_lt.mpr (mul_nonneg (not_lt.mp h) hpos.le))]
  rw [mul_Arc_center, mul_Arc_radii, mul_Arc_rot, ← hsg, ← svd_point]
  unfold arcImgInner
  rw [Affine.mul_act, ellipse_new_unit, ← sampleEllipse_abs _ _ _ hx hy]
  rfl

theorem mul_Arc_start_cos_sin (A : Affine ℝ) (arc : Arc ℝ) (hdet : A.determinant ≠ 0)
    (hx : arc.radii.x ≠ 0) (hy : arc.radii.y ≠ 0) :
    cos (A.mul_Arc arc).start_angle
        = cos (sgnNeg A.determinant * (sgnNeg (arc.radii.x * arc.radii.y) * arc.start_angle
            + (if arc.radii.x < 0 then Real.pi else 0) - svdPhase (arcImgInner A arc))) ∧
    sin (A.mul_Arc arc).start_angle
        = sin (sgnNeg A.determinant * (sgnNeg (arc.radii.x * arc.radii.y) * arc.start_angle
            + (if arc.radii.x < 0 then Real.pi else 0) - svdPhase (arcImgInner A arc))) := by
  obtain ⟨hrx, hry⟩ := mul_Arc_radii_pos A arc hdet hx hy
  rw [mul_Arc_start, arc_point_image A arc hx hy]
  generalize sgnNeg A.determinant * (sgnNeg (arc.radii.x * arc.radii.y) * arc.start_angle
    + (if arc.radii.x < 0 then Real.pi else 0) - svdPhase (arcImgInner A arc)) = θ'
  obtain ⟨u1, u2⟩ := sampleEllipse_unrotate (A.mul_Arc arc).radii (A.mul_Arc arc).x_rotation θ'
  generalize (A.mul_Arc arc).radii = r at *
  generalize (A.mul_Arc arc).x_rotation = φ at *
  generalize (A.mul_Arc arc).center = ctr at *
  generalize sampleEllipse r φ θ' = w at *
  have hρ : 0 < r.x * r.y := mul_pos hrx hry
  have e1 : (cos φ * ((ctr + w).x - ctr.x) + sin φ * ((ctr + w).y - ctr.y)) * r.y = (r.x * r.y) * cos θ' := by
    simp only [kdefs, scalar_norm]
    linear_combination r.y * u1
  have e2 : (cos φ * ((ctr + w).y - ctr.y) - sin φ * ((ctr + w).x - ctr.x)) * r.x = (r.x * r.y) * sin θ' := by
    simp only [kdefs, scalar_norm]
    linear_combination r.x * u2
  exact cos_sin_arg_of_polar hρ e1 e2

theorem mul_Arc_point_general (A : Affine ℝ) (arc : Arc ℝ) (hdet : A.determinant ≠ 0)
    (hx : arc.radii.x ≠ 0) (hy : arc.radii.y ≠ 0) (s : ℝ) :
    (A.mul_Arc arc).pointAt ((A.mul_Arc arc).start_angle + s * (A.mul_Arc arc).sweep_angle)
      = A * arc.pointAt (arc.start_angle + sgnNeg (arc.radii.x * arc.radii.y) * (s * arc.sweep_angle)) := by
  obtain ⟨hc, hs⟩ := mul_Arc_start_cos_sin A arc hdet hx hy
  rw [arc_point_image A arc hx hy, Arc.pointAt, sampleEllipse_congr _ _ _ _ _ hc hs, mul_Arc_sweep]
  congr 2
  have := sgnNeg_sq (arc.radii.x * arc.radii.y)
  linear_combination (-(sgnNeg A.determinant * s * arc.sweep_angle)) * this

end arc
end Kurbo
