import Proofs.Lemmas.C09
import Proofs.Lemmas.Calc
import Mathlib.Analysis.Calculus.LocalExtr.Basic
import Mathlib.Analysis.Calculus.Deriv.Pow
import Mathlib.Topology.Order.Compact
import Mathlib.Topology.Order.IntermediateValue
import Mathlib.Analysis.Real.Sqrt
/-! C09 over ℝ: soundness of the `need_ends` rule of `QuadBez::nearest` (`le_of_le_cands`; over ℝ because of the
    intermediate value theorem), the distance to a curve (`pdist`, `curveDist`), and the hypotheses `ToQuadsWithin` /
    `PathSegNearestHyp` of the theorems about cubics. -/
set_option linter.unusedSectionVars false
namespace Kurbo.C09
open Set

theorem hasDerivAt_poly4 (k0 k1 k2 k3 k4 t : ℝ) :
    HasDerivAt (fun x : ℝ => k0 + k1 * x + k2 * x ^ 2 + k3 * x ^ 3 + k4 * x ^ 4)
      (k1 + k2 * (2 * t) + k3 * (3 * t ^ 2) + k4 * (4 * t ^ 3)) t := by
  have h3 := hasDerivAt_poly3 k0 k1 k2 k3 t
  have h4 : HasDerivAt (fun x : ℝ => k4 * x ^ 4) (k4 * (4 * t ^ 3)) t := by
    have := (hasDerivAt_pow 4 t).const_mul k4
    simpa using this
  exact h3.add h4

/-- soundness of `need_ends`: if every root of `g` is listed and lies in [0,1], the end points need not be examined.
    The sign hypotheses on `g` (≤ 0 somewhere at or left of 0, ≥ 0 somewhere at or right of 1) hold for the
    critical-point polynomial of a squared distance (`cubic_sign_witness`). -/
theorem min_at_root_of_all_roots_inside {D g : ℝ → ℝ} {k : ℝ} (hk : 0 < k) (hD : ∀ t, HasDerivAt D (k * g t) t)
    (hg : Continuous g) (R : List ℝ)
    (hcomplete : ∀ t, g t = 0 → t ∈ R)
    (hin : ∀ r ∈ R, 0 ≤ r ∧ r ≤ 1)
    (Tm : ℝ) (hTm : Tm ≤ 0) (hgm : g Tm ≤ 0) (Tp : ℝ) (hTp : 1 ≤ Tp) (hgp : 0 ≤ g Tp) :
    ∀ t ∈ Icc (0:ℝ) 1, ∃ r ∈ R, D r ≤ D t := by
  obtain ⟨ts, hts, -, hmin⟩ := exists_min_end_or_crit hD
  -- the minimiser is itself a root of `g`
  suffices hroot : g ts = 0 from fun t ht => ⟨ts, hcomplete ts hroot, hmin t ht⟩
  by_contra hne
  rcases lt_or_gt_of_ne hne with hneg | hpos
  · -- `g ts < 0`: the derivative points out of [0,1] unless `ts = 1`; a root in `[1, Tp]` can only be 1
    have h1 : ts = 1 := le_antisymm hts.2 (sub_nonpos.mp (nonpos_of_mul_nonneg_left
      (min_variational hD hts hmin (y := 1) ⟨zero_le_one, le_rfl⟩) (mul_neg_of_pos_of_neg hk hneg)))
    subst h1
    obtain ⟨r, hr, hgr⟩ : (0:ℝ) ∈ g '' Icc 1 Tp := intermediate_value_Icc hTp hg.continuousOn ⟨hneg.le, hgp⟩
    rw [le_antisymm (hin r (hcomplete r hgr)).2 hr.1] at hgr
    exact hne hgr
  · -- `g ts > 0`: mirror image, `ts = 0` and a root in `[Tm, 0]`
    have h0 : ts = 0 := le_antisymm (sub_nonneg.mp (nonneg_of_mul_nonneg_left
      (min_variational hD hts hmin (y := 0) ⟨le_rfl, zero_le_one⟩) (mul_pos hk hpos))) hts.1
    subst h0
    obtain ⟨r, hr, hgr⟩ : (0:ℝ) ∈ g '' Icc Tm 0 := intermediate_value_Icc hTm hg.continuousOn ⟨hgm, hpos.le⟩
    rw [le_antisymm hr.2 (hin r (hcomplete r hgr)).1] at hgr
    exact hne hgr

theorem cubic_nonneg_far (c0 c1 c2 c3 : ℝ) (h : 0 < c3 ∨ (c3 = 0 ∧ c2 = 0 ∧ 0 < c1)) :
    ∃ T, 1 ≤ T ∧ 0 ≤ c0 + c1 * T + c2 * T ^ 2 + c3 * T ^ 3 := by
  rcases h with h3 | ⟨rfl, rfl, h1⟩
  · -- at `T = 1 + M/c3`, `M = |c0| + |c1| + |c2|`: the lower terms are ≥ `−M·T²` and `c3·T³ = (c3 + M)·T²`
    have hM : 0 ≤ |c0| + |c1| + |c2| := by positivity
    have hT1 : 1 ≤ 1 + (|c0| + |c1| + |c2|) / c3 := le_add_of_nonneg_right (div_nonneg hM h3.le)
    have hc3T : c3 * (1 + (|c0| + |c1| + |c2|) / c3) = c3 + (|c0| + |c1| + |c2|) := by field_simp
    refine ⟨_, hT1, ?_⟩
    generalize 1 + (|c0| + |c1| + |c2|) / c3 = T at hT1 hc3T
    have hT0 : 0 ≤ T := zero_le_one.trans hT1
    have hTT : T ≤ T ^ 2 := by rw [pow_two]; exact le_mul_of_one_le_left hT0 hT1
    have e3 : c3 * T ^ 3 = (c3 + (|c0| + |c1| + |c2|)) * T ^ 2 := by rw [← hc3T]; ring
    -- the hints: `|c0|·(T² − 1)`, `|c1|·(T² − T)`, `(|c1| + c1)·T`, `(|c2| + c2)·T²`, `c3·T²`, all ≥ 0
    linarith [neg_abs_le c0, mul_nonneg (abs_nonneg c0) (sub_nonneg.mpr (hT1.trans hTT)),
      mul_nonneg (abs_nonneg c1) (sub_nonneg.mpr hTT), mul_nonneg (neg_le_iff_add_nonneg.mp (neg_abs_le c1)) hT0,
      mul_nonneg (neg_le_iff_add_nonneg.mp (neg_abs_le c2)) (sq_nonneg T), mul_nonneg h3.le (sq_nonneg T)]
  · have hc1T : c1 * (1 + |c0| / c1) = c1 + |c0| := by field_simp
    refine ⟨1 + |c0| / c1, le_add_of_nonneg_right (div_nonneg (abs_nonneg _) h1.le), ?_⟩
    linarith [neg_abs_le c0]

/-- the witness left of 0 comes from `cubic_nonneg_far` by the substitution `T ↦ −T` -/
theorem cubic_sign_witness (c0 c1 c2 c3 : ℝ) (h : 0 < c3 ∨ (c3 = 0 ∧ c2 = 0 ∧ 0 < c1)) :
    (∃ T, T ≤ 0 ∧ c0 + c1 * T + c2 * T ^ 2 + c3 * T ^ 3 ≤ 0) ∧
    (∃ T, 1 ≤ T ∧ 0 ≤ c0 + c1 * T + c2 * T ^ 2 + c3 * T ^ 3) := by
  obtain ⟨T, hT, hp⟩ := cubic_nonneg_far (-c0) c1 (-c2) c3
    (h.imp_right fun ⟨h3, h2, h1⟩ => ⟨h3, neg_eq_zero.mpr h2, h1⟩)
  exact ⟨⟨-T, by linarith, by linear_combination hp⟩, cubic_nonneg_far c0 c1 c2 c3 h⟩

/-- the candidate rule of `QuadBez::nearest`, free of the model (`R` the root list, `g = D′/k`): a lower bound of `D`
    at the candidates the code evaluates is a lower bound on [0,1] -/
theorem le_of_le_cands {D g : ℝ → ℝ} {k : ℝ} (hk : 0 < k) (hD : ∀ t, HasDerivAt D (k * g t) t) (hg : Continuous g)
    (R : List ℝ) (hR : ∀ t, t ∈ R ↔ g t = 0) (hm : ∃ T, T ≤ 0 ∧ g T ≤ 0) (hp : ∃ T, 1 ≤ T ∧ 0 ≤ g T) {m : ℝ}
    (hroot : ∀ r ∈ R, 0 ≤ r → r ≤ 1 → m ≤ D r)
    (hends : (R = [] ∨ ∃ t ∈ R, ¬ (0 ≤ t ∧ t ≤ 1)) → m ≤ D 0 ∧ m ≤ D 1) : ∀ s ∈ Icc (0:ℝ) 1, m ≤ D s := by
  by_cases hN : R = [] ∨ ∃ t ∈ R, ¬ (0 ≤ t ∧ t ≤ 1)
  · exact ge_of_crit_bound hD (hends hN).1 (hends hN).2 fun t h0 h1 hd =>
      hroot t ((hR t).mpr ((mul_eq_zero.mp hd).resolve_left hk.ne')) h0.le h1.le
  · have hin : ∀ r ∈ R, 0 ≤ r ∧ r ≤ 1 := fun r hr => by_contra fun hcon => hN (Or.inr ⟨r, hr, hcon⟩)
    obtain ⟨Tm, hTm, hgm⟩ := hm
    obtain ⟨Tp, hTp, hgp⟩ := hp
    intro s hs
    obtain ⟨r, hr, hle⟩ :=
      min_at_root_of_all_roots_inside hk hD hg R (fun t ht => (hR t).mpr ht) hin Tm hTm hgm Tp hTp hgp s hs
    exact (hroot r hr (hin r hr).1 (hin r hr).2).trans hle

noncomputable def pdist (p q : Point ℝ) : ℝ := Real.sqrt (dist2 p q)

theorem sqrt_dist2 (p q : Point ℝ) : Real.sqrt (dist2 p q) = pdist p q := rfl

theorem pdist_nonneg (p q : Point ℝ) : 0 ≤ pdist p q := Real.sqrt_nonneg _

theorem pdist_comm (p q : Point ℝ) : pdist p q = pdist q p := by
  unfold pdist dist2; congr 1; ring

theorem pdist_le_iff (p q : Point ℝ) (a : ℝ) (ha : 0 ≤ a) : pdist p q ≤ a ↔ dist2 p q ≤ a ^ 2 := by
  rw [← sqrt_dist2, Real.sqrt_le_left ha]

/-- triangle inequality of the Euclidean norm of pairs (via Cauchy–Schwarz: `(ac+bd)² + (ad−bc)² = (a²+b²)(c²+d²)`) -/
theorem pdist_triangle (p q r : Point ℝ) : pdist p r ≤ pdist p q + pdist q r := by
  have e : dist2 p r = ((p.x - q.x) + (q.x - r.x)) ^ 2 + ((p.y - q.y) + (q.y - r.y)) ^ 2 := by
    unfold dist2; ring
  unfold pdist
  rw [e]
  exact sqrt_sq_add_sq_add_le _ _ _ _

/-- distance from `p` to the curve `f` over the parameter range [0,1] -/
noncomputable def curveDist (f : ℝ → Point ℝ) (p : Point ℝ) : ℝ := sInf ((fun t => pdist p (f t)) '' Icc (0:ℝ) 1)

theorem le_curveDist (f : ℝ → Point ℝ) (p : Point ℝ) (lo : ℝ)
    (h : ∀ t, 0 ≤ t → t ≤ 1 → lo ≤ pdist p (f t)) : lo ≤ curveDist f p := by
  unfold curveDist
  apply le_csInf
  · exact ⟨_, mem_image_of_mem _ (⟨le_refl _, zero_le_one⟩ : (0:ℝ) ∈ Icc (0:ℝ) 1)⟩
  · rintro _ ⟨t, ht, rfl⟩
    exact h t ht.1 ht.2

theorem curveDist_le (f : ℝ → Point ℝ) (p : Point ℝ) (t : ℝ) (h0 : 0 ≤ t) (h1 : t ≤ 1) :
    curveDist f p ≤ pdist p (f t) := by
  unfold curveDist
  apply csInf_le
  · refine ⟨0, ?_⟩
    rintro _ ⟨t, _, rfl⟩
    exact pdist_nonneg _ _
  · exact mem_image_of_mem _ ⟨h0, h1⟩

theorem within_of_bounds (f : ℝ → Point ℝ) (p : Point ℝ) (rep a ts : ℝ)
    (h : 0 ≤ ts ∧ ts ≤ 1 ∧ (∀ t, 0 ≤ t → t ≤ 1 → rep ≤ pdist p (f t) + a) ∧ pdist p (f ts) ≤ rep + a) :
    0 ≤ ts ∧ ts ≤ 1 ∧ |rep - curveDist f p| ≤ a ∧ pdist p (f ts) ≤ curveDist f p + 2 * a := by
  obtain ⟨h0, h1, hA, hB⟩ := h
  have l1 : rep - a ≤ curveDist f p := le_curveDist f p _ (fun t h0 h1 => by linarith [hA t h0 h1])
  have l2 : curveDist f p ≤ pdist p (f ts) := curveDist_le f p ts h0 h1
  exact ⟨h0, h1, abs_le.mpr ⟨by linarith, by linarith⟩, by linarith⟩

theorem exact_of_min (f : ℝ → Point ℝ) (p : Point ℝ) (d2 ts : ℝ)
    (h : 0 ≤ ts ∧ ts ≤ 1 ∧ d2 = dist2 p (f ts) ∧ ∀ s, 0 ≤ s → s ≤ 1 → d2 ≤ dist2 p (f s)) :
    Real.sqrt d2 = curveDist f p ∧ pdist p (f ts) = curveDist f p := by
  obtain ⟨h0, h1, he, hmin⟩ := h
  have e : pdist p (f ts) = Real.sqrt d2 := by rw [he]; rfl
  have h : Real.sqrt d2 = curveDist f p :=
    le_antisymm (le_curveDist f p _ fun t ht0 ht1 => Real.sqrt_le_sqrt (hmin t ht0 ht1))
      (e ▸ curveDist_le f p ts h0 h1)
  exact ⟨h, e.trans h⟩

theorem within_of_exact (f : ℝ → Point ℝ) (p : Point ℝ) (d2 a ts : ℝ) (ha : 0 ≤ a)
    (h : 0 ≤ ts ∧ ts ≤ 1 ∧ d2 = dist2 p (f ts) ∧ ∀ s, 0 ≤ s → s ≤ 1 → d2 ≤ dist2 p (f s)) :
    0 ≤ ts ∧ ts ≤ 1 ∧ |Real.sqrt d2 - curveDist f p| ≤ a ∧ pdist p (f ts) ≤ curveDist f p + 2 * a := by
  obtain ⟨e1, e2⟩ := exact_of_min f p d2 ts h
  rw [e1, e2, sub_self, abs_zero]
  exact ⟨h.1, h.2.1, ha, by linarith⟩

section real
variable [Scalar ℝ] [LawfulScalar ℝ]

/-- the C17 error bound, as a hypothesis: every quadratic piece stays within `a` of its stretch of the cubic -/
def ToQuadsWithin (c : CubicBez ℝ) (a : ℝ) : Prop :=
  ∀ piece ∈ c.to_quads a, ∀ s, 0 ≤ s → s ≤ 1 →
    pdist (piece.2.2.eval s) (c.eval (piece.1 + s * (piece.2.1 - piece.1))) ≤ a


/-- what `pathSeg_nearest_within` assumes, per segment kind -/
def PathSegNearestHyp (s : PathSeg ℝ) (p : Point ℝ) (a : ℝ) : Prop :=
  match s with
  | .Line _ => True
  | .Quad q => QuadRootsExact q p
  | .Cubic c => (∀ piece ∈ c.to_quads a, QuadRootsExact piece.2.2 p) ∧ ToQuadsWithin c a

theorem quad_dist2_hasDerivAt (q : QuadBez ℝ) (p : Point ℝ) (t : ℝ) :
    HasDerivAt (fun x => dist2 p (q.eval x)) (4 * quadCritPoly q p t) t := by
  have h := hasDerivAt_poly4 (dist2 p q.p0) (4 * (quadNearestCoeffs q p).1) (2 * (quadNearestCoeffs q p).2.1)
    (4 / 3 * (quadNearestCoeffs q p).2.2.1) (quadNearestCoeffs q p).2.2.2 t
  have e1 : (fun x => dist2 p (q.eval x)) = fun x : ℝ => dist2 p q.p0 + 4 * (quadNearestCoeffs q p).1 * x
      + 2 * (quadNearestCoeffs q p).2.1 * x ^ 2 + 4 / 3 * (quadNearestCoeffs q p).2.2.1 * x ^ 3
      + (quadNearestCoeffs q p).2.2.2 * x ^ 4 := by
    funext x; exact quad_dist2_poly q p x
  have e2 : 4 * quadCritPoly q p t = 4 * (quadNearestCoeffs q p).1 + 2 * (quadNearestCoeffs q p).2.1 * (2 * t)
      + 4 / 3 * (quadNearestCoeffs q p).2.2.1 * (3 * t ^ 2) + (quadNearestCoeffs q p).2.2.2 * (4 * t ^ 3) := by
    unfold quadCritPoly; ring
  rw [e1, e2]; exact h

theorem quadCritPoly_continuous (q : QuadBez ℝ) (p : Point ℝ) : Continuous (quadCritPoly q p) := by
  unfold quadCritPoly; fun_prop

theorem quad_nearest_le (q : QuadBez ℝ) (p : Point ℝ) (a : ℝ) (hS : QuadRootsExact q p) (s : ℝ)
    (hs0 : 0 ≤ s) (hs1 : s ≤ 1) : (q.nearest p a).distance_sq ≤ dist2 p (q.eval s) := by
  obtain ⟨c, hc, -, hd, -⟩ := quad_nearest_min_cands q p a
  obtain ⟨hroot, hends⟩ := quad_nearest_le_cands q p a
  by_cases hz : quadCoeffsAllZero q p
  · -- the quadratic is a point: the squared distance is constant
    obtain ⟨z0, z1, z2, z3⟩ := hz
    rw [hd, (quadCands_on_curve q _ c hc).2.2, quad_dist2_poly q p c.1, quad_dist2_poly q p s, z0, z1, z2, z3]
    simp
  obtain ⟨hm, hp⟩ := cubic_sign_witness (quadNearestCoeffs q p).1 (quadNearestCoeffs q p).2.1
    (quadNearestCoeffs q p).2.2.1 (quadNearestCoeffs q p).2.2.2 ((or_assoc.mpr (quadCoeffs_sign q p)).resolve_right hz)
  refine le_of_le_cands (by norm_num : (0:ℝ) < 4) (quad_dist2_hasDerivAt q p) (quadCritPoly_continuous q p) _ (hS hz)
    hm hp hroot (fun hN => ?_) s ⟨hs0, hs1⟩
  rw [(quad_eval_zero_one q).1, (quad_eval_zero_one q).2]
  exact hends hN

theorem toQuadsWithin_of_quadratic (c : CubicBez ℝ)
    (hx : c.p3.x - 3 * c.p2.x + 3 * c.p1.x - c.p0.x = 0) (hy : c.p3.y - 3 * c.p2.y + 3 * c.p1.y - c.p0.y = 0)
    (a : ℝ) (ha : 0 ≤ a) : ToQuadsWithin c a := by
  intro piece hp s _ _
  obtain ⟨i, _, rfl⟩ := (mem_to_quads c a piece).mp hp
  rw [toQuadsPiece_exact_of_quadratic c hx hy]
  unfold pdist dist2
  simpa using ha

end real

end Kurbo.C09
