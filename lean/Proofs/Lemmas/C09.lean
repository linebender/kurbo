import Proofs.Lemmas.C17
import Proofs.Lemmas.C15Cubic
import Proofs.Lemmas.C04Field
/-! C09 (nearest point): the structure of the candidate loop of `QuadBez::nearest` / `CubicBez::nearest` (any
    `[Scalar K]`), the algebra of `Line::nearest` and of the critical-point polynomial, the tiling of [0,1] by the
    pieces of `to_quads` (any lawful `K`), and what is assumed of `solve_cubic` (`QuadRootsExact`, `CubicSolverSpec`)
    with the affine case in which it holds outright. -/
set_option linter.unusedSectionVars false
namespace Kurbo.C09

/-! ### model-level names for the pieces of `QuadBez.nearest` (all `rfl`-equal to the model) -/
section defs
variable {K : Type} [Scalar K]

open Ops in
/-- the test `(0.0..=1.0).contains(&t)` of `try_t` -/
def nearInRange (t : K) : Bool := (0 : K) <=. t && t <=. (1 : K)

open Ops in
/-- the four coefficients `c0 c1 c2 c3` that `QuadBez::nearest` hands to `solve_cubic` -/
def quadNearestCoeffs (q : QuadBez K) (p : Point K) : K × K × K × K :=
  let d0 := q.p1 - q.p0
  let d1 := q.p0.to_vec2 + q.p2.to_vec2 - (2 : K) * q.p1.to_vec2
  let d := q.p0 - p
  (d.dot d0, (2 : K) * d0.hypot2 + d.dot d1, (3 : K) * d1.dot d0, d1.hypot2)

/-- the root list `QuadBez::nearest` iterates over -/
def quadNearestRoots (q : QuadBez K) (p : Point K) : List K :=
  let c := quadNearestCoeffs q p
  solveCubic c.1 c.2.1 c.2.2.1 c.2.2.2

/-- the loop body (`try_t`) -/
def nearestStep (q : QuadBez K) (p : Point K) (acc : (K × Option K) × Bool) (t : K) : (K × Option K) × Bool :=
  if !(nearInRange t) then (acc.1, true) else (nearestEvalT p acc.1 t (q.eval t), acc.2)

open Ops in
/-- `QuadBez::nearest` after the roots are known -/
def nearestOfRoots (q : QuadBez K) (p : Point K) (roots : List K) : Nearest K :=
  let r := roots.foldl (nearestStep q p) (((0 : K), none), roots.isEmpty)
  let best := if r.2 then nearestEvalT p (nearestEvalT p r.1 (0 : K) q.p0) (1 : K) q.p2 else r.1
  { t := best.1, distance_sq := best.2.getD (0 : K) }

theorem quad_nearest_eq_ofRoots (q : QuadBez K) (p : Point K) (a : K) :
    q.nearest p a = nearestOfRoots q p (quadNearestRoots q p) := rfl

/-- `need_ends` after the loop: no root at all, or some root outside `[0,1]` -/
def quadNeedEnds (roots : List K) : Bool := roots.isEmpty || roots.any (fun t => !(nearInRange t))

open Ops in
/-- the `(t, point)` pairs handed to `eval_t`, in evaluation order -/
def quadCands (q : QuadBez K) (roots : List K) : List (K × Point K) :=
  (roots.filter nearInRange).map (fun t => (t, q.eval t))
    ++ (if quadNeedEnds roots then [((0 : K), q.p0), ((1 : K), q.p2)] else [])

/-- `eval_t` folded over a candidate list -/
def bestOf (p : Point K) (acc : K × Option K) (cands : List (K × Point K)) : K × Option K :=
  cands.foldl (fun b c => nearestEvalT p b c.1 c.2) acc

theorem nearestStep_foldl (q : QuadBez K) (p : Point K) (roots : List K) (acc : (K × Option K) × Bool) :
    roots.foldl (nearestStep q p) acc
      = (bestOf p acc.1 ((roots.filter nearInRange).map (fun t => (t, q.eval t))),
         acc.2 || roots.any (fun t => !(nearInRange t))) := by
  induction roots generalizing acc with
  | nil => simp [bestOf]
  | cons t ts ih =>
    rw [List.foldl_cons, ih]
    unfold nearestStep
    cases h : nearInRange t
    · simp [h]
    · simp [h, bestOf]

theorem bestOf_append (p : Point K) (acc : K × Option K) (l₁ l₂ : List (K × Point K)) :
    bestOf p acc (l₁ ++ l₂) = bestOf p (bestOf p acc l₁) l₂ := by
  simp [bestOf, List.foldl_append]

open Ops in
theorem nearestOfRoots_eq (q : QuadBez K) (p : Point K) (roots : List K) :
    nearestOfRoots q p roots =
      { t := (bestOf p ((0 : K), none) (quadCands q roots)).1,
        distance_sq := (bestOf p ((0 : K), none) (quadCands q roots)).2.getD (0 : K) } := by
  unfold nearestOfRoots quadCands
  simp only [nearestStep_foldl, bestOf_append]
  have : (roots.isEmpty || roots.any fun t => !nearInRange t) = quadNeedEnds roots := rfl
  rw [this]
  cases quadNeedEnds roots
  · simp [bestOf]
  · simp [bestOf]

theorem quadCands_ne_nil (q : QuadBez K) (roots : List K) : quadCands q roots ≠ [] := by
  unfold quadCands quadNeedEnds
  cases roots with
  | nil => simp
  | cons t ts =>
    by_cases h : (t :: ts).any (fun t => !(nearInRange t)) = true
    · simp [h]
    · have h' : ∀ x ∈ t :: ts, nearInRange x = true := by
        simpa using h
      simp [h' t (by simp)]

/-- squared distance the way `eval_t` computes it -/
def candDist (p : Point K) (c : K × Point K) : K := (c.2 - p).hypot2

/-! #### the generic "keep the first minimum" fold shared by `QuadBez::nearest` and `CubicBez::nearest` -/

def minStep (acc : K × Option K) (c : K × K) : K × Option K :=
  match acc.2 with
  | some rb => if Scalar.lt c.2 rb then (c.1, some c.2) else acc
  | none => (c.1, some c.2)

def minFold {α : Type} (ft fd : α → K) (acc : K × Option K) (L : List α) : K × Option K :=
  L.foldl (fun b x => minStep b (ft x, fd x)) acc

theorem minFold_none_cons {α : Type} (ft fd : α → K) (t0 : K) (c : α) (cs : List α) :
    minFold ft fd (t0, none) (c :: cs) = minFold ft fd (ft c, some (fd c)) cs := rfl

theorem minFold_some_cons {α : Type} (ft fd : α → K) (t0 r0 : K) (c : α) (cs : List α) :
    minFold ft fd (t0, some r0) (c :: cs)
      = minFold ft fd (if Scalar.lt (fd c) r0 then (ft c, some (fd c)) else (t0, some r0)) cs := rfl

/-- the `Nearest` record that both `nearest` functions build of the fold, once the fold's value is known -/
theorem nearest_of_minFold {α : Type} {ft fd : α → K} {acc : K × Option K} {L : List α} {x : α} {d0 : K}
    (h : minFold ft fd acc L = (ft x, some (fd x))) :
    ({ t := (minFold ft fd acc L).1, distance_sq := (minFold ft fd acc L).2.getD d0 } : Nearest K)
      = { t := ft x, distance_sq := fd x } := by
  rw [h]; rfl

theorem bestOf_eq_minFold (p : Point K) (acc : K × Option K) (cands : List (K × Point K)) :
    bestOf p acc cands = minFold Prod.fst (candDist p) acc cands := rfl

theorem minFold_some_mem {α : Type} (ft fd : α → K) (L : List α) (t0 r0 : K) :
    minFold ft fd (t0, some r0) L = (t0, some r0) ∨
      ∃ x ∈ L, minFold ft fd (t0, some r0) L = (ft x, some (fd x)) := by
  induction L generalizing t0 r0 with
  | nil => left; rfl
  | cons c cs ih =>
    rw [minFold_some_cons]
    cases h : Scalar.lt (fd c) r0
    · simp only [Bool.false_eq_true, if_false]
      rcases ih t0 r0 with h1 | ⟨c', hc', h1⟩
      · left; exact h1
      · right; exact ⟨c', List.mem_cons_of_mem _ hc', h1⟩
    · simp only [if_true]
      rcases ih (ft c) (fd c) with h1 | ⟨c', hc', h1⟩
      · right; exact ⟨c, List.mem_cons_self, h1⟩
      · right; exact ⟨c', List.mem_cons_of_mem _ hc', h1⟩

theorem minFold_none_mem {α : Type} (ft fd : α → K) (L : List α) (hne : L ≠ []) :
    ∃ x ∈ L, ∀ t0, minFold ft fd (t0, none) L = (ft x, some (fd x)) := by
  cases L with
  | nil => exact absurd rfl hne
  | cons c cs =>
    rcases minFold_some_mem ft fd cs (ft c) (fd c) with h1 | ⟨c', hc', h1⟩
    · exact ⟨c, List.mem_cons_self, fun t0 => (minFold_none_cons ft fd t0 c cs).trans h1⟩
    · exact ⟨c', List.mem_cons_of_mem _ hc', fun t0 => (minFold_none_cons ft fd t0 c cs).trans h1⟩

open Ops in
/-- the loop body of `CubicBez::nearest` -/
def cubicNearestStep (p : Point K) (a : K) (acc : K × Option K) (piece : K × K × QuadBez K) : K × Option K :=
  let n := piece.2.2.nearest p a
  let better := match acc.2 with
    | some br => n.distance_sq <. br
    | none => true
  if better then (piece.1 + n.t * (piece.2.1 - piece.1), some n.distance_sq) else acc

open Ops in
theorem cubic_nearest_eq_fold (c : CubicBez K) (p : Point K) (a : K) :
    c.nearest p a =
      { t := ((c.to_quads a).foldl (cubicNearestStep p a) ((0 : K), none)).1,
        distance_sq := ((c.to_quads a).foldl (cubicNearestStep p a) ((0 : K), none)).2.getD (0 : K) } := rfl

open Ops in
/-- parameter on the cubic reported for a piece `(t0, t1, quad)` -/
def cubicPieceT (p : Point K) (a : K) (piece : K × K × QuadBez K) : K :=
  piece.1 + (piece.2.2.nearest p a).t * (piece.2.1 - piece.1)

/-- squared distance reported for a piece -/
def cubicPieceD (p : Point K) (a : K) (piece : K × K × QuadBez K) : K := (piece.2.2.nearest p a).distance_sq

theorem cubicNearestStep_eq (p : Point K) (a : K) (acc : K × Option K) (piece : K × K × QuadBez K) :
    cubicNearestStep p a acc piece = minStep acc (cubicPieceT p a piece, cubicPieceD p a piece) := by
  unfold cubicNearestStep minStep cubicPieceT cubicPieceD
  rcases acc with ⟨t, _ | r⟩
  · simp
  · simp

open Ops in
theorem cubic_nearest_eq_minFold (c : CubicBez K) (p : Point K) (a : K) :
    c.nearest p a =
      { t := (minFold (cubicPieceT p a) (cubicPieceD p a) ((0 : K), none) (c.to_quads a)).1,
        distance_sq := (minFold (cubicPieceT p a) (cubicPieceD p a) ((0 : K), none) (c.to_quads a)).2.getD (0 : K) } := by
  rw [cubic_nearest_eq_fold]
  have : cubicNearestStep p a = fun b x => minStep b (cubicPieceT p a x, cubicPieceD p a x) := by
    funext b x; exact cubicNearestStep_eq p a b x
  rw [this]; rfl

theorem mem_quadCands (q : QuadBez K) (roots : List K) (c : K × Point K) :
    c ∈ quadCands q roots ↔
      (∃ t ∈ roots, nearInRange t = true ∧ c = (t, q.eval t)) ∨
      (quadNeedEnds roots = true ∧ (c = (Scalar.ofRat ((0 : Nat) : Rat), q.p0) ∨ c = (Scalar.ofRat ((1 : Nat) : Rat), q.p2))) := by
  unfold quadCands
  rw [List.mem_append]
  constructor
  · rintro (h | h)
    · left
      obtain ⟨t, ht, rfl⟩ := List.mem_map.mp h
      rw [List.mem_filter] at ht
      exact ⟨t, ht.1, ht.2, rfl⟩
    · right
      cases hN : quadNeedEnds roots
      · rw [hN] at h; simp at h
      · rw [hN] at h
        simp only [if_true, List.mem_cons, List.not_mem_nil, or_false] at h
        exact ⟨rfl, h⟩
  · rintro (⟨t, ht, hr, rfl⟩ | ⟨hN, h⟩)
    · left; exact List.mem_map.mpr ⟨t, List.mem_filter.mpr ⟨ht, hr⟩, rfl⟩
    · right; rw [hN]; simp only [if_true, List.mem_cons, List.not_mem_nil, or_false]; exact h

theorem quadNeedEnds_iff (roots : List K) :
    quadNeedEnds roots = true ↔ roots = [] ∨ ∃ t ∈ roots, nearInRange t = false := by
  unfold quadNeedEnds
  simp [List.isEmpty_iff]

end defs

section lawful
variable {K : Type} [Field K] [LinearOrder K] [IsStrictOrderedRing K] [FloorRing K] [Scalar K] [LawfulScalar K]

def dist2 {K : Type} [Field K] (p q : Point K) : K := (p.x - q.x) ^ 2 + (p.y - q.y) ^ 2

theorem dist2_nonneg (p q : Point K) : 0 ≤ dist2 p q :=
  add_nonneg (sq_nonneg _) (sq_nonneg _)

theorem hypot2_sub_eq (p q : Point K) : (q - p).hypot2 = dist2 p q := by
  unfold dist2; kring

theorem candDist_eq (p : Point K) (c : K × Point K) : candDist p c = dist2 p c.2 := hypot2_sub_eq p c.2

theorem hypot2_sub_eq' (p q : Point K) : (p - q).hypot2 = dist2 p q := by
  unfold dist2; kring

theorem nearInRange_iff (t : K) : nearInRange t = true ↔ 0 ≤ t ∧ t ≤ 1 := by
  unfold nearInRange
  simp only [scalar_norm, Bool.and_eq_true, decide_eq_true_eq, Nat.cast_zero, Nat.cast_one]

theorem nearInRange_false_iff (t : K) : nearInRange t = false ↔ ¬ (0 ≤ t ∧ t ≤ 1) := by
  rw [← nearInRange_iff]; simp

/-- the fold keeps the *first* item of minimal `fd` -/
theorem minFold_some_spec {α : Type} (ft fd : α → K) (L : List α) (t0 r0 : K) :
    (minFold ft fd (t0, some r0) L = (t0, some r0) ∧ ∀ c ∈ L, r0 ≤ fd c) ∨
      ∃ l₁ c l₂, L = l₁ ++ c :: l₂ ∧ minFold ft fd (t0, some r0) L = (ft c, some (fd c)) ∧
        fd c < r0 ∧ (∀ c' ∈ l₁, fd c < fd c') ∧ (∀ c' ∈ l₂, fd c ≤ fd c') := by
  induction L generalizing t0 r0 with
  | nil => left; exact ⟨rfl, by simp⟩
  | cons c cs ih =>
    rw [minFold_some_cons, LawfulScalar.lt_eq]
    simp only [decide_eq_true_eq]
    by_cases h : fd c < r0
    · rw [if_pos h]
      rcases ih (ft c) (fd c) with ⟨h1, h2⟩ | ⟨l₁, c', l₂, e, h1, h2, h3, h4⟩
      · right; exact ⟨[], c, cs, rfl, h1, h, by simp, h2⟩
      · right
        refine ⟨c :: l₁, c', l₂, by rw [e]; rfl, h1, h2.trans h, ?_, h4⟩
        intro x hx
        rcases List.mem_cons.mp hx with rfl | hx
        · exact h2
        · exact h3 x hx
    · rw [if_neg h]
      rcases ih t0 r0 with ⟨h1, h2⟩ | ⟨l₁, c', l₂, e, h1, h2, h3, h4⟩
      · left
        refine ⟨h1, ?_⟩
        intro x hx
        rcases List.mem_cons.mp hx with rfl | hx
        · exact not_lt.mp h
        · exact h2 x hx
      · right
        refine ⟨c :: l₁, c', l₂, by rw [e]; rfl, h1, h2, ?_, h4⟩
        intro x hx
        rcases List.mem_cons.mp hx with rfl | hx
        · exact lt_of_lt_of_le h2 (not_lt.mp h)
        · exact h3 x hx

theorem minFold_none_spec {α : Type} (ft fd : α → K) (L : List α) (hne : L ≠ []) :
    ∃ l₁ c l₂, L = l₁ ++ c :: l₂ ∧ (∀ t0, minFold ft fd (t0, none) L = (ft c, some (fd c))) ∧
      (∀ c' ∈ l₁, fd c < fd c') ∧ (∀ c' ∈ l₂, fd c ≤ fd c') := by
  cases L with
  | nil => exact absurd rfl hne
  | cons c cs =>
    rcases minFold_some_spec ft fd cs (ft c) (fd c) with ⟨h1, h2⟩ | ⟨l₁, c', l₂, e', h1, h2, h3, h4⟩
    · exact ⟨[], c, cs, rfl, fun t0 => (minFold_none_cons ft fd t0 c cs).trans h1, by simp, h2⟩
    · refine ⟨c :: l₁, c', l₂, by rw [e']; rfl, fun t0 => (minFold_none_cons ft fd t0 c cs).trans h1, ?_, h4⟩
      intro x hx
      rcases List.mem_cons.mp hx with rfl | hx
      · exact h2
      · exact h3 x hx

theorem le_of_firstMin {α : Type} (fd : α → K) {L l₁ l₂ : List α} {c : α} (e : L = l₁ ++ c :: l₂)
    (h₁ : ∀ c' ∈ l₁, fd c < fd c') (h₂ : ∀ c' ∈ l₂, fd c ≤ fd c') : c ∈ L ∧ ∀ c' ∈ L, fd c ≤ fd c' := by
  subst e
  refine ⟨by simp, fun c' hc' => ?_⟩
  rcases List.mem_append.mp hc' with h | h
  · exact (h₁ c' h).le
  · rcases List.mem_cons.mp h with rfl | h
    · exact le_refl _
    · exact h₂ c' h

theorem line_nearest_eq (l : Line K) (p : Point K) (acc A B : K)
    (hA : A = (l.p1.x - l.p0.x) * (l.p1.x - l.p0.x) + (l.p1.y - l.p0.y) * (l.p1.y - l.p0.y))
    (hB : B = (l.p1.x - l.p0.x) * (p.x - l.p0.x) + (l.p1.y - l.p0.y) * (p.y - l.p0.y)) :
    l.nearest p acc = { distance_sq := dist2 p (l.eval (clampProj A B)), t := clampProj A B } := by
  subst hA hB
  unfold Line.nearest clampProj
  simp only [hypot2_sub_eq']
  simp only [Vec2.dot, point_sub]
  simp (config := { singlePass := true }) only [scalar_norm]
  simp only [decide_eq_true_eq, Nat.cast_zero, Nat.cast_one]
  split_ifs
  · rw [(line_eval_zero_one l).1]
  · rw [(line_eval_zero_one l).2]
  · rfl

theorem dist2_line_eval (l : Line K) (p : Point K) (s : K) :
    dist2 p (l.eval s) = ((p.x - l.p0.x) - (l.p1.x - l.p0.x) * s) ^ 2 + ((p.y - l.p0.y) - (l.p1.y - l.p0.y) * s) ^ 2 := by
  unfold dist2; rw [(l.eval_xy s).1, (l.eval_xy s).2]; ring

theorem quadNearestCoeffs_eq (q : QuadBez K) (p : Point K) :
    quadNearestCoeffs q p =
      ( (q.p0.x - p.x) * (q.p1.x - q.p0.x) + (q.p0.y - p.y) * (q.p1.y - q.p0.y),
        2 * ((q.p1.x - q.p0.x) ^ 2 + (q.p1.y - q.p0.y) ^ 2)
          + ((q.p0.x - p.x) * (q.p0.x + q.p2.x - 2 * q.p1.x) + (q.p0.y - p.y) * (q.p0.y + q.p2.y - 2 * q.p1.y)),
        3 * ((q.p0.x + q.p2.x - 2 * q.p1.x) * (q.p1.x - q.p0.x) + (q.p0.y + q.p2.y - 2 * q.p1.y) * (q.p1.y - q.p0.y)),
        (q.p0.x + q.p2.x - 2 * q.p1.x) ^ 2 + (q.p0.y + q.p2.y - 2 * q.p1.y) ^ 2 ) := by
  unfold quadNearestCoeffs
  kring

theorem quad_dist2_poly (q : QuadBez K) (p : Point K) (t : K) :
    dist2 p (q.eval t) = dist2 p q.p0 + 4 * (quadNearestCoeffs q p).1 * t + 2 * (quadNearestCoeffs q p).2.1 * t ^ 2
      + 4 / 3 * (quadNearestCoeffs q p).2.2.1 * t ^ 3 + (quadNearestCoeffs q p).2.2.2 * t ^ 4 := by
  simp only [quadNearestCoeffs_eq, dist2, QuadBez.eval_xy]
  ring

theorem ofRat_zero_eq : (Scalar.ofRat ((0 : Nat) : Rat) : K) = 0 := by
  rw [sn_ofRat]; norm_num
theorem ofRat_one_eq : (Scalar.ofRat ((1 : Nat) : Rat) : K) = 1 := by
  rw [sn_ofRat]; norm_num

theorem mem_quadCands_lawful (q : QuadBez K) (roots : List K) (c : K × Point K) :
    c ∈ quadCands q roots ↔
      (∃ t ∈ roots, 0 ≤ t ∧ t ≤ 1 ∧ c = (t, q.eval t)) ∨
      ((roots = [] ∨ ∃ t ∈ roots, ¬ (0 ≤ t ∧ t ≤ 1)) ∧ (c = (0, q.p0) ∨ c = (1, q.p2))) := by
  rw [mem_quadCands, quadNeedEnds_iff, ofRat_zero_eq, ofRat_one_eq]
  simp only [nearInRange_iff, nearInRange_false_iff, and_assoc]

theorem quadCands_on_curve (q : QuadBez K) (roots : List K) (c : K × Point K) (hc : c ∈ quadCands q roots) :
    0 ≤ c.1 ∧ c.1 ≤ 1 ∧ c.2 = q.eval c.1 := by
  rcases (mem_quadCands_lawful q roots c).mp hc with ⟨t, _, h0, h1, rfl⟩ | ⟨_, rfl | rfl⟩
  · exact ⟨h0, h1, rfl⟩
  · exact ⟨le_refl _, zero_le_one, (quad_eval_zero_one q).1.symm⟩
  · exact ⟨zero_le_one, le_refl _, (quad_eval_zero_one q).2.symm⟩

theorem quad_nearest_firstMin (q : QuadBez K) (p : Point K) (a : K) :
    ∃ l₁ c l₂, quadCands q (quadNearestRoots q p) = l₁ ++ c :: l₂ ∧
      (q.nearest p a).t = c.1 ∧ (q.nearest p a).distance_sq = dist2 p c.2 ∧
      (∀ c' ∈ l₁, dist2 p c.2 < dist2 p c'.2) ∧ (∀ c' ∈ l₂, dist2 p c.2 ≤ dist2 p c'.2) := by
  obtain ⟨l₁, c, l₂, e, h1, h2, h3⟩ :=
    minFold_none_spec Prod.fst (candDist p) (quadCands q (quadNearestRoots q p)) (quadCands_ne_nil q _)
  rw [quad_nearest_eq_ofRoots, nearestOfRoots_eq, bestOf_eq_minFold, nearest_of_minFold (h1 _)]
  refine ⟨l₁, c, l₂, e, rfl, candDist_eq p c, ?_, ?_⟩
  · intro c' hc'; rw [← candDist_eq, ← candDist_eq]; exact h2 c' hc'
  · intro c' hc'; rw [← candDist_eq, ← candDist_eq]; exact h3 c' hc'

theorem quad_nearest_min_cands (q : QuadBez K) (p : Point K) (a : K) :
    ∃ c ∈ quadCands q (quadNearestRoots q p),
      (q.nearest p a).t = c.1 ∧ (q.nearest p a).distance_sq = dist2 p c.2 ∧
      ∀ c' ∈ quadCands q (quadNearestRoots q p), (q.nearest p a).distance_sq ≤ dist2 p c'.2 := by
  obtain ⟨l₁, c, l₂, e, h1, h2, h3, h4⟩ := quad_nearest_firstMin q p a
  obtain ⟨hc, hmin⟩ := le_of_firstMin (fun c : K × Point K => dist2 p c.2) e h3 h4
  exact ⟨c, hc, h1, h2, fun c' hc' => h2 ▸ hmin c' hc'⟩

theorem quad_nearest_le_cands (q : QuadBez K) (p : Point K) (a : K) :
    (∀ r ∈ quadNearestRoots q p, 0 ≤ r → r ≤ 1 → (q.nearest p a).distance_sq ≤ dist2 p (q.eval r)) ∧
    ((quadNearestRoots q p = [] ∨ ∃ t ∈ quadNearestRoots q p, ¬ (0 ≤ t ∧ t ≤ 1)) →
      (q.nearest p a).distance_sq ≤ dist2 p q.p0 ∧ (q.nearest p a).distance_sq ≤ dist2 p q.p2) := by
  obtain ⟨c, -, -, -, hmin⟩ := quad_nearest_min_cands q p a
  constructor
  · intro r hr h0 h1
    exact hmin (r, q.eval r) ((mem_quadCands_lawful q _ _).mpr (Or.inl ⟨r, hr, h0, h1, rfl⟩))
  · intro hN
    exact ⟨hmin (0, q.p0) ((mem_quadCands_lawful q _ _).mpr (Or.inr ⟨hN, Or.inl rfl⟩)),
      hmin (1, q.p2) ((mem_quadCands_lawful q _ _).mpr (Or.inr ⟨hN, Or.inr rfl⟩))⟩

theorem sq_add_sq_pos' (x y : K) (h : ¬ (x = 0 ∧ y = 0)) : 0 < x ^ 2 + y ^ 2 :=
  (add_nonneg (sq_nonneg x) (sq_nonneg y)).lt_of_ne' fun e =>
    h (mul_self_add_mul_self_eq_zero.mp (by rwa [pow_two, pow_two] at e))

/-- the cubic `c0 + c1 t + c2 t² + c3 t³` handed to the solver has positive leading coefficient, of odd degree
    (3, or 1 when the quadratic is an affinely parametrised segment), or it is identically zero (the quadratic is a
    single point) -/
theorem quadCoeffs_sign (q : QuadBez K) (p : Point K) :
    0 < (quadNearestCoeffs q p).2.2.2 ∨
    ((quadNearestCoeffs q p).2.2.2 = 0 ∧ (quadNearestCoeffs q p).2.2.1 = 0 ∧ 0 < (quadNearestCoeffs q p).2.1) ∨
    ((quadNearestCoeffs q p).1 = 0 ∧ (quadNearestCoeffs q p).2.1 = 0 ∧ (quadNearestCoeffs q p).2.2.1 = 0 ∧
      (quadNearestCoeffs q p).2.2.2 = 0) := by
  rw [quadNearestCoeffs_eq]
  simp only
  set ax := q.p0.x + q.p2.x - 2 * q.p1.x
  set ay := q.p0.y + q.p2.y - 2 * q.p1.y
  set bx := q.p1.x - q.p0.x
  set b_y := q.p1.y - q.p0.y
  by_cases ha : ax = 0 ∧ ay = 0
  · obtain ⟨hax, hay⟩ := ha
    right
    by_cases hb : bx = 0 ∧ b_y = 0
    · obtain ⟨hbx, hby⟩ := hb
      right
      rw [hax, hay, hbx, hby]
      refine ⟨by ring, by ring, by ring, by ring⟩
    · left
      rw [hax, hay]
      refine ⟨by ring, by ring, ?_⟩
      have := sq_add_sq_pos' bx b_y hb
      linarith
  · left
    exact sq_add_sq_pos' ax ay ha

theorem piece_bounds (c : CubicBez K) (a : K) (piece : K × K × QuadBez K) (h : piece ∈ c.to_quads a) :
    0 ≤ piece.1 ∧ piece.1 ≤ piece.2.1 ∧ piece.2.1 ≤ 1 := by
  obtain ⟨i, hi, rfl⟩ := (mem_to_quads c a piece).mp h
  rw [toQuadsPiece_eq_piece]
  have h0 := uniform_mem (K := K) hi le_rfl zero_le_one
  have h1 := uniform_mem (K := K) hi zero_le_one le_rfl
  rw [add_zero] at h0
  exact ⟨h0.1, div_le_div_of_nonneg_right (le_add_of_nonneg_right zero_le_one) (Nat.cast_nonneg _), h1.2⟩

theorem to_quads_tiling (c : CubicBez K) (a : K) (t : K) (ht0 : 0 ≤ t) (ht1 : t ≤ 1) :
    ∃ piece ∈ c.to_quads a, ∃ s, 0 ≤ s ∧ s ≤ 1 ∧ t = piece.1 + s * (piece.2.1 - piece.1) := by
  obtain ⟨i, hi, s, hs0, hs1, e⟩ := uniform_cover (toQuadsN_pos c a) ht0 ht1
  refine ⟨_, (mem_to_quads c a _).mpr ⟨i, hi, rfl⟩, s, hs0, hs1, ?_⟩
  rw [toQuadsPiece_eq_piece, uniform_param]
  exact e

theorem cubic_nearest_firstMin (c : CubicBez K) (p : Point K) (a : K) :
    ∃ l₁ piece l₂, c.to_quads a = l₁ ++ piece :: l₂ ∧
      (c.nearest p a).t = piece.1 + (piece.2.2.nearest p a).t * (piece.2.1 - piece.1) ∧
      (c.nearest p a).distance_sq = (piece.2.2.nearest p a).distance_sq ∧
      (∀ x ∈ l₁, (piece.2.2.nearest p a).distance_sq < (x.2.2.nearest p a).distance_sq) ∧
      (∀ x ∈ l₂, (piece.2.2.nearest p a).distance_sq ≤ (x.2.2.nearest p a).distance_sq) := by
  obtain ⟨l₁, x, l₂, e, h1, h2, h3⟩ :=
    minFold_none_spec (cubicPieceT p a) (cubicPieceD p a) (c.to_quads a) (to_quads_ne_nil c a)
  rw [cubic_nearest_eq_minFold, nearest_of_minFold (h1 _)]
  refine ⟨l₁, x, l₂, e, ?_, rfl, h2, h3⟩
  show cubicPieceT p a x = _
  unfold cubicPieceT
  simp only [scalar_norm]

theorem cubic_nearest_min_pieces (c : CubicBez K) (p : Point K) (a : K) :
    ∃ piece ∈ c.to_quads a,
      (c.nearest p a).t = piece.1 + (piece.2.2.nearest p a).t * (piece.2.1 - piece.1) ∧
      (c.nearest p a).distance_sq = (piece.2.2.nearest p a).distance_sq ∧
      ∀ x ∈ c.to_quads a, (c.nearest p a).distance_sq ≤ (x.2.2.nearest p a).distance_sq := by
  obtain ⟨l₁, x, l₂, e, h1, h2, h3, h4⟩ := cubic_nearest_firstMin c p a
  obtain ⟨hx, hmin⟩ := le_of_firstMin (fun x : K × K × QuadBez K => (x.2.2.nearest p a).distance_sq) e h3 h4
  exact ⟨x, hx, h1, h2, fun y hy => h2 ▸ hmin y hy⟩
end lawful

/-! ### what is assumed of the cubic solver -/

/-- the critical-point polynomial `c0 + c1 x + c2 x² + c3 x³` of `QuadBez::nearest` -/
def quadCritPoly {K : Type} [Field K] [Scalar K] (q : QuadBez K) (p : Point K) (x : K) : K :=
  (quadNearestCoeffs q p).1 + (quadNearestCoeffs q p).2.1 * x + (quadNearestCoeffs q p).2.2.1 * x ^ 2
    + (quadNearestCoeffs q p).2.2.2 * x ^ 3

/-- all four coefficients vanish (as they do when `p0 = p1 = p2`) -/
def quadCoeffsAllZero {K : Type} [Field K] [Scalar K] (q : QuadBez K) (p : Point K) : Prop :=
  (quadNearestCoeffs q p).1 = 0 ∧ (quadNearestCoeffs q p).2.1 = 0 ∧ (quadNearestCoeffs q p).2.2.1 = 0 ∧
    (quadNearestCoeffs q p).2.2.2 = 0

/-- what `QuadBez::nearest` needs from `solve_cubic` for this query: unless the polynomial is identically zero the
    returned list contains exactly its real roots (multiplicity and order are irrelevant) -/
def QuadRootsExact {K : Type} [Field K] [Scalar K] (q : QuadBez K) (p : Point K) : Prop :=
  ¬ quadCoeffsAllZero q p → ∀ x, x ∈ quadNearestRoots q p ↔ quadCritPoly q p x = 0

/-- specification of `solveCubic` as a real-root finder -/
structure CubicSolverSpec (K : Type) [Field K] [Scalar K] : Prop where
  roots_iff : ∀ c0 c1 c2 c3 : K, ¬ (c0 = 0 ∧ c1 = 0 ∧ c2 = 0 ∧ c3 = 0) →
    ∀ x, x ∈ solveCubic c0 c1 c2 c3 ↔ c0 + c1 * x + c2 * x ^ 2 + c3 * x ^ 3 = 0

theorem CubicSolverSpec.quadRootsExact {K : Type} [Field K] [Scalar K] (h : CubicSolverSpec K)
    (q : QuadBez K) (p : Point K) : QuadRootsExact q p := by
  intro hnz x
  exact h.roots_iff _ _ _ _ hnz x

/-! ### the cases of `solve_cubic` that are decided by field arithmetic alone -/
section solver
variable {K : Type} [Field K] [LinearOrder K] [IsStrictOrderedRing K] [FloorRing K] [Scalar K] [LawfulScalar K]

theorem solveCubic_linear (c0 c1 : K) (h : c1 ≠ 0) : solveCubic c0 c1 0 0 = [-c0 / c1] := by
  rw [solveCubic_eq, if_pos rfl, solveQuadratic_linear_eq c0 c1 h]

/-- for an affinely parametrised segment (`p1` the midpoint of `p0 p2`; includes the one-point quadratic) the solver
    hypothesis holds outright: the critical polynomial is linear and `solve_cubic` divides exactly -/
theorem quadRootsExact_of_affine (q : QuadBez K) (p : Point K)
    (hx : q.p0.x + q.p2.x = 2 * q.p1.x) (hy : q.p0.y + q.p2.y = 2 * q.p1.y) : QuadRootsExact q p := by
  intro hnz x
  obtain ⟨h2, h3⟩ : (quadNearestCoeffs q p).2.2.1 = 0 ∧ (quadNearestCoeffs q p).2.2.2 = 0 := by
    rw [quadNearestCoeffs_eq]; simp only; rw [hx, hy]; constructor <;> ring
  have h1 : (quadNearestCoeffs q p).2.1 ≠ 0 := by
    rcases quadCoeffs_sign q p with h | h | h
    · rw [h3] at h; exact absurd h (lt_irrefl _)
    · exact h.2.2.ne'
    · exact absurd h hnz
  unfold quadNearestRoots quadCritPoly
  simp only
  rw [h2, h3, solveCubic_linear _ _ h1, List.mem_singleton, eq_div_iff h1]
  generalize (quadNearestCoeffs q p).1 = c0, (quadNearestCoeffs q p).2.1 = c1
  constructor <;> intro e <;> linear_combination e

/-- `to_quads` is exact on a cubic of degree ≤ 2 (vanishing third difference), whatever the number of pieces -/
theorem toQuadsPiece_exact_of_quadratic (c : CubicBez K)
    (hx : c.p3.x - 3 * c.p2.x + 3 * c.p1.x - c.p0.x = 0) (hy : c.p3.y - 3 * c.p2.y + 3 * c.p1.y - c.p0.y = 0)
    (n i : Nat) (s : K) :
    (toQuadsPiece c n i).2.2.eval s
      = c.eval ((toQuadsPiece c n i).1 + s * ((toQuadsPiece c n i).2.1 - (toQuadsPiece c n i).1)) := by
  rw [toQuadsPiece_eq_piece, uniform_param]
  obtain ⟨ex, ey⟩ := quadOfCubic_piece_error c n i s
  rw [hx, neg_zero, zero_mul, zero_mul, sub_eq_zero] at ex
  rw [hy, neg_zero, zero_mul, zero_mul, sub_eq_zero] at ey
  exact Point.ext_iff.mpr ⟨ex, ey⟩

end solver

end Kurbo.C09
