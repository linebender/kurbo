import Proofs.Lemmas.C16Spelled
/-! C16B: the canonical rendering `c16b_render` (letter, then every number followed by one space; the spelling of each number is
    given by a function `spell : K → NumParts`) is well formed (`c16b_canon_ok`) and denotes the command list it was made from
    (`c16b_canon_value`). -/
set_option linter.unusedSectionVars false
namespace Kurbo

/-- the bytes `optComma` would eat: white space and the comma -/
abbrev c16b_isSep (c : UInt8) : Bool := isWs c || c == 44

theorem c16b_letter_not_sep {α : Type} (c : C16Cmd α) : c16b_isSep c.letter = false := by
  cases c <;> simp only [C16Cmd.letter] <;> split <;> decide

theorem c16b_numStart_not_sep {b : UInt8} (h : isNumStart b = true) : c16b_isSep b = false := by
  have h1 := isNumStart_not_ws h
  unfold c16b_isSep
  rw [h1]
  simp only [Bool.false_or, beq_eq_false_iff_ne, ne_eq]
  rintro rfl
  revert h; decide

def c16b_chunk (p : NumParts) (sep : List UInt8) : NumChunk := { ws := [], p := p, sep := sep }

theorem c16b_chunk_stops {p : NumParts} (hv : p.Valid) (sep r : List UInt8) :
    StopsAt c16b_isSep ((c16b_chunk p sep).bytes ++ r) := by
  obtain ⟨b, br, hb, hnum⟩ := hv.bytes_head
  have : (c16b_chunk p sep).bytes ++ r = b :: (br ++ sep ++ r) := by simp [c16b_chunk, NumChunk.bytes, hb]
  rw [this]
  exact StopsAt.cons (c16b_numStart_not_sep hnum)

theorem c16b_chunk_ok {p : NumParts} {sep r : List UInt8} (hv : p.Valid) (hs : p.Stops (sep ++ r)) (hsep : SepOk sep r) :
    (c16b_chunk p sep).Ok r :=
  ⟨nofun, hv, hs, hsep⟩

/-- a space or a comma stops every number -/
theorem c16b_stops_sep (p : NumParts) {b : UInt8} (hb : b = 32 ∨ b = 44) (r : List UInt8) : p.Stops (b :: r) := by
  rcases hb with rfl | rfl <;>
    exact NumParts.stops_cons ⟨by decide, fun _ => ⟨by decide, by decide, fun _ => by decide⟩⟩

def c16b_canonChunk (p : NumParts) : NumChunk := { ws := [], p := p, sep := [32] }

theorem c16b_canonChunk_ok {p : NumParts} {r : List UInt8} (hv : p.Valid) (hr : StopsAt c16b_isSep r) :
    (c16b_canonChunk p).Ok r :=
  c16b_chunk_ok hv (c16b_stops_sep p (.inl rfl) r) (SepOk.ws (ws := [32]) (by decide) hr)

theorem c16b_canonChunk_stops {p : NumParts} (hv : p.Valid) (r : List UInt8) :
    StopsAt c16b_isSep ((c16b_canonChunk p).bytes ++ r) :=
  c16b_chunk_stops hv [32] r

theorem c16b_canonPt_ok {px py : NumParts} {r : List UInt8} (hx : px.Valid) (hy : py.Valid) (hr : StopsAt c16b_isSep r) :
    (c16b_ptc ⟨c16b_canonChunk px, c16b_canonChunk py⟩).Ok r :=
  ⟨c16b_canonChunk_ok hx (c16b_canonChunk_stops hy r), c16b_canonChunk_ok hy hr⟩

theorem c16b_canonPt_stops {px py : NumParts} (hx : px.Valid) (r : List UInt8) :
    StopsAt c16b_isSep ((c16b_ptc ⟨c16b_canonChunk px, c16b_canonChunk py⟩).bytes ++ r) := by
  have := c16b_canonChunk_stops hx ((c16b_canonChunk py).bytes ++ r)
  simpa [c16b_ptc, PtChunk.bytes] using this

section
variable {K : Type} [Scalar K]

def c16b_canon (spell : K → NumParts) (c : C16Cmd K) : C16Spelled :=
  { ws := [], explicit := true, cmd := c.map (fun x => c16b_canonChunk (spell x)) }

/-- e.g. `M1 2 L3 4 C1 2 3 4 5 6 Z` -/
def c16b_render (spell : K → NumParts) (cs : List (C16Cmd K)) : List UInt8 := c16b_spell (cs.map (c16b_canon spell)) []

theorem c16b_canon_argsOk (spell : K → NumParts) (c : C16Cmd K) (r : List UInt8)
    (hv : ∀ x ∈ c.scalars, (spell x).Valid) (hr : StopsAt c16b_isSep r) :
    (c.map (fun x => c16b_canonChunk (spell x))).ArgsOk r := by
  cases c <;> simp only [C16Cmd.scalars, List.forall_mem_cons] at hv
  case moveTo rel p | lineTo rel p | smoothQuadTo rel p => exact c16b_canonPt_ok hv.1 hv.2.1 hr
  case horiz rel x | vert rel x => exact c16b_canonChunk_ok hv.1 hr
  case quadTo rel p1 p2 | smoothCurveTo rel p1 p2 =>
    obtain ⟨h1x, h1y, h2x, h2y, -⟩ := hv
    exact ⟨c16b_canonPt_ok h1x h1y (c16b_canonPt_stops h2x r), c16b_canonPt_ok h2x h2y hr⟩
  case curveTo rel p1 p2 p3 =>
    obtain ⟨h1x, h1y, h2x, h2y, h3x, h3y, -⟩ := hv
    exact ⟨c16b_canonPt_ok h1x h1y (c16b_canonPt_stops h2x _), c16b_canonPt_ok h2x h2y (c16b_canonPt_stops h3x r),
      c16b_canonPt_ok h3x h3y hr⟩
  case close rel => trivial

theorem c16b_render_stops (spell : K → NumParts) (cs : List (C16Cmd K)) : StopsAt c16b_isSep (c16b_render spell cs) := by
  cases cs with
  | nil => exact StopsAt.nil _
  | cons c cs =>
    have : c16b_render spell (c :: cs) =
        c.letter :: ((c.map (fun x => c16b_canonChunk (spell x))).argBytes ++ c16b_render spell cs) := by
      simp [c16b_render, c16b_spell, c16b_canon, C16Spelled.bytes]
    rw [this]
    exact StopsAt.cons (c16b_letter_not_sep c)

theorem c16b_canon_ok (spell : K → NumParts) (cs : List (C16Cmd K)) (lc : UInt8)
    (hv : ∀ c ∈ cs, ∀ x ∈ c.scalars, (spell x).Valid) : c16b_SpelledOk lc (cs.map (c16b_canon spell)) [] := by
  induction cs generalizing lc with
  | nil => intro b hb; cases hb
  | cons c cs ih =>
    refine ⟨⟨?_, ?_, ?_⟩, ih _ (fun c' hc' => hv c' (List.mem_cons_of_mem _ hc'))⟩
    · intro b hb; simp [c16b_canon] at hb
    · exact c16b_canon_argsOk spell c _ (hv c List.mem_cons_self) (c16b_render_stops spell cs)
    · intro h; simp [c16b_canon] at h

end

section
variable {α β γ : Type}

theorem C16Cmd.map_map (f : α → β) (g : β → γ) (c : C16Cmd α) : (c.map f).map g = c.map (g ∘ f) := by
  cases c <;> rfl

theorem c16b_mapPt_id_of (f : α → α) (p : Point α) (hx : f p.x = p.x) (hy : f p.y = p.y) : c16b_mapPt f p = p := by
  cases p; simp_all [c16b_mapPt]

theorem C16Cmd.map_id_of (f : α → α) (c : C16Cmd α) (h : ∀ x ∈ c.scalars, f x = x) : c.map f = c := by
  cases c <;> simp only [C16Cmd.map] <;> simp only [C16Cmd.scalars, List.mem_cons, List.not_mem_nil, or_false, forall_eq_or_imp,
    forall_eq] at h
  -- `h` is now the conjunction `f x = x` over the coordinates; every argument is one of them or a point made of two
  all_goals first
    | rfl
    | (congr 1 <;> first | exact h | (apply c16b_mapPt_id_of <;> simp only [h]))
end

section
variable {K : Type} [Scalar K]

theorem c16b_canon_value (spell : K → NumParts) (c : C16Cmd K)
    (h : ∀ x ∈ c.scalars, tokValue (parseTok (spell x).bytes) = x) : (c16b_canon spell c).value = c := by
  unfold C16Spelled.value c16b_canon
  simp only [C16Cmd.map_map]
  exact C16Cmd.map_id_of _ c h

theorem c16b_canon_values (spell : K → NumParts) (cs : List (C16Cmd K))
    (h : ∀ c ∈ cs, ∀ x ∈ c.scalars, tokValue (parseTok (spell x).bytes) = x) :
    (cs.map (c16b_canon spell)).map C16Spelled.value = cs := by
  induction cs with
  | nil => rfl
  | cons c cs ih =>
    simp only [List.map_cons]
    rw [c16b_canon_value spell c (h c List.mem_cons_self), ih (fun c' hc' => h c' (List.mem_cons_of_mem _ hc'))]

theorem c16b_canon_startsWithMove (spell : K → NumParts) (cs : List (C16Cmd K)) (h : c16b_startsWithMove cs) :
    c16b_startsWithMove ((cs.map (c16b_canon spell)).map (·.cmd)) := by
  cases cs with
  | nil => trivial
  | cons c cs => simpa [c16b_startsWithMove, c16b_canon] using h

end
end Kurbo
