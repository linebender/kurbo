import Proofs.Lemmas.C05
import Proofs.Lemmas.C17
import Proofs.Lemmas.CanonScalar
import Mathlib.Analysis.SpecialFunctions.Sqrt
import Mathlib.Tactic.LinearCombination
import Mathlib.Order.Monotone.Odd
/-! C05, arithmetic part: the subdivision parameter map `determine_subdiv_t` over a lawful scalar (end values, the
    degenerate case; `x0 ≠ x2` iff the control triangle is non-degenerate), the question, the parameter and the `sum` of
    the cubic's loop in field form, and over ℝ, where `approxParabolaInvIntegral`/`approxParabolaIntegral` are the strictly
    increasing `invIntR`/`intR`; the structure `realScalarC05` with `LawfulScalar` and `LawfulSqrt` (`LawfulHypotR` for it is in `Lemmas/C05Scale.lean`). -/
set_option linter.unusedSectionVars false
namespace Kurbo

section lawful
variable {K : Type} [Field K] [LinearOrder K] [IsStrictOrderedRing K] [FloorRing K] [Scalar K] [LawfulScalar K]

theorem determine_subdiv_t_eq (q : QuadBez K) (params : FlattenParams K) (x : K) :
    q.determine_subdiv_t params x =
      (approxParabolaInvIntegral (params.a0 + (params.a2 - params.a0) * x) - params.u0) * params.uscale := by
  unfold QuadBez.determine_subdiv_t
  simp only [scalar_norm]

theorem estimate_subdiv_u0 (q : QuadBez K) (s : K) :
    (q.estimate_subdiv s).u0 = approxParabolaInvIntegral (q.estimate_subdiv s).a0 := rfl

theorem estimate_subdiv_uscale (q : QuadBez K) (s : K) :
    (q.estimate_subdiv s).uscale =
      1 / (approxParabolaInvIntegral (q.estimate_subdiv s).a2 - approxParabolaInvIntegral (q.estimate_subdiv s).a0) := by
  show srecip (Scalar.sub _ _) = _
  rw [sn_srecip]
  simp only [LawfulScalar.sub_eq]
  rfl

/-- the two derived fields of the subdivision parameters are what `estimate_subdiv` makes them -/
structure FlattenParams.WF (params : FlattenParams K) : Prop where
  u0_eq : params.u0 = approxParabolaInvIntegral params.a0
  uscale_eq : params.uscale = 1 / (approxParabolaInvIntegral params.a2 - approxParabolaInvIntegral params.a0)

theorem estimate_subdiv_wf (q : QuadBez K) (s : K) : (q.estimate_subdiv s).WF :=
  ⟨estimate_subdiv_u0 q s, estimate_subdiv_uscale q s⟩

theorem flattenQuadT_lawful (q : QuadBez K) (s : K) (i : Nat) :
    flattenQuadT q s i = q.determine_subdiv_t (q.estimate_subdiv s) ((i : K) / (flattenQuadN q s : K)) := by
  unfold flattenQuadT
  congr 1
  simp only [scalar_norm, Nat.cast_one, mul_one_div]

/-- the accuracy that `flatten` hands to `to_quads`, in ordinary arithmetic -/
theorem mul_toQuadTol_eq (tol : K) : Scalar.mul tol (Scalar.ofRat toQuadTol) = tol / 10 := by
  rw [LawfulScalar.mul_eq]
  simp only [scalar_norm, toQuadTol]
  push_cast
  ring

theorem cubicAsk_iff (step vs v : K) (j : Nat) : cubicAsk step vs v j = true ↔ (j : K) * step < vs + v := by
  rw [cubicAsk, LawfulScalar.lt_eq, LawfulScalar.mul_eq, LawfulScalar.add_eq, natK_eq, decide_eq_true_eq]

theorem cubicU_eq (step vs v : K) (j : Nat) : cubicU step vs (srecip v) j = ((j : K) * step - vs) / v := by
  rw [cubicU, LawfulScalar.mul_eq, LawfulScalar.sub_eq, LawfulScalar.mul_eq, natK_eq, sn_srecip, mul_one_div]

theorem flattenCubicSum_eq_sum (c : CubicBez K) (tol s : K) :
    flattenCubicSum c tol s = ((flattenCubicBuf c tol s).map fun qp => qp.2.val).sum := by
  have h : ∀ (buf : List (QuadBez K × FlattenParams K)) (a : K),
      buf.foldl (fun acc qp => Scalar.add acc qp.2.val) a = a + (buf.map fun qp => qp.2.val).sum := by
    intro buf
    induction buf with
    | nil => intro a; rw [List.foldl_nil, List.map_nil, List.sum_nil, add_zero]
    | cons qp rest ih => intro a; rw [List.foldl_cons, ih, LawfulScalar.add_eq, List.map_cons, List.sum_cons, add_assoc]
  exact (h _ _).trans (by rw [sn_ofNat, Nat.cast_zero, zero_add])

theorem determine_subdiv_t_zero (q : QuadBez K) (params : FlattenParams K) (hwf : params.WF) :
    q.determine_subdiv_t params 0 = 0 := by
  rw [determine_subdiv_t_eq, hwf.u0_eq]
  simp

theorem determine_subdiv_t_one (q : QuadBez K) (params : FlattenParams K) (hwf : params.WF)
    (hne : approxParabolaInvIntegral params.a0 ≠ approxParabolaInvIntegral params.a2) :
    q.determine_subdiv_t params 1 = 1 := by
  rw [determine_subdiv_t_eq, hwf.u0_eq, hwf.uscale_eq]
  have h : approxParabolaInvIntegral params.a2 - approxParabolaInvIntegral params.a0 ≠ 0 :=
    sub_ne_zero.mpr (Ne.symm hne)
  have e : params.a0 + (params.a2 - params.a0) * 1 = params.a2 := by ring
  rw [e]
  field_simp

/-- `uscale = 1/0 = 0` in a `Field` -/
theorem determine_subdiv_t_degenerate (q : QuadBez K) (params : FlattenParams K) (hwf : params.WF)
    (he : approxParabolaInvIntegral params.a0 = approxParabolaInvIntegral params.a2) (x : K) :
    q.determine_subdiv_t params x = 0 := by
  rw [determine_subdiv_t_eq, hwf.uscale_eq, he]
  simp

/-- twice the signed area of the control triangle `p0 p1 p2` -/
def QuadBez.triCross (q : QuadBez K) : K :=
  (q.p1.x - q.p0.x) * (q.p2.y - q.p0.y) - (q.p1.y - q.p0.y) * (q.p2.x - q.p0.x)

theorem subdivCross_eq (q : QuadBez K) :
    q.subdivCross = (q.p2.x - q.p0.x) * (q.p1.y - q.p0.y - (q.p2.y - q.p1.y))
      - (q.p2.y - q.p0.y) * (q.p1.x - q.p0.x - (q.p2.x - q.p1.x)) := by
  unfold QuadBez.subdivCross QuadBez.subdivDD
  simp only [kdefs, scalar_norm]

theorem subdivX0_eq (q : QuadBez K) :
    q.subdivX0 = ((q.p1.x - q.p0.x) * (q.p1.x - q.p0.x - (q.p2.x - q.p1.x))
      + (q.p1.y - q.p0.y) * (q.p1.y - q.p0.y - (q.p2.y - q.p1.y))) * (1 / q.subdivCross) := by
  rw [subdivCross_eq]
  unfold QuadBez.subdivX0
  simp only [kdefs, scalar_norm]

theorem subdivX2_eq (q : QuadBez K) :
    q.subdivX2 = ((q.p2.x - q.p1.x) * (q.p1.x - q.p0.x - (q.p2.x - q.p1.x))
      + (q.p2.y - q.p1.y) * (q.p1.y - q.p0.y - (q.p2.y - q.p1.y))) * (1 / q.subdivCross) := by
  rw [subdivCross_eq]
  unfold QuadBez.subdivX2
  simp only [kdefs, scalar_norm]

theorem subdivCross_eq_triCross (q : QuadBez K) : q.subdivCross = -(2 * q.triCross) := by
  rw [subdivCross_eq, QuadBez.triCross]
  ring

theorem subdivX_sub (q : QuadBez K) :
    q.subdivX2 - q.subdivX0 =
      ((2 * q.p1.x - q.p0.x - q.p2.x) ^ 2 + (2 * q.p1.y - q.p0.y - q.p2.y) ^ 2) * (1 / (2 * q.triCross)) := by
  rw [subdivX0_eq, subdivX2_eq, ← sub_mul, subdivCross_eq_triCross, one_div, one_div, inv_neg]
  ring

theorem subdivX_of_triCross_eq_zero (q : QuadBez K) (h : q.triCross = 0) : q.subdivX0 = 0 ∧ q.subdivX2 = 0 := by
  rw [subdivX0_eq, subdivX2_eq, subdivCross_eq_triCross, h]
  simp

/-- by `subdivX_sub`, `x2 − x0 = |dd|²/(2·triCross)` with `dd = 2·p1 − p0 − p2`, and `dd = 0` makes the control points
    collinear -/
theorem subdivX0_ne_subdivX2_iff (q : QuadBez K) : q.subdivX0 ≠ q.subdivX2 ↔ q.triCross ≠ 0 := by
  constructor
  · intro h hc
    obtain ⟨h0, h2⟩ := subdivX_of_triCross_eq_zero q hc
    exact h (h0.trans h2.symm)
  · intro hc h
    have hs := subdivX_sub q
    rw [h, sub_self, eq_comm, mul_eq_zero, or_iff_left (one_div_ne_zero (mul_ne_zero two_ne_zero hc)),
      add_eq_zero_iff_of_nonneg (sq_nonneg _) (sq_nonneg _), sq_eq_zero_iff, sq_eq_zero_iff] at hs
    apply hc
    unfold QuadBez.triCross
    linear_combination (q.p1.y - q.p0.y) * hs.1 - (q.p1.x - q.p0.x) * hs.2

end lawful

section real
open Real

class LawfulSqrt [Scalar ℝ] : Prop where
  sqrt_eq : ∀ x : ℝ, Scalar.sqrt x = Real.sqrt x

/-- `x ↦ x·(1 − B + √(B² + x²/4))`; `approx_parabola_inv_integral` has `B = 39/100`, and only `B < 1` matters below -/
noncomputable def invIntR (B x : ℝ) : ℝ := x * (1 - B + Real.sqrt (B ^ 2 + x ^ 2 / 4))

theorem invIntR_factor_pos {B : ℝ} (hB : B < 1) (x : ℝ) : 0 < 1 - B + Real.sqrt (B ^ 2 + x ^ 2 / 4) :=
  add_pos_of_pos_of_nonneg (sub_pos.mpr hB) (Real.sqrt_nonneg _)

theorem invIntR_neg (B x : ℝ) : invIntR B (-x) = - invIntR B x := by
  unfold invIntR
  rw [neg_sq]; ring

theorem invIntR_lt_of_nonneg {B : ℝ} (hB : B < 1) {x y : ℝ} (hx : 0 ≤ x) (hxy : x < y) : invIntR B x < invIntR B y := by
  have hs : Real.sqrt (B ^ 2 + x ^ 2 / 4) ≤ Real.sqrt (B ^ 2 + y ^ 2 / 4) :=
    Real.sqrt_le_sqrt (by gcongr)
  exact (mul_le_mul_of_nonneg_left (add_le_add_right hs _) hx).trans_lt
    (mul_lt_mul_of_pos_right hxy (invIntR_factor_pos hB y))

theorem invIntR_strictMono : StrictMono (invIntR (39/100)) :=
  strictMono_of_odd_strictMonoOn_nonneg (invIntR_neg _)
    (fun _ hx _ _ hxy => invIntR_lt_of_nonneg (by norm_num) hx hxy)

/-- `x ↦ x / (1 − D + ⁴√(D⁴ + x²/4))`; `approx_parabola_integral` has `D = 67/100`, and only `D < 1` matters below -/
noncomputable def intR (D x : ℝ) : ℝ := x / (1 - D + Real.sqrt (Real.sqrt (D ^ 4 + x ^ 2 / 4)))

theorem intR_den_pos {D : ℝ} (hD : D < 1) (x : ℝ) : 0 < 1 - D + Real.sqrt (Real.sqrt (D ^ 4 + x ^ 2 / 4)) :=
  add_pos_of_pos_of_nonneg (sub_pos.mpr hD) (Real.sqrt_nonneg _)

theorem intR_neg (D x : ℝ) : intR D (-x) = - intR D x := by
  unfold intR
  rw [neg_sq]; ring

theorem sqrt_sqrt_pow4 {z : ℝ} (hz : 0 ≤ z) : Real.sqrt (Real.sqrt z) ^ 4 = z := by
  rw [show 4 = 2 * 2 from rfl, pow_mul, Real.sq_sqrt (Real.sqrt_nonneg z), Real.sq_sqrt hz]

theorem intR_lt_of_nonneg {D : ℝ} (hD : D < 1) {x y : ℝ} (hx : 0 ≤ x) (hxy : x < y) : intR D x < intR D y := by
  unfold intR
  have hy : 0 ≤ y := hx.trans hxy.le
  have ha0 := Real.sqrt_nonneg (Real.sqrt (D ^ 4 + x ^ 2 / 4))
  have hb0 := Real.sqrt_nonneg (Real.sqrt (D ^ 4 + y ^ 2 / 4))
  have hz : ∀ u : ℝ, 0 ≤ D ^ 4 + u ^ 2 / 4 := fun u =>
    add_nonneg (Even.pow_nonneg (by decide) D) (div_nonneg (sq_nonneg u) (by norm_num))
  have ha4 := sqrt_sqrt_pow4 (hz x)
  have hb4 := sqrt_sqrt_pow4 (hz y)
  generalize Real.sqrt (Real.sqrt (D ^ 4 + x ^ 2 / 4)) = a at ha0 ha4 ⊢
  generalize Real.sqrt (Real.sqrt (D ^ 4 + y ^ 2 / 4)) = b at hb0 hb4 ⊢
  -- x·b ≤ y·a, compared through fourth powers: y⁴a⁴ − x⁴b⁴ = D⁴(y⁴ − x⁴) + x²y²(y² − x²)/4
  have key : x * b ≤ y * a := by
    refine (pow_le_pow_iff_left₀ (mul_nonneg hx hb0) (mul_nonneg hy ha0) (by decide : 4 ≠ 0)).mp ?_
    rw [mul_pow, mul_pow, ha4, hb4]
    have h1 : 0 ≤ D ^ 4 * (y ^ 4 - x ^ 4) :=
      mul_nonneg (Even.pow_nonneg (by decide) D) (sub_nonneg.mpr (pow_le_pow_left₀ hx hxy.le 4))
    have h2 : x ^ 2 ≤ y ^ 2 := pow_le_pow_left₀ hx hxy.le 2
    have h3 : 0 ≤ x ^ 2 * y ^ 2 * (y ^ 2 - x ^ 2) :=
      mul_nonneg (mul_nonneg (sq_nonneg x) (sq_nonneg y)) (sub_nonneg.mpr h2)
    linarith
  have hc : (0 : ℝ) < 1 - D := sub_pos.mpr hD
  rw [div_lt_div_iff₀ (add_pos_of_pos_of_nonneg hc ha0) (add_pos_of_pos_of_nonneg hc hb0), mul_add, mul_add]
  exact add_lt_add_of_lt_of_le (mul_lt_mul_of_pos_right hxy hc) key

theorem intR_strictMono : StrictMono (intR (67/100)) :=
  strictMono_of_odd_strictMonoOn_nonneg (intR_neg _) (fun _ hx _ _ hxy => intR_lt_of_nonneg (by norm_num) hx hxy)

variable [Scalar ℝ] [LawfulScalar ℝ] [LawfulSqrt]

theorem approxParabolaInvIntegral_real (x : ℝ) : approxParabolaInvIntegral x = invIntR (39/100) x := by
  unfold approxParabolaInvIntegral invIntR
  simp only [scalar_norm, paraB, LawfulSqrt.sqrt_eq]
  push_cast
  congr 3
  ring

theorem approxParabolaIntegral_real (x : ℝ) : approxParabolaIntegral x = intR (67/100) x := by
  unfold approxParabolaIntegral intR
  simp only [scalar_norm, paraD, LawfulSqrt.sqrt_eq]
  push_cast
  congr 4
  ring

theorem determine_subdiv_t_real (q : QuadBez ℝ) (params : FlattenParams ℝ) (hwf : params.WF) (x : ℝ) :
    q.determine_subdiv_t params x =
      (invIntR (39/100) (params.a0 + (params.a2 - params.a0) * x) - invIntR (39/100) params.a0) *
        (1 / (invIntR (39/100) params.a2 - invIntR (39/100) params.a0)) := by
  rw [determine_subdiv_t_eq, hwf.u0_eq, hwf.uscale_eq]
  simp only [approxParabolaInvIntegral_real]

theorem determine_subdiv_t_lt (q : QuadBez ℝ) (params : FlattenParams ℝ) (hwf : params.WF)
    (hne : params.a0 ≠ params.a2) {x y : ℝ} (hxy : x < y) :
    q.determine_subdiv_t params x < q.determine_subdiv_t params y := by
  rw [determine_subdiv_t_real q params hwf, determine_subdiv_t_real q params hwf]
  rcases lt_or_gt_of_ne hne with h | h
  · exact mul_lt_mul_of_pos_right
      (sub_lt_sub_right (invIntR_strictMono (add_lt_add_right (mul_lt_mul_of_pos_left hxy (sub_pos.mpr h)) _)) _)
      (one_div_pos.mpr (sub_pos.mpr (invIntR_strictMono h)))
  · exact mul_lt_mul_of_neg_right
      (sub_lt_sub_right (invIntR_strictMono (add_lt_add_right (mul_lt_mul_of_neg_left hxy (sub_neg.mpr h)) _)) _)
      (one_div_neg.mpr (sub_neg.mpr (invIntR_strictMono h)))

theorem determine_subdiv_t_le (q : QuadBez ℝ) (params : FlattenParams ℝ) (hwf : params.WF) {x y : ℝ} (hxy : x ≤ y) :
    q.determine_subdiv_t params x ≤ q.determine_subdiv_t params y := by
  by_cases hne : params.a0 = params.a2
  · have he : approxParabolaInvIntegral params.a0 = approxParabolaInvIntegral params.a2 := by rw [hne]
    rw [determine_subdiv_t_degenerate q params hwf he, determine_subdiv_t_degenerate q params hwf he]
  · rcases eq_or_lt_of_le hxy with h | h
    · rw [h]
    · exact (determine_subdiv_t_lt q params hwf hne h).le

theorem invInt_ne_of_ne (a0 a2 : ℝ) (h : a0 ≠ a2) : approxParabolaInvIntegral a0 ≠ approxParabolaInvIntegral a2 := by
  rw [approxParabolaInvIntegral_real, approxParabolaInvIntegral_real]
  exact fun he => h (invIntR_strictMono.injective he)

end real

/-! ### the laws are satisfiable over ℝ -/

/-- ℝ as a `Scalar`: field operations, order, rounding, `sqrt`, `hypot` are the real ones (the laws `LawfulScalar`,
    `LawfulSqrt` here, `LawfulHypotR` of `C05Scale.lean`); `cbrt`, the trigonometric functions, `powf`, `ln`, `log2`, `fmod`, `pi` are stubs that no
    law constrains -/
@[instance_reducible] noncomputable def realScalarC05 : Scalar ℝ where
  add := (· + ·); sub := (· - ·); mul := (· * ·); div := (· / ·); neg := (- ·)
  abs x := |x|
  lt a b := decide (a < b); le a b := decide (a ≤ b); beq a b := decide (a = b)
  ofRat r := (r : ℝ)
  floor x := (⌊x⌋ : ℝ); ceil x := (⌈x⌉ : ℝ)
  round a := if a < 0 then (⌈a - 1/2⌉ : ℝ) else (⌊a + 1/2⌋ : ℝ)
  trunc a := if a < 0 then (⌈a⌉ : ℝ) else (⌊a⌋ : ℝ)
  sqrt := Real.sqrt
  cbrt x := x
  sin x := x
  cos x := x
  tan x := x
  acos x := x
  atan2 y _ := y
  powf x _ := x
  ln x := x
  log2 x := x
  fma a b c := a * b + c
  hypot x y := Real.sqrt (x * x + y * y)
  copysign a b := if b < 0 then -|a| else |a|
  fin _ := true
  finQuot den _ := decide (den ≠ 0)
  isNan _ := false
  toUSize x := ⌊x⌋₊
  signum x := if x < 0 then -1 else 1
  min a b := min a b
  max a b := max a b
  fmod a _ := a
  pi := 3

theorem realScalarC05_lawful : @LawfulScalar ℝ _ _ _ _ realScalarC05 :=
  canonScalar_lawful realScalarC05

theorem realScalarC05_lawfulSqrt : @LawfulSqrt realScalarC05 :=
  letI := realScalarC05
  { sqrt_eq := fun _ => rfl }

end Kurbo
