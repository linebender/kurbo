import Proofs.Lemmas.C01
import Proofs.Lemmas.C02
import Proofs.Lemmas.C20
import Kurbo.Shapes
import Mathlib.Tactic.LinearCombination
/-! C11 helpers: path queries (`pathArea`, `pathBoundingBox`) of a single line and of closed triangles and quadrilaterals made of
    lines, written out (`pathWinding`: `Proofs/Lemmas/C01.lean`); crossing indicators of axis-parallel edges and `Rect.winding`
    as products of row signs (`rowSign` of `Proofs/Lemmas/RowSign.lean`, the signed indicator of a half-open interval);
    the closed forms of `Rect.winding`, `Triangle.winding`, `Triangle.area`, `Triangle.bounding_box`; the one-dimensional tiling lemma;
    `HypotLaw`. -/
set_option linter.unusedSectionVars false
namespace Kurbo
variable {K : Type} [Field K] [LinearOrder K] [IsStrictOrderedRing K] [FloorRing K] [Scalar K] [LawfulScalar K]

theorem line_signed_area_eq (a b : Point K) :
    (PathSeg.Line ⟨a, b⟩).signed_area = (a.x * b.y - a.y * b.x) / 2 := by
  simp only [PathSeg.signed_area, kdefs, scalar_norm]; push_cast; ring

theorem areaSum_closeIte (e p0 : Point K) :
    areaSum (if e = p0 then [] else [PathSeg.Line ⟨e, p0⟩]) = (e.x * p0.y - e.y * p0.x) / 2 := by
  by_cases h : e = p0
  · rw [if_pos h, h, areaSum_nil]; ring
  · rw [if_neg h, areaSum_cons, areaSum_nil, add_zero, line_signed_area_eq]

theorem pathArea_quadrilateral (a b c d : Point K) :
    pathArea [.MoveTo a, .LineTo b, .LineTo c, .LineTo d, .ClosePath]
      = some (((a.x * b.y - a.y * b.x) + (b.x * c.y - b.y * c.x) + (c.x * d.y - c.y * d.x) + (d.x * a.y - d.y * a.x)) / 2) := by
  rw [pathArea_eq_areaSum, segs_quadrilateral, Option.map_some, areaSum_append, areaSum_closeIte]
  simp only [areaSum_cons, areaSum_nil, line_signed_area_eq]
  congr 1; ring


theorem pathArea_tri (a b c : Point K) :
    pathArea [.MoveTo a, .LineTo b, .LineTo c, .ClosePath]
      = some (((a.x * b.y - a.y * b.x) + (b.x * c.y - b.y * c.x) + (c.x * a.y - c.y * a.x)) / 2) := by
  rw [pathArea_eq_areaSum, segs_tri, Option.map_some, areaSum_append, areaSum_closeIte]
  simp only [areaSum_cons, areaSum_nil, line_signed_area_eq]
  congr 1; ring

/-- `½ (b − a) × (c − a)` as the shoelace sum over the three sides -/
theorem Triangle.area_eq (t : Triangle K) :
    t.area = ((t.a.x * t.b.y - t.a.y * t.b.x) + (t.b.x * t.c.y - t.b.y * t.c.x) + (t.c.x * t.a.y - t.c.y * t.a.x)) / 2 := by
  simp only [Triangle.area, kdefs, scalar_norm]; push_cast; ring

theorem line_bounding_box (a b : Point K) :
    (PathSeg.Line ⟨a, b⟩).bounding_box = ⟨min a.x b.x, min a.y b.y, max a.x b.x, max a.y b.y⟩ := by
  simp only [PathSeg.bounding_box, PathSeg.extrema, List.foldl_nil, PathSeg.start, PathSeg.end, Line.start, Line.end,
    Rect.from_points_eq]

/-- closes goals `m = m'` where both sides are nested `min`s (or nested `max`s) over the same atoms -/
macro "minmax_eq" : tactic => `(tactic| (
  apply le_antisymm <;>
  ((try simp only [le_min_iff, max_le_iff]) <;>
   simp only [min_le_iff, le_max_iff, le_refl, true_or, or_true, and_self, true_and, and_true])))

theorem pathBoundingBox_tri (a b c : Point K) :
    pathBoundingBox [.MoveTo a, .LineTo b, .LineTo c, .ClosePath]
      = some ⟨min a.x (min b.x c.x), min a.y (min b.y c.y), max a.x (max b.x c.x), max a.y (max b.y c.y)⟩ := by
  unfold pathBoundingBox
  rw [segs_tri, Option.map_some]
  -- with or without the closing side the corners are the same
  split_ifs <;>
    simp only [List.append_nil, List.cons_append, List.nil_append, List.foldl_cons, List.foldl_nil, line_bounding_box,
      Rect.union_eq, Option.some.injEq, Rect.mk.injEq] <;>
    refine ⟨?_, ?_, ?_, ?_⟩ <;> minmax_eq

theorem Triangle.bounding_box_eq (t : Triangle K) :
    t.bounding_box = ⟨min t.a.x (min t.b.x t.c.x), min t.a.y (min t.b.y t.c.y),
      max t.a.x (max t.b.x t.c.x), max t.a.y (max t.b.y t.c.y)⟩ := by
  simp only [Triangle.bounding_box, kdefs, scalar_norm]

theorem pathBoundingBox_quadrilateral (a b c d : Point K) :
    pathBoundingBox [.MoveTo a, .LineTo b, .LineTo c, .LineTo d, .ClosePath]
      = some ⟨min (min a.x b.x) (min c.x d.x), min (min a.y b.y) (min c.y d.y),
              max (max a.x b.x) (max c.x d.x), max (max a.y b.y) (max c.y d.y)⟩ := by
  unfold pathBoundingBox
  rw [segs_quadrilateral, Option.map_some]
  split_ifs <;>
    simp only [List.append_nil, List.cons_append, List.nil_append, List.foldl_cons, List.foldl_nil, line_bounding_box,
      Rect.union_eq, Option.some.injEq, Rect.mk.injEq] <;>
    refine ⟨?_, ?_, ?_, ?_⟩ <;> minmax_eq

theorem kc_horizontal (a b q : Point K) (h : a.y = b.y) : kc (a - q) (b - q) = 0 := by
  rw [kc_sub, h]
  exact kcr_horizontal _ _ _

theorem kc_vertical (x ya yb : K) (q : Point K) :
    kc ((⟨x, ya⟩ : Point K) - q) ((⟨x, yb⟩ : Point K) - q) = rowSign ya yb q.y * (if x ≤ q.x then 1 else 0) := by
  simp only [kc_sub, kcr_vertical, rowSign_sub_right, sub_nonpos]

theorem bxor_decide_iff (a b : Prop) [Decidable a] [Decidable b] : ((decide a ^^ decide b) = true) ↔ (a ↔ ¬ b) := by
  by_cases ha : a <;> by_cases hb : b <;> simp [ha, hb]

theorem Rect.winding_eq (r : Rect K) (p : Point K) : r.winding p =
    if min r.x0 r.x1 ≤ p.x ∧ p.x < max r.x0 r.x1 ∧ min r.y0 r.y1 ≤ p.y ∧ p.y < max r.y0 r.y1 then
      (if (r.x0 < r.x1 ↔ ¬ r.y0 < r.y1) then -1 else 1) else 0 := by
  unfold Rect.winding
  simp only [scalar_norm, Bool.and_eq_true, decide_eq_true_eq, bxor_decide_iff, and_assoc]

theorem Rect.winding_eq_mul (r : Rect K) (p : Point K) :
    r.winding p = rowSign r.x0 r.x1 p.x * rowSign r.y0 r.y1 p.y := by
  rw [Rect.winding_eq, rowSign_eq_minmax, rowSign_eq_minmax]
  by_cases hx : min r.x0 r.x1 ≤ p.x ∧ p.x < max r.x0 r.x1
  · by_cases hy : min r.y0 r.y1 ≤ p.y ∧ p.y < max r.y0 r.y1
    · rw [if_pos ⟨hx.1, hx.2, hy⟩, if_pos hx, if_pos hy]
      by_cases h1 : r.x0 < r.x1 <;> by_cases h2 : r.y0 < r.y1 <;> simp [h1, h2]
    · rw [if_neg fun c => hy c.2.2, if_neg hy, mul_zero]
  · rw [if_neg fun c => hx ⟨c.1, c.2.1⟩, if_neg hx, zero_mul]

/-- the two horizontal edges count nothing; the vertical ones differ in direction and in the points to their right -/
theorem rect_crossings_eq_winding (r : Rect K) (p : Point K) :
    kc ((⟨r.x0, r.y0⟩ : Point K) - p) ((⟨r.x1, r.y0⟩ : Point K) - p)
      + kc ((⟨r.x1, r.y0⟩ : Point K) - p) ((⟨r.x1, r.y1⟩ : Point K) - p)
      + kc ((⟨r.x1, r.y1⟩ : Point K) - p) ((⟨r.x0, r.y1⟩ : Point K) - p)
      + kc ((⟨r.x0, r.y1⟩ : Point K) - p) ((⟨r.x0, r.y0⟩ : Point K) - p) = r.winding p := by
  rw [kc_horizontal (⟨r.x0, r.y0⟩ : Point K) ⟨r.x1, r.y0⟩ p rfl,
    kc_horizontal (⟨r.x1, r.y1⟩ : Point K) ⟨r.x0, r.y1⟩ p rfl, kc_vertical, kc_vertical, Rect.winding_eq_mul,
    rowSign_swap r.y0 r.y1, rowSign_eq_sub_le r.x0]
  ring

theorem tiles_of_sum {a b c : Int} (hsum : a + b = c) (hc : c ≠ 0) : a ≠ 0 ∨ b ≠ 0 := by
  by_contra h
  obtain ⟨ha, hb⟩ := not_or.mp h
  rw [← hsum, not_not.mp ha, not_not.mp hb] at hc
  exact hc rfl

/-- the value of `Triangle::winding` from three scalars (the cross products) -/
theorem triWindingAux (c0 c1 c2 : K) :
    (if (decide ((if c0 < 0 then (-1 : K) else 1) = if c1 < 0 then (-1 : K) else 1) &&
          decide ((if c1 < 0 then (-1 : K) else 1) = if c2 < 0 then (-1 : K) else 1)) = true then
      (if decide ((if c0 < 0 then (-1 : K) else 1) < 0) = true then (-1 : Int)
       else if decide ((0 : K) < if c0 < 0 then (-1 : K) else 1) = true then 1 else 0)
     else 0) = C11Tri.triW c0 c1 c2 := by
  have n1 : (-1 : K) ≠ 1 := by norm_num
  have n2 : (1 : K) ≠ -1 := by norm_num
  have n3 : (-1 : K) < 0 := by norm_num
  have n4 : ¬ (1 : K) < 0 := by norm_num
  have n5 : (0 : K) < 1 := by norm_num
  unfold C11Tri.triW C11Tri.sgI
  by_cases h0 : c0 < 0 <;> by_cases h1 : c1 < 0 <;> by_cases h2 : c2 < 0 <;>
    simp [h0, h1, h2, n1, n2, n3, n4, n5]

theorem Triangle.winding_eq_triW (t : Triangle K) (p : Point K) :
    t.winding p = C11Tri.triW
      ((t.a.x - p.x) * (t.b.y - p.y) - (t.a.y - p.y) * (t.b.x - p.x))
      ((t.b.x - p.x) * (t.c.y - p.y) - (t.b.y - p.y) * (t.c.x - p.x))
      ((t.c.x - p.x) * (t.a.y - p.y) - (t.c.y - p.y) * (t.a.x - p.x)) := by
  have e0 : (t.b.x - t.a.x) * (p.y - t.a.y) - (t.b.y - t.a.y) * (p.x - t.a.x)
      = (t.a.x - p.x) * (t.b.y - p.y) - (t.a.y - p.y) * (t.b.x - p.x) := by ring
  have e1 : (t.c.x - t.b.x) * (p.y - t.b.y) - (t.c.y - t.b.y) * (p.x - t.b.x)
      = (t.b.x - p.x) * (t.c.y - p.y) - (t.b.y - p.y) * (t.c.x - p.x) := by ring
  have e2 : (t.a.x - t.c.x) * (p.y - t.c.y) - (t.a.y - t.c.y) * (p.x - t.c.x)
      = (t.c.x - p.x) * (t.a.y - p.y) - (t.c.y - p.y) * (t.a.x - p.x) := by ring
  unfold Triangle.winding
  simp only [kdefs, scalar_norm, Nat.cast_zero, e0, e1, e2]
  exact triWindingAux _ _ _

theorem tile_exists (a : ℕ → K) (n : ℕ) (x : K) (h0 : a 0 ≤ x) (h1 : x < a n) :
    ∃ i, i < n ∧ a i ≤ x ∧ x < a (i + 1) := by
  induction n with
  | zero => exact absurd h1 (not_lt.mpr h0)
  | succ n ih =>
    rcases lt_or_ge x (a n) with h | h
    · obtain ⟨i, hi, h2, h3⟩ := ih h
      exact ⟨i, Nat.lt_succ_of_lt hi, h2, h3⟩
    · exact ⟨n, Nat.lt_succ_self n, h, h1⟩

theorem tile_unique (a : ℕ → K) (ha : Monotone a) (x : K) (i j : ℕ)
    (hi : a i ≤ x ∧ x < a (i + 1)) (hj : a j ≤ x ∧ x < a (j + 1)) : i = j := by
  rcases lt_trichotomy i j with h | h | h
  · have := ha (Nat.succ_le_of_lt h); exact absurd (lt_of_lt_of_le hi.2 (le_trans this hj.1)) (lt_irrefl _)
  · exact h
  · have := ha (Nat.succ_le_of_lt h); exact absurd (lt_of_lt_of_le hj.2 (le_trans this hi.1)) (lt_irrefl _)

theorem tile_inside (a : ℕ → K) (ha : Monotone a) (n : ℕ) (x : K) (i : ℕ) (hi : i < n)
    (h : a i ≤ x ∧ x < a (i + 1)) : a 0 ≤ x ∧ x < a n :=
  ⟨le_trans (ha (Nat.zero_le i)) h.1, lt_of_lt_of_le h.2 (ha (Nat.succ_le_of_lt hi))⟩

theorem Rect.winding_ne_zero_iff (r : Rect K) (p : Point K) :
    r.winding p ≠ 0 ↔ min r.x0 r.x1 ≤ p.x ∧ p.x < max r.x0 r.x1 ∧ min r.y0 r.y1 ≤ p.y ∧ p.y < max r.y0 r.y1 := by
  rw [Rect.winding_eq]
  split_ifs with h1 h2
  · exact ⟨fun _ => h1, fun _ => by decide⟩
  · exact ⟨fun _ => h1, fun _ => by decide⟩
  · exact ⟨fun h => absurd rfl h, fun h => absurd h h1⟩

theorem Rect.Nonneg.winding_eq {r : Rect K} (h : r.Nonneg) (p : Point K) :
    r.winding p = if r.x0 ≤ p.x ∧ p.x < r.x1 ∧ r.y0 ≤ p.y ∧ p.y < r.y1 then 1 else 0 := by
  rw [Rect.winding_eq, min_eq_left h.1, max_eq_right h.1, min_eq_left h.2, max_eq_right h.2]
  by_cases hc : r.x0 ≤ p.x ∧ p.x < r.x1 ∧ r.y0 ≤ p.y ∧ p.y < r.y1
  · have hx : r.x0 < r.x1 := lt_of_le_of_lt hc.1 hc.2.1
    have hy : r.y0 < r.y1 := lt_of_le_of_lt hc.2.2.1 hc.2.2.2
    rw [if_pos hc, if_pos hc, if_neg]
    simp only [hx, hy, not_true_eq_false, iff_false, not_false_eq_true]
  · rw [if_neg hc, if_neg hc]

/-- grouped by axis, the shape in which the interval lemmas `tile_exists`, `tile_unique`, `tile_inside` speak -/
theorem Rect.Nonneg.winding_ne_zero_iff {r : Rect K} (h : r.Nonneg) (p : Point K) :
    r.winding p ≠ 0 ↔ (r.x0 ≤ p.x ∧ p.x < r.x1) ∧ (r.y0 ≤ p.y ∧ p.y < r.y1) := by
  rw [Rect.winding_ne_zero_iff, min_eq_left h.1, max_eq_right h.1, min_eq_left h.2, max_eq_right h.2, and_assoc]



/-- `Scalar.hypot` is the Euclidean norm (a lawful `K` need not have square roots, so this is a hypothesis) -/
def HypotLaw (K : Type) [Field K] [LinearOrder K] [Scalar K] : Prop :=
  ∀ x y : K, 0 ≤ Scalar.hypot x y ∧ Scalar.hypot x y ^ 2 = x ^ 2 + y ^ 2

theorem HypotLaw.eq_of_sq_eq (h : HypotLaw K) {x y z : K} (hz : 0 ≤ z) (e : z ^ 2 = x ^ 2 + y ^ 2) :
    Scalar.hypot x y = z :=
  (pow_left_inj₀ (h x y).1 hz two_ne_zero).mp ((h x y).2.trans e.symm)

theorem HypotLaw.axis_x (h : HypotLaw K) (x : K) : Scalar.hypot x 0 = |x| :=
  h.eq_of_sq_eq (abs_nonneg x) (by rw [sq_abs]; ring)

theorem HypotLaw.axis_y (h : HypotLaw K) (y : K) : Scalar.hypot 0 y = |y| :=
  h.eq_of_sq_eq (abs_nonneg y) (by rw [sq_abs]; ring)

theorem HypotLaw.neg (h : HypotLaw K) (x y : K) : Scalar.hypot (-x) (-y) = Scalar.hypot x y :=
  h.eq_of_sq_eq (h x y).1 (by rw [(h x y).2]; ring)


theorem segs_line (a b : Point K) : segs [PathEl.MoveTo a, .LineTo b] = some [PathSeg.Line ⟨a, b⟩] := rfl

theorem pathBoundingBox_line (a b : Point K) :
    pathBoundingBox [PathEl.MoveTo a, .LineTo b] = some ⟨min a.x b.x, min a.y b.y, max a.x b.x, max a.y b.y⟩ := by
  unfold pathBoundingBox
  rw [segs_line, Option.map_some]
  simp only [List.foldl_nil, line_bounding_box]

theorem notOnSeg_of (a b p : Point K)
    (h : ∀ t : K, 0 ≤ t → t ≤ 1 → p.x = a.x + (b.x - a.x) * t → p.y = a.y + (b.y - a.y) * t → False) :
    ¬ OnSeg (.Line ⟨a, b⟩) p := by
  rw [onSeg_line_iff]
  rintro ⟨t, h0, h1, hx, hy⟩
  exact h t h0 h1 hx hy

end Kurbo
