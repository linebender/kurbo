import Proofs.Lemmas.C04Rev
/-! C04, structure (any `[Scalar K]`, core Lean only): `finish`, `finish_closed` and the body of the element loop written out
    (`c04_step`). -/
namespace Kurbo
variable {K : Type} [Scalar K]

/-- the end cap emitted by `finish` -/
def c04_endCap (tol : K) (style : StrokeStyle K) (last_pt return_p : Point K) : List (PathEl K) :=
  match style.end_cap with
  | 0 => [.LineTo return_p]
  | 2 => roundCap tol last_pt (last_pt - return_p)
  | _ => squareCap false last_pt (last_pt - return_p)

/-- the start cap emitted by `finish` -/
def c04_startCap (tol : K) (style : StrokeStyle K) (start_pt : Point K) (start_norm : Vec2 K) : List (PathEl K) :=
  match style.start_cap with
  | 0 => [.ClosePath]
  | 2 => roundCap tol start_pt start_norm
  | _ => squareCap true start_pt start_norm

theorem c04_endCap_butt (tol : K) (style : StrokeStyle K) (lp rp : Point K) (h : style.end_cap = 0) :
    c04_endCap tol style lp rp = [.LineTo rp] := by
  unfold c04_endCap
  rw [h]
  rfl
theorem c04_endCap_round (tol : K) (style : StrokeStyle K) (lp rp : Point K) (h : style.end_cap = 2) :
    c04_endCap tol style lp rp = roundCap tol lp (lp - rp) := by
  unfold c04_endCap
  rw [h]
  rfl
theorem c04_endCap_square (tol : K) (style : StrokeStyle K) (lp rp : Point K) (h0 : style.end_cap ≠ 0) (h2 : style.end_cap ≠ 2) :
    c04_endCap tol style lp rp = squareCap false lp (lp - rp) := by
  unfold c04_endCap
  split
  · exact absurd ‹_› h0
  · exact absurd ‹_› h2
  · rfl

theorem c04_startCap_butt (tol : K) (style : StrokeStyle K) (s : Point K) (n : Vec2 K) (h : style.start_cap = 0) :
    c04_startCap tol style s n = [.ClosePath] := by
  unfold c04_startCap
  rw [h]
  rfl
theorem c04_startCap_round (tol : K) (style : StrokeStyle K) (s : Point K) (n : Vec2 K) (h : style.start_cap = 2) :
    c04_startCap tol style s n = roundCap tol s n := by
  unfold c04_startCap
  rw [h]
  rfl
theorem c04_startCap_square (tol : K) (style : StrokeStyle K) (s : Point K) (n : Vec2 K) (h0 : style.start_cap ≠ 0)
    (h2 : style.start_cap ≠ 2) : c04_startCap tol style s n = squareCap true s n := by
  unfold c04_startCap
  split
  · exact absurd ‹_› h0
  · exact absurd ‹_› h2
  · rfl

theorem c04_finish_empty (c : StrokeCtx K) (style : StrokeStyle K) (he : c.forward_path = []) : c.finish style = some c := by
  unfold StrokeCtx.finish
  simp only [he, List.isEmpty_nil, if_true]

theorem c04_finish_empty_eq (c : StrokeCtx K) (style : StrokeStyle K) (hf : c.forward_path = []) (hb : c.backward_path = []) :
    c.finish style = some { c with forward_path := [], backward_path := [] } := by
  rw [c04_finish_empty c style hf]
  cases c
  simp only at hf hb
  subst hf hb
  rfl

theorem c04_finish_eq (c : StrokeCtx K) (style : StrokeStyle K) (hne : c.forward_path ≠ []) {rp : Point K}
    {rev : List (PathEl K)} (h1 : lastEndPoint c.backward_path = some rp) (h2 : extendReversed c.backward_path = some rev) :
    c.finish style = some { c with
      output := c.output ++ c.forward_path ++ c04_endCap c.join_thresh style c.last_pt rp ++ rev ++ c04_startCap c.join_thresh style c.start_pt c.start_norm,
      forward_path := [], backward_path := [] } := by
  unfold StrokeCtx.finish
  simp only [c04_isEmpty_false hne, Bool.false_eq_true, if_false, h1, h2]
  rfl

theorem c04_finish_closed_empty (c : StrokeCtx K) (style : StrokeStyle K) (he : c.forward_path = []) :
    c.finish_closed style = some c := by
  unfold StrokeCtx.finish_closed
  simp only [he, List.isEmpty_nil, if_true]

theorem c04_finish_closed_eq (c : StrokeCtx K) (style : StrokeStyle K) (hne : c.forward_path ≠ []) {rp : Point K}
    {rev : List (PathEl K)} (h1 : lastEndPoint (c.do_join style c.start_tan).backward_path = some rp)
    (h2 : extendReversed (c.do_join style c.start_tan).backward_path = some rev) :
    c.finish_closed style = some { c.do_join style c.start_tan with
      output := (c.do_join style c.start_tan).output ++ (c.do_join style c.start_tan).forward_path ++ [.ClosePath] ++ [.MoveTo rp]
        ++ rev ++ [.ClosePath],
      forward_path := [], backward_path := [] } := by
  unfold StrokeCtx.finish_closed
  simp only [c04_isEmpty_false hne, Bool.false_eq_true, if_false, h1, h2]

/-- one non-degenerate line segment: join, then line -/
def c04_stepLine (style : StrokeStyle K) (c : StrokeCtx K) (p1 : Point K) : StrokeCtx K :=
  let tangent := p1 - c.last_pt
  ({ c.do_join style tangent with last_tan := tangent }).do_line style tangent p1

/-- the `ClosePath` branch before `finish_closed` (verbatim) -/
def c04_closePrep (style : StrokeStyle K) (c : StrokeCtx K) : StrokeCtx K :=
  let p0 := c.last_pt
  if !(p0.peq c.start_pt) then
    let tangent := c.start_pt - p0
    let c := c.do_join style tangent
    let c := { c with last_tan := tangent }
    c.do_line style tangent c.start_pt
  else c

/-- the body of the element loop of `stroke_undashed` on a polyline element -/
def c04_step (style : StrokeStyle K) (c : StrokeCtx K) : PathEl K → Option (StrokeCtx K)
  | .MoveTo p =>
    match c.finish style with
    | some c' => some { c' with start_pt := p, last_pt := p }
    | none => none
  | .LineTo p1 => some (if !(p1.peq c.last_pt) then c04_stepLine style c p1 else c)
  | .ClosePath => (c04_closePrep style c).finish_closed style
  | _ => none

theorem c04_strokeLoop_nil (style : StrokeStyle K) (c : StrokeCtx K) :
    strokeLoop style [] c = (match c.finish style with | some c => .ok c.output | none => .panic) := by
  rw [strokeLoop]
  cases c.finish style <;> rfl

theorem c04_strokeLoop_cons (style : StrokeStyle K) (el : PathEl K) (rest : List (PathEl K)) (c : StrokeCtx K)
    (h : c04_isPoly el = true) :
    strokeLoop style (el :: rest) c =
      (match c04_step style c el with | some c' => strokeLoop style rest c' | none => .panic) := by
  cases el with
  | MoveTo p =>
    rw [strokeLoop]
    simp only [c04_step]
    cases c.finish style <;> rfl
  | LineTo p1 =>
    rw [strokeLoop]
    simp only [c04_step]
    split <;> rfl
  | ClosePath =>
    rw [strokeLoop]
    simp only [c04_step]
    rfl
  | QuadTo _ _ => cases h
  | CurveTo _ _ _ => cases h

theorem c04_loop_moveTo (style : StrokeStyle K) (p : Point K) (rest : List (PathEl K)) (c0 : StrokeCtx K)
    (hf : c0.forward_path = []) :
    strokeLoop style (.MoveTo p :: rest) c0 = strokeLoop style rest { c0 with start_pt := p, last_pt := p } := by
  rw [c04_strokeLoop_cons _ _ _ _ rfl]
  simp only [c04_step, c04_finish_empty c0 style hf]

theorem c04_loop_lineTo (style : StrokeStyle K) (c : StrokeCtx K) (p1 : Point K) (rest : List (PathEl K))
    (h : p1.peq c.last_pt = false) :
    strokeLoop style (.LineTo p1 :: rest) c = strokeLoop style rest (c04_stepLine style c p1) := by
  rw [c04_strokeLoop_cons style _ rest c rfl]
  simp only [c04_step, h, Bool.not_false, if_true]

theorem c04_loop_end (style : StrokeStyle K) (c : StrokeCtx K) (hne : c.forward_path ≠ []) {rp : Point K}
    {rev : List (PathEl K)} (h1 : lastEndPoint c.backward_path = some rp) (h2 : extendReversed c.backward_path = some rev) :
    strokeLoop style [] c =
      .ok (c.output ++ c.forward_path ++ c04_endCap c.join_thresh style c.last_pt rp ++ rev ++
        c04_startCap c.join_thresh style c.start_pt c.start_norm) := by
  rw [c04_strokeLoop_nil, c04_finish_eq c style hne h1 h2]

end Kurbo
