import Kurbo.Types
import Proofs.Lemmas.RowSign
import Mathlib.Algebra.BigOperators.Finprod
import Mathlib.Topology.Order.IntermediateValue
import Mathlib.Topology.MetricSpace.Pseudo.Lemmas
import Mathlib.Order.Monotone.Defs
import Mathlib.Tactic.Linarith
import Mathlib.Tactic.Ring
import Mathlib.Tactic.FieldSimp
/-! C01P – the specification of the ray-crossing count, and its calculus (pure real analysis; no model function, no
    solver, no `winding_inner` occurs in this file).

    For a parametrised curve `f : ℝ → Point ℝ`, a parameter interval `[a, b]` and a query point `p`,
    `rayCross f p a b` is the signed number of crossings of `f|[a,b]` with the closed leftward horizontal ray
    `{(x, p.y) | x ≤ p.x}` from `p`, with the half-open rule "a curve point ON the row counts as not above":

    * a parameter `t ∈ [a,b]` is *on the ray* when `y(t) = p.y` and `x(t) ≤ p.x`;
    * its local index is `[the curve is strictly above the row just after t] − [… just before t]`, where "just after
      `b`" and "just before `a`" count as not above (`locIdx`);
    * `rayCross` is minus the sum of the local indices over the parameters on the ray (`finsum`: the sum over the
      finitely many parameters with non-zero index).  Upward crossings count `−1`, downward ones `+1` (the sign
      convention of `PathSeg::winding_inner`), tangential touches `0`.

    `pieceCross f p a b` is the closed form on one piece: row sign times "some parameter of the piece is on the ray"
    (`pieceCross_eq_rowSign_mul`: `rowSign` of `Lemmas/RowSign.lean` times the indicator of `OnRay`), so that reversal
    is `rowSign_swap` and two pieces meeting on the row are `rowSign_add`. -/
namespace Kurbo
namespace Ray
open Set Function
noncomputable section
open Classical

/-- the ordinate `y` is strictly above the level `c` immediately after the parameter `t` -/
def AboveAfter (y : ℝ → ℝ) (c t : ℝ) : Prop := ∃ ε, 0 < ε ∧ ∀ s, t < s → s < t + ε → c < y s
/-- the ordinate `y` is strictly above the level `c` immediately before the parameter `t` -/
def AboveBefore (y : ℝ → ℝ) (c t : ℝ) : Prop := ∃ ε, 0 < ε ∧ ∀ s, t - ε < s → s < t → c < y s

/-- local crossing index at `t` of the ordinate restricted to `[a,b]`: `+1` not-above → above, `−1` above → not-above,
    `0` no change of side; beyond the ends of `[a,b]` counts as not above -/
def locIdx (y : ℝ → ℝ) (c a b t : ℝ) : ℤ :=
  (if t < b ∧ AboveAfter y c t then 1 else 0) - (if a < t ∧ AboveBefore y c t then 1 else 0)

/-- contribution of the parameter `t`: non-zero only for `t ∈ [a,b]` on the leftward ray from `p` -/
def crossTerm (f : ℝ → Point ℝ) (p : Point ℝ) (a b t : ℝ) : ℤ :=
  if a ≤ t ∧ t ≤ b ∧ (f t).y = p.y ∧ (f t).x ≤ p.x then - locIdx (fun s => (f s).y) p.y a b t else 0

/-- **the specification**: signed number of crossings of `f|[a,b]` with the leftward ray from `p` -/
def rayCross (f : ℝ → Point ℝ) (p : Point ℝ) (a b : ℝ) : ℤ := ∑ᶠ t, crossTerm f p a b t

/-- closed form for one piece: `−1` (upward) / `+1` (downward) when `p.y` is in the half-open row of the end
    ordinates and some parameter of the piece is on the ray -/
def pieceCross (f : ℝ → Point ℝ) (p : Point ℝ) (a b : ℝ) : ℤ :=
  if (f a).y ≤ p.y ∧ p.y < (f b).y then
    (if ∃ t, a ≤ t ∧ t ≤ b ∧ (f t).y = p.y ∧ (f t).x ≤ p.x then -1 else 0)
  else if (f b).y ≤ p.y ∧ p.y < (f a).y then
    (if ∃ t, a ≤ t ∧ t ≤ b ∧ (f t).y = p.y ∧ (f t).x ≤ p.x then 1 else 0)
  else 0

/-- the parameters with a non-zero contribution are finitely many -/
def FinCross (f : ℝ → Point ℝ) (p : Point ℝ) (a b : ℝ) : Prop := (support (crossTerm f p a b)).Finite

def OnRay (f : ℝ → Point ℝ) (p : Point ℝ) (a b : ℝ) : Prop := ∃ t, a ≤ t ∧ t ≤ b ∧ (f t).y = p.y ∧ (f t).x ≤ p.x

theorem pieceCross_eq_rowSign_mul (f : ℝ → Point ℝ) (p : Point ℝ) (a b : ℝ) :
    pieceCross f p a b = rowSign (f a).y (f b).y p.y * (if OnRay f p a b then 1 else 0) := by
  unfold pieceCross rowSign OnRay
  split_ifs <;> rfl

section cases
variable {y : ℝ → ℝ} {c a b a' b' t : ℝ} {f : ℝ → Point ℝ} {p : Point ℝ}

theorem locIdx_eq_zero (hA : t < b → ¬ AboveAfter y c t) (hB : a < t → ¬ AboveBefore y c t) :
    locIdx y c a b t = 0 := by
  unfold locIdx
  rw [if_neg fun h => hA h.1 h.2, if_neg fun h => hB h.1 h.2, sub_zero]

theorem locIdx_eq_one (htb : t < b) (hA : AboveAfter y c t) (hB : a < t → ¬ AboveBefore y c t) :
    locIdx y c a b t = 1 := by
  unfold locIdx
  rw [if_pos ⟨htb, hA⟩, if_neg fun h => hB h.1 h.2, sub_zero]

theorem locIdx_add (y : ℝ → ℝ) (c a b d : ℝ) : locIdx y c a d b = locIdx y c a b b + locIdx y c b d b := by
  unfold locIdx
  simp only [lt_irrefl, false_and, if_false]
  ring

theorem crossTerm_of_on (h : a ≤ t ∧ t ≤ b ∧ (f t).y = p.y ∧ (f t).x ≤ p.x) :
    crossTerm f p a b t = - locIdx (fun s => (f s).y) p.y a b t := by unfold crossTerm; rw [if_pos h]

theorem crossTerm_of_not (h : ¬ (a ≤ t ∧ t ≤ b ∧ (f t).y = p.y ∧ (f t).x ≤ p.x)) :
    crossTerm f p a b t = 0 := by unfold crossTerm; rw [if_neg h]

theorem crossTerm_eq_zero
    (h : a ≤ t → t ≤ b → (f t).y = p.y → locIdx (fun s => (f s).y) p.y a b t = 0) : crossTerm f p a b t = 0 := by
  by_cases hc : a ≤ t ∧ t ≤ b ∧ (f t).y = p.y ∧ (f t).x ≤ p.x
  · rw [crossTerm_of_on hc, h hc.1 hc.2.1 hc.2.2.1, neg_zero]
  · exact crossTerm_of_not hc

theorem crossTerm_congr_right (h : t < b) (h' : t < b') : crossTerm f p a b t = crossTerm f p a b' t := by
  unfold crossTerm locIdx
  simp only [h, h', h.le, h'.le, true_and]

theorem crossTerm_congr_left (h : a < t) (h' : a' < t) : crossTerm f p a b t = crossTerm f p a' b t := by
  unfold crossTerm locIdx
  simp only [h, h', h.le, h'.le, true_and]

end cases

section sides
variable {y : ℝ → ℝ} {c a b t : ℝ}

theorem aboveAfter_of (h : ∀ s ∈ Icc a b, t < s → c < y s) (hat : a ≤ t) (htb : t < b) : AboveAfter y c t :=
  ⟨b - t, by linarith, fun s h1 h2 => h s ⟨by linarith, by linarith⟩ h1⟩

theorem not_aboveAfter_of (h : ∀ s ∈ Icc a b, t < s → y s ≤ c) (hat : a ≤ t) (htb : t < b) : ¬ AboveAfter y c t := by
  rintro ⟨ε, hε, hh⟩
  have h1 : t < min b (t + ε / 2) := lt_min htb (by linarith)
  have h2 : min b (t + ε / 2) < t + ε := lt_of_le_of_lt (min_le_right _ _) (by linarith)
  have h3 : min b (t + ε / 2) ∈ Icc a b := ⟨by linarith, min_le_left _ _⟩
  exact absurd (hh _ h1 h2) (not_lt.mpr (h _ h3 h1))

theorem not_aboveBefore_of (h : ∀ s ∈ Icc a b, s < t → y s ≤ c) (hat : a < t) (htb : t ≤ b) : ¬ AboveBefore y c t := by
  rintro ⟨ε, hε, hh⟩
  have h1 : max a (t - ε / 2) < t := max_lt hat (by linarith)
  have h2 : t - ε < max a (t - ε / 2) := lt_of_lt_of_le (by linarith) (le_max_right _ _)
  have h3 : max a (t - ε / 2) ∈ Icc a b := ⟨le_max_left _ _, by linarith⟩
  exact absurd (hh _ h2 h1) (not_lt.mpr (h _ h3 h1))

end sides

section reversal
variable {f : ℝ → Point ℝ} {p : Point ℝ}

theorem aboveAfter_neg (y : ℝ → ℝ) (c m u : ℝ) :
    AboveAfter (fun v => y (m - v)) c u ↔ AboveBefore y c (m - u) := by
  constructor
  · rintro ⟨ε, hε, h⟩
    refine ⟨ε, hε, fun s h1 h2 => ?_⟩
    have e : s = m - (m - s) := by ring
    rw [e]; apply h <;> linarith
  · rintro ⟨ε, hε, h⟩
    exact ⟨ε, hε, fun s h1 h2 => h (m - s) (by linarith) (by linarith)⟩

theorem aboveBefore_neg (y : ℝ → ℝ) (c m u : ℝ) :
    AboveBefore (fun v => y (m - v)) c u ↔ AboveAfter y c (m - u) := by
  have := aboveAfter_neg (fun v => y (m - v)) c m (m - u)
  simpa only [sub_sub_cancel] using this.symm

theorem crossTerm_neg (m a b u : ℝ) :
    crossTerm (fun v => f (m - v)) p a b u = - crossTerm f p (m - b) (m - a) (m - u) := by
  unfold crossTerm locIdx
  simp only [sub_le_sub_iff_left, sub_lt_sub_iff_left, aboveAfter_neg (fun s => (f s).y),
    aboveBefore_neg (fun s => (f s).y)]
  by_cases hc : u ≤ b ∧ a ≤ u ∧ (f (m - u)).y = p.y ∧ (f (m - u)).x ≤ p.x
  · rw [if_pos ⟨hc.2.1, hc.1, hc.2.2⟩, if_pos hc]; ring
  · rw [if_neg (fun h => hc ⟨h.2.1, h.1, h.2.2⟩), if_neg hc]; rfl

theorem rayCross_comp_neg (m a b : ℝ) :
    rayCross (fun v => f (m - v)) p a b = - rayCross f p (m - b) (m - a) := by
  unfold rayCross
  rw [← finsum_neg_distrib]
  refine finsum_eq_of_bijective (fun u : ℝ => m - u) ?_ (fun u => crossTerm_neg m a b u)
  constructor
  · intro u v h
    have : m - u = m - v := h
    linarith
  · intro t; exact ⟨m - t, by ring⟩

theorem finCross_of_comp_neg {m a b : ℝ} (h : FinCross (fun v => f (m - v)) p a b) : FinCross f p (m - b) (m - a) :=
  (h.image fun u => m - u).subset fun t ht =>
    ⟨m - t, by rw [mem_support, crossTerm_neg, sub_sub_cancel, neg_ne_zero]; exact ht, sub_sub_cancel m t⟩

theorem onRay_comp_neg (m a b : ℝ) : OnRay (fun v => f (m - v)) p a b ↔ OnRay f p (m - b) (m - a) :=
  ⟨fun ⟨t, h1, h2, h3⟩ => ⟨m - t, sub_le_sub_left h2 m, sub_le_sub_left h1 m, h3⟩,
    fun ⟨t, h1, h2, h3⟩ => ⟨m - t, le_sub_comm.mp h2, sub_le_comm.mp h1, by simpa only [sub_sub_cancel] using h3⟩⟩

theorem pieceCross_comp_neg (m a b : ℝ) :
    pieceCross (fun v => f (m - v)) p a b = - pieceCross f p (m - b) (m - a) := by
  simp only [pieceCross_eq_rowSign_mul, onRay_comp_neg, rowSign_swap (f (m - b)).y, neg_mul]

end reversal

section piece
variable {f : ℝ → Point ℝ} {p : Point ℝ} {a b : ℝ}

theorem finCross_of_zero (h : ∀ t, crossTerm f p a b t = 0) : FinCross f p a b := by
  have : support (crossTerm f p a b) = ∅ := by
    ext t; simp only [mem_support, ne_eq, mem_empty_iff_false, iff_false, not_not]; exact h t
  unfold FinCross; rw [this]; exact finite_empty

theorem rayCross_of_zero (h : ∀ t, crossTerm f p a b t = 0) : rayCross f p a b = 0 :=
  finsum_eq_zero_of_forall_eq_zero h

theorem finCross_of_single (ts : ℝ) (h : ∀ t, t ≠ ts → crossTerm f p a b t = 0) : FinCross f p a b :=
  (finite_singleton ts).subset fun t ht => by
    by_contra hne
    exact ht (h t hne)

theorem rayCross_strictMono (hab : a ≤ b) (hc : ContinuousOn (fun t => (f t).y) (Icc a b))
    (hm : StrictMonoOn (fun t => (f t).y) (Icc a b)) :
    FinCross f p a b ∧ rayCross f p a b = pieceCross f p a b := by
  have hmono := hm.monotoneOn
  by_cases hrow : (f a).y ≤ p.y ∧ p.y < (f b).y
  · obtain ⟨ts, hts, hys⟩ := intermediate_value_Icc hab hc ⟨hrow.1, hrow.2.le⟩
    have hys : (f ts).y = p.y := hys
    have htb : ts < b := by
      rcases lt_or_eq_of_le hts.2 with h | h
      · exact h
      · rw [h] at hys; linarith [hrow.2]
    have huniq : ∀ t, a ≤ t → t ≤ b → (f t).y = p.y → t = ts := fun t h1 h2 h3 =>
      hm.injOn ⟨h1, h2⟩ hts (show (f t).y = (f ts).y by rw [h3, hys])
    have hzero : ∀ t, t ≠ ts → crossTerm f p a b t = 0 := fun t hne =>
      crossTerm_of_not fun h => hne (huniq t h.1 h.2.1 h.2.2.1)
    have hidx : locIdx (fun s => (f s).y) p.y a b ts = 1 :=
      locIdx_eq_one htb
        (aboveAfter_of (a := a) (b := b) (fun s hs h => by rw [← hys]; exact hm hts hs h) hts.1 htb)
        fun h => not_aboveBefore_of (a := a) (b := b)
          (fun s hs hlt => by rw [← hys]; exact (hm hs hts hlt).le) h hts.2
    refine ⟨finCross_of_single ts hzero, ?_⟩
    unfold rayCross
    rw [finsum_eq_single _ ts hzero]
    unfold pieceCross
    rw [if_pos hrow]
    by_cases hx : (f ts).x ≤ p.x
    · rw [crossTerm_of_on ⟨hts.1, hts.2, hys, hx⟩, if_pos ⟨ts, hts.1, hts.2, hys, hx⟩, hidx]
    · rw [crossTerm_of_not (fun h => hx h.2.2.2), if_neg]
      rintro ⟨t, h1, h2, h3, h4⟩
      rw [huniq t h1 h2 h3] at h4
      exact hx h4
  · have hzero : ∀ t, crossTerm f p a b t = 0 := fun t => crossTerm_eq_zero fun h1 h2 h3 => by
      have hya : (f a).y ≤ p.y := by rw [← h3]; exact hmono ⟨le_rfl, hab⟩ ⟨h1, h2⟩ h1
      have hyb : (f b).y ≤ p.y := not_lt.mp fun h => hrow ⟨hya, h⟩
      have htb : t = b := by
        rcases lt_or_eq_of_le h2 with h | h
        · have := hm ⟨h1, h2⟩ ⟨hab, le_rfl⟩ h
          simp only at this
          linarith
        · exact h
      subst htb
      exact locIdx_eq_zero (fun h => absurd h (lt_irrefl _)) fun h => not_aboveBefore_of (a := a) (b := t)
        (fun s hs hlt => by rw [← h3]; exact (hm hs ⟨h1, le_rfl⟩ hlt).le) h le_rfl
    refine ⟨finCross_of_zero hzero, ?_⟩
    rw [rayCross_of_zero hzero]
    unfold pieceCross
    rw [if_neg hrow, if_neg]
    rintro ⟨h1, h2⟩
    have := hmono ⟨le_rfl, hab⟩ ⟨hab, le_rfl⟩ hab
    simp only at this
    linarith

/-- traversed backwards the ordinate is strictly increasing: `rayCross_strictMono` and reversal -/
theorem rayCross_strictAnti (hab : a ≤ b) (hc : ContinuousOn (fun t => (f t).y) (Icc a b))
    (hm : StrictAntiOn (fun t => (f t).y) (Icc a b)) :
    FinCross f p a b ∧ rayCross f p a b = pieceCross f p a b := by
  have hmem : ∀ t ∈ Icc a b, a + b - t ∈ Icc a b := fun t ht => ⟨by linarith [ht.2], by linarith [ht.1]⟩
  -- by hand from the metric: `Continuous.sub` needs the topological-group instance of ℝ, which this file does not import
  have hrev : Continuous fun v : ℝ => a + b - v := Metric.continuous_iff.mpr fun x ε hε =>
    ⟨ε, hε, fun y hy => by rwa [Real.dist_eq, sub_sub_sub_cancel_left, abs_sub_comm, ← Real.dist_eq]⟩
  obtain ⟨hfin, hray⟩ := rayCross_strictMono (f := fun v => f (a + b - v)) (p := p) hab
    (hc.comp hrev.continuousOn hmem)
    (fun s hs t ht hst => hm (hmem t ht) (hmem s hs) (by linarith))
  have hfin' := finCross_of_comp_neg hfin
  rw [rayCross_comp_neg, pieceCross_comp_neg, add_sub_cancel_right, add_sub_cancel_left, neg_inj] at hray
  rw [add_sub_cancel_right, add_sub_cancel_left] at hfin'
  exact ⟨hfin', hray⟩

theorem rayCross_const (hab : a ≤ b) (hk : ∀ t ∈ Icc a b, (f t).y = (f a).y) :
    FinCross f p a b ∧ rayCross f p a b = pieceCross f p a b := by
  have hzero : ∀ t, crossTerm f p a b t = 0 := fun t => crossTerm_eq_zero fun h1 h2 h3 => by
    have hall : ∀ s ∈ Icc a b, (f s).y ≤ p.y := fun s hs => by
      rw [hk s hs, ← hk t ⟨h1, h2⟩, h3]
    exact locIdx_eq_zero (not_aboveAfter_of (a := a) (b := b) (fun s hs _ => hall s hs) h1)
      fun h => not_aboveBefore_of (a := a) (b := b) (fun s hs _ => hall s hs) h h2
  refine ⟨finCross_of_zero hzero, ?_⟩
  rw [rayCross_of_zero hzero]
  unfold pieceCross
  have e : (f b).y = (f a).y := hk b ⟨hab, le_rfl⟩
  rw [if_neg (fun h => by linarith [h.1, h.2]), if_neg (fun h => by linarith [h.1, h.2])]

theorem rayCross_piece (hab : a ≤ b) (hc : ContinuousOn (fun t => (f t).y) (Icc a b))
    (hm : StrictMonoOn (fun t => (f t).y) (Icc a b) ∨ StrictAntiOn (fun t => (f t).y) (Icc a b) ∨
      ∀ t ∈ Icc a b, (f t).y = (f a).y) :
    FinCross f p a b ∧ rayCross f p a b = pieceCross f p a b := by
  rcases hm with h | h | h
  · exact rayCross_strictMono hab hc h
  · exact rayCross_strictAnti hab hc h
  · exact rayCross_const hab h

theorem onRay_iff_of_injOn {ts : ℝ} (hinj : InjOn (fun t => (f t).y) (Icc a b)) (h0 : a ≤ ts) (h1 : ts ≤ b)
    (hy : (f ts).y = p.y) : OnRay f p a b ↔ (f ts).x ≤ p.x :=
  ⟨fun ⟨t, h2, h3, h4, h5⟩ => hinj ⟨h2, h3⟩ ⟨h0, h1⟩ (show (f t).y = (f ts).y by rw [h4, hy]) ▸ h5,
    fun h => ⟨ts, h0, h1, hy, h⟩⟩

theorem pieceCross_at {ts : ℝ} (hinj : InjOn (fun t => (f t).y) (Icc a b)) (h0 : a ≤ ts) (h1 : ts ≤ b)
    (hy : (f ts).y = p.y) :
    pieceCross f p a b = rowSign (f a).y (f b).y p.y * (if (f ts).x ≤ p.x then 1 else 0) := by
  simp only [pieceCross_eq_rowSign_mul, onRay_iff_of_injOn hinj h0 h1 hy]

theorem pieceCross_offRow (h : rowSign (f a).y (f b).y p.y = 0) : pieceCross f p a b = 0 := by
  rw [pieceCross_eq_rowSign_mul, h, zero_mul]

end piece

section additivity
variable {f : ℝ → Point ℝ} {p : Point ℝ} {a b c : ℝ}

theorem crossTerm_add (hab : a ≤ b) (hbc : b ≤ c) (t : ℝ) :
    crossTerm f p a c t = crossTerm f p a b t + crossTerm f p b c t := by
  rcases lt_trichotomy t b with h | h | h
  · rw [crossTerm_of_not (a := b) fun hh => absurd hh.1 (not_le.mpr h), add_zero]
    exact crossTerm_congr_right (h.trans_le hbc) h
  · subst h
    by_cases hr : (f t).y = p.y ∧ (f t).x ≤ p.x
    · rw [crossTerm_of_on ⟨hab, hbc, hr⟩, crossTerm_of_on ⟨hab, le_rfl, hr⟩, crossTerm_of_on ⟨le_rfl, hbc, hr⟩,
        locIdx_add _ _ a t c, neg_add]
    · rw [crossTerm_of_not fun hh => hr hh.2.2, crossTerm_of_not fun hh => hr hh.2.2,
        crossTerm_of_not fun hh => hr hh.2.2, add_zero]
  · rw [crossTerm_of_not (b := b) fun hh => absurd hh.2.1 (not_le.mpr h), zero_add]
    exact crossTerm_congr_left (hab.trans_lt h) h

theorem rayCross_add (hab : a ≤ b) (hbc : b ≤ c) (h1 : FinCross f p a b) (h2 : FinCross f p b c) :
    FinCross f p a c ∧ rayCross f p a c = rayCross f p a b + rayCross f p b c := by
  constructor
  · refine (h1.union h2).subset fun t ht => ?_
    by_contra hne
    rw [mem_union, not_or, mem_support, mem_support, not_not, not_not] at hne
    exact ht (by rw [crossTerm_add hab hbc, hne.1, hne.2, add_zero])
  · unfold rayCross
    rw [← finsum_add_distrib h1 h2]
    exact finsum_congr (crossTerm_add hab hbc)

theorem finCross_sub {a' b' : ℝ} (h : FinCross f p a' b') (ha : a' ≤ a) (hb : b ≤ b') : FinCross f p a b := by
  refine ((h.union (finite_singleton a)).union (finite_singleton b)).subset fun t ht => ?_
  by_contra hne
  simp only [mem_union, mem_singleton_iff, not_or, mem_support, not_not] at hne
  obtain ⟨⟨h0, hta⟩, htb⟩ := hne
  apply ht
  by_cases hcnd : a ≤ t ∧ t ≤ b ∧ (f t).y = p.y ∧ (f t).x ≤ p.x
  · have l1 : a < t := lt_of_le_of_ne hcnd.1 (Ne.symm hta)
    have l2 : t < b := lt_of_le_of_ne hcnd.2.1 htb
    rw [crossTerm_congr_left l1 (ha.trans_lt l1), crossTerm_congr_right l2 (l2.trans_le hb)]
    exact h0
  · exact crossTerm_of_not hcnd

end additivity

section reparam
variable {f : ℝ → Point ℝ} {p : Point ℝ}

theorem aboveAfter_affine (y : ℝ → ℝ) (c m k : ℝ) (hk : 0 < k) (u : ℝ) :
    AboveAfter (fun v => y (m + v * k)) c u ↔ AboveAfter y c (m + u * k) := by
  constructor
  · rintro ⟨ε, hε, h⟩
    refine ⟨ε * k, mul_pos hε hk, fun s h1 h2 => ?_⟩
    have e : s = m + ((s - m) / k) * k := by rw [div_mul_cancel₀ _ hk.ne', add_sub_cancel]
    rw [e]
    exact h _ ((lt_div_iff₀ hk).mpr (by linarith)) ((div_lt_iff₀ hk).mpr (by rw [add_mul]; linarith))
  · rintro ⟨ε, hε, h⟩
    refine ⟨ε / k, div_pos hε hk, fun s h1 h2 => h _ ?_ ?_⟩
    · exact add_lt_add_right ((mul_lt_mul_iff_left₀ hk).mpr h1) m
    · have := (mul_lt_mul_iff_left₀ hk).mpr h2
      rw [add_mul, div_mul_cancel₀ _ hk.ne'] at this
      linarith

theorem aboveBefore_affine (y : ℝ → ℝ) (c m k : ℝ) (hk : 0 < k) (u : ℝ) :
    AboveBefore (fun v => y (m + v * k)) c u ↔ AboveBefore y c (m + u * k) := by
  constructor
  · rintro ⟨ε, hε, h⟩
    refine ⟨ε * k, mul_pos hε hk, fun s h1 h2 => ?_⟩
    have e : s = m + ((s - m) / k) * k := by rw [div_mul_cancel₀ _ hk.ne', add_sub_cancel]
    rw [e]
    exact h _ ((lt_div_iff₀ hk).mpr (by rw [sub_mul]; linarith)) ((div_lt_iff₀ hk).mpr (by linarith))
  · rintro ⟨ε, hε, h⟩
    refine ⟨ε / k, div_pos hε hk, fun s h1 h2 => h _ ?_ ?_⟩
    · have := (mul_lt_mul_iff_left₀ hk).mpr h1
      rw [sub_mul, div_mul_cancel₀ _ hk.ne'] at this
      linarith
    · exact add_lt_add_right ((mul_lt_mul_iff_left₀ hk).mpr h2) m

theorem crossTerm_affine (m k : ℝ) (hk : 0 < k) (a b u : ℝ) :
    crossTerm (fun v => f (m + v * k)) p a b u = crossTerm f p (m + a * k) (m + b * k) (m + u * k) := by
  unfold crossTerm locIdx
  have e1 : ∀ v w : ℝ, m + v * k ≤ m + w * k ↔ v ≤ w := fun v w => by
    rw [add_le_add_iff_left, mul_le_mul_iff_left₀ hk]
  have e2 : ∀ v w : ℝ, m + v * k < m + w * k ↔ v < w := fun v w => by
    rw [add_lt_add_iff_left, mul_lt_mul_iff_left₀ hk]
  simp only [e1, e2, ← aboveAfter_affine (fun s => (f s).y) p.y m k hk u,
    ← aboveBefore_affine (fun s => (f s).y) p.y m k hk u]

theorem affine_bijective (m k : ℝ) (hk : k ≠ 0) : Bijective (fun u : ℝ => m + u * k) := by
  constructor
  · intro u v h
    have : u * k = v * k := by simpa using h
    exact mul_right_cancel₀ hk this
  · intro t
    exact ⟨(t - m) / k, by field_simp; ring⟩

theorem rayCross_comp_affine {a b : ℝ} (hab : a < b) :
    rayCross (fun u => f (a + u * (b - a))) p 0 1 = rayCross f p a b := by
  have hk := sub_pos.mpr hab
  unfold rayCross
  refine (finsum_eq_of_bijective (fun u : ℝ => a + u * (b - a)) (affine_bijective a (b - a) hk.ne')
    fun u => crossTerm_affine a (b - a) hk 0 1 u).trans ?_
  rw [zero_mul, add_zero, one_mul, add_sub_cancel]

/-- the closed form under the reparametrisation of `[a,b]` by `[0,1]`, also for the degenerate range `a = b` -/
theorem pieceCross_comp_affine {a b : ℝ} (hab : a ≤ b) :
    pieceCross (fun u => f (a + u * (b - a))) p 0 1 = pieceCross f p a b := by
  have hiff : OnRay (fun u => f (a + u * (b - a))) p 0 1 ↔ OnRay f p a b := by
    constructor
    · rintro ⟨u, h0, h1, h⟩
      exact ⟨_, le_add_of_nonneg_right (mul_nonneg h0 (sub_nonneg.mpr hab)),
        by linarith [mul_le_of_le_one_left (sub_nonneg.mpr hab) h1], h⟩
    · rintro ⟨t, h0, h1, h⟩
      rcases hab.eq_or_lt with rfl | hlt
      · exact ⟨0, le_rfl, zero_le_one, by simpa only [zero_mul, add_zero, le_antisymm h0 h1] using h⟩
      · have hba := sub_pos.mpr hlt
        exact ⟨(t - a) / (b - a), div_nonneg (sub_nonneg.mpr h0) hba.le, (div_le_one hba).mpr (by linarith),
          by simpa only [div_mul_cancel₀ _ hba.ne', add_sub_cancel] using h⟩
  simp only [pieceCross_eq_rowSign_mul, hiff]
  rw [zero_mul, add_zero, one_mul, add_sub_cancel]

end reparam

section join
variable {f g : ℝ → Point ℝ} {p : Point ℝ} {a b c d : ℝ}

/-- the shared point `f b = g c` is a vertex of the path, or an extremum of a segment, on the row of the query point: the
    row signs of the two pieces add up to that of the outer ends -/
theorem pieceCross_join (hab : a ≤ b) (hcd : c ≤ d) (hfg : f b = g c) (hy : (f b).y = p.y)
    (hf : InjOn (fun t => (f t).y) (Icc a b)) (hg : InjOn (fun t => (g t).y) (Icc c d)) :
    pieceCross f p a b + pieceCross g p c d = rowSign (f a).y (g d).y p.y * (if (f b).x ≤ p.x then 1 else 0) := by
  rw [pieceCross_at hf hab le_rfl hy, pieceCross_at hg le_rfl hcd (hfg ▸ hy), ← hfg, ← add_mul, rowSign_add]

end join

end
end Ray
end Kurbo
