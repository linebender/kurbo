import Proofs.KDefs
/-! For C20 (Rect / Size / Insets / rounding algebra): the specification vocabulary, the kernel functions in Mathlib
    arithmetic, the scalar rounding lemmas, and boxes as unions of point boxes: `Rect.union` is the join of the
    containment order, `from_points` and `union_pt` are unions with the degenerate boxes `Rect.pt p`, and a point lies
    in a closed box iff the box contains its point box; `Rect.Touches r S` (every side of `r` passes through a point of
    `S`) is closed under `union`, and a box that touches `S` lies inside every box that covers `S`
    (`Rect.Touches.least`). -/
set_option linter.unusedSectionVars false
namespace Kurbo
variable {K : Type} [Field K] [LinearOrder K] [IsStrictOrderedRing K] [FloorRing K] [Scalar K] [LawfulScalar K]

def Rect.Nonneg (r : Rect K) : Prop := r.x0 ≤ r.x1 ∧ r.y0 ≤ r.y1
def Rect.Pos (r : Rect K) : Prop := r.x0 < r.x1 ∧ r.y0 < r.y1
/-- `Prop` version of `Rect.contains_rect`: `b ⊆ a` as closed boxes -/
def Rect.ContainsRectP (a b : Rect K) : Prop := a.x0 ≤ b.x0 ∧ a.y0 ≤ b.y0 ∧ b.x1 ≤ a.x1 ∧ b.y1 ≤ a.y1
def Rect.ContainsClosed (r : Rect K) (p : Point K) : Prop := r.x0 ≤ p.x ∧ p.x ≤ r.x1 ∧ r.y0 ≤ p.y ∧ p.y ≤ r.y1
def Rect.ContainsHalfOpen (r : Rect K) (p : Point K) : Prop := r.x0 ≤ p.x ∧ p.x < r.x1 ∧ r.y0 ≤ p.y ∧ p.y < r.y1
def Rect.Separated (a b : Rect K) : Prop := b.x1 < a.x0 ∨ a.x1 < b.x0 ∨ b.y1 < a.y0 ∨ a.y1 < b.y0
def IsInt (x : K) : Prop := ∃ n : ℤ, x = (n : K)
def Rect.IsIntegral (r : Rect K) : Prop := IsInt r.x0 ∧ IsInt r.y0 ∧ IsInt r.x1 ∧ IsInt r.y1

theorem isInt_intCast (n : ℤ) : IsInt (n : K) := ⟨n, rfl⟩
theorem IsInt.neg {x : K} (h : IsInt x) : IsInt (-x) := by
  obtain ⟨n, rfl⟩ := h; exact ⟨-n, by push_cast; rfl⟩
theorem IsInt.abs {x : K} (h : IsInt x) : IsInt |x| := by
  rcases abs_choice x with e | e <;> rw [e]
  · exact h
  · exact h.neg
theorem IsInt.min {x y : K} (hx : IsInt x) (hy : IsInt y) : IsInt (min x y) := by
  rcases min_choice x y with e | e <;> rw [e] <;> assumption
theorem IsInt.max {x y : K} (hx : IsInt x) (hy : IsInt y) : IsInt (max x y) := by
  rcases max_choice x y with e | e <;> rw [e] <;> assumption

theorem IsInt.le_floor {q x : K} (hq : IsInt q) (h : q ≤ x) : q ≤ (⌊x⌋ : K) := by
  obtain ⟨n, rfl⟩ := hq
  exact_mod_cast Int.le_floor.mpr h
theorem IsInt.ceil_le {q x : K} (hq : IsInt q) (h : x ≤ q) : (⌈x⌉ : K) ≤ q := by
  obtain ⟨n, rfl⟩ := hq
  exact_mod_cast Int.ceil_le.mpr h
theorem IsInt.floor_eq {x : K} (h : IsInt x) : (⌊x⌋ : K) = x := by
  obtain ⟨n, rfl⟩ := h; simp
theorem IsInt.ceil_eq {x : K} (h : IsInt x) : (⌈x⌉ : K) = x := by
  obtain ⟨n, rfl⟩ := h; simp

theorem Rect.ContainsRectP.x0_le {a b : Rect K} (h : a.ContainsRectP b) : a.x0 ≤ b.x0 := h.1
theorem Rect.ContainsRectP.y0_le {a b : Rect K} (h : a.ContainsRectP b) : a.y0 ≤ b.y0 := h.2.1
theorem Rect.ContainsRectP.le_x1 {a b : Rect K} (h : a.ContainsRectP b) : b.x1 ≤ a.x1 := h.2.2.1
theorem Rect.ContainsRectP.le_y1 {a b : Rect K} (h : a.ContainsRectP b) : b.y1 ≤ a.y1 := h.2.2.2
theorem Rect.ContainsClosed.x0_le {r : Rect K} {p : Point K} (h : r.ContainsClosed p) : r.x0 ≤ p.x := h.1
theorem Rect.ContainsClosed.le_x1 {r : Rect K} {p : Point K} (h : r.ContainsClosed p) : p.x ≤ r.x1 := h.2.1
theorem Rect.ContainsClosed.y0_le {r : Rect K} {p : Point K} (h : r.ContainsClosed p) : r.y0 ≤ p.y := h.2.2.1
theorem Rect.ContainsClosed.le_y1 {r : Rect K} {p : Point K} (h : r.ContainsClosed p) : p.y ≤ r.y1 := h.2.2.2

theorem Rect.ContainsRectP.refl (a : Rect K) : a.ContainsRectP a := ⟨le_rfl, le_rfl, le_rfl, le_rfl⟩
theorem Rect.ContainsRectP.trans {a b c : Rect K} (h1 : a.ContainsRectP b) (h2 : b.ContainsRectP c) :
    a.ContainsRectP c :=
  ⟨h1.x0_le.trans h2.x0_le, h1.y0_le.trans h2.y0_le, h2.le_x1.trans h1.le_x1, h2.le_y1.trans h1.le_y1⟩
theorem Rect.ContainsRectP.antisymm {a b : Rect K} (h1 : a.ContainsRectP b) (h2 : b.ContainsRectP a) : a = b := by
  cases a; cases b
  simp only [Rect.mk.injEq]
  exact ⟨le_antisymm h1.x0_le h2.x0_le, le_antisymm h1.y0_le h2.y0_le, le_antisymm h2.le_x1 h1.le_x1,
    le_antisymm h2.le_y1 h1.le_y1⟩
theorem Rect.ContainsRectP.closed {a b : Rect K} (h : a.ContainsRectP b) {p : Point K} (hp : b.ContainsClosed p) :
    a.ContainsClosed p :=
  ⟨h.x0_le.trans hp.x0_le, hp.le_x1.trans h.le_x1, h.y0_le.trans hp.y0_le, hp.le_y1.trans h.le_y1⟩
theorem Rect.containsRectP_iff_closed {a b : Rect K} (hb : b.Nonneg) :
    a.ContainsRectP b ↔ ∀ p, b.ContainsClosed p → a.ContainsClosed p := by
  constructor
  · intro h p hp; exact h.closed hp
  · intro h
    have h0 := h ⟨b.x0, b.y0⟩ ⟨le_rfl, hb.1, le_rfl, hb.2⟩
    have h1 := h ⟨b.x1, b.y1⟩ ⟨hb.1, le_rfl, hb.2, le_rfl⟩
    exact ⟨h0.x0_le, h0.y0_le, h1.le_x1, h1.le_y1⟩

theorem Rect.width_eq (r : Rect K) : r.width = r.x1 - r.x0 := by simp only [Rect.width, scalar_norm]
theorem Rect.height_eq (r : Rect K) : r.height = r.y1 - r.y0 := by simp only [Rect.height, scalar_norm]
theorem Rect.area_eq (r : Rect K) : r.area = (r.x1 - r.x0) * (r.y1 - r.y0) := by
  simp only [Rect.area, Rect.width, Rect.height, scalar_norm]

theorem Rect.union_eq (a b : Rect K) :
    a.union b = ⟨min a.x0 b.x0, min a.y0 b.y0, max a.x1 b.x1, max a.y1 b.y1⟩ := by
  simp only [Rect.union, Rect.new, scalar_norm]
theorem Rect.union_pt_eq (a : Rect K) (p : Point K) :
    a.union_pt p = ⟨min a.x0 p.x, min a.y0 p.y, max a.x1 p.x, max a.y1 p.y⟩ := by
  simp only [Rect.union_pt, Rect.new, scalar_norm]
theorem Rect.intersect_eq (a b : Rect K) :
    a.intersect b = ⟨max a.x0 b.x0, max a.y0 b.y0, max (min a.x1 b.x1) (max a.x0 b.x0),
      max (min a.y1 b.y1) (max a.y0 b.y0)⟩ := by
  simp only [Rect.intersect, Rect.new, scalar_norm]
theorem Rect.abs_eq (r : Rect K) : r.abs = ⟨min r.x0 r.x1, min r.y0 r.y1, max r.x0 r.x1, max r.y0 r.y1⟩ := by
  cases r; simp only [Rect.abs, Rect.new, scalar_norm]
theorem Rect.abs_nonneg (r : Rect K) : r.abs.Nonneg := by
  rw [Rect.abs_eq]
  exact ⟨min_le_max, min_le_max⟩
theorem Rect.mabs_eq (r : Rect K) : MAbs.abs r = r.abs := rfl
theorem Rect.from_points_eq (p q : Point K) :
    Rect.from_points p q = ⟨min p.x q.x, min p.y q.y, max p.x q.x, max p.y q.y⟩ := by
  simp only [Rect.from_points, Rect.mabs_eq, Rect.abs_eq, Rect.new]
theorem Rect.inflate_eq (r : Rect K) (w h : K) : r.inflate w h = ⟨r.x0 - w, r.y0 - h, r.x1 + w, r.y1 + h⟩ := by
  simp only [Rect.inflate, Rect.new, scalar_norm]

theorem Rect.expand_eq (r : Rect K) :
    r.expand = ⟨if r.x0 ≤ r.x1 then (⌊r.x0⌋ : K) else (⌈r.x0⌉ : K), if r.y0 ≤ r.y1 then (⌊r.y0⌋ : K) else (⌈r.y0⌉ : K),
      if r.x0 ≤ r.x1 then (⌈r.x1⌉ : K) else (⌊r.x1⌋ : K), if r.y0 ≤ r.y1 then (⌈r.y1⌉ : K) else (⌊r.y1⌋ : K)⟩ := by
  simp only [Rect.expand, Rect.new, scalar_norm]
  by_cases hx : r.x0 ≤ r.x1 <;> by_cases hy : r.y0 ≤ r.y1 <;> simp [hx, hy]
theorem Rect.trunc_eq (r : Rect K) :
    r.trunc = ⟨if r.x0 ≤ r.x1 then (⌈r.x0⌉ : K) else (⌊r.x0⌋ : K), if r.y0 ≤ r.y1 then (⌈r.y0⌉ : K) else (⌊r.y0⌋ : K),
      if r.x0 ≤ r.x1 then (⌊r.x1⌋ : K) else (⌈r.x1⌉ : K), if r.y0 ≤ r.y1 then (⌊r.y1⌋ : K) else (⌈r.y1⌉ : K)⟩ := by
  simp only [Rect.trunc, Rect.new, scalar_norm]
  by_cases hx : r.x0 ≤ r.x1 <;> by_cases hy : r.y0 ≤ r.y1 <;> simp [hx, hy]
theorem Rect.Nonneg.expand_eq {r : Rect K} (h : r.Nonneg) :
    r.expand = ⟨(⌊r.x0⌋ : K), (⌊r.y0⌋ : K), (⌈r.x1⌉ : K), (⌈r.y1⌉ : K)⟩ := by
  simp only [Rect.expand_eq, if_pos h.1, if_pos h.2]
theorem Rect.Nonneg.trunc_eq {r : Rect K} (h : r.Nonneg) :
    r.trunc = ⟨(⌈r.x0⌉ : K), (⌈r.y0⌉ : K), (⌊r.x1⌋ : K), (⌊r.y1⌋ : K)⟩ := by
  simp only [Rect.trunc_eq, if_pos h.1, if_pos h.2]

/-- one axis of `expand` with the end points in either order: the smaller end is floored, the larger one ceiled -/
theorem expand_axis (a b : K) :
    min (if a ≤ b then (⌊a⌋ : K) else (⌈a⌉ : K)) (if a ≤ b then (⌈b⌉ : K) else (⌊b⌋ : K)) = (⌊min a b⌋ : K) ∧
    max (if a ≤ b then (⌊a⌋ : K) else (⌈a⌉ : K)) (if a ≤ b then (⌈b⌉ : K) else (⌊b⌋ : K)) = (⌈max a b⌉ : K) := by
  have hfc : ∀ u v : K, u ≤ v → (⌊u⌋ : K) ≤ (⌈v⌉ : K) := fun u v h => (Int.floor_le u).trans (h.trans (Int.le_ceil v))
  rcases le_or_gt a b with hc | hc
  · rw [if_pos hc, if_pos hc, min_eq_left hc, max_eq_right hc, min_eq_left (hfc _ _ hc), max_eq_right (hfc _ _ hc)]
    exact ⟨rfl, rfl⟩
  · rw [if_neg (not_le.mpr hc), if_neg (not_le.mpr hc), min_eq_right hc.le, max_eq_left hc.le,
      min_eq_right (hfc _ _ hc.le), max_eq_left (hfc _ _ hc.le)]
    exact ⟨rfl, rfl⟩

theorem Insets.add_Rect_eq (i : Insets K) (r : Rect K) :
    i + r = (⟨min r.x0 r.x1 - i.x0, min r.y0 r.y1 - i.y0, max r.x0 r.x1 + i.x1, max r.y0 r.y1 + i.y1⟩ : Rect K) := by
  show Insets.add_Rect i r = _
  simp only [Insets.add_Rect, Rect.mabs_eq, Rect.abs_eq, Rect.new, scalar_norm]
theorem Rect.add_Insets_eq (r : Rect K) (i : Insets K) :
    r + i = (⟨min r.x0 r.x1 - i.x0, min r.y0 r.y1 - i.y0, max r.x0 r.x1 + i.x1, max r.y0 r.y1 + i.y1⟩ : Rect K) := by
  show Rect.add_Insets r i = _
  rw [Rect.add_Insets, Insets.add_Rect_eq]
theorem Insets.neg_eq (i : Insets K) : -i = (⟨-i.x0, -i.y0, -i.x1, -i.y1⟩ : Insets K) := by
  show Insets.neg i = _
  simp only [Insets.neg, Insets.new, scalar_norm]
theorem Rect.sub_Insets_eq (r : Rect K) (i : Insets K) :
    r - i = (⟨min r.x0 r.x1 + i.x0, min r.y0 r.y1 + i.y0, max r.x0 r.x1 - i.x1, max r.y0 r.y1 - i.y1⟩ : Rect K) := by
  show Rect.sub_Insets r i = _
  rw [Rect.sub_Insets]
  show Insets.sub_Rect i r = _
  rw [Insets.sub_Rect, Rect.add_Insets_eq, Insets.neg_eq]
  simp only [Rect.mk.injEq]
  refine ⟨?_, ?_, ?_, ?_⟩ <;> ring
theorem Insets.sub_Rect_eq (i : Insets K) (r : Rect K) : i - r = r - i := rfl
theorem Rect.Nonneg.add_Insets_eq {r : Rect K} (h : r.Nonneg) (i : Insets K) :
    r + i = (⟨r.x0 - i.x0, r.y0 - i.y0, r.x1 + i.x1, r.y1 + i.y1⟩ : Rect K) := by
  rw [Rect.add_Insets_eq, min_eq_left h.1, min_eq_left h.2, max_eq_right h.1, max_eq_right h.2]
theorem Rect.Nonneg.sub_Insets_eq {r : Rect K} (h : r.Nonneg) (i : Insets K) :
    r - i = (⟨r.x0 + i.x0, r.y0 + i.y0, r.x1 - i.x1, r.y1 - i.y1⟩ : Rect K) := by
  rw [Rect.sub_Insets_eq, min_eq_left h.1, min_eq_left h.2, max_eq_right h.1, max_eq_right h.2]
theorem Rect.sub_Rect_eq (a b : Rect K) :
    a - b = (⟨b.x0 - a.x0, b.y0 - a.y0, a.x1 - b.x1, a.y1 - b.y1⟩ : Insets K) := by
  show Rect.sub_Rect a b = _
  simp only [Rect.sub_Rect, scalar_norm]

theorem Rect.contains_rect_iff (a b : Rect K) : a.contains_rect b = true ↔ a.ContainsRectP b := by
  simp only [Rect.contains_rect, Rect.ContainsRectP, scalar_norm, Bool.and_eq_true, decide_eq_true_eq, and_assoc]
theorem Rect.contains_iff (r : Rect K) (p : Point K) : r.contains p = true ↔ r.ContainsHalfOpen p := by
  simp only [Rect.contains, Rect.ContainsHalfOpen, scalar_norm, Bool.and_eq_true, decide_eq_true_eq, and_assoc]
theorem Rect.overlaps_iff (a b : Rect K) :
    a.overlaps b = true ↔ a.x0 ≤ b.x1 ∧ b.x0 ≤ a.x1 ∧ a.y0 ≤ b.y1 ∧ b.y0 ≤ a.y1 := by
  simp only [Rect.overlaps, scalar_norm, Bool.and_eq_true, decide_eq_true_eq, and_assoc]
theorem Rect.not_overlaps_iff (a b : Rect K) : a.overlaps b = false ↔ a.Separated b := by
  rw [← Bool.not_eq_true, Rect.overlaps_iff, Rect.Separated]
  simp only [not_and_or, not_le]
theorem Rect.Separated.intersect_degenerate {a b : Rect K} (h : a.Separated b) :
    (a.intersect b).x1 = (a.intersect b).x0 ∨ (a.intersect b).y1 = (a.intersect b).y0 := by
  rw [Rect.intersect_eq]
  rcases h with h | h | h | h
  · exact Or.inl (max_eq_right ((min_le_right _ _).trans (h.le.trans (le_max_left _ _))))
  · exact Or.inl (max_eq_right ((min_le_left _ _).trans (h.le.trans (le_max_right _ _))))
  · exact Or.inr (max_eq_right ((min_le_right _ _).trans (h.le.trans (le_max_left _ _))))
  · exact Or.inr (max_eq_right ((min_le_left _ _).trans (h.le.trans (le_max_right _ _))))
theorem Rect.is_zero_area_iff (r : Rect K) : r.is_zero_area = true ↔ r.x1 = r.x0 ∨ r.y1 = r.y0 := by
  simp only [Rect.is_zero_area, Rect.area, Rect.width, Rect.height, scalar_norm, decide_eq_true_eq,
    Nat.cast_zero, mul_eq_zero, sub_eq_zero]

theorem Rect.Nonneg.abs_eq_self {r : Rect K} (h : r.Nonneg) : r.abs = r := by
  rw [Rect.abs_eq]; cases r
  simp only [Rect.Nonneg] at h
  simp only [min_eq_left h.1, min_eq_left h.2, max_eq_right h.1, max_eq_right h.2]

theorem Rect.union_contains_left (a b : Rect K) : (a.union b).ContainsRectP a := by
  rw [Rect.union_eq]
  exact ⟨min_le_left _ _, min_le_left _ _, le_max_left _ _, le_max_left _ _⟩

theorem Rect.union_contains_right (a b : Rect K) : (a.union b).ContainsRectP b := by
  rw [Rect.union_eq]
  exact ⟨min_le_right _ _, min_le_right _ _, le_max_right _ _, le_max_right _ _⟩

theorem Rect.union_least (a b c : Rect K) (ha : c.ContainsRectP a) (hb : c.ContainsRectP b) :
    c.ContainsRectP (a.union b) := by
  rw [Rect.union_eq]
  exact ⟨le_min ha.x0_le hb.x0_le, le_min ha.y0_le hb.y0_le, max_le ha.le_x1 hb.le_x1, max_le ha.le_y1 hb.le_y1⟩

def Rect.pt (p : Point K) : Rect K := ⟨p.x, p.y, p.x, p.y⟩

theorem Rect.containsClosed_iff_pt (r : Rect K) (p : Point K) : r.ContainsClosed p ↔ r.ContainsRectP (Rect.pt p) :=
  ⟨fun ⟨h1, h2, h3, h4⟩ => ⟨h1, h3, h2, h4⟩, fun ⟨h1, h2, h3, h4⟩ => ⟨h1, h3, h2, h4⟩⟩

theorem Rect.union_pt_eq_union (a : Rect K) (p : Point K) : a.union_pt p = a.union (Rect.pt p) := by
  rw [Rect.union_pt_eq, Rect.union_eq]
  rfl

theorem Rect.from_points_eq_union (p q : Point K) : Rect.from_points p q = (Rect.pt p).union (Rect.pt q) := by
  rw [Rect.from_points_eq, Rect.union_eq]
  rfl

theorem Rect.from_points_contains (p q : Point K) :
    (Rect.from_points p q).ContainsClosed p ∧ (Rect.from_points p q).ContainsClosed q := by
  rw [Rect.from_points_eq_union, Rect.containsClosed_iff_pt, Rect.containsClosed_iff_pt]
  exact ⟨Rect.union_contains_left _ _, Rect.union_contains_right _ _⟩

def Rect.Touches (r : Rect K) (S : Point K → Prop) : Prop :=
  (∃ p, S p ∧ p.x = r.x0) ∧ (∃ p, S p ∧ p.y = r.y0) ∧ (∃ p, S p ∧ p.x = r.x1) ∧ (∃ p, S p ∧ p.y = r.y1)

theorem Rect.Touches.mono {r : Rect K} {S T : Point K → Prop} (h : r.Touches S) (hST : ∀ p, S p → T p) :
    r.Touches T :=
  ⟨h.1.imp fun _ hp => ⟨hST _ hp.1, hp.2⟩, h.2.1.imp fun _ hp => ⟨hST _ hp.1, hp.2⟩,
    h.2.2.1.imp fun _ hp => ⟨hST _ hp.1, hp.2⟩, h.2.2.2.imp fun _ hp => ⟨hST _ hp.1, hp.2⟩⟩

theorem Rect.touches_pt {S : Point K → Prop} {p : Point K} (hp : S p) : (Rect.pt p).Touches S :=
  ⟨⟨p, hp, rfl⟩, ⟨p, hp, rfl⟩, ⟨p, hp, rfl⟩, ⟨p, hp, rfl⟩⟩

/-- `min` and `max` return one of their arguments: a side of the union is a side of an operand -/
theorem Rect.Touches.union {a b : Rect K} {S : Point K → Prop} (ha : a.Touches S) (hb : b.Touches S) :
    (a.union b).Touches S := by
  have side : ∀ {c : Point K → K} {u v w : K}, (w = u ∨ w = v) → (∃ p, S p ∧ c p = u) → (∃ p, S p ∧ c p = v) →
      ∃ p, S p ∧ c p = w := by
    rintro c u v w (rfl | rfl) hu hv <;> assumption
  rw [Rect.union_eq]
  exact ⟨side (min_choice _ _) ha.1 hb.1, side (min_choice _ _) ha.2.1 hb.2.1, side (max_choice _ _) ha.2.2.1 hb.2.2.1,
    side (max_choice _ _) ha.2.2.2 hb.2.2.2⟩

theorem Rect.Touches.union_pt {a : Rect K} {S : Point K → Prop} (ha : a.Touches S) {p : Point K} (hp : S p) :
    (a.union_pt p).Touches S := by
  rw [Rect.union_pt_eq_union]
  exact ha.union (Rect.touches_pt hp)

theorem Rect.touches_from_points {S : Point K → Prop} {p q : Point K} (hp : S p) (hq : S q) :
    (Rect.from_points p q).Touches S := by
  rw [Rect.from_points_eq_union]
  exact (Rect.touches_pt hp).union (Rect.touches_pt hq)

theorem Rect.Touches.foldl_union {α : Type} {S : Point K → Prop} (f : α → Rect K) (l : List α) {bb : Rect K}
    (hb : bb.Touches S) (hl : ∀ t ∈ l, (f t).Touches S) : (l.foldl (fun bb t => bb.union (f t)) bb).Touches S := by
  induction l generalizing bb with
  | nil => exact hb
  | cons a as ih => exact ih (hb.union (hl a List.mem_cons_self)) fun t ht => hl t (List.mem_cons_of_mem _ ht)

theorem Rect.Touches.foldl_union_pt {α : Type} {S : Point K → Prop} (f : α → Point K) (l : List α) {bb : Rect K}
    (hb : bb.Touches S) (hl : ∀ t ∈ l, S (f t)) : (l.foldl (fun bb t => bb.union_pt (f t)) bb).Touches S := by
  induction l generalizing bb with
  | nil => exact hb
  | cons a as ih => exact ih (hb.union_pt (hl a List.mem_cons_self)) fun t ht => hl t (List.mem_cons_of_mem _ ht)

theorem Rect.Touches.least {r c : Rect K} {S : Point K → Prop} (h : r.Touches S)
    (hc : ∀ p, S p → c.ContainsClosed p) : c.ContainsRectP r := by
  obtain ⟨⟨p1, s1, e1⟩, ⟨p2, s2, e2⟩, ⟨p3, s3, e3⟩, ⟨p4, s4, e4⟩⟩ := h
  exact ⟨e1 ▸ (hc p1 s1).x0_le, e2 ▸ (hc p2 s2).y0_le, e3 ▸ (hc p3 s3).le_x1, e4 ▸ (hc p4 s4).le_y1⟩

/-- the four sides read off: a `Q c v` that follows from "a point of `S` has coordinate `c` equal to `v`" holds of
    `x` and `x0`, `y` and `y0`, `x` and `x1`, `y` and `y1` (the bounding-box theorems each state the sides in a form of
    their own) -/
theorem Rect.Touches.sides {r : Rect K} {S : Point K → Prop} (h : r.Touches S) {Q : (Point K → K) → K → Prop}
    (hQ : ∀ (c : Point K → K) (p : Point K), S p → Q c (c p)) :
    Q (·.x) r.x0 ∧ Q (·.y) r.y0 ∧ Q (·.x) r.x1 ∧ Q (·.y) r.y1 := by
  obtain ⟨⟨p1, s1, e1⟩, ⟨p2, s2, e2⟩, ⟨p3, s3, e3⟩, ⟨p4, s4, e4⟩⟩ := h
  exact ⟨e1 ▸ (hQ (·.x) p1 s1 : Q (·.x) p1.x), e2 ▸ (hQ (·.y) p2 s2 : Q (·.y) p2.y),
    e3 ▸ (hQ (·.x) p3 s3 : Q (·.x) p3.x), e4 ▸ (hQ (·.y) p4 s4 : Q (·.y) p4.y)⟩

/-- `FloatExt::expand`: round away from zero -/
theorem fexpand_eq (x : K) : fexpand x = if x < 0 then (⌊x⌋ : K) else (⌈x⌉ : K) := by
  rw [sn_fexpand]
  split_ifs with h
  · rw [abs_of_neg h, Int.ceil_neg, Int.cast_neg, abs_neg, abs_of_nonpos ((Int.floor_le x).trans h.le), neg_neg]
  · rw [abs_of_nonneg (not_lt.mp h), abs_of_nonneg ((not_lt.mp h).trans (Int.le_ceil x))]

theorem floor_le_ceil_cast (x : K) : (⌊x⌋ : K) ≤ (⌈x⌉ : K) := by
  exact_mod_cast Int.floor_le_ceil x

theorem floor_le_strunc (x : K) : (⌊x⌋ : K) ≤ MTrunc.trunc x := by
  rw [sn_MTrunc]; split_ifs
  · exact floor_le_ceil_cast x
  · exact le_rfl
theorem strunc_le_ceil (x : K) : (MTrunc.trunc x : K) ≤ (⌈x⌉ : K) := by
  rw [sn_MTrunc]; split_ifs
  · exact le_rfl
  · exact floor_le_ceil_cast x
theorem abs_strunc_bounds (x : K) : |(MTrunc.trunc x : K)| ≤ |x| ∧ |x| < |(MTrunc.trunc x : K)| + 1 := by
  rw [sn_MTrunc]; split_ifs with h
  · -- `x < 0` and `⌈x⌉ ≤ 0`; `-x < -⌈x⌉ + 1` is rearranged to `⌈x⌉ < x + 1`
    rw [abs_of_nonpos (Int.cast_nonpos.mpr (Int.ceil_nonpos.mpr h.le)), abs_of_neg h, neg_add_eq_sub, lt_sub_iff_add_lt',
      ← sub_eq_add_neg, sub_lt_iff_lt_add']
    exact ⟨neg_le_neg (Int.le_ceil x), Int.ceil_lt_add_one x⟩
  · rw [abs_of_nonneg (Int.cast_nonneg (Int.floor_nonneg.mpr (not_lt.mp h))), abs_of_nonneg (not_lt.mp h)]
    exact ⟨Int.floor_le x, Int.lt_floor_add_one x⟩
theorem isInt_strunc (x : K) : IsInt (MTrunc.trunc x : K) := by
  rw [sn_MTrunc]; split_ifs <;> exact isInt_intCast _

theorem floor_le_sround (x : K) : (⌊x⌋ : K) ≤ MRound.round x := by
  have h1 : ⌊x⌋ ≤ ⌈x - 1 / 2⌉ := Int.floor_le_iff.mpr
    ((sub_le_iff_le_add.mp (Int.le_ceil (x - 1 / 2))).trans_lt (add_lt_add_of_le_of_lt le_rfl one_half_lt_one))
  have h2 : ⌊x⌋ ≤ ⌊x + 1 / 2⌋ := Int.floor_mono (le_add_of_nonneg_right one_half_pos.le)
  rw [sn_MRound]; split_ifs
  · exact Int.cast_le.mpr h1
  · exact Int.cast_le.mpr h2
theorem sround_le_ceil (x : K) : (MRound.round x : K) ≤ (⌈x⌉ : K) := by
  have h1 : ⌈x - 1 / 2⌉ ≤ ⌈x⌉ := Int.ceil_mono (sub_le_self x one_half_pos.le)
  have h2 : ⌊x + 1 / 2⌋ ≤ ⌈x⌉ := Int.floor_le_iff.mpr (add_lt_add_of_le_of_lt (Int.le_ceil x) one_half_lt_one)
  rw [sn_MRound]; split_ifs
  · exact Int.cast_le.mpr h1
  · exact Int.cast_le.mpr h2
/-- on negatives `Scalar.round x = -round (-x)`, otherwise it is Mathlib's `round` -/
theorem abs_sround_sub_le (x : K) : |(MRound.round x : K) - x| ≤ 1/2 := by
  rw [sn_MRound, abs_sub_comm]; split_ifs
  · have e : ⌈x - 1 / 2⌉ = -round (-x) := by
      rw [round_eq, show -x + 1 / 2 = -(x - 1 / 2) by ring, Int.floor_neg, neg_neg]
    rw [e, Int.cast_neg, sub_neg_eq_add, ← abs_neg, neg_add']
    exact abs_sub_round (-x)
  · rw [← round_eq]
    exact abs_sub_round x
theorem isInt_sround (x : K) : IsInt (MRound.round x : K) := by
  rw [sn_MRound]; split_ifs <;> exact isInt_intCast _

theorem sfloor_eq (x : K) : (MFloor.floor x : K) = (⌊x⌋ : K) := by simp only [scalar_norm]
theorem sceil_eq (x : K) : (MCeil.ceil x : K) = (⌈x⌉ : K) := by simp only [scalar_norm]
theorem sexpand_eq (x : K) : (MExpand.expand x : K) = if x < 0 then (⌊x⌋ : K) else (⌈x⌉ : K) := fexpand_eq x

theorem isInt_fexpand (x : K) : IsInt (fexpand x) := by
  rw [fexpand_eq]; split_ifs <;> exact isInt_intCast _
theorem floor_le_fexpand (x : K) : (⌊x⌋ : K) ≤ fexpand x := by
  rw [fexpand_eq]; split_ifs
  · exact le_rfl
  · exact floor_le_ceil_cast x
theorem fexpand_le_ceil (x : K) : fexpand x ≤ (⌈x⌉ : K) := by
  rw [fexpand_eq]; split_ifs
  · exact floor_le_ceil_cast x
  · exact le_rfl
theorem abs_fexpand_bounds (x : K) : |x| ≤ |fexpand x| ∧ |fexpand x| < |x| + 1 := by
  rw [fexpand_eq]; split_ifs with h
  · -- `-⌊x⌋ < -x + 1` is rearranged to `x < ⌊x⌋ + 1`
    rw [abs_of_neg h, abs_of_neg ((Int.floor_le x).trans_lt h), neg_add_eq_sub, lt_sub_iff_add_lt', ← sub_eq_add_neg,
      sub_lt_iff_lt_add']
    exact ⟨neg_le_neg (Int.floor_le x), Int.lt_floor_add_one x⟩
  · rw [abs_of_nonneg (not_lt.mp h), abs_of_nonneg ((not_lt.mp h).trans (Int.le_ceil x))]
    exact ⟨Int.le_ceil x, Int.ceil_lt_add_one x⟩
theorem fexpand_sign (x : K) : (x < 0 → fexpand x < 0) ∧ (0 < x → 0 < fexpand x) ∧ (x = 0 → fexpand x = 0) := by
  rw [fexpand_eq]
  refine ⟨fun h => ?_, fun h => ?_, fun h => ?_⟩
  · rw [if_pos h]; exact lt_of_le_of_lt (Int.floor_le x) h
  · rw [if_neg (not_lt.mpr h.le)]; exact lt_of_lt_of_le h (Int.le_ceil x)
  · subst h; simp
theorem fexpand_least (x q : K) (hq : IsInt q) (h : if x < 0 then q ≤ x else x ≤ q) :
    if x < 0 then q ≤ fexpand x else fexpand x ≤ q := by
  rw [fexpand_eq]
  by_cases hx : x < 0
  · simp only [hx, if_true] at h ⊢; exact hq.le_floor h
  · simp only [hx, if_false] at h ⊢; exact hq.ceil_le h

def Point.Le (a b : Point K) : Prop := a.x ≤ b.x ∧ a.y ≤ b.y
def Vec2.Le (a b : Vec2 K) : Prop := a.x ≤ b.x ∧ a.y ≤ b.y
def Size.Le (a b : Size K) : Prop := a.width ≤ b.width ∧ a.height ≤ b.height
/-- coordinate-wise order on rectangles (all four coordinates; *not* containment) -/
def Rect.CoordLe (a b : Rect K) : Prop := a.x0 ≤ b.x0 ∧ a.y0 ≤ b.y0 ∧ a.x1 ≤ b.x1 ∧ a.y1 ≤ b.y1

theorem Point.floor_eq (p : Point K) : p.floor = ⟨Scalar.floor p.x, Scalar.floor p.y⟩ := rfl
theorem Point.ceil_eq (p : Point K) : p.ceil = ⟨Scalar.ceil p.x, Scalar.ceil p.y⟩ := rfl
theorem Point.round_eq (p : Point K) : p.round = ⟨Scalar.round p.x, Scalar.round p.y⟩ := rfl
theorem Point.trunc_eq (p : Point K) : p.trunc = ⟨Scalar.trunc p.x, Scalar.trunc p.y⟩ := rfl
theorem Point.expand_eq (p : Point K) : p.expand = ⟨fexpand p.x, fexpand p.y⟩ := rfl
theorem Vec2.floor_eq (p : Vec2 K) : p.floor = ⟨Scalar.floor p.x, Scalar.floor p.y⟩ := rfl
theorem Vec2.ceil_eq (p : Vec2 K) : p.ceil = ⟨Scalar.ceil p.x, Scalar.ceil p.y⟩ := rfl
theorem Vec2.round_eq (p : Vec2 K) : p.round = ⟨Scalar.round p.x, Scalar.round p.y⟩ := rfl
theorem Vec2.trunc_eq (p : Vec2 K) : p.trunc = ⟨Scalar.trunc p.x, Scalar.trunc p.y⟩ := rfl
theorem Vec2.expand_eq (p : Vec2 K) : p.expand = ⟨fexpand p.x, fexpand p.y⟩ := rfl
theorem Size.floor_eq (p : Size K) : p.floor = ⟨Scalar.floor p.width, Scalar.floor p.height⟩ := rfl
theorem Size.ceil_eq (p : Size K) : p.ceil = ⟨Scalar.ceil p.width, Scalar.ceil p.height⟩ := rfl
theorem Size.round_eq (p : Size K) : p.round = ⟨Scalar.round p.width, Scalar.round p.height⟩ := rfl
theorem Size.trunc_eq (p : Size K) : p.trunc = ⟨Scalar.trunc p.width, Scalar.trunc p.height⟩ := rfl
theorem Size.expand_eq (p : Size K) : p.expand = ⟨fexpand p.width, fexpand p.height⟩ := rfl
theorem Rect.floor_eq (r : Rect K) :
    r.floor = ⟨Scalar.floor r.x0, Scalar.floor r.y0, Scalar.floor r.x1, Scalar.floor r.y1⟩ := rfl
theorem Rect.ceil_eq (r : Rect K) :
    r.ceil = ⟨Scalar.ceil r.x0, Scalar.ceil r.y0, Scalar.ceil r.x1, Scalar.ceil r.y1⟩ := rfl
theorem Rect.round_eq (r : Rect K) :
    r.round = ⟨Scalar.round r.x0, Scalar.round r.y0, Scalar.round r.x1, Scalar.round r.y1⟩ := rfl

theorem scalar_round_facts (x : K) :
    Scalar.floor x ≤ Scalar.trunc x ∧ Scalar.trunc x ≤ Scalar.ceil x ∧
    Scalar.floor x ≤ Scalar.round x ∧ Scalar.round x ≤ Scalar.ceil x ∧
    Scalar.floor x ≤ fexpand x ∧ fexpand x ≤ Scalar.ceil x := by
  rw [sn_floor, sn_ceil]
  exact ⟨floor_le_strunc x, strunc_le_ceil x, floor_le_sround x, sround_le_ceil x, floor_le_fexpand x,
    fexpand_le_ceil x⟩

theorem pair_rounding (x y : K) :
    (Scalar.floor x ≤ Scalar.trunc x ∧ Scalar.floor y ≤ Scalar.trunc y) ∧
    (Scalar.trunc x ≤ Scalar.ceil x ∧ Scalar.trunc y ≤ Scalar.ceil y) ∧
    (Scalar.floor x ≤ Scalar.round x ∧ Scalar.floor y ≤ Scalar.round y) ∧
    (Scalar.round x ≤ Scalar.ceil x ∧ Scalar.round y ≤ Scalar.ceil y) ∧
    (Scalar.floor x ≤ fexpand x ∧ Scalar.floor y ≤ fexpand y) ∧ (fexpand x ≤ Scalar.ceil x ∧ fexpand y ≤ Scalar.ceil y) ∧
    |x| ≤ |fexpand x| ∧ |y| ≤ |fexpand y| ∧ |Scalar.trunc x| ≤ |x| ∧ |Scalar.trunc y| ≤ |y| := by
  obtain ⟨x1, x2, x3, x4, x5, x6⟩ := scalar_round_facts x
  obtain ⟨y1, y2, y3, y4, y5, y6⟩ := scalar_round_facts y
  exact ⟨⟨x1, y1⟩, ⟨x2, y2⟩, ⟨x3, y3⟩, ⟨x4, y4⟩, ⟨x5, y5⟩, ⟨x6, y6⟩, (abs_fexpand_bounds x).1, (abs_fexpand_bounds y).1,
    (abs_strunc_bounds x).1, (abs_strunc_bounds y).1⟩

end Kurbo
