import Proofs.Lemmas.Angle
import Mathlib.Tactic.Linarith
import Mathlib.Tactic.Positivity
/-! C01 helper (no model term; `eq_of_abs_sub_lt_two_pi` comes from `Lemmas/Angle.lean`): the angle `phi` with the branch cut on the lower side of the negative real
    axis, the strict crossing indicator `kcross`, and the per-edge lemma `edge_angle`. -/
open Complex Real

namespace Kurbo

/-- angle in [-π, π) with the branch cut (negative real axis) attached to the lower half plane -/
noncomputable def phi (z : ℂ) : ℝ := -(arg ((starRingEnd ℂ) z))

theorem phi_eq_arg_of_ne_pi {z : ℂ} (h : arg z ≠ π) : phi z = arg z := by
  unfold phi; rw [arg_conj]; simp [h]

theorem phi_of_arg_pi {z : ℂ} (h : arg z = π) : phi z = -π := by
  unfold phi; rw [arg_conj]; simp [h]

theorem phi_mem (z : ℂ) : -π ≤ phi z ∧ phi z < π := by
  by_cases h : arg z = π
  · rw [phi_of_arg_pi h]; constructor <;> linarith [pi_pos]
  · rw [phi_eq_arg_of_ne_pi h]
    exact ⟨(neg_pi_lt_arg z).le, lt_of_le_of_ne (arg_le_pi z) h⟩

theorem sin_phi (z : ℂ) : Real.sin (phi z) = z.im / ‖z‖ := by
  by_cases h : arg z = π
  · rw [phi_of_arg_pi h]
    have := arg_eq_pi_iff.mp h
    simp [this.2]
  · rw [phi_eq_arg_of_ne_pi h, sin_arg]

theorem cos_phi {z : ℂ} (hz : z ≠ 0) : Real.cos (phi z) = z.re / ‖z‖ := by
  by_cases h : arg z = π
  · rw [phi_of_arg_pi h, Real.cos_neg, ← h, cos_arg hz]
  · rw [phi_eq_arg_of_ne_pi h, cos_arg hz]

theorem cross_eq_sin {a b : ℂ} (ha : a ≠ 0) (hb : b ≠ 0) :
    a.re * b.im - a.im * b.re = ‖a‖ * ‖b‖ * Real.sin (phi b - phi a) := by
  rw [Real.sin_sub, sin_phi, sin_phi, cos_phi ha, cos_phi hb]
  have h1 : ‖a‖ ≠ 0 := norm_ne_zero_iff.mpr ha
  have h2 : ‖b‖ ≠ 0 := norm_ne_zero_iff.mpr hb
  field_simp

theorem phi_nonneg_iff {z : ℂ} : 0 ≤ phi z ↔ (0 ≤ z.im ∧ ¬ (z.re < 0 ∧ z.im = 0)) := by
  by_cases h : arg z = π
  · rw [phi_of_arg_pi h]
    have := arg_eq_pi_iff.mp h
    constructor
    · intro h'; linarith [pi_pos]
    · intro h'; exact absurd this h'.2
  · rw [phi_eq_arg_of_ne_pi h, arg_nonneg_iff]
    constructor
    · intro h'; exact ⟨h', fun hh => h (arg_eq_pi_iff.mpr hh)⟩
    · intro h'; exact h'.1


theorem phi_pos_of_im_pos {z : ℂ} (h : 0 < z.im) : 0 < phi z ∧ phi z < π := by
  have hne : arg z ≠ π := fun hh => by have := (arg_eq_pi_iff.mp hh).2; linarith
  rw [phi_eq_arg_of_ne_pi hne]
  refine ⟨?_, lt_of_le_of_ne (arg_le_pi z) hne⟩
  have h0 : 0 ≤ arg z := arg_nonneg_iff.mpr h.le
  rcases h0.lt_or_eq with h1 | h1
  · exact h1
  · have := (arg_eq_zero_iff.mp h1.symm).2; linarith

theorem phi_nonpos_of_im_nonpos {z : ℂ} (h : z.im ≤ 0) : phi z ≤ 0 := by
  by_cases hpi : arg z = π
  · rw [phi_of_arg_pi hpi]; linarith [pi_pos]
  · rw [phi_eq_arg_of_ne_pi hpi]
    rcases h.lt_or_eq with h1 | h1
    · exact (arg_neg_iff.mpr h1).le
    · -- im = 0, arg ≠ π → re ≥ 0 → arg = 0
      have : 0 ≤ z.re := by
        by_contra hneg
        exact hpi (arg_eq_pi_iff.mpr ⟨not_le.mp hneg, h1⟩)
      rw [arg_eq_zero_iff.mpr ⟨this, h1⟩]

theorem phi_sub_eq {a b : ℂ} (ha : a ≠ 0) (hb : b ≠ 0) :
    ∃ m : ℤ, phi b - phi a = arg (b / a) + 2 * π * m := by
  have hphi : ∀ z : ℂ, ((phi z : ℝ) : Real.Angle) = (arg z : Real.Angle) := by
    intro z
    by_cases hpi : arg z = π
    · rw [phi_of_arg_pi hpi, hpi]; simp
    · rw [phi_eq_arg_of_ne_pi hpi]
  have h : (((phi b - phi a : ℝ)) : Real.Angle) = ((arg (b / a) : ℝ) : Real.Angle) := by
    rw [arg_div_coe_angle hb ha, Real.Angle.coe_sub, hphi, hphi]
  obtain ⟨m, hm⟩ := Real.Angle.angle_eq_iff_two_pi_dvd_sub.mp h
  exact ⟨m, by linarith⟩

/-- signed crossing of the edge a → b with the leftward ray from the origin, half-open rule, strict in the cross
    product.  The line branch of `winding_inner` tests the cross product with `≤`/`≥`: the two agree unless the
    edge passes through the origin. -/
noncomputable def kcross (a b : ℂ) : ℤ :=
  if b.im ≤ 0 ∧ 0 < a.im ∧ 0 < a.re * b.im - a.im * b.re then 1
  else if a.im ≤ 0 ∧ 0 < b.im ∧ a.re * b.im - a.im * b.re < 0 then -1
  else 0


/-- **Edge lemma.** For an edge a → b that does not pass through the origin, the change of the
cut-below angle equals the principal angle `arg (b/a)` minus 2π times the crossing indicator `kcross`. -/
theorem edge_angle {a b : ℂ} (ha : a ≠ 0) (hb : b ≠ 0) (hseg : arg (b / a) ≠ π) :
    phi b - phi a = arg (b / a) - 2 * π * (kcross a b : ℝ) := by
  obtain ⟨m, hm⟩ := phi_sub_eq ha hb
  -- both sides agree modulo 2π, so it is enough that they differ by less than 2π
  refine eq_of_abs_sub_lt_two_pi (m + kcross a b) (by push_cast; linear_combination hm) (abs_lt.mpr ?_)
  have hα1 : -π < arg (b / a) := neg_pi_lt_arg _
  have hα2 : arg (b / a) < π := lt_of_le_of_ne (arg_le_pi _) hseg
  -- the cross product has the sign of `arg (b / a)`
  have hc : a.re * b.im - a.im * b.re = ‖a‖ * ‖b‖ * Real.sin (arg (b / a)) := by
    rw [cross_eq_sin ha hb, hm, mul_comm (2 * π), Real.sin_add_int_mul_two_pi]
  have hn : 0 < ‖a‖ * ‖b‖ := mul_pos (norm_pos_iff.mpr ha) (norm_pos_iff.mpr hb)
  have hpos : 0 ≤ a.re * b.im - a.im * b.re → 0 ≤ arg (b / a) := fun h => by
    by_contra hlt
    linarith [mul_neg_of_pos_of_neg hn (Real.sin_neg_of_neg_of_neg_pi_lt (not_le.mp hlt) hα1)]
  have hneg : a.re * b.im - a.im * b.re ≤ 0 → arg (b / a) ≤ 0 := fun h => by
    by_contra hgt
    linarith [mul_pos hn (Real.sin_pos_of_pos_of_lt_pi (not_le.mp hgt) hα2)]
  have hπ := pi_pos
  unfold kcross
  rcases lt_or_ge 0 a.im with hai | hai
  · obtain ⟨ha1, ha2⟩ := phi_pos_of_im_pos hai
    rcases lt_or_ge 0 b.im with hbi | hbi
    · -- both above the axis: no crossing, both angles in (0, π)
      obtain ⟨hb1, hb2⟩ := phi_pos_of_im_pos hbi
      rw [if_neg (fun h => absurd hbi (not_lt.mpr h.1)), if_neg (fun h => absurd hai (not_lt.mpr h.1)), Int.cast_zero]
      exact ⟨by linarith only [hb1, ha2, hα2], by linarith only [hb2, ha1, hα1]⟩
    · -- downward: the angle difference is in (-2π, 0)
      have hb1 := (phi_mem b).1
      have hb2 := phi_nonpos_of_im_nonpos hbi
      by_cases hcr : 0 < a.re * b.im - a.im * b.re
      · have hα := hpos hcr.le
        rw [if_pos ⟨hbi, hai, hcr⟩, Int.cast_one]
        exact ⟨by linarith only [hb1, ha2, hα2, hπ], by linarith only [hb2, ha1, hα]⟩
      · have hα := hneg (not_lt.mp hcr)
        rw [if_neg (fun h => hcr h.2.2), if_neg (fun h => absurd hai (not_lt.mpr h.1)), Int.cast_zero]
        exact ⟨by linarith only [hb1, ha2, hα], by linarith only [hb2, ha1, hα1, hπ]⟩
  · have ha1 := (phi_mem a).1
    have ha2 := phi_nonpos_of_im_nonpos hai
    rcases lt_or_ge 0 b.im with hbi | hbi
    · -- upward: the angle difference is in (0, 2π)
      obtain ⟨hb1, hb2⟩ := phi_pos_of_im_pos hbi
      rw [if_neg (fun h => absurd hbi (not_lt.mpr h.1))]
      by_cases hcr : a.re * b.im - a.im * b.re < 0
      · have hα := hneg hcr.le
        rw [if_pos ⟨hai, hbi, hcr⟩, Int.cast_neg, Int.cast_one]
        exact ⟨by linarith only [hb1, ha2, hα], by linarith only [hb2, ha1, hα1, hπ]⟩
      · have hα := hpos (not_lt.mp hcr)
        rw [if_neg (fun h => hcr h.2.2), Int.cast_zero]
        exact ⟨by linarith only [hb1, ha2, hα2, hπ], by linarith only [hb2, ha1, hα]⟩
    · -- both on or below the axis: no crossing, both angles in [-π, 0]
      have hb1 := (phi_mem b).1
      have hb2 := phi_nonpos_of_im_nonpos hbi
      rw [if_neg (fun h => absurd h.2.1 (not_lt.mpr hai)), if_neg (fun h => absurd h.2.1 (not_lt.mpr hbi)), Int.cast_zero]
      exact ⟨by linarith only [hb1, ha2, hα2], by linarith only [hb2, ha1, hα1]⟩

end Kurbo
