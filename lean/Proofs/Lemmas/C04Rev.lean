import Proofs.Lemmas.C04Struct
/-! Helper definitions and lemmas for C04 (structure; any `[Scalar K]`, core Lean only): `extend_reversed`, `lastEndPoint`. -/
set_option linter.unusedSectionVars false
namespace Kurbo
variable {K : Type} [Scalar K]

def c04_isDraw : PathEl K → Bool
  | .LineTo _ => true
  | .QuadTo _ _ => true
  | .CurveTo _ _ _ => true
  | _ => false

theorem c04_isDraw_of_isSeg {e : PathEl K} (h : c04_isSeg e = true) : c04_isDraw e = true := by
  cases e <;> first | rfl | cases h

/-- the element `el` drawn backwards, to the end point of its predecessor `prev`: control points in reverse order
    (`c04_revEl_lineTo`, `_quadTo`, `_curveTo`); `el` itself where `extend_reversed` panics (`prev` without an end point, `el`
    not a drawing element) -/
def c04_revEl (prev el : PathEl K) : PathEl K :=
  match prev.end_point with
  | some e =>
    match el with
    | .LineTo _ => .LineTo e
    | .QuadTo p1 _ => .QuadTo p1 e
    | .CurveTo p1 p2 _ => .CurveTo p2 p1 e
    | x => x
  | none => el

theorem c04_revEl_lineTo {prev : PathEl K} {e : Point K} (h : prev.end_point = some e) (q : Point K) :
    c04_revEl prev (.LineTo q) = .LineTo e := by
  unfold c04_revEl; rw [h]
theorem c04_revEl_quadTo {prev : PathEl K} {e : Point K} (h : prev.end_point = some e) (p1 q : Point K) :
    c04_revEl prev (.QuadTo p1 q) = .QuadTo p1 e := by
  unfold c04_revEl; rw [h]
theorem c04_revEl_curveTo {prev : PathEl K} {e : Point K} (h : prev.end_point = some e) (p1 p2 q : Point K) :
    c04_revEl prev (.CurveTo p1 p2 q) = .CurveTo p2 p1 e := by
  unfold c04_revEl; rw [h]

theorem c04_extendReversedGo_spec : ∀ l : List (PathEl K), (∀ e ∈ l, e.end_point.isSome = true) →
    (∀ e ∈ l.tail, c04_isDraw e = true) →
    extendReversedGo l = some ((List.zipWith c04_revEl l l.tail).reverse) := by
  intro l
  induction l with
  | nil => intro _ _; rfl
  | cons prev t ih =>
    cases t with
    | nil => intro _ _; rfl
    | cons el rest =>
      intro h1 h2
      have ih' := ih (fun e he => h1 e (List.mem_cons_of_mem _ he))
        (fun e he => h2 e (List.mem_cons_of_mem _ he))
      have hp := h1 prev List.mem_cons_self
      obtain ⟨pe, hpe⟩ := Option.isSome_iff_exists.1 hp
      have hel : c04_isDraw el = true := h2 el List.mem_cons_self
      rw [extendReversedGo, ih']
      simp only [hpe, List.tail_cons, List.zipWith_cons_cons, List.reverse_cons]
      cases el with
      | LineTo q => rw [c04_revEl_lineTo hpe]
      | QuadTo p1 q => rw [c04_revEl_quadTo hpe]
      | CurveTo p1 p2 q => rw [c04_revEl_curveTo hpe]
      | MoveTo _ => cases hel
      | ClosePath => cases hel

theorem c04_revEl_isSeg {prev el : PathEl K} (h : c04_isSeg el = true) : c04_isSeg (c04_revEl prev el) = true := by
  unfold c04_revEl
  cases prev.end_point with
  | none => exact h
  | some e => cases el <;> first | rfl | cases h

theorem c04_revEl_isLine {prev el : PathEl K} (h : c04_isLine el = true) : c04_isLine (c04_revEl prev el) = true := by
  unfold c04_revEl
  cases prev.end_point with
  | none => exact h
  | some e => cases el <;> first | rfl | cases h

theorem c04_PathOK_endpoints {l : List (PathEl K)} (hl : c04_PathOK l) : ∀ e ∈ l, e.end_point.isSome = true := by
  obtain ⟨p, t, rfl, ht⟩ := hl
  intro e he
  rcases List.mem_cons.1 he with h | h
  · subst h; rfl
  · have := ht e h
    cases e <;> first | rfl | cases this

theorem c04_PathOK_tail_draw {l : List (PathEl K)} (hl : c04_PathOK l) : ∀ e ∈ l.tail, c04_isDraw e = true := by
  obtain ⟨p, t, rfl, ht⟩ := hl
  intro e he
  exact c04_isDraw_of_isSeg (ht e he)

theorem c04_extendReversed_PathOK {l : List (PathEl K)} (hl : c04_PathOK l) :
    extendReversed l = some ((List.zipWith c04_revEl l l.tail).reverse) :=
  c04_extendReversedGo_spec l (c04_PathOK_endpoints hl) (c04_PathOK_tail_draw hl)

theorem c04_zipWith_revEl_forall {Q P : PathEl K → Prop} (hP : ∀ a b, Q a → P b → P (c04_revEl a b))
    (l t : List (PathEl K)) (hl : ∀ e ∈ l, Q e) (ht : ∀ e ∈ t, P e) : ∀ e ∈ (List.zipWith c04_revEl l t).reverse, P e := by
  intro e he
  rw [List.mem_reverse] at he
  induction l generalizing t with
  | nil => simp only [List.zipWith_nil_left, List.not_mem_nil] at he
  | cons a l ih =>
    cases t with
    | nil => simp only [List.zipWith_nil_right, List.not_mem_nil] at he
    | cons b t =>
      simp only [List.zipWith_cons_cons, List.mem_cons] at he
      rcases he with rfl | he
      · exact hP a b (hl a List.mem_cons_self) (ht b List.mem_cons_self)
      · exact ih t (fun x hx => hl x (List.mem_cons_of_mem _ hx)) (fun x hx => ht x (List.mem_cons_of_mem _ hx)) he

theorem c04_extendReversed_forall {Q P : PathEl K → Prop} (hP : ∀ a b, Q a → P b → P (c04_revEl a b))
    {l : List (PathEl K)} (hl : c04_PathOK l) (hq : ∀ e ∈ l, Q e) (h : ∀ e ∈ l.tail, P e) :
    ∃ rev, extendReversed l = some rev ∧ ∀ e ∈ rev, P e :=
  ⟨_, c04_extendReversed_PathOK hl, c04_zipWith_revEl_forall hP l l.tail hq h⟩

theorem c04_extendReversed_segs {l : List (PathEl K)} (hl : c04_PathOK l) :
    ∃ r, extendReversed l = some r ∧ c04_Segs r := by
  obtain ⟨p, t, rfl, ht⟩ := id hl
  exact c04_extendReversed_forall (Q := fun _ => True) (fun _ _ _ hb => c04_revEl_isSeg hb) hl (fun _ _ => trivial) ht

theorem c04_zipWith_revEl_lines : ∀ (pts : List (Point K)) (h : PathEl K) (p : Point K), h.end_point = some p →
    List.zipWith c04_revEl (h :: pts.map PathEl.LineTo) (pts.map PathEl.LineTo) = ((p :: pts).dropLast).map PathEl.LineTo := by
  intro pts
  induction pts with
  | nil => intro h p _; rfl
  | cons q qs ih =>
    intro h p hp
    simp only [List.map_cons, List.zipWith_cons_cons]
    rw [ih (.LineTo q) q rfl, c04_revEl_lineTo hp]
    rfl

theorem c04_lastEndPoint_PathOK {l : List (PathEl K)} (hl : c04_PathOK l) : ∃ q, lastEndPoint l = some q := by
  have hne := c04_PathOK_ne_nil hl
  have hmem := List.getLast_mem hne
  have := c04_PathOK_endpoints hl _ hmem
  obtain ⟨q, hq⟩ := Option.isSome_iff_exists.1 this
  refine ⟨q, ?_⟩
  unfold lastEndPoint
  rw [List.getLast?_eq_some_getLast hne]
  exact hq

theorem c04_lastEndPoint_snoc (l : List (PathEl K)) (e : PathEl K) : lastEndPoint (l ++ [e]) = e.end_point := by
  unfold lastEndPoint
  rw [List.getLast?_concat]

end Kurbo
