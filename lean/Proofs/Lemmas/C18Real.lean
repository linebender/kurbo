import Proofs.Lemmas.C18
import Proofs.Lemmas.CanonScalar
import Proofs.Lemmas.C04Field
import Mathlib.Analysis.SpecialFunctions.Sqrt
import Mathlib.Analysis.Calculus.Deriv.Pow
import Mathlib.Analysis.Calculus.Deriv.Inv
import Mathlib.Tactic.LinearCombination
/-! Helper lemmas for `Proofs/C18.lean`, real-analysis part of the offset curve: the laws of `Scalar.sqrt`/`Scalar.hypot`
    over ℝ (`C18RealLaws`) and a `Scalar ℝ` instance meeting them, the derivative of the length of the velocity. -/
namespace Kurbo
open Finset

/-- the irrational `Scalar` fields used by `offset.rs`, over ℝ -/
class C18RealLaws [Scalar ℝ] : Prop where
  sqrt_eq : ∀ x : ℝ, Scalar.sqrt x = Real.sqrt x
  hypot_eq : ∀ x y : ℝ, Scalar.hypot x y = Real.sqrt (x ^ 2 + y ^ 2)

/-- ℝ with the Mathlib functions as a `Scalar` (fields that no C18 statement mentions are filled arbitrarily) -/
@[instance_reducible] noncomputable def c18_realScalar : Scalar ℝ where
  add := (· + ·); sub := (· - ·); mul := (· * ·); div := (· / ·); neg := (- ·)
  abs x := |x|
  lt a b := decide (a < b); le a b := decide (a ≤ b); beq a b := decide (a = b)
  ofRat r := (r : ℝ)
  floor x := (⌊x⌋ : ℝ); ceil x := (⌈x⌉ : ℝ)
  round a := if a < 0 then (⌈a - 1/2⌉ : ℝ) else (⌊a + 1/2⌋ : ℝ)
  trunc a := if a < 0 then (⌈a⌉ : ℝ) else (⌊a⌋ : ℝ)
  sqrt := Real.sqrt
  cbrt _ := 0
  sin _ := 0
  cos _ := 0
  tan _ := 0
  acos _ := 0
  atan2 _ _ := 0
  powf _ _ := 0
  ln _ := 0
  log2 _ := 0
  fma a b c := a * b + c
  hypot x y := Real.sqrt (x ^ 2 + y ^ 2)
  copysign a b := if b < 0 then -|a| else |a|
  fin _ := true
  finQuot den _ := decide (den ≠ 0)
  isNan _ := false
  toUSize x := ⌊x⌋₊
  signum x := if x < 0 then -1 else 1
  min a b := min a b
  max a b := max a b
  fmod _ _ := 0
  pi := 0

theorem c18_realScalar_lawful : @LawfulScalar ℝ _ _ _ _ c18_realScalar :=
  canonScalar_lawful c18_realScalar

theorem c18_realScalar_laws : @C18RealLaws c18_realScalar :=
  letI := c18_realScalar
  { sqrt_eq := fun _ => rfl, hypot_eq := fun _ _ => rfl }

section structural
variable {K : Type} [Scalar K]
theorem c18_new_c (c : CubicBez K) (d : K) : (CubicOffset.new c d).c = c := rfl
theorem c18_new_q (c : CubicBez K) (d : K) : (CubicOffset.new c d).q = c.deriv := rfl
theorem c18_new_d (c : CubicBez K) (d : K) : (CubicOffset.new c d).d = d := rfl
end structural

end Kurbo

namespace Kurbo

theorem c18_point_ne_zero {p : Point ℝ} (h : p ≠ ⟨0, 0⟩) : p.x ≠ 0 ∨ p.y ≠ 0 := by
  by_contra hn
  rw [not_or, not_not, not_not] at hn
  exact h (Point.ext_iff.2 hn)

theorem c18_sqrt_pos {x y : ℝ} (h : x ≠ 0 ∨ y ≠ 0) : 0 < Real.sqrt (x ^ 2 + y ^ 2) :=
  normal_len_pos (Real.sqrt_nonneg _) (by rw [Real.mul_self_sqrt (by positivity)]; ring) h

theorem c18_hasDerivAt_hyp {X' Y' : ℝ → ℝ} {x2 y2 t : ℝ}
    (hX : HasDerivAt X' x2 t) (hY : HasDerivAt Y' y2 t) (hne : X' t ≠ 0 ∨ Y' t ≠ 0) :
    HasDerivAt (fun u => Real.sqrt (X' u ^ 2 + Y' u ^ 2))
      ((X' t * x2 + Y' t * y2) / Real.sqrt (X' t ^ 2 + Y' t ^ 2)) t := by
  have hq : HasDerivAt (fun u => X' u ^ 2 + Y' u ^ 2) (2 * (X' t * x2 + Y' t * y2)) t := by
    have := (hX.fun_pow 2).fun_add (hY.fun_pow 2)
    refine this.congr_deriv ?_
    norm_num; ring
  have hpos := c18_sqrt_pos hne
  have hq0 : X' t ^ 2 + Y' t ^ 2 ≠ 0 := fun h0 => by rw [h0, Real.sqrt_zero] at hpos; exact lt_irrefl _ hpos
  refine (hq.sqrt hq0).congr_deriv ?_
  field_simp

/-- the derivative of `N·d/√(X′² + Y′²)`; the offset vector has `N = −Y′` and `N = X′` -/
theorem c18_hasDerivAt_div_hyp {N X' Y' : ℝ → ℝ} {n x2 y2 t : ℝ} (d : ℝ) (hN : HasDerivAt N n t)
    (hX : HasDerivAt X' x2 t) (hY : HasDerivAt Y' y2 t) (hne : X' t ≠ 0 ∨ Y' t ≠ 0) :
    HasDerivAt (fun u => N u * d * (1 / Real.sqrt (X' u ^ 2 + Y' u ^ 2)))
      (d * (n * (X' t ^ 2 + Y' t ^ 2) - N t * (X' t * x2 + Y' t * y2)) / Real.sqrt (X' t ^ 2 + Y' t ^ 2) ^ 3) t := by
  have hpos := c18_sqrt_pos hne
  have hss : Real.sqrt (X' t ^ 2 + Y' t ^ 2) ^ 2 = X' t ^ 2 + Y' t ^ 2 := Real.sq_sqrt (by positivity)
  have h := (hN.mul_const d).fun_div (c18_hasDerivAt_hyp hX hY hne) hpos.ne'
  simp only [mul_one_div]
  refine h.congr_deriv ?_
  set s := Real.sqrt (X' t ^ 2 + Y' t ^ 2)
  have hs0 : s ≠ 0 := hpos.ne'
  field_simp
  linear_combination (n * d) * hss

section real
variable [Scalar ℝ] [LawfulScalar ℝ] [C18RealLaws]

theorem c18_eval_offset_eq (c : CubicBez ℝ) (d t : ℝ) :
    (CubicOffset.new c d).eval_offset t
      = ⟨-(c.deriv.eval t).y * d * (1 / Real.sqrt ((c.deriv.eval t).x ^ 2 + (c.deriv.eval t).y ^ 2)),
         (c.deriv.eval t).x * d * (1 / Real.sqrt ((c.deriv.eval t).x ^ 2 + (c.deriv.eval t).y ^ 2))⟩ := by
  simp only [CubicOffset.eval_offset, c18_new_q, c18_new_d, Vec2.hypot, C18RealLaws.hypot_eq,
    vec2_div, vec2_mul, Vec2.new, Point.to_vec2, scalar_norm]

/-- the offset point where the source velocity is `3·(a, b)`, as at the two ends (no hypothesis: for `a = b = 0` both
    sides are the source point) -/
theorem c18_offset_eval_of_deriv (c : CubicBez ℝ) (d t a b : ℝ) (h : c.deriv.eval t = ⟨3 * a, 3 * b⟩) :
    (CubicOffset.new c d).eval t
      = ⟨(c.eval t).x + d * (-b / Real.sqrt (a ^ 2 + b ^ 2)), (c.eval t).y + d * (a / Real.sqrt (a ^ 2 + b ^ 2))⟩ := by
  simp only [CubicOffset.eval, c18_new_c, c18_eval_offset_eq, h, sqrt_sq_add_sq_scale (k := 3) (by norm_num), point_add_vec, scalar_norm,
    Point.mk.injEq]
  constructor <;> ring

end real

end Kurbo
