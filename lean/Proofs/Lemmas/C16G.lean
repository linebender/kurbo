import Proofs.C16A
import Proofs.Lemmas.C10Real
import Proofs.Lemmas.C16BCanon
/-! C16G: what the arc branch of `svgCommand` appends (`arcCommandEls`), glued from the closed form of
    `Arc.append_iter` (C10: `append_iter_eq`, `appendParams_eq`) and the geometry of `Arc.from_svg_arc` (C16A); the piece
    count for radii up to 366. -/
set_option linter.unusedSectionVars false
namespace Kurbo

section generic
variable {K : Type} [Scalar K]

/-- the elements the arc branch of `svgCommand` appends for the command data `arc`
    (`from` = current point, `to` = the stated end point): the `added` of `Kurbo/Svg.lean` -/
def arcCommandEls (arc : SvgArc K) : List (PathEl K) :=
  match Arc.from_svg_arc arc with
  | some a => arcToCubics a
  | none => [.LineTo arc.to]

/-- `arcElements` (the name `cmd_arc` of C16 uses) is `arcCommandEls` of the `SvgArc` the parser builds -/
theorem arcElements_eq_cmd (f t radii : Point K) (xrot : K) (la sw : Bool) :
    arcElements f t radii xrot la sw = arcCommandEls ⟨f, t, radii.to_vec2, toRadians xrot, la, sw⟩ := rfl

theorem arcCommandEls_straight (arc : SvgArc K) (h : arc.is_straight_line = true) :
    arcCommandEls arc = [.LineTo arc.to] := by
  unfold arcCommandEls; rw [from_svg_arc_stages, if_pos h]

theorem arcCommandEls_some (arc : SvgArc K) (a : Arc K) (ha : Arc.from_svg_arc arc = some a) :
    arcCommandEls arc = a.append_iter (Scalar.ofRat (1/10) : K) := by
  unfold arcCommandEls; rw [ha]; rfl

theorem NumChunk.Ok.digit_blank {d c : UInt8} (hd : isDigit d = true) (hc : (isWs c || c == 44) = false)
    (r : List UInt8) : ({ p := { ip := [d] }, sep := [32] } : NumChunk).Ok (c :: r) :=
  c16b_canonChunk_ok (p := { ip := [d] })
    ⟨.inl rfl, fun _ h => List.mem_singleton.mp h ▸ hd, nofun, fun _ => rfl, Nat.one_pos, nofun⟩ (StopsAt.cons hc)

theorem FlagChunk.Ok.blank {f c : UInt8} (hf : f = 48 ∨ f = 49) (hc : (isWs c || c == 44) = false) (r : List UInt8) :
    ({ flag := f, sep := [32] } : FlagChunk).Ok (c :: r) :=
  ⟨nofun, hf, SepOk.ws (fun _ h => List.mem_singleton.mp h ▸ rfl) (fun _ _ h => (List.cons.inj h).1 ▸ hc)⟩

end generic

section count
variable [Scalar ℝ] [LawfulScalar ℝ] [LawfulTrig] [LawfulCount]

theorem arcTol_real : (Scalar.ofRat (1/10) : ℝ) = 1/10 := by
  simp only [scalar_norm]; push_cast; rfl

/-- number of cubics an arc command with arc `a` produces (tolerance `0.1`) -/
noncomputable def Arc.cmdN (a : Arc ℝ) : ℕ := (a.appendParams (1/10)).1
noncomputable def Arc.cmdAngle (a : Arc ℝ) (k : ℕ) : ℝ := a.start_angle + k * (a.sweep_angle / (a.cmdN : ℝ))
noncomputable def Arc.cmdPt (a : Arc ℝ) (k : ℕ) : Point ℝ :=
  a.center + sampleEllipse a.radii a.x_rotation (a.cmdAngle k)
/-- control points of piece `k` (C10: `arc_piece_p1`, `arc_piece_p2`, `arc_arms_tangent`) -/
noncomputable def Arc.cmdC1 (a : Arc ℝ) (k : ℕ) : Point ℝ :=
  arcC1 a.center a.radii a.x_rotation (a.appendParams (1/10)).2.1 (a.appendParams (1/10)).2.2 a.start_angle k
noncomputable def Arc.cmdC2 (a : Arc ℝ) (k : ℕ) : Point ℝ :=
  arcC2 a.center a.radii a.x_rotation (a.appendParams (1/10)).2.1 (a.appendParams (1/10)).2.2 a.start_angle k

theorem arcPt_cmd (a : Arc ℝ) (k : ℕ) :
    arcPt a.center a.radii a.x_rotation (a.appendParams (1/10)).2.2 a.start_angle k = a.cmdPt k := by
  rw [arcPt, accAngle_eq, appendParams_step a (1/10)]; rfl

theorem cmdAngle_zero (a : Arc ℝ) : a.cmdAngle 0 = a.start_angle := by simp [Arc.cmdAngle]

theorem cmdAngle_last (a : Arc ℝ) : a.cmdAngle a.cmdN = a.start_angle + a.sweep_angle := by
  have := arc_accAngle_total a (1/10)
  rw [accAngle_eq, appendParams_step a (1/10)] at this
  exact this

theorem cmdAngle_succ_sub (a : Arc ℝ) (k : ℕ) : a.cmdAngle (k + 1) - a.cmdAngle k = a.sweep_angle / (a.cmdN : ℝ) := by
  simp only [Arc.cmdAngle]; push_cast; ring

theorem arcToCubics_eq (a : Arc ℝ) :
    arcToCubics a = curveEls a.cmdC1 a.cmdC2 (fun k => a.cmdPt (k + 1)) a.cmdN := by
  unfold arcToCubics
  rw [arcTol_real, append_iter_eq]
  apply curveEls_congr
  intro k _
  exact ⟨rfl, rfl, arcPt_cmd a (k + 1)⟩

theorem arcCommandEls_eq_curveEls {arc : SvgArc ℝ} {a : Arc ℝ} (ha : Arc.from_svg_arc arc = some a) :
    arcCommandEls arc = curveEls a.cmdC1 a.cmdC2 (fun k => a.cmdPt (k + 1)) a.cmdN := by
  unfold arcCommandEls; rw [ha]; exact arcToCubics_eq a

theorem chainStart_cmd (a : Arc ℝ) (k : ℕ) : chainStart (a.cmdPt 0) (fun k => a.cmdPt (k + 1)) k = a.cmdPt k :=
  chainStart_knots a.cmdPt k

theorem cmdN_eq_zero (a : Arc ℝ) (h : a.cmdN = 0) : a.sweep_angle = 0 := appendParams_eq_zero a (1/10) h

theorem cmd_step_le (a : Arc ℝ) (hn : a.cmdN ≠ 0) :
    |a.sweep_angle / (a.cmdN : ℝ)| ≤ 2 * Real.pi / (3999999 / 1000000) := by
  have hn' : (0 : ℝ) < (a.cmdN : ℝ) := Nat.cast_pos.mpr (Nat.pos_of_ne_zero hn)
  rw [abs_div, abs_of_pos hn', div_le_div_iff₀ hn' (by norm_num)]
  exact (mul_comm _ _).trans_le (appendParams_sweep_le a (1/10))

/-! ### the piece count for radii up to 366

    There the error-based count `(1.1163·max(rx, ry)/0.1)^(1/6)` is below the minimum `3.999999`, so
    `n = ⌈3.999999·|sweep|/(2π)⌉`. -/
section small
open LawfulTrig LawfulCount

theorem rpow_sixth_le {x : ℝ} (h0 : 0 ≤ x) (hx : x ≤ 4095) : x ^ ((1:ℝ)/6) ≤ 3999999 / 1000000 := by
  have hc : (0:ℝ) ≤ 3999999 / 1000000 := by norm_num
  have h1 : x ≤ ((3999999 / 1000000 : ℝ)) ^ (6 : ℕ) := by
    refine hx.trans ?_; norm_num
  have h2 := Real.rpow_le_rpow h0 h1 (by norm_num : (0:ℝ) ≤ 1 / 6)
  have h3 : (((3999999 / 1000000 : ℝ)) ^ (6 : ℕ)) ^ ((1:ℝ)/6) = 3999999 / 1000000 := by
    have := Real.pow_rpow_inv_natCast hc (n := 6) (by norm_num)
    rw [show ((6:ℕ):ℝ)⁻¹ = (1:ℝ)/6 by norm_num] at this
    exact this
  rw [h3] at h2; exact h2

theorem cmdN_small (a : Arc ℝ) (h0 : 0 ≤ max a.radii.x a.radii.y) (hr : max a.radii.x a.radii.y ≤ 366) :
    (a.cmdN : ℝ) = (⌈3999999 / 1000000 * |a.sweep_angle| * (1 / (2 * Real.pi))⌉ : ℝ) := by
  have hx : (11163 / 10000 * (max a.radii.x a.radii.y / (1 / 10)) : ℝ) ^ ((1:ℝ)/6) ≤ 3999999 / 1000000 := by
    apply rpow_sixth_le (mul_nonneg (by norm_num) (div_nonneg h0 (by norm_num)))
    rw [div_div_eq_mul_div, div_one]
    calc (11163 / 10000 * (max a.radii.x a.radii.y * 10) : ℝ)
        ≤ 11163 / 10000 * (366 * 10) :=
          mul_le_mul_of_nonneg_left (mul_le_mul_of_nonneg_right hr (by norm_num)) (by norm_num)
      _ ≤ 4095 := by norm_num
  rw [Arc.cmdN, (appendParams_eq a (1 / 10)).1, max_eq_right hx]

theorem cmdN_le_four (a : Arc ℝ) (h0 : 0 ≤ max a.radii.x a.radii.y) (hr : max a.radii.x a.radii.y ≤ 366)
    (hs : |a.sweep_angle| < 2 * Real.pi) : a.cmdN ≤ 4 := by
  have h4 : 3999999 / 1000000 * |a.sweep_angle| * (1 / (2 * Real.pi)) ≤ ((4 : ℤ) : ℝ) := by
    rw [mul_assoc, mul_one_div]
    exact (mul_le_mul_of_nonneg_left ((div_lt_one Real.two_pi_pos).mpr hs).le (by norm_num)).trans (by norm_num)
  have h := cmdN_small a h0 hr
  rw [← Int.cast_natCast, Int.cast_inj] at h
  exact Int.ofNat_le.mp (h ▸ Int.ceil_le.mpr h4)

theorem cmdN_half_turn (a : Arc ℝ) (h0 : 0 ≤ max a.radii.x a.radii.y) (hr : max a.radii.x a.radii.y ≤ 366)
    (hs : |a.sweep_angle| = Real.pi) : a.cmdN = 2 := by
  have h := cmdN_small a h0 hr
  have e : (3999999 / 1000000 * Real.pi * (1 / (2 * Real.pi)) : ℝ) = 3999999 / 2000000 := by
    field_simp [Real.pi_pos.ne']; norm_num
  have hc : ⌈(3999999 / 2000000 : ℝ)⌉ = 2 := by
    rw [Int.ceil_eq_iff]; constructor <;> norm_num
  rw [hs, e, hc] at h
  exact_mod_cast h

end small

end count

section glue
variable [Scalar ℝ] [LawfulScalar ℝ] [LawfulReal] [LawfulRealAngle] [LawfulTrig] [LawfulCount]
open Real SvgArcR

theorem svg_arc_exists (arc : SvgArc ℝ) (h : arc.is_straight_line = false) :
    ∃ a, Arc.from_svg_arc arc = some a ∧ a.cmdPt 0 = arc.from ∧ a.cmdPt a.cmdN = arc.to ∧ a.sweep_angle ≠ 0 ∧
      1 ≤ a.cmdN ∧ 0 < a.radii.x ∧ 0 < a.radii.y ∧ a.x_rotation = arc.x_rotation := by
  have ha := from_svg_arc_real arc h
  have hsw : ∀ a, Arc.from_svg_arc arc = some a → a.sweep_angle ≠ 0 := by
    intro a ha
    obtain ⟨h1, h2⟩ := svg_arc_sweep_direction arc a h ha
    cases hs : arc.sweep
    · exact (h2 hs).2.ne
    · exact (h1 hs).1.ne'
  refine ⟨_, ha, ?_, ?_, hsw _ ha, ?_, ?_, ?_, rfl⟩
  · rw [Arc.cmdPt, cmdAngle_zero]; exact svg_arc_start_point arc _ h ha
  · rw [Arc.cmdPt, cmdAngle_last]; exact svg_arc_end_point arc _ h ha
  · rw [Nat.one_le_iff_ne_zero]
    intro h0
    exact hsw _ ha (cmdN_eq_zero _ h0)
  · exact (svg_fits arc h).rx_pos
  · exact (svg_fits arc h).ry_pos

end glue
end Kurbo
