import Proofs.Lemmas.C16BExamples
/-! C16B: the hypotheses of `parse_render` on the example list `c16b_exCmds`, decided once for the examples of `Proofs/C16B.lean`. -/
namespace Kurbo

theorem c16b_exCmds_hyps : c16b_startsWithMove c16b_exCmds ∧
    (∀ c ∈ c16b_exCmds, ∀ x ∈ c.scalars, (c16b_exSpell x).Valid ∧ tokValue (parseTok (c16b_exSpell x).bytes) = x) ∧
    (⟨(c16b_render c16b_exSpell c16b_exCmds).toArray⟩ : ByteArray) =
      "M1 2 L3 4 c1 0 2 -1 3 0 S8 1 9 0 h-2 Zt1 1 Q1 2 3 4 T5 4 V7 z".toUTF8 :=
  ⟨by decide, by decide +kernel, by decide +kernel⟩

end Kurbo
