import Proofs.Lemmas.C08List
import Proofs.Lemmas.KernelEqs
import Mathlib.Tactic.LinearCombination
/-! C08 helpers: what `QuadBez.extrema`, `cubicOneCoord` and `CubicBez.extrema` contain.
    `QuadSolverSpec` is the specification of `solveQuadratic` that the cubic statements assume (over ℝ a theorem,
    `quadSolverSpec_real` in `Lemmas/Discharge.lean`, from C15). -/
set_option linter.unusedSectionVars false
namespace Kurbo
variable {K : Type} [Field K] [LinearOrder K] [IsStrictOrderedRing K] [FloorRing K] [Scalar K] [LawfulScalar K]

/-- the root of `d0 + t·dd` if it exists and lies in the open unit interval -/
def unitRoot (d0 dd : K) : List K := if dd ≠ 0 ∧ 0 < -d0 / dd ∧ -d0 / dd < 1 then [-d0 / dd] else []

/-- the "push, then swap" merge of `QuadBez::extrema` -/
def quadMerge (rx ry : List K) : List K :=
  match ry with
  | [] => rx
  | ty :: _ =>
    match rx with
    | [t0] => if ty < t0 then [ty, t0] else [t0, ty]
    | _ => rx ++ [ty]

theorem mem_unitRoot (d0 dd t : K) : t ∈ unitRoot d0 dd ↔ dd ≠ 0 ∧ 0 < t ∧ t < 1 ∧ t = -d0 / dd := by
  unfold unitRoot
  split_ifs with h
  · simp only [List.mem_singleton]
    constructor
    · rintro rfl; exact ⟨h.1, h.2.1, h.2.2, rfl⟩
    · exact fun h => h.2.2.2
  · simp only [List.not_mem_nil, false_iff]
    rintro ⟨h1, h2, h3, rfl⟩
    exact h ⟨h1, h2, h3⟩

theorem unitRoot_cases (d0 dd : K) : unitRoot d0 dd = [] ∨ unitRoot d0 dd = [-d0 / dd] := by
  unfold unitRoot; split_ifs <;> simp

theorem quadMerge_cases (rx ry : List K) (hx : rx = [] ∨ ∃ a, rx = [a]) (hy : ry = [] ∨ ∃ b, ry = [b]) :
    (∀ t, t ∈ quadMerge rx ry ↔ t ∈ rx ∨ t ∈ ry) ∧ (quadMerge rx ry).Pairwise (· ≤ ·) ∧
      (quadMerge rx ry).length ≤ 2 := by
  rcases hx with rfl | ⟨a, rfl⟩ <;> rcases hy with rfl | ⟨b, rfl⟩
  · simp [quadMerge]
  · simp [quadMerge]
  · simp [quadMerge]
  · simp only [quadMerge]
    split_ifs with h
    · refine ⟨fun t => by simp [or_comm], ?_, by simp⟩
      simp [h.le]
    · refine ⟨fun t => by simp, ?_, by simp⟩
      simp [not_lt.mp h]

/-- the nested form in which `QuadBez::extrema` computes it -/
theorem unitRoot_eq_ite (d0 dd : K) :
    unitRoot d0 dd = if ¬dd = 0 then (if 0 < -d0 / dd ∧ -d0 / dd < 1 then [-d0 / dd] else []) else [] := by
  by_cases h : dd = 0 <;> simp [unitRoot, h]

theorem quad_extrema_eq (q : QuadBez K) :
    q.extrema = quadMerge (unitRoot (q.p1.x - q.p0.x) (q.p2.x - q.p1.x - (q.p1.x - q.p0.x)))
      (unitRoot (q.p1.y - q.p0.y) (q.p2.y - q.p1.y - (q.p1.y - q.p0.y))) := by
  unfold QuadBez.extrema
  -- each coordinate's list `r1` / `[t]` is `unitRoot` in its nested-`if` form (`unitRoot_eq_ite`); what the model then does
  -- with the two lists ("push, then swap if out of order") is `quadMerge`, case by case
  simp only [kdefs, scalar_norm, sne]
  push_cast
  simp only [decide_eq_true_eq, Bool.and_eq_true, Bool.not_eq_true', decide_eq_false_iff_not, ← unitRoot_eq_ite]
  generalize unitRoot (q.p1.x - q.p0.x) _ = rx
  rw [unitRoot_eq_ite (q.p1.y - q.p0.y)]
  split_ifs <;> rfl

theorem quad_extrema_facts (q : QuadBez K) :
    (∀ t, t ∈ q.extrema ↔ t ∈ unitRoot (q.p1.x - q.p0.x) (q.p2.x - q.p1.x - (q.p1.x - q.p0.x)) ∨
        t ∈ unitRoot (q.p1.y - q.p0.y) (q.p2.y - q.p1.y - (q.p1.y - q.p0.y))) ∧
    q.extrema.Pairwise (· ≤ ·) ∧ q.extrema.length ≤ 2 := by
  rw [quad_extrema_eq]
  apply quadMerge_cases
  · rcases unitRoot_cases (q.p1.x - q.p0.x) (q.p2.x - q.p1.x - (q.p1.x - q.p0.x)) with h | h
    · exact Or.inl h
    · exact Or.inr ⟨_, h⟩
  · rcases unitRoot_cases (q.p1.y - q.p0.y) (q.p2.y - q.p1.y - (q.p1.y - q.p0.y)) with h | h
    · exact Or.inl h
    · exact Or.inr ⟨_, h⟩

theorem mem_quad_extrema (q : QuadBez K) (t : K) :
    t ∈ q.extrema ↔ t ∈ unitRoot (q.p1.x - q.p0.x) (q.p2.x - q.p1.x - (q.p1.x - q.p0.x)) ∨
      t ∈ unitRoot (q.p1.y - q.p0.y) (q.p2.y - q.p1.y - (q.p1.y - q.p0.y)) :=
  (quad_extrema_facts q).1 t

theorem quad_extrema_sorted (q : QuadBez K) : q.extrema.Pairwise (· ≤ ·) := (quad_extrema_facts q).2.1

theorem quad_extrema_length_le (q : QuadBez K) : q.extrema.length ≤ 2 := (quad_extrema_facts q).2.2

theorem quad_deriv_eval (q : QuadBez K) (t : K) :
    (q.deriv.eval t).x = 2 * ((q.p1.x - q.p0.x) + t * (q.p2.x - q.p1.x - (q.p1.x - q.p0.x))) ∧
    (q.deriv.eval t).y = 2 * ((q.p1.y - q.p0.y) + t * (q.p2.y - q.p1.y - (q.p1.y - q.p0.y))) := by
  rw [(QuadBez.deriv_eval_xy q t).1, (QuadBez.deriv_eval_xy q t).2]
  exact ⟨by ring, by ring⟩

theorem affine_root_iff (d0 dd t : K) (h : dd ≠ 0) : d0 + t * dd = 0 ↔ t = -d0 / dd := by
  rw [eq_div_iff h]
  constructor <;> intro e <;> linear_combination e

/-- what `CubicBez.extrema` needs to know about `solveQuadratic` (root set in the quadratic case, the exact
    value in the degenerate cases, at most two roots, increasing order). -/
structure QuadSolverSpec (K : Type) [Field K] [LinearOrder K] [IsStrictOrderedRing K] [FloorRing K] [Scalar K] : Prop where
  quad : ∀ c0 c1 c2 : K, c2 ≠ 0 → ∀ x, x ∈ solveQuadratic c0 c1 c2 ↔ c0 + c1 * x + c2 * x ^ 2 = 0
  linear : ∀ c0 c1 : K, c1 ≠ 0 → solveQuadratic c0 c1 0 = [-c0 / c1]
  zero : solveQuadratic (0 : K) 0 0 = [0]
  const : ∀ c0 : K, c0 ≠ 0 → solveQuadratic c0 0 0 = []
  length_le : ∀ c0 c1 c2 : K, (solveQuadratic c0 c1 c2).length ≤ 2
  sorted : ∀ c0 c1 c2 : K, (solveQuadratic c0 c1 c2).Pairwise (· ≤ ·)

theorem QuadSolverSpec.mem_iff (S : QuadSolverSpec K) {c0 c1 c2 : K} (h : ¬ (c0 = 0 ∧ c1 = 0 ∧ c2 = 0)) (x : K) :
    x ∈ solveQuadratic c0 c1 c2 ↔ c0 + c1 * x + c2 * x ^ 2 = 0 := by
  by_cases h2 : c2 = 0
  · subst h2
    by_cases h1 : c1 = 0
    · subst h1
      have h0 : c0 ≠ 0 := fun h0 => h ⟨h0, rfl, rfl⟩
      rw [S.const c0 h0, zero_mul, zero_mul, add_zero, add_zero]
      exact iff_of_false List.not_mem_nil h0
    · rw [S.linear c0 c1 h1, List.mem_singleton, eq_div_iff h1, zero_mul, add_zero]
      constructor <;> intro e <;> linear_combination e
  · exact S.quad c0 c1 c2 h2 x

theorem cubicOneCoord_eq (d0 d1 d2 : K) :
    cubicOneCoord d0 d1 d2 =
      (solveQuadratic d0 (2 * (d1 - d0)) (d0 - 2 * d1 + d2)).filter fun t => decide (0 < t) && decide (t < 1) := by
  unfold cubicOneCoord
  simp only [scalar_norm]
  push_cast
  rfl

theorem cubicOneCoord_unit (d0 d1 d2 t : K) (h : t ∈ cubicOneCoord d0 d1 d2) : 0 < t ∧ t < 1 := by
  rw [cubicOneCoord_eq, List.mem_filter] at h
  simpa using h.2

theorem cubicOneCoord_length (S : QuadSolverSpec K) (d0 d1 d2 : K) : (cubicOneCoord d0 d1 d2).length ≤ 2 := by
  rw [cubicOneCoord_eq]
  exact (List.length_filter_le _ _).trans (S.length_le _ _ _)

/-- the solver's `[0]` for the zero polynomial is filtered out by `0 < t` -/
theorem cubicOneCoord_nonzero (S : QuadSolverSpec K) (d0 d1 d2 t : K) (h : t ∈ cubicOneCoord d0 d1 d2) :
    ¬ (d0 = 0 ∧ 2 * (d1 - d0) = 0 ∧ d0 - 2 * d1 + d2 = 0) := by
  rintro ⟨hc, hb, ha⟩
  have hu := cubicOneCoord_unit d0 d1 d2 t h
  rw [cubicOneCoord_eq, ha, hb, hc, S.zero, List.mem_filter, List.mem_singleton] at h
  rw [h.1] at hu
  exact lt_irrefl _ hu.1

theorem cubicOneCoord_mem_iff (S : QuadSolverSpec K) (d0 d1 d2 t : K)
    (hnz : ¬ (d0 = 0 ∧ 2 * (d1 - d0) = 0 ∧ d0 - 2 * d1 + d2 = 0)) :
    t ∈ cubicOneCoord d0 d1 d2 ↔ (0 < t ∧ t < 1) ∧ d0 + 2 * (d1 - d0) * t + (d0 - 2 * d1 + d2) * t ^ 2 = 0 := by
  rw [cubicOneCoord_eq, List.mem_filter, S.mem_iff hnz, Bool.and_eq_true, decide_eq_true_eq, decide_eq_true_eq, and_comm]

theorem quadpoly_zero (c0 c1 c2 : K) (h : ∀ u : K, c0 + c1 * u + c2 * u ^ 2 = 0) : c0 = 0 ∧ c1 = 0 ∧ c2 = 0 := by
  have a0 := h 0
  have a1 := h 1
  have a2 := h (1 / 2)
  refine ⟨?_, ?_, ?_⟩
  · linear_combination a0
  · linear_combination -a1 - 3 * a0 + 4 * a2
  · linear_combination 2 * a1 + 2 * a0 - 4 * a2

/-- the velocity of a cubic is the quadratic whose coefficients `one_coord` passes to the solver (times 3) -/
theorem cubic_deriv_eval (c : CubicBez K) (t : K) :
    (c.deriv.eval t).x = 3 * ((c.p1.x - c.p0.x) + 2 * ((c.p2.x - c.p1.x) - (c.p1.x - c.p0.x)) * t
      + ((c.p1.x - c.p0.x) - 2 * (c.p2.x - c.p1.x) + (c.p3.x - c.p2.x)) * t ^ 2) ∧
    (c.deriv.eval t).y = 3 * ((c.p1.y - c.p0.y) + 2 * ((c.p2.y - c.p1.y) - (c.p1.y - c.p0.y)) * t
      + ((c.p1.y - c.p0.y) - 2 * (c.p2.y - c.p1.y) + (c.p3.y - c.p2.y)) * t ^ 2) := by
  rw [(CubicBez.deriv_eval_xy c t).1, (CubicBez.deriv_eval_xy c t).2]
  exact ⟨by ring, by ring⟩

theorem cubic_extrema_eq (c : CubicBez K) :
    c.extrema = sortList (cubicOneCoord (c.p1.x - c.p0.x) (c.p2.x - c.p1.x) (c.p3.x - c.p2.x) ++
      cubicOneCoord (c.p1.y - c.p0.y) (c.p2.y - c.p1.y) (c.p3.y - c.p2.y)) := by
  unfold CubicBez.extrema
  simp only [kdefs, scalar_norm]

theorem mem_cubic_extrema (c : CubicBez K) (t : K) :
    t ∈ c.extrema ↔ t ∈ cubicOneCoord (c.p1.x - c.p0.x) (c.p2.x - c.p1.x) (c.p3.x - c.p2.x) ∨
      t ∈ cubicOneCoord (c.p1.y - c.p0.y) (c.p2.y - c.p1.y) (c.p3.y - c.p2.y) := by
  rw [cubic_extrema_eq, mem_sortList, List.mem_append]

end Kurbo
