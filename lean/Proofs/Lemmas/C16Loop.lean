import Proofs.Lemmas.C16Args
/-! Helper lemmas for C16/C14: the parse loop never runs out of fuel. -/
namespace Kurbo
variable {K : Type} [Scalar K]

/-- the loop invariant on the parser state: the remembered command is never `z`/`Z` (`z` does not update `last_cmd`), so an
    implicitly repeated command always starts with a `getNumber` -/
def SvgSt.Inv (st : SvgSt K) : Prop := lowerCmd st.last_cmd ≠ 122

theorem svgCommand_inv {c : UInt8} {st st' : SvgSt K} {l l' : Lx} (h : svgCommand c st l = .ok st' l')
    (hinv : st.Inv) : st'.Inv := by
  unfold SvgSt.Inv at *
  rw [(svgCommand_post h).last_cmd]
  by_cases hz : lowerCmd c = 122
  · rw [if_pos hz]; exact hinv
  rw [if_neg hz]
  by_cases hm : lowerCmd c = 109
  · rw [if_pos hm]
    rcases lowerCmd_eq_109 hm with rfl | rfl <;> decide
  · rw [if_neg hm]; exact hz

theorem svgLoop_progress {st st' : SvgSt K} {l l1 l2 : Lx} {c : UInt8} (hinv : st.Inv)
    (hg : getCmd st.last_cmd l = some (some c, l1)) (hs : svgCommand c st l1 = .ok st' l2) : st'.Inv ∧ l.Lt l2 := by
  refine ⟨svgCommand_inv hs hinv, ?_⟩
  have hp := svgCommand_post hs
  rcases getCmd_cases st.last_cmd l with ⟨l', h, _⟩ | ⟨c', l1', h, hc, hlt⟩ | ⟨c', l1', h, hne, hg', hc⟩
  · rw [hg] at h; cases h
  · rw [hg] at h; cases h
    exact hlt.trans_le hp.le
  · rw [hg] at h; cases h
    exact (skipWs_le l).trans_lt (hp.lt hinv)

theorem svgLoop_step (st : SvgSt K) (l : Lx) (hinv : st.Inv) :
    (∃ l', getCmd st.last_cmd l = some (none, l')) ∨
    (∃ c l1, getCmd st.last_cmd l = some (some c, l1) ∧
      ((∃ e, svgCommand c st l1 = .err e) ∨
       (∃ st' l2, svgCommand c st l1 = .ok st' l2 ∧ st'.Inv ∧ l.Lt l2))) := by
  cases hg : getCmd st.last_cmd l with
  | none => exact absurd hg (getCmd_ne_panic _ _)
  | some r =>
    obtain ⟨_ | c, l1⟩ := r
    · exact .inl ⟨l1, rfl⟩
    · refine .inr ⟨c, l1, rfl, ?_⟩
      cases hs : svgCommand c st l1 with
      | panic => exact (svgCommand_post hs).elim
      | err e => exact .inl ⟨e, rfl⟩
      | ok st' l2 => exact .inr ⟨st', l2, rfl, svgLoop_progress hinv hg hs⟩

theorem svgLoop_ne_panic (fuel : Nat) (st : SvgSt K) (l : Lx) (hwf : l.WF) (hinv : st.Inv)
    (hf : l.data.size - l.ix < fuel) : svgLoop fuel st l ≠ .panic := by
  induction fuel generalizing st l with
  | zero => omega
  | succ fuel ih =>
    unfold svgLoop
    rcases svgLoop_step st l hinv with ⟨l', h⟩ | ⟨c, l1, h, ⟨e, hs⟩ | ⟨st', l2, hs, hinv', hlt⟩⟩
    · rw [h]; simp
    · rw [h]; simp only [hs]; simp
    · rw [h]; simp only [hs]
      have hwf' := hlt.wf hwf
      unfold Lx.WF at hwf hwf'
      have := hlt.ix; have := hlt.data
      exact ih st' l2 hwf' hinv' (by rw [hlt.data] at hwf' ⊢; omega)

theorem svgLoop_fuel_irrel (f1 f2 : Nat) (st : SvgSt K) (l : Lx) (hwf : l.WF) (hinv : st.Inv)
    (h1 : l.data.size - l.ix < f1) (h2 : l.data.size - l.ix < f2) : svgLoop f1 st l = svgLoop f2 st l := by
  induction f1 generalizing f2 st l with
  | zero => omega
  | succ f1 ih =>
    cases f2 with
    | zero => omega
    | succ f2 =>
      unfold svgLoop
      rcases svgLoop_step st l hinv with ⟨l', h⟩ | ⟨c, l1, h, ⟨e, hs⟩ | ⟨st', l2, hs, hinv', hlt⟩⟩
      · rw [h]
      · rw [h]; simp only [hs]
      · rw [h]; simp only [hs]
        have hwf' := hlt.wf hwf
        unfold Lx.WF at hwf hwf'
        have := hlt.ix
        exact ih f2 st' l2 hwf' hinv' (by rw [hlt.data] at hwf' ⊢; omega) (by rw [hlt.data] at hwf' ⊢; omega)

theorem fromSvgBytes_ne_panic (data : ByteArray) : fromSvgBytes (K := K) data ≠ .panic := by
  unfold fromSvgBytes
  apply svgLoop_ne_panic
  · exact Nat.zero_le _
  · show lowerCmd 0 ≠ 122
    decide
  · simp

end Kurbo
