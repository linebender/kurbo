import Proofs.Lemmas.C01
import Proofs.Lemmas.Calc
import Mathlib.Order.Interval.Set.Basic
import Mathlib.Order.Monotone.Defs
import Mathlib.Topology.Order.IntermediateValue
import Mathlib.Topology.Algebra.Polynomial
import Mathlib.Tactic.FunProp
/-! C01 helpers for the branches of `winding_inner` after the row test.  The two curved branches share `curveTail_eq`:
    `firstInUnit` finds the unique root on a y-injective piece, and the x-extent early outs agree with the test at that root
    by the convex-hull bounds of the x-coordinate.  `windingInner_line_rule` puts the line branch in the same form, row sign ×
    "the point on the row is left of or at `p`". -/
set_option linter.unusedSectionVars false
namespace Kurbo
section curve
variable {K : Type} [Field K] [LinearOrder K] [IsStrictOrderedRing K] [FloorRing K] [Scalar K] [LawfulScalar K]

theorem windingInner_of_rowSign_zero (s : PathSeg K) (p : Point K) (h : rowSign s.start.y s.end.y p.y = 0) :
    s.winding_inner p = 0 := by
  unfold PathSeg.winding_inner
  simp only [sn_lt, sn_le, decide_eq_true_eq, Bool.or_eq_true]
  rw [rowTest_eq, if_pos h]

/-- the line branch in the form of the curved branches (`windingInner_quad_monotone`, `windingInner_cubic_monotone` in
    `Proofs/C01.lean`): the quotient in `kcr_eq_rowSign_mul` is the abscissa, relative to `p`, of the point `l.eval tS` at
    which the line meets the row -/
theorem windingInner_line_rule (l : Line K) (p : Point K) (tS : K) (hy : (l.eval tS).y = p.y) :
    PathSeg.winding_inner (.Line l) p = rowSign l.p0.y l.p1.y p.y * (if (l.eval tS).x ≤ p.x then 1 else 0) := by
  rw [windingInner_line_eq_kcr, kcr_eq_rowSign_mul, rowSign_sub_right]
  rcases eq_or_ne l.p0.y l.p1.y with h | h
  · rw [h, rowSign_self, zero_mul, zero_mul]
  · have hd : l.p1.y - p.y - (l.p0.y - p.y) ≠ 0 := by
      rw [sub_sub_sub_cancel_right]
      exact sub_ne_zero.mpr h.symm
    have hy' : l.p0.y + (l.p1.y - l.p0.y) * tS = p.y := (Line.eval_xy l tS).2 ▸ hy
    have key : ((l.p0.x - p.x) * (l.p1.y - p.y) - (l.p0.y - p.y) * (l.p1.x - p.x)) / (l.p1.y - p.y - (l.p0.y - p.y))
        = (l.eval tS).x - p.x := by
      rw [div_eq_iff hd, (Line.eval_xy l tS).1, ← hy']
      ring
    simp only [key, sub_nonpos]

theorem firstInUnit_eq_some {roots : List K} {tS : K} (hmem : tS ∈ roots) (h0 : 0 ≤ tS) (h1 : tS ≤ 1)
    (huniq : ∀ t ∈ roots, 0 ≤ t → t ≤ 1 → t = tS) : firstInUnit roots = some tS := by
  cases h : firstInUnit roots with
  | none =>
    exfalso
    unfold firstInUnit at h
    have := List.find?_eq_none.mp h tS hmem
    apply this
    simp only [scalar_norm, Bool.and_eq_true, decide_eq_true_eq]
    push_cast
    exact ⟨h0, h1⟩
  | some t =>
    unfold firstInUnit at h
    have hp := List.find?_some h
    have hm := List.mem_of_find?_eq_some h
    simp only [scalar_norm, Bool.and_eq_true, decide_eq_true_eq] at hp
    push_cast at hp
    rw [huniq t hm hp.1 hp.2]

/-- the part of the curved branches of `winding_inner` after the row test has produced `sign`: `X`, `Y` are the
    coordinates of the curve, `roots` what the solver returned for `Y t = py`, `lo`/`hi` bounds of `X` on `[0,1]`,
    `W` the fallback, which is not reached -/
theorem curveTail_eq {roots : List K} {X Y : K → K} {px py lo hi tS : K} (sign W : Int)
    (hroots : ∀ t, t ∈ roots ↔ Y t = py) (hinj : Set.InjOn Y (Set.Icc 0 1))
    (h0 : 0 ≤ tS) (h1 : tS ≤ 1) (hy : Y tS = py) (hX : lo ≤ X tS ∧ X tS ≤ hi) :
    (if px < lo then 0
      else if hi ≤ px then sign
      else match firstInUnit roots with
        | some t => if X t ≤ px then sign else 0
        | none => W)
      = sign * (if X tS ≤ px then 1 else 0) := by
  have hfirst : firstInUnit roots = some tS :=
    firstInUnit_eq_some ((hroots tS).mpr hy) h0 h1 fun t ht ht0 ht1 =>
      hinj ⟨ht0, ht1⟩ ⟨h0, h1⟩ (((hroots t).mp ht).trans hy.symm)
  rw [hfirst, mul_ite, mul_one, mul_zero]
  exact ite_earlyOut sign (fun h hT => absurd (hX.1.trans hT) (not_le.mpr h)) (fun h => hX.2.trans h)

/-- the quadratic handed to the solver vanishes exactly at the parameters on the row `y` -/
theorem quad_row_poly (q : QuadBez K) (t y : K) :
    (q.p0.y - y) + (2 * (q.p1.y - q.p0.y)) * t + (q.p2.y - 2 * q.p1.y + q.p0.y) * t ^ 2 = 0 ↔ (q.eval t).y = y := by
  rw [← sub_eq_zero (b := y), (QuadBez.eval_xy q t).2]
  exact Eq.congr_left (by ring)

theorem lerp_x_mem_Icc {m M t : K} (h0 : 0 ≤ t) (h1 : t ≤ 1) (p q : Point K)
    (hp : p.x ∈ Set.Icc m M) (hq : q.x ∈ Set.Icc m M) : (p.lerp q t).x ∈ Set.Icc m M := by
  rw [Point.lerp_eq]
  exact lerp_mem_Icc h0 h1 hp hq

theorem quad_eval_x_bounds (q : QuadBez K) (t : K) (h0 : 0 ≤ t) (h1 : t ≤ 1) :
    min (min q.p0.x q.p2.x) q.p1.x ≤ (q.eval t).x ∧ (q.eval t).x ≤ max (max q.p0.x q.p2.x) q.p1.x :=
  quad_eval_closed (P := fun p => p.x ∈ Set.Icc _ _) (lerp_x_mem_Icc h0 h1) q
    ⟨(min_le_left _ _).trans (min_le_left _ _), (le_max_left _ _).trans (le_max_left _ _)⟩
    ⟨min_le_right _ _, le_max_right _ _⟩
    ⟨(min_le_left _ _).trans (min_le_right _ _), (le_max_right _ _).trans (le_max_left _ _)⟩

theorem cubic_row_poly (c : CubicBez K) (t y : K) :
    (c.p0.y - y) + (3 * (c.p1.y - c.p0.y)) * t + (3 * (c.p2.y - 2 * c.p1.y + c.p0.y)) * t ^ 2
      + (c.p3.y - 3 * c.p2.y + 3 * c.p1.y - c.p0.y) * t ^ 3 = 0 ↔ (c.eval t).y = y := by
  rw [← sub_eq_zero (b := y), (CubicBez.eval_xy c t).2]
  exact Eq.congr_left (by ring)

theorem cubic_eval_x_bounds (c : CubicBez K) (t : K) (h0 : 0 ≤ t) (h1 : t ≤ 1) :
    min (min (min c.p0.x c.p3.x) c.p1.x) c.p2.x ≤ (c.eval t).x ∧
      (c.eval t).x ≤ max (max (max c.p0.x c.p3.x) c.p1.x) c.p2.x :=
  cubic_eval_closed (P := fun p => p.x ∈ Set.Icc _ _) (lerp_x_mem_Icc h0 h1) c
    ⟨((min_le_left _ _).trans (min_le_left _ _)).trans (min_le_left _ _),
      ((le_max_left _ _).trans (le_max_left _ _)).trans (le_max_left _ _)⟩
    ⟨(min_le_left _ _).trans (min_le_right _ _), (le_max_right _ _).trans (le_max_left _ _)⟩
    ⟨min_le_right _ _, le_max_right _ _⟩
    ⟨((min_le_left _ _).trans (min_le_left _ _)).trans (min_le_right _ _),
      ((le_max_right _ _).trans (le_max_left _ _)).trans (le_max_left _ _)⟩

/-- on a y-injective piece `winding_inner` never hands the zero polynomial to the solver: a constant `y(t)` is not injective -/
theorem quad_row_poly_nonzero_of_injOn (q : QuadBez K) (p : Point K)
    (hinj : Set.InjOn (fun t => (q.eval t).y) (Set.Icc 0 1)) :
    ¬ (q.p0.y - p.y = 0 ∧ 2 * (q.p1.y - q.p0.y) = 0 ∧ q.p2.y - 2 * q.p1.y + q.p0.y = 0) := by
  rintro ⟨-, h1, h2⟩
  have h01 : (0 : K) = 1 := by
    apply hinj ⟨le_refl _, zero_le_one⟩ ⟨zero_le_one, le_refl _⟩
    show (q.eval 0).y = (q.eval 1).y
    rw [(QuadBez.eval_xy q 0).2, (QuadBez.eval_xy q 1).2, h1, h2]; ring
  exact zero_ne_one h01

theorem cubic_row_poly_nonzero_of_injOn (c : CubicBez K) (p : Point K)
    (hinj : Set.InjOn (fun t => (c.eval t).y) (Set.Icc 0 1)) :
    ¬ (c.p0.y - p.y = 0 ∧ 3 * (c.p1.y - c.p0.y) = 0 ∧ 3 * (c.p2.y - 2 * c.p1.y + c.p0.y) = 0 ∧
        c.p3.y - 3 * c.p2.y + 3 * c.p1.y - c.p0.y = 0) := by
  rintro ⟨-, h1, h2, h3⟩
  have h01 : (0 : K) = 1 := by
    apply hinj ⟨le_refl _, zero_le_one⟩ ⟨zero_le_one, le_refl _⟩
    show (c.eval 0).y = (c.eval 1).y
    rw [(CubicBez.eval_xy c 0).2, (CubicBez.eval_xy c 1).2, h1, h2, h3]; ring
  exact zero_ne_one h01

end curve

section real
open Set
variable [Scalar ℝ] [LawfulScalar ℝ]

theorem row_root_exists {f : ℝ → ℝ} (hc : Continuous f) {y : ℝ} (h : f 0 ≤ y ∧ y ≤ f 1 ∨ f 1 ≤ y ∧ y ≤ f 0) :
    ∃ t, 0 ≤ t ∧ t ≤ 1 ∧ f t = y := by
  obtain ⟨t, ht, hty⟩ := intermediate_value_uIcc hc.continuousOn (mem_uIcc.mpr h)
  rw [uIcc_of_le zero_le_one] at ht
  exact ⟨t, ht.1, ht.2, hty⟩

theorem quad_row_root_exists (q : QuadBez ℝ) (y : ℝ) (h : q.p0.y ≤ y ∧ y ≤ q.p2.y ∨ q.p2.y ≤ y ∧ y ≤ q.p0.y) :
    ∃ t, 0 ≤ t ∧ t ≤ 1 ∧ (q.eval t).y = y := by
  have e0 : (q.eval 0).y = q.p0.y := by rw [(QuadBez.eval_xy _ _).2]; ring
  have e1 : (q.eval 1).y = q.p2.y := by rw [(QuadBez.eval_xy _ _).2]; ring
  exact row_root_exists (f := fun t => (q.eval t).y) (by simp only [QuadBez.eval_xy]; fun_prop)
    (by simpa only [e0, e1] using h)

theorem cubic_row_root_exists (c : CubicBez ℝ) (y : ℝ) (h : c.p0.y ≤ y ∧ y ≤ c.p3.y ∨ c.p3.y ≤ y ∧ y ≤ c.p0.y) :
    ∃ t, 0 ≤ t ∧ t ≤ 1 ∧ (c.eval t).y = y := by
  have e0 : (c.eval 0).y = c.p0.y := by rw [(CubicBez.eval_xy _ _).2]; ring
  have e1 : (c.eval 1).y = c.p3.y := by rw [(CubicBez.eval_xy _ _).2]; ring
  exact row_root_exists (f := fun t => (c.eval t).y) (by simp only [CubicBez.eval_xy]; fun_prop)
    (by simpa only [e0, e1] using h)

/-- a strictly monotone coordinate `Y` whose half-open row of end values `y0`, `y1` contains `py`: a parameter with `Y tS = py`
    exists (`hex`: the intermediate value theorem for `Y`) and is unique, and a winding contribution `W` that is the row
    sign times the indicator at such a parameter (`hW`: the crossing rule on an injective piece) has the sign of the direction
    of `Y` -/
theorem monotone_row_crossing {X Y : ℝ → ℝ} {y0 y1 px py : ℝ} {W : Int}
    (hmono : StrictMonoOn Y (Icc 0 1) ∨ StrictAntiOn Y (Icc 0 1))
    (hrow : y0 ≤ py ∧ py < y1 ∨ y1 ≤ py ∧ py < y0)
    (hex : y0 ≤ py ∧ py ≤ y1 ∨ y1 ≤ py ∧ py ≤ y0 → ∃ t, 0 ≤ t ∧ t ≤ 1 ∧ Y t = py)
    (hW : ∀ tS, InjOn Y (Icc 0 1) → 0 ≤ tS → tS ≤ 1 → Y tS = py →
      W = rowSign y0 y1 py * (if X tS ≤ px then 1 else 0)) :
    ∃ tS : ℝ, 0 ≤ tS ∧ tS ≤ 1 ∧ Y tS = py ∧ (∀ t, 0 ≤ t → t ≤ 1 → Y t = py → t = tS) ∧
      W = (if y0 < y1 then -1 else 1) * (if X tS ≤ px then 1 else 0) := by
  have hinj : InjOn Y (Icc 0 1) := hmono.elim (fun h => h.injOn) (fun h => h.injOn)
  obtain ⟨tS, h0, h1, hy⟩ := hex (hrow.imp (fun h => ⟨h.1, h.2.le⟩) (fun h => ⟨h.1, h.2.le⟩))
  refine ⟨tS, h0, h1, hy, fun t ht0 ht1 hty => hinj ⟨ht0, ht1⟩ ⟨h0, h1⟩ (hty.trans hy.symm), ?_⟩
  rw [hW tS hinj h0 h1 hy]
  congr 1
  rcases hrow with h | h
  · rw [rowSign_of_up h, if_pos (h.1.trans_lt h.2)]
  · rw [rowSign_of_down h, if_neg (not_lt_of_gt (h.1.trans_lt h.2))]

end real

theorem c01_roots_quarter (x : Rat) : x ∈ [(-1/2 : Rat), 1/2] ↔ x ^ 2 = 1/4 := by
  rw [show (1/4 : Rat) = (1/2) ^ 2 by norm_num, sq_eq_sq_iff_eq_or_eq_neg, List.mem_cons, List.mem_singleton, or_comm,
    neg_div]

end Kurbo
