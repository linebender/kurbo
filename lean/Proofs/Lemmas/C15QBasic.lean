import Kurbo.Quartic
import Proofs.Lemmas.C15Quad
/-! helper lemmas for C15Q: `eps_rel`, the error sums `calc_eps_q` / `calc_eps_t`, and the Newton loop of
    `factor_quartic_inner` (any lawful scalar) -/
namespace Kurbo

section algebra
variable {K : Type} [Field K]

/-- `(x² + a1 x + b1)(x² + a2 x + b2) = x⁴ + a x³ + b x² + c x + d`, coefficient by coefficient -/
def FactorsQuartic (a b c d a1 b1 a2 b2 : K) : Prop :=
  a1 + a2 = a ∧ b1 + a1 * a2 + b2 = b ∧ b1 * a2 + a1 * b2 = c ∧ b1 * b2 = d

theorem FactorsQuartic.mul_eq {a b c d a1 b1 a2 b2 : K} (h : FactorsQuartic a b c d a1 b1 a2 b2) (x : K) :
    (x ^ 2 + a1 * x + b1) * (x ^ 2 + a2 * x + b2) = x ^ 4 + a * x ^ 3 + b * x ^ 2 + c * x + d := by
  obtain ⟨h1, h2, h3, h4⟩ := h
  rw [← h1, ← h2, ← h3, ← h4]; ring

end algebra

variable {K : Type} [Field K] [LinearOrder K] [IsStrictOrderedRing K] [FloorRing K] [Scalar K] [LawfulScalar K]

theorem epsRel_eq (raw a : K) : epsRel raw a = if a = 0 then |raw| else |(raw - a) / a| := by
  unfold epsRel
  simp only [scalar_norm, Nat.cast_zero, decide_eq_true_eq]

theorem epsRel_nonneg' (raw a : K) : 0 ≤ epsRel raw a := by
  rw [epsRel_eq]; split_ifs <;> exact abs_nonneg _

theorem epsRel_eq_zero_iff' (raw a : K) : epsRel raw a = 0 ↔ raw = a := by
  rw [epsRel_eq]
  by_cases h : a = 0
  · rw [if_pos h, abs_eq_zero, h]
  · rw [if_neg h, abs_eq_zero, div_eq_zero_iff, sub_eq_zero]
    exact ⟨fun h' => h'.resolve_right h, Or.inl⟩

theorem epsRel3_nonneg (r1 a1 r2 a2 r3 a3 : K) : 0 ≤ epsRel r1 a1 + epsRel r2 a2 + epsRel r3 a3 :=
  add_nonneg (add_nonneg (epsRel_nonneg' r1 a1) (epsRel_nonneg' r2 a2)) (epsRel_nonneg' r3 a3)

theorem epsRel3_eq_zero_iff (r1 a1 r2 a2 r3 a3 : K) :
    epsRel r1 a1 + epsRel r2 a2 + epsRel r3 a3 = 0 ↔ r1 = a1 ∧ r2 = a2 ∧ r3 = a3 := by
  rw [add_eq_zero_iff_of_nonneg (add_nonneg (epsRel_nonneg' r1 a1) (epsRel_nonneg' r2 a2)) (epsRel_nonneg' r3 a3),
    add_eq_zero_iff_of_nonneg (epsRel_nonneg' r1 a1) (epsRel_nonneg' r2 a2), epsRel_eq_zero_iff', epsRel_eq_zero_iff',
    epsRel_eq_zero_iff', and_assoc]

theorem calcEpsQ_eq (a b c a1 b1 a2 b2 : K) :
    calcEpsQ a b c a1 b1 a2 b2 = epsRel (a1 + a2) a + epsRel (b1 + a1 * a2 + b2) b + epsRel (b1 * a2 + a1 * b2) c := by
  unfold calcEpsQ
  simp only [scalar_norm]

theorem calcEpsT_eq (a b c d a1 b1 a2 b2 : K) :
    calcEpsT a b c d a1 b1 a2 b2 = calcEpsQ a b c a1 b1 a2 b2 + epsRel (b1 * b2) d := by
  unfold calcEpsT
  simp only [scalar_norm]

theorem calcEpsQ_nonneg' (a b c a1 b1 a2 b2 : K) : 0 ≤ calcEpsQ a b c a1 b1 a2 b2 := by
  rw [calcEpsQ_eq]; exact epsRel3_nonneg _ _ _ _ _ _

theorem calcEpsT_nonneg' (a b c d a1 b1 a2 b2 : K) : 0 ≤ calcEpsT a b c d a1 b1 a2 b2 := by
  rw [calcEpsT_eq]; exact add_nonneg (calcEpsQ_nonneg' a b c a1 b1 a2 b2) (epsRel_nonneg' (b1 * b2) d)

theorem calcEpsQ_eq_zero_iff' (a b c a1 b1 a2 b2 : K) :
    calcEpsQ a b c a1 b1 a2 b2 = 0 ↔ a1 + a2 = a ∧ b1 + a1 * a2 + b2 = b ∧ b1 * a2 + a1 * b2 = c := by
  rw [calcEpsQ_eq]; exact epsRel3_eq_zero_iff _ _ _ _ _ _

theorem calcEpsT_eq_zero_iff' (a b c d a1 b1 a2 b2 : K) :
    calcEpsT a b c d a1 b1 a2 b2 = 0 ↔ FactorsQuartic a b c d a1 b1 a2 b2 := by
  rw [calcEpsT_eq, add_eq_zero_iff_of_nonneg (calcEpsQ_nonneg' a b c a1 b1 a2 b2) (epsRel_nonneg' (b1 * b2) d),
    calcEpsQ_eq_zero_iff', epsRel_eq_zero_iff', and_assoc, and_assoc, FactorsQuartic]

def newtonEps (a b c d : K) (z : K × K × K × K) : K := calcEpsT a b c d z.1 z.2.1 z.2.2.1 z.2.2.2

theorem quarticNewton_zero' (a b c d : K) (n : Nat) (z : K × K × K × K) :
    quarticNewton a b c d n z 0 = z := by
  cases n with
  | zero => rfl
  | succ n =>
    unfold quarticNewton
    simp only [scalar_norm, Nat.cast_zero, decide_true, if_true]

theorem quarticNewton_succ (a b c d : K) (n : Nat) (z : K × K × K × K) (eps_t : K) :
    quarticNewton a b c d (n + 1) z eps_t =
      if eps_t = 0 then z
      else match quarticNewtonStep a b c d z.1 z.2.1 z.2.2.1 z.2.2.2 with
        | none => z
        | some z' => if newtonEps a b c d z' < eps_t then quarticNewton a b c d n z' (newtonEps a b c d z') else z := by
  rw [quarticNewton]
  simp only [scalar_norm, Nat.cast_zero, decide_eq_true_eq, newtonEps]
  by_cases h : eps_t = 0
  · rw [if_pos h, if_pos h]
  · rw [if_neg h, if_neg h]
    cases quarticNewtonStep a b c d z.1 z.2.1 z.2.2.1 z.2.2.2 <;> rfl

end Kurbo
