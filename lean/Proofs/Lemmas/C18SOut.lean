import Proofs.Lemmas.C18SSplit
/-! The shape of the output of `simplifyBezpath`: output sub-paths `SimpSub`, "no drawing element directly after `ClosePath`"
    as a chain (`List.IsChain`) of `NoDrawAfterClose`, the queue invariant `SimpQueueInv`.  Core Lean and Mathlib's lemmas
    about `List.IsChain`; arbitrary `[Scalar K]`. -/
set_option linter.unusedSectionVars false
namespace Kurbo
variable {K : Type} [Scalar K]

deriving instance DecidableEq for SimpRes

/-- a sub-path of the output: `MoveTo start`, drawing elements, optionally `ClosePath` -/
structure SimpSub (K : Type) where
  start : Point K
  draws : List (PathEl K)
  closed : Bool

def SimpSub.els (s : SimpSub K) : List (PathEl K) :=
  .MoveTo s.start :: s.draws ++ (if s.closed then [.ClosePath] else [])

/-- well-formed: `draws` are drawing elements and there is at least one unless the sub-path is a closed point `M p Z` -/
def SimpSub.WF (s : SimpSub K) : Prop :=
  (∀ e ∈ s.draws, e.simpDraw = true) ∧ (s.draws ≠ [] ∨ s.closed = true)

/-- does the input sub-path emit anything? (an open sub-path without non-degenerate segment does not) -/
def SimpChunk.emits (c : SimpChunk K) : Bool := !c.segs.isEmpty || c.closed

def simpChunkSub (fit : List (PathEl K) → List (PathEl K)) (th : K) (c : SimpChunk K) : Option (SimpSub K) :=
  if c.emits then some ⟨c.start, simpChunkDraws fit th c.segs, c.closed⟩ else none

theorem c18s_chunkOut_sub (fit : List (PathEl K) → List (PathEl K)) (th : K) (c : SimpChunk K) :
    simpChunkOut fit th c = match simpChunkSub fit th c with | none => [] | some s => s.els := by
  obtain ⟨start, segs, closed⟩ := c
  cases segs with
  | nil =>
    rw [c18s_chunkOut_nil]
    cases closed <;> simp [simpChunkSub, SimpChunk.emits, SimpSub.els, simpChunkDraws, simpSplitGo]
  | cons s r =>
    rw [c18s_chunkOut_cons]
    simp [simpChunkSub, SimpChunk.emits, SimpSub.els]

theorem c18s_chunkSub_wf {fit : List (PathEl K) → List (PathEl K)} (hfit : C18FitSpec fit) (th : K) (c : SimpChunk K)
    (s : SimpSub K) (h : simpChunkSub fit th c = some s) : s.WF := by
  obtain ⟨start, segs, closed⟩ := c
  unfold simpChunkSub at h
  split at h
  · rename_i he
    cases h
    cases segs with
    | nil =>
      refine ⟨by intro e he; simp [simpChunkDraws, simpSplitGo] at he, Or.inr ?_⟩
      simpa [SimpChunk.emits] using he
    | cons a r =>
      obtain ⟨h1, h2, -⟩ := c18s_chunkDraws_spec hfit th (a :: r) (by simp)
      exact ⟨h2, Or.inl h1⟩
  · cases h

theorem c18s_chunks_out_subs (fit : List (PathEl K) → List (PathEl K)) (th : K) (cs : List (SimpChunk K)) :
    (cs.map (simpChunkOut fit th)).flatten = ((cs.filterMap (simpChunkSub fit th)).map SimpSub.els).flatten := by
  induction cs with
  | nil => rfl
  | cons c r ih =>
    rw [List.map_cons, List.flatten_cons, ih, c18s_chunkOut_sub, List.filterMap_cons]
    cases simpChunkSub fit th c with
    | none => rfl
    | some s => rfl

def PathEl.simpMovePt : PathEl K → Option (Point K)
  | .MoveTo p => some p
  | _ => none

theorem c18s_draws_no_move (ds : List (PathEl K)) (h : ∀ e ∈ ds, e.simpDraw = true) :
    ds.filterMap PathEl.simpMovePt = [] := by
  rw [List.filterMap_eq_nil_iff]
  intro e he
  have := h e he
  cases e <;> first | rfl | cases this

theorem c18s_draws_no_close (ds : List (PathEl K)) (h : ∀ e ∈ ds, e.simpDraw = true) :
    ds.countP PathEl.simpClose = 0 := by
  rw [List.countP_eq_zero]
  intro e he
  simp [c18s_draw_not_close (h e he)]

theorem c18s_sub_movePts (s : SimpSub K) (h : s.WF) : s.els.filterMap PathEl.simpMovePt = [s.start] := by
  unfold SimpSub.els
  rw [List.cons_append, List.filterMap_cons]
  simp only [PathEl.simpMovePt, List.filterMap_append, c18s_draws_no_move _ h.1, List.nil_append]
  cases s.closed <;> simp [PathEl.simpMovePt]

theorem c18s_sub_closeCount (s : SimpSub K) (h : s.WF) :
    s.els.countP PathEl.simpClose = if s.closed then 1 else 0 := by
  unfold SimpSub.els
  rw [List.cons_append, List.countP_cons, List.countP_append, c18s_draws_no_close _ h.1]
  cases s.closed <;> simp [PathEl.simpClose]

theorem c18s_subs_movePts (subs : List (SimpSub K)) (h : ∀ s ∈ subs, s.WF) :
    ((subs.map SimpSub.els).flatten).filterMap PathEl.simpMovePt = subs.map SimpSub.start := by
  induction subs with
  | nil => rfl
  | cons s r ih =>
    rw [List.map_cons, List.flatten_cons, List.filterMap_append, c18s_sub_movePts s (h s (by simp)),
      ih (fun x hx => h x (by simp [hx]))]
    rfl

theorem c18s_subs_closeCount (subs : List (SimpSub K)) (h : ∀ s ∈ subs, s.WF) :
    ((subs.map SimpSub.els).flatten).countP PathEl.simpClose = (subs.filter SimpSub.closed).length := by
  induction subs with
  | nil => rfl
  | cons s r ih =>
    rw [List.map_cons, List.flatten_cons, List.countP_append, c18s_sub_closeCount s (h s (by simp)),
      ih (fun x hx => h x (by simp [hx])), List.filter_cons]
    cases s.closed <;> simp
    omega

theorem c18s_filterMap_sub_flags (fit : List (PathEl K) → List (PathEl K)) (th : K) (cs : List (SimpChunk K)) :
    (cs.filterMap (simpChunkSub fit th)).map (fun s => (s.start, s.closed)) =
      (cs.filter SimpChunk.emits).map (fun c => (c.start, c.closed)) := by
  induction cs with
  | nil => rfl
  | cons c r ih =>
    have e : simpChunkSub fit th c =
        if c.emits then some ⟨c.start, simpChunkDraws fit th c.segs, c.closed⟩ else none := rfl
    rw [List.filterMap_cons, List.filter_cons, e]
    cases c.emits with
    | true => simp only [if_true, List.map_cons]; rw [← ih]
    | false => simpa using ih

/-- a closed input sub-path always emits -/
theorem c18s_filterMap_sub_closed (fit : List (PathEl K) → List (PathEl K)) (th : K) (cs : List (SimpChunk K)) :
    ((cs.filterMap (simpChunkSub fit th)).filter SimpSub.closed).length = (cs.filter SimpChunk.closed).length := by
  have h := congrArg (fun l => (l.filter Prod.snd).length) (c18s_filterMap_sub_flags fit th cs)
  simp only [List.filter_map, List.length_map, Function.comp_def, List.filter_filter] at h
  rw [h]
  congr 1
  refine List.filter_congr fun c _ => ?_
  cases hc : c.closed <;> simp [SimpChunk.emits, hc]

theorem c18s_replicate_close_count (k : Nat) :
    (List.replicate k (PathEl.ClosePath : PathEl K)).countP PathEl.simpClose = k := by
  simp [List.countP_replicate, PathEl.simpClose]

theorem c18s_replicate_movePts (k : Nat) :
    (List.replicate k (PathEl.ClosePath : PathEl K)).filterMap PathEl.simpMovePt = [] :=
  List.filterMap_replicate_of_none rfl

def NoDrawAfterClose (a b : PathEl K) : Prop := a.simpClose = true → b.simpDraw = false

theorem c18s_sub_els_chain (s : SimpSub K) (h : s.WF) : s.els.IsChain NoDrawAfterClose := by
  -- only the last element can be a `ClosePath`
  have h1 : ∀ a ∈ PathEl.MoveTo s.start :: s.draws, a.simpClose = false := by
    intro a ha
    rcases List.mem_cons.1 ha with rfl | ha
    · rfl
    · exact c18s_draw_not_close (h.1 a ha)
  have e : s.els = (PathEl.MoveTo s.start :: s.draws) ++ (if s.closed then [.ClosePath] else []) := rfl
  rw [e, List.isChain_append]
  refine ⟨(List.pairwise_of_forall_mem_list fun a ha b _ hc => ?_).isChain, by cases s.closed <;> simp,
    fun x hx y _ hc => ?_⟩
  · rw [h1 a ha] at hc; cases hc
  · rw [h1 x (List.mem_of_mem_getLast? hx)] at hc; cases hc

/-- `ClosePath`s, then well-formed sub-paths: the shape of the output of `simplifyBezpath` -/
theorem c18s_out_chain (k : Nat) (subs : List (SimpSub K)) (h : ∀ s ∈ subs, s.WF) :
    (List.replicate k (PathEl.ClosePath : PathEl K) ++ (subs.map SimpSub.els).flatten).IsChain NoDrawAfterClose := by
  -- at a boundary between two blocks the second element is a `MoveTo`
  have hhead : ∀ (x : PathEl K) (L : List (SimpSub K)), ∀ y ∈ ((L.map SimpSub.els).flatten).head?,
      NoDrawAfterClose x y := by
    intro x L y hy _
    cases L with
    | nil => cases hy
    | cons s r => cases hy; rfl
  rw [List.isChain_append]
  refine ⟨List.isChain_replicate_of_rel k fun _ => rfl, ?_, fun x _ => hhead x subs⟩
  induction subs with
  | nil => exact List.isChain_nil
  | cons s r ih =>
    rw [List.map_cons, List.flatten_cons, List.isChain_append]
    exact ⟨c18s_sub_els_chain s (h s (by simp)), ih fun x hx => h x (by simp [hx]), fun x _ => hhead x r⟩

/-- the segments form a connected chain beginning at `last` (bit for bit: each start point is the previous end point) -/
def simpChain : Point K → List (PathSeg K) → Prop
  | _, [] => True
  | last, s :: r => s.start = last ∧ simpChain s.end r

theorem c18s_headSegs_chain : ∀ (ds : List (PathEl K)) (last : Point K), simpChain last (simpHeadSegs last ds) := by
  intro ds
  induction ds with
  | nil => intro _; trivial
  | cons d r ih =>
    intro last
    simp only [simpHeadSegs]
    split
    · cases hs : simpElSeg last d with
      | none => exact ih last
      | some s => exact ⟨c18s_elSeg_start hs, ih s.end⟩
    · trivial

theorem c18s_headSegs_sublist : ∀ (ds : List (PathEl K)) (last : Point K),
    ((simpHeadSegs last ds).map PathSeg.drawEl).Sublist ds := by
  intro ds
  induction ds with
  | nil => intro _; exact List.Sublist.slnil
  | cons d r ih =>
    intro last
    simp only [simpHeadSegs]
    split
    · cases hs : simpElSeg last d with
      | none => exact List.Sublist.cons _ (ih last)
      | some s =>
        simp only [List.map_cons, c18s_elSeg_drawEl hs]
        exact List.Sublist.cons_cons _ (ih s.end)
    · exact List.nil_sublist _

def SimpQueueInv (q : List (PathEl K)) : Prop :=
  q = [] ∨ ∃ p ds, q = .MoveTo p :: ds ∧ ds ≠ [] ∧ ∀ e ∈ ds, e.simpDraw = true

theorem c18s_flush_queue (fit : List (PathEl K) → List (PathEl K)) (s : SimpSt K) : (s.flush fit).queue = [] := by
  unfold SimpSt.flush
  split
  · rename_i h; simpa using h
  · rfl

theorem c18s_split_single (th : K) (A : List (PathSeg K)) (s : PathSeg K) (B : List (PathSeg K))
    (hA : ∀ a, A.getLast? = some a → simpCorner th a s = true)
    (hB : ∀ b, B.head? = some b → simpCorner th s b = true) :
    simpSplitGo th [] (A ++ s :: B) = simpSplitGo th [] A ++ [s] :: simpSplitGo th [] B := by
  rw [c18s_split_append_corner th A s B fun a ha => hA a ha]
  cases B with
  | nil => rfl
  | cons b B' => exact congrArg _ (c18s_split_append_corner th [s] b B' fun a ha => by cases ha; exact hB b rfl)

theorem c18s_corner_vertex_chunk {fit : List (PathEl K) → List (PathEl K)} (hfit : C18FitSpec fit) (th : K)
    (segs A : List (PathSeg K)) (s s' : PathSeg K) (B : List (PathSeg K)) (h : segs = A ++ s :: s' :: B)
    (hc : simpCorner th s s' = true) :
    ∃ e ∈ simpChunkDraws fit th segs, e.end_point = some s.end := by
  -- the corner cuts the split, and what is emitted for the part before it ends at `s.end`
  have hsplit : simpChunkDraws fit th segs =
      simpChunkDraws fit th (A ++ [s]) ++ simpChunkDraws fit th (s' :: B) := by
    have e1 : segs = (A ++ [s]) ++ s' :: B := by simp [h]
    rw [e1]
    unfold simpChunkDraws
    rw [c18s_split_append_corner th (A ++ [s]) s' B (by simp [hc]), List.map_append, List.flatten_append]
  obtain ⟨o1, -, o3⟩ := c18s_chunkDraws_spec hfit th (A ++ [s]) (by simp)
  refine ⟨(simpChunkDraws fit th (A ++ [s])).getLast o1, ?_, ?_⟩
  · rw [hsplit]; exact List.mem_append_left _ (List.getLast_mem o1)
  · simpa [simpLastEnd, List.getLast?_eq_some_getLast o1] using o3

theorem c18s_chunkDraws_mem_out (fit : List (PathEl K) → List (PathEl K)) (th : K) (c : SimpChunk K) (e : PathEl K)
    (he : e ∈ simpChunkDraws fit th c.segs) : e ∈ simpChunkOut fit th c := by
  obtain ⟨start, segs, closed⟩ := c
  cases segs with
  | nil => simp [simpChunkDraws, simpSplitGo] at he
  | cons a r =>
    rw [c18s_chunkOut_cons]
    simp only [List.cons_append, List.mem_cons, List.mem_append]
    exact Or.inr (Or.inl he)

theorem c18s_flatten_map_mem {α β : Type} (f : α → List β) (cs : List α) (c : α) (hc : c ∈ cs) :
    ∃ X Y, (cs.map f).flatten = X ++ f c ++ Y := by
  obtain ⟨s, t, rfl⟩ := List.append_of_mem hc
  exact ⟨(s.map f).flatten, (t.map f).flatten, by simp⟩

theorem c18s_lead_replicate (X : List (PathEl K)) (hX : simpLead X = 0) :
    ∀ k : Nat, simpLead (List.replicate k PathEl.ClosePath ++ X) = k ∧
      (List.replicate k PathEl.ClosePath ++ X).drop k = X := by
  intro k
  induction k with
  | zero => exact ⟨by simpa using hX, by simp⟩
  | succ n ih =>
    rw [List.replicate_succ, List.cons_append]
    exact ⟨by simp only [simpLead, ih.1], by simp [ih.2]⟩

end Kurbo
