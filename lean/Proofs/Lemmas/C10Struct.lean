import Kurbo.Shapes
import Proofs.Lemmas.C07Path
/-! The element lists of the shape outlines in closed form, for an arbitrary `Scalar` (also `Float`).  Core Lean only.
    `Ops` is opened here because these are statements about the model's own arithmetic (there is no Mathlib arithmetic
    in this file). -/
set_option linter.unusedSectionVars false
namespace Kurbo
open Ops
variable {K : Type} [Scalar K]

def curveEls (c1 c2 e : Nat → Point K) (n : Nat) : List (PathEl K) :=
  (List.range n).map fun k => PathEl.CurveTo (c1 k) (c2 k) (e k)

/-- start point of the `k`-th piece of a chain that begins at `p0`: the end point of the piece before -/
def chainStart (p0 : Point K) (e : Nat → Point K) : Nat → Point K
  | 0 => p0
  | k + 1 => e k

def curveSegs (p0 : Point K) (c1 c2 e : Nat → Point K) (n : Nat) : List (PathSeg K) :=
  (List.range n).map fun k => PathSeg.Cubic ⟨chainStart p0 e k, c1 k, c2 k, e k⟩

def PathEl.isCurveTo : PathEl K → Bool
  | .CurveTo _ _ _ => true
  | _ => false

theorem chainStart_knots (pt : Nat → Point K) (k : Nat) : chainStart (pt 0) (fun k => pt (k + 1)) k = pt k := by
  cases k <;> rfl

theorem curveSegs_knots (pt c1 c2 : Nat → Point K) (n : Nat) :
    curveSegs (pt 0) c1 c2 (fun k => pt (k + 1)) n
      = (List.range n).map fun k => PathSeg.Cubic ⟨pt k, c1 k, c2 k, pt (k + 1)⟩ := by
  simp only [curveSegs, chainStart_knots]

theorem curveEls_length (c1 c2 e : Nat → Point K) (n : Nat) : (curveEls c1 c2 e n).length = n := by
  simp [curveEls]

theorem curveEls_succ (c1 c2 e : Nat → Point K) (n : Nat) :
    curveEls c1 c2 e (n + 1) = curveEls c1 c2 e n ++ [PathEl.CurveTo (c1 n) (c2 n) (e n)] := by
  simp [curveEls, List.range_succ]

theorem curveSegs_succ (p0 : Point K) (c1 c2 e : Nat → Point K) (n : Nat) :
    curveSegs p0 c1 c2 e (n + 1) = curveSegs p0 c1 c2 e n ++ [PathSeg.Cubic ⟨chainStart p0 e n, c1 n, c2 n, e n⟩] := by
  simp [curveSegs, List.range_succ]

theorem curveEls_isCurveTo (c1 c2 e : Nat → Point K) (n : Nat) :
    ∀ el ∈ curveEls c1 c2 e n, el.isCurveTo = true := by
  intro el h
  simp only [curveEls, List.mem_map] at h
  obtain ⟨k, _, rfl⟩ := h
  rfl

theorem mem_curveEls {c1 c2 e : Nat → Point K} {n : Nat} {el : PathEl K}
    (h : el ∈ curveEls c1 c2 e n) : ∃ k, k < n ∧ el = PathEl.CurveTo (c1 k) (c2 k) (e k) := by
  simp only [curveEls, List.mem_map, List.mem_range] at h
  obtain ⟨k, hk, rfl⟩ := h
  exact ⟨k, hk, rfl⟩

theorem curveEls_getElem? (c1 c2 e : Nat → Point K) (n k : Nat) (h : k < n) :
    (curveEls c1 c2 e n)[k]? = some (PathEl.CurveTo (c1 k) (c2 k) (e k)) := by
  simp [curveEls, h]

theorem curveEls_congr {c1 c2 e c1' c2' e' : Nat → Point K} {n : Nat}
    (h : ∀ k, k < n → c1 k = c1' k ∧ c2 k = c2' k ∧ e k = e' k) : curveEls c1 c2 e n = curveEls c1' c2' e' n := by
  apply List.map_congr_left
  intro k hk
  obtain ⟨h1, h2, h3⟩ := h k (List.mem_range.mp hk)
  rw [h1, h2, h3]

theorem curveSegs_congr {p0 : Point K} {c1 c2 e c1' c2' e' : Nat → Point K} {n : Nat}
    (h : ∀ k, k < n → c1 k = c1' k ∧ c2 k = c2' k ∧ e k = e' k) :
    curveSegs p0 c1 c2 e n = curveSegs p0 c1' c2' e' n := by
  apply List.map_congr_left
  intro k hk
  have hk' := List.mem_range.mp hk
  obtain ⟨h1, h2, h3⟩ := h k hk'
  have hs : chainStart p0 e k = chainStart p0 e' k := by
    cases k with
    | zero => rfl
    | succ j => exact (h j (by omega)).2.2
  rw [h1, h2, h3, hs]

/-- where the pen is after drawing `els` from `p` (for lists of drawing elements: the end point of the last one) -/
def penAfter (p : Point K) (els : List (PathEl K)) : Point K := (els.getLast?.bind PathEl.end_point).getD p

theorem penAfter_curveEls (p0 : Point K) (c1 c2 e : Nat → Point K) (n : Nat) :
    penAfter p0 (curveEls c1 c2 e n) = chainStart p0 e n := by
  cases n with
  | zero => rfl
  | succ n => rw [curveEls_succ, penAfter, List.getLast?_concat]; rfl

theorem stAfterT_curveEls (s p0 : Point K) (c1 c2 e : Nat → Point K) (n : Nat) :
    stAfterT (s, p0) (curveEls c1 c2 e n) = (s, chainStart p0 e n) := by
  induction n with
  | zero => rfl
  | succ n ih => rw [curveEls_succ, stAfterT_append, ih]; rfl

theorem segsT_curveEls (s p0 : Point K) (c1 c2 e : Nat → Point K) (n : Nat) :
    segsT (s, p0) (curveEls c1 c2 e n) = curveSegs p0 c1 c2 e n := by
  induction n with
  | zero => rfl
  | succ n ih => rw [curveEls_succ, curveSegs_succ, segsT_append, ih, stAfterT_curveEls]; rfl

theorem segs_moveTo_curveEls (p0 : Point K) (c1 c2 e : Nat → Point K) (n : Nat) :
    segs (PathEl.MoveTo p0 :: curveEls c1 c2 e n) = some (curveSegs p0 c1 c2 e n) := by
  rw [segs_moveTo, segsT_curveEls]

theorem segsT_closePath (s l : Point K) :
    segsT (s, l) [PathEl.ClosePath] = if l.peq s then [] else [PathSeg.Line ⟨l, s⟩] :=
  closingSeg_eq_closeSegs s l

theorem segs_moveTo_curveEls_close (p0 : Point K) (c1 c2 e : Nat → Point K) (n : Nat) :
    segs (PathEl.MoveTo p0 :: (curveEls c1 c2 e n ++ [PathEl.ClosePath]))
      = some (curveSegs p0 c1 c2 e n ++
          (if (chainStart p0 e n).peq p0 then [] else [PathSeg.Line ⟨chainStart p0 e n, p0⟩])) := by
  rw [segs_moveTo, segsT_append, segsT_curveEls, stAfterT_curveEls, segsT_closePath]

/-- the angle after `k` steps, accumulated by repeated addition exactly as `ArcAppendIter` does:
    `start`, `start + step`, `(start + step) + step`, … -/
def accAngle (start step : K) : Nat → K
  | 0 => start
  | k + 1 => accAngle start step k + step

theorem accAngle_shift (start step : K) (k : Nat) :
    accAngle (start + step) step k = accAngle start step (k + 1) := by
  induction k with
  | zero => rfl
  | succ k ih => rw [accAngle, ih]; rfl

/-- first control point of the `k`-th piece of an arc -/
def arcC1 (center : Point K) (radii : Vec2 K) (rot arm step start : K) (k : Nat) : Point K :=
  center + (sampleEllipse radii rot (accAngle start step k)
    + arm * sampleEllipse radii rot (accAngle start step k + fracPi2))

/-- second control point of the `k`-th piece -/
def arcC2 (center : Point K) (radii : Vec2 K) (rot arm step start : K) (k : Nat) : Point K :=
  center + (sampleEllipse radii rot (accAngle start step (k + 1))
    - arm * sampleEllipse radii rot (accAngle start step (k + 1) + fracPi2))

/-- the point of the arc's ellipse at (accumulated) angle number `k` -/
def arcPt (center : Point K) (radii : Vec2 K) (rot step start : K) (k : Nat) : Point K :=
  center + sampleEllipse radii rot (accAngle start step k)

/-- end point of the `k`-th piece -/
def arcEnd (center : Point K) (radii : Vec2 K) (rot step start : K) (k : Nat) : Point K :=
  arcPt center radii rot step start (k + 1)

theorem chainStart_arc (center : Point K) (radii : Vec2 K) (rot step start : K) (k : Nat) :
    chainStart (arcPt center radii rot step start 0) (arcEnd center radii rot step start) k
      = arcPt center radii rot step start k :=
  chainStart_knots (arcPt center radii rot step start) k

theorem arcAppendGo_eq (center : Point K) (radii : Vec2 K) (rot arm step : K) (n : Nat) (start : K) :
    arcAppendGo center radii rot arm step n (sampleEllipse radii rot start) start
      = curveEls (arcC1 center radii rot arm step start) (arcC2 center radii rot arm step start)
          (arcEnd center radii rot step start) n := by
  induction n generalizing start with
  | zero => rfl
  | succ n ih =>
    rw [arcAppendGo, ih]
    simp only [curveEls, List.range_succ_eq_map, List.map_cons, List.map_map]
    congr 1
    apply List.map_congr_left
    intro k _
    simp only [Function.comp, arcC1, arcC2, arcEnd, arcPt, accAngle_shift]

theorem append_iter_eq (a : Arc K) (tol : K) :
    a.append_iter tol
      = curveEls (arcC1 a.center a.radii a.x_rotation (a.appendParams tol).2.1 (a.appendParams tol).2.2 a.start_angle)
          (arcC2 a.center a.radii a.x_rotation (a.appendParams tol).2.1 (a.appendParams tol).2.2 a.start_angle)
          (arcEnd a.center a.radii a.x_rotation (a.appendParams tol).2.2 a.start_angle) (a.appendParams tol).1 := by
  unfold Arc.append_iter
  exact arcAppendGo_eq _ _ _ _ _ _ _

theorem curveSegs_arc (center : Point K) (radii : Vec2 K) (rot arm step start : K) (n : Nat) :
    curveSegs (arcPt center radii rot step start 0) (arcC1 center radii rot arm step start)
        (arcC2 center radii rot arm step start) (arcEnd center radii rot step start) n
      = (List.range n).map fun k => PathSeg.Cubic ⟨arcPt center radii rot step start k,
          arcC1 center radii rot arm step start k, arcC2 center radii rot arm step start k,
          arcPt center radii rot step start (k + 1)⟩ :=
  curveSegs_knots (arcPt center radii rot step start) _ _ n

theorem segs_arc_path_elements (a : Arc K) (tol : K) :
    segs (a.path_elements tol) = some ((List.range (a.appendParams tol).1).map fun k => PathSeg.Cubic
      ⟨arcPt a.center a.radii a.x_rotation (a.appendParams tol).2.2 a.start_angle k,
       arcC1 a.center a.radii a.x_rotation (a.appendParams tol).2.1 (a.appendParams tol).2.2 a.start_angle k,
       arcC2 a.center a.radii a.x_rotation (a.appendParams tol).2.1 (a.appendParams tol).2.2 a.start_angle k,
       arcPt a.center a.radii a.x_rotation (a.appendParams tol).2.2 a.start_angle (k + 1)⟩) := by
  show segs (PathEl.MoveTo (arcPt a.center a.radii a.x_rotation (a.appendParams tol).2.2 a.start_angle 0)
    :: a.append_iter tol) = _
  rw [append_iter_eq, segs_moveTo_curveEls, curveSegs_arc]

/-- `θ_k = delta_th * k` with `delta_th = 2π / n` -/
def circleTheta (n k : Nat) : K := (2 : K) * (Scalar.pi : K) / natK n * natK k

/-- the pair `(sin, cos)` the iterator uses at index `k`: the literal `(0, 1)` when `k = n` -/
def circleSC (n k : Nat) : K × K :=
  if k == n then ((0 : K), (1 : K)) else (Scalar.sin (circleTheta n k : K), Scalar.cos (circleTheta n k : K))

/-- start angle of piece `k` as the iterator computes it: `θ_{k+1} − delta_th` -/
def circleTh0 (n k : Nat) : K := circleTheta n (k + 1) - (2 : K) * (Scalar.pi : K) / natK n

def circleC1 (c : Circle K) (a : K) (n k : Nat) : Point K :=
  ⟨c.center.x + c.radius * (Scalar.cos (circleTh0 n k : K) - a * Scalar.sin (circleTh0 n k : K)),
   c.center.y + c.radius * (Scalar.sin (circleTh0 n k : K) + a * Scalar.cos (circleTh0 n k : K))⟩

def circleC2 (c : Circle K) (a : K) (n k : Nat) : Point K :=
  ⟨c.center.x + c.radius * ((circleSC n (k + 1) : K × K).2 + a * (circleSC n (k + 1) : K × K).1),
   c.center.y + c.radius * ((circleSC n (k + 1) : K × K).1 - a * (circleSC n (k + 1) : K × K).2)⟩

def circleEnd (c : Circle K) (n k : Nat) : Point K :=
  ⟨c.center.x + c.radius * (circleSC n (k + 1) : K × K).2, c.center.y + c.radius * (circleSC n (k + 1) : K × K).1⟩

/-- the `MoveTo` point -/
def circleStart (c : Circle K) : Point K := ⟨c.center.x + c.radius, c.center.y⟩

theorem circle_path_elements_eq (c : Circle K) (tol : K) :
    c.path_elements tol = PathEl.MoveTo (circleStart c) ::
      (curveEls (circleC1 c (c.pathParams tol).2 (c.pathParams tol).1) (circleC2 c (c.pathParams tol).2 (c.pathParams tol).1)
        (circleEnd c (c.pathParams tol).1) (c.pathParams tol).1 ++ [PathEl.ClosePath]) := by
  unfold Circle.path_elements
  generalize c.pathParams tol = pa
  obtain ⟨n, a⟩ := pa
  rfl

theorem circleEnd_last (c : Circle K) (n : Nat) :
    circleEnd c (n + 1) n = ⟨c.center.x + c.radius * (1 : K), c.center.y + c.radius * (0 : K)⟩ := by
  simp [circleEnd, circleSC]

theorem circleEnd_inner (c : Circle K) (n k : Nat) (h : k + 1 ≠ n) :
    circleEnd c n k = ⟨c.center.x + c.radius * Scalar.cos (circleTheta n (k + 1) : K),
      c.center.y + c.radius * Scalar.sin (circleTheta n (k + 1) : K)⟩ := by
  simp [circleEnd, circleSC, h]

/-- the full-turn arc whose outline is the ellipse's outline -/
def Ellipse.arc (e : Ellipse K) : Arc K :=
  { center := e.center, radii := e.inner.svd.1, start_angle := (0 : K), sweep_angle := twoPi, x_rotation := e.inner.svd.2 }

theorem ellipse_path_elements_eq (e : Ellipse K) (tol : K) : e.path_elements tol = e.arc.path_elements tol := rfl

theorem cseg_path_elements_eq (s : CircleSegment K) (tol : K) :
    s.path_elements tol
      = [PathEl.MoveTo (pointOnCircle s.center s.inner_radius s.start_angle),
         PathEl.LineTo (pointOnCircle s.center s.outer_radius s.start_angle)]
        ++ s.outer_arc.append_iter tol
        ++ [PathEl.LineTo (pointOnCircle s.center s.inner_radius (s.inner_arc.start_angle))]
        ++ s.inner_arc.append_iter tol := rfl

theorem interleaveRounded_eq (r0 r1 r2 r3 r4 : PathEl K) (a0 a1 a2 a3 : List (PathEl K)) :
    interleaveRounded [r0, r1, r2, r3, r4] [a0, a1, a2, a3]
      = [r0] ++ a0 ++ [r1] ++ a1 ++ [r2] ++ a2 ++ [r3] ++ a3 ++ [r4] := by
  simp [interleaveRounded, interleaveRounded.go]

/-- `build_arc_iter` of `RoundedRect::path_elements`: corner arc number `i`, a quarter turn starting at `i · π/2` -/
def cornerArc (i : Nat) (center : Point K) (rad : K) : Arc K :=
  { center := center, radii := ⟨rad, rad⟩, start_angle := fracPi2 * natK i, sweep_angle := fracPi2, x_rotation := (0 : K) }

def RoundedRect.arcTL (s : RoundedRect K) : Arc K :=
  cornerArc 2 ⟨s.rect.x0 + s.radii.top_left, s.rect.y0 + s.radii.top_left⟩ s.radii.top_left
def RoundedRect.arcTR (s : RoundedRect K) : Arc K :=
  cornerArc 3 ⟨s.rect.x1 - s.radii.top_right, s.rect.y0 + s.radii.top_right⟩ s.radii.top_right
def RoundedRect.arcBR (s : RoundedRect K) : Arc K :=
  cornerArc 0 ⟨s.rect.x1 - s.radii.bottom_right, s.rect.y1 - s.radii.bottom_right⟩ s.radii.bottom_right
def RoundedRect.arcBL (s : RoundedRect K) : Arc K :=
  cornerArc 1 ⟨s.rect.x0 + s.radii.bottom_left, s.rect.y1 - s.radii.bottom_left⟩ s.radii.bottom_left

theorem RoundedRect.arcs_eq (s : RoundedRect K) : s.arcs = [s.arcTL, s.arcTR, s.arcBR, s.arcBL] := rfl

theorem RoundedRect.forall_mem_arcs (s : RoundedRect K) {P : Arc K → Prop} :
    (∀ a ∈ s.arcs, P a) ↔ P s.arcTL ∧ P s.arcTR ∧ P s.arcBR ∧ P s.arcBL := by
  simp [RoundedRect.arcs_eq]

/-- `p0 … p3`: the four points of the inner `RectPathIter` -/
def RoundedRect.p0 (s : RoundedRect K) : Point K := ⟨s.rect.x0, s.rect.y0 + s.radii.top_left⟩
def RoundedRect.p1 (s : RoundedRect K) : Point K := ⟨s.rect.x1 - s.radii.top_right, s.rect.y0⟩
def RoundedRect.p2 (s : RoundedRect K) : Point K := ⟨s.rect.x1, s.rect.y1 - s.radii.bottom_right⟩
def RoundedRect.p3 (s : RoundedRect K) : Point K := ⟨s.rect.x0 + s.radii.bottom_left, s.rect.y1⟩

theorem RoundedRect.rectEls_eq (s : RoundedRect K) :
    s.rectEls = [.MoveTo s.p0, .LineTo s.p1, .LineTo s.p2, .LineTo s.p3, .ClosePath] := rfl

theorem roundedRect_path_elements_eq (s : RoundedRect K) (tol : K) :
    s.path_elements tol = [PathEl.MoveTo s.p0] ++ s.arcTL.append_iter tol ++ [PathEl.LineTo s.p1] ++ s.arcTR.append_iter tol
      ++ [PathEl.LineTo s.p2] ++ s.arcBR.append_iter tol ++ [PathEl.LineTo s.p3] ++ s.arcBL.append_iter tol
      ++ [PathEl.ClosePath] := by
  unfold RoundedRect.path_elements
  rw [RoundedRect.arcs_eq, RoundedRect.rectEls_eq]
  exact interleaveRounded_eq _ _ _ _ _ _ _ _ _

end Kurbo

-- `Ops` is closed from here on
namespace Kurbo
variable {K : Type} [Scalar K]

/-- the cubics of an arc's pieces when the pen starts at `p` (the first starts at `p`, each further one at the end
    point of the one before) -/
def arcSegsFrom (p : Point K) (a : Arc K) (tol : K) : List (PathSeg K) :=
  curveSegs p (arcC1 a.center a.radii a.x_rotation (a.appendParams tol).2.1 (a.appendParams tol).2.2 a.start_angle)
    (arcC2 a.center a.radii a.x_rotation (a.appendParams tol).2.1 (a.appendParams tol).2.2 a.start_angle)
    (arcEnd a.center a.radii a.x_rotation (a.appendParams tol).2.2 a.start_angle) (a.appendParams tol).1

theorem arcSegsFrom_length (p : Point K) (a : Arc K) (tol : K) : (arcSegsFrom p a tol).length = (a.appendParams tol).1 := by
  simp [arcSegsFrom, curveSegs]

theorem segsT_arc_append (s l : Point K) (a : Arc K) (tol : K) (rest : List (PathEl K)) :
    segsT (s, l) (a.append_iter tol ++ rest)
      = arcSegsFrom l a tol ++ segsT (s, penAfter l (a.append_iter tol)) rest := by
  rw [segsT_append, append_iter_eq, segsT_curveEls, stAfterT_curveEls, penAfter_curveEls]
  rfl

/-- what holds of all sample points `center + sampleEllipse radii rot θ` of the arc's ellipse holds of all end points -/
theorem append_iter_forall_sample (a : Arc K) (tol : K) {P : Point K → Prop}
    (h : ∀ θ, P (a.center + sampleEllipse a.radii a.x_rotation θ)) :
    ∀ el ∈ a.append_iter tol, ∃ p, el.end_point = some p ∧ P p := by
  intro el hel
  rw [append_iter_eq] at hel
  obtain ⟨k, -, rfl⟩ := mem_curveEls hel
  exact ⟨_, rfl, h _⟩

theorem arc_path_forall_sample (a : Arc K) (tol : K) {P : Point K → Prop}
    (h : ∀ θ, P (a.center + sampleEllipse a.radii a.x_rotation θ)) :
    ∀ el ∈ a.path_elements tol, ∃ p, el.end_point = some p ∧ P p := by
  intro el hel
  rcases List.mem_cons.mp hel with rfl | hel
  · exact ⟨_, rfl, h _⟩
  · exact append_iter_forall_sample a tol h el hel

theorem segsT_lineTo (s l p : Point K) (rest : List (PathEl K)) :
    segsT (s, l) (PathEl.LineTo p :: rest) = PathSeg.Line ⟨l, p⟩ :: segsT (s, p) rest := rfl

end Kurbo
