import Proofs.Lemmas.C15Itp
import Proofs.Lemmas.RealLaws
import Mathlib.Topology.Order.IntermediateValue
import Mathlib.Analysis.SpecialFunctions.Log.Base
/-! helper lemmas for C15, ITP over ℝ: intermediate value theorem on the final sub-bracket, and the laws of `log2` and
    `as usize` from which the iteration budget `nmax` is derived -/
namespace Kurbo

theorem ItpResult.exists_zero_near {f : ℝ → ℝ} {ε a b x : ℝ} (h : ItpResult f ε a b x) (hε : 0 ≤ ε)
    (hf : ContinuousOn f (Set.Icc a b)) : ∃ z ∈ Set.Icc a b, f z = 0 ∧ |x - z| ≤ ε := by
  obtain ⟨a', b', h1, h2, h3, h4, h5, h6, h7⟩ := h
  rcases h7 with h7 | ⟨hw, hx⟩
  · exact ⟨x, ⟨h1.trans h2, h3.trans h4⟩, h7, by rw [sub_self, abs_zero]; exact hε⟩
  · have hsub : Set.Icc a' b' ⊆ Set.Icc a b := Set.Icc_subset_Icc h1 h4
    have hivt := intermediate_value_Icc (h2.trans h3) (hf.mono hsub)
    obtain ⟨z, hz, hfz⟩ := hivt ⟨h5.le, h6.le⟩
    refine ⟨z, hsub hz, hfz, ?_⟩
    rw [hx, abs_sub_comm]
    exact (abs_sub_mid_le_iff.mpr hz).trans (by linear_combination (1 / 2 : ℝ) * hw)

/-- `f64::log2` on positive arguments and `as usize` over ℝ (saturation at `usize::MAX` is not modelled) -/
class LawfulRealLog [Scalar ℝ] : Prop where
  log2_eq : ∀ x : ℝ, 0 < x → Scalar.log2 x = Real.logb 2 x
  toUSize_eq : ∀ x : ℝ, Scalar.toUSize x = ⌊x⌋₊

theorem realScalar_lawfulRealLog : @LawfulRealLog realScalar :=
  letI := realScalar
  { log2_eq := fun _ _ => rfl, toUSize_eq := fun _ => rfl }

end Kurbo
