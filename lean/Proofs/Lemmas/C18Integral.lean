import Proofs.Lemmas.C18
import Mathlib.Analysis.SpecialFunctions.Integrals.Basic
import Mathlib.Topology.Algebra.Polynomial
/-! The integral of a product of three polynomials in the power basis is a difference of the trilinear primitive `c18_F`
    (the fundamental theorem for the antiderivative `c18_Q` in `ℝ[X]`), and with it the three moment integrals along a
    cubic over any parameter range are differences of `c18_momentPrim`.  Used by C18 and, for `∫ y dx`, by C02. -/
namespace Kurbo
open Finset intervalIntegral

open Polynomial in
theorem c18_integral_prod (a b d : ℕ → ℝ) (u v : ℝ) :
    ∫ t in u..v, c18_poly a 4 t * c18_poly b 4 t * c18_poly d 3 t = c18_F a b d v - c18_F a b d u := by
  have h := integral_eq_sub_of_hasDerivAt (fun t _ => (c18_Q a b d).hasDerivAt t)
    ((derivative (c18_Q a b d)).continuous.intervalIntegrable u v)
  simpa only [c18_Q_derivative, eval_mul, c18_P_eval, c18_Q_eval] using h

theorem c18_integrals_eq_prim [Scalar ℝ] [LawfulScalar ℝ] (c : CubicBez ℝ) (u v : ℝ) :
    ((∫ t in u..v, (c.eval t).y * (c.deriv.eval t).x),
     (∫ t in u..v, (c.eval t).x * (c.eval t).y * (c.deriv.eval t).x),
     (∫ t in u..v, (c.eval t).y ^ 2 * (c.deriv.eval t).x)) = c18_momentPrim c v - c18_momentPrim c u := by
  simp only [c18_momentPrim, Prod.mk_sub_mk, ← c18_integral_prod, c18_eval_eq, c18_deriv_eq, c18_one_poly, one_mul, sq]

theorem c18_raise_deriv_eval [Scalar ℝ] [LawfulScalar ℝ] (q : QuadBez ℝ) (t : ℝ) :
    q.raise.deriv.eval t = q.deriv.eval t := by kring

end Kurbo
