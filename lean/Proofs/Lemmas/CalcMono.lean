import Mathlib.Analysis.Calculus.Deriv.MeanValue
import Mathlib.Topology.Order.IntermediateValue
import Mathlib.Topology.Order.DenselyOrdered
/-! calculus over ℝ, no model term: between consecutive zeros of a continuous derivative a function is strictly monotone,
    strictly antitone or constant -/
namespace Kurbo

theorem const_of_deriv_zero {f f' : ℝ → ℝ} (hf : ∀ t, HasDerivAt f (f' t) t) (h : ∀ u, f' u = 0) (x y : ℝ) : f x = f y := by
  have hd : Differentiable ℝ f := fun x => (hf x).differentiableAt
  have e : ∀ x, deriv f x = 0 := fun x => by rw [(hf x).deriv, h x]
  have hm := monotone_of_deriv_nonneg hd fun x => (e x).ge
  have ha := antitone_of_deriv_nonpos hd fun x => (e x).le
  rcases le_total x y with hxy | hxy
  · exact le_antisymm (hm hxy) (ha hxy)
  · exact le_antisymm (ha hxy) (hm hxy)

/-- by the intermediate value theorem a continuous derivative without zero inside `(a,b)` keeps one sign there -/
theorem strict_or_const {f f' : ℝ → ℝ} (hf : ∀ t, HasDerivAt f (f' t) t) (hc : Continuous f') (a b : ℝ)
    (h : (∀ u, f' u = 0) ∨ ∀ u, a < u → u < b → f' u ≠ 0) :
    StrictMonoOn f (Set.Icc a b) ∨ StrictAntiOn f (Set.Icc a b) ∨ ∀ t ∈ Set.Icc a b, f t = f a := by
  have hcont : ContinuousOn f (Set.Icc a b) := fun t _ => (hf t).continuousAt.continuousWithinAt
  have hconv : Convex ℝ (Set.Icc a b) := convex_Icc a b
  rcases h with h | h
  · exact Or.inr (Or.inr fun t _ => const_of_deriv_zero hf h t a)
  by_cases hneg : ∃ u, a < u ∧ u < b ∧ f' u < 0
  · right; left
    obtain ⟨u, hau, hub, hu⟩ := hneg
    refine strictAntiOn_of_deriv_neg hconv hcont ?_
    intro x hx
    rw [interior_Icc] at hx
    rw [(hf x).deriv]
    by_contra hpos
    have hpos : 0 ≤ f' x := not_lt.mp hpos
    have hsub : Set.uIcc u x ⊆ Set.Ioo a b := Set.OrdConnected.uIcc_subset Set.ordConnected_Ioo ⟨hau, hub⟩ hx
    have hmem : (0 : ℝ) ∈ Set.uIcc (f' u) (f' x) := by
      rw [Set.uIcc_of_le (hu.le.trans hpos)]; exact ⟨hu.le, hpos⟩
    obtain ⟨w, hw, hw0⟩ := intermediate_value_uIcc hc.continuousOn hmem
    exact h w (hsub hw).1 (hsub hw).2 hw0
  · left
    refine strictMonoOn_of_deriv_pos hconv hcont ?_
    intro x hx
    rw [interior_Icc] at hx
    rw [(hf x).deriv]
    rcases lt_trichotomy (f' x) 0 with hlt | heq | hgt
    · exact absurd ⟨x, hx.1, hx.2, hlt⟩ hneg
    · exact absurd heq (h x hx.1 hx.2)
    · exact hgt

theorem monoOn_or_antiOn_of_strict {f : ℝ → ℝ} {a b : ℝ}
    (h : StrictMonoOn f (Set.Icc a b) ∨ StrictAntiOn f (Set.Icc a b) ∨ ∀ t ∈ Set.Icc a b, f t = f a) :
    MonotoneOn f (Set.Icc a b) ∨ AntitoneOn f (Set.Icc a b) :=
  h.elim (fun h => Or.inl h.monotoneOn) fun h => h.elim (fun h => Or.inr h.antitoneOn)
    fun h => Or.inl fun x hx y hy _ => by rw [h x hx, h y hy]

end Kurbo
