import Kurbo.Solve
import Proofs.Lawful
import Proofs.Lemmas.C15Quad
import Mathlib.Tactic.LinearCombination
/-! helper lemmas for C15: `solve_cubic` and the reductions of `solve_quartic` in field operations -/
namespace Kurbo

theorem length_ite_le {α : Type} {c : Prop} [Decidable c] {a b : List α} {n : Nat} (ha : a.length ≤ n)
    (hb : b.length ≤ n) : (if c then a else b).length ≤ n := by
  split_ifs <;> assumption

variable {K : Type} [Field K] [LinearOrder K] [IsStrictOrderedRing K] [FloorRing K] [Scalar K] [LawfulScalar K]

def cubD0 (a1 a2 : K) : K := -a2 * a2 + a1
def cubD1 (a0 a1 a2 : K) : K := -a1 * a2 + a0
def cubD2 (a0 a1 a2 : K) : K := a2 * a0 - a1 * a1
def cubD (a0 a1 a2 : K) : K := 4 * cubD0 a1 a2 * cubD2 a0 a1 a2 - cubD1 a0 a1 a2 * cubD1 a0 a1 a2
def cubDe (a0 a1 a2 : K) : K := -2 * a2 * cubD0 a1 a2 + cubD1 a0 a1 a2

/-- `solve_cubic` after the division by `c3`, on the scaled coefficients (`x³ + 3·a2·x² + 3·a1·x + a0`), with the
    field operations of `K` and the transcendental functions of the `Scalar` instance -/
def cubicCore (a0 a1 a2 : K) : List K :=
  if cubD a0 a1 a2 < 0 then
    [Scalar.cbrt (-(1 / 2) * cubDe a0 a1 a2 + Scalar.sqrt (-(1 / 4) * cubD a0 a1 a2))
      + Scalar.cbrt (-(1 / 2) * cubDe a0 a1 a2 - Scalar.sqrt (-(1 / 4) * cubD a0 a1 a2)) - a2]
  else if cubD a0 a1 a2 = 0 then
    [(if cubDe a0 a1 a2 < 0 then -|Scalar.sqrt (-cubD0 a1 a2)| else |Scalar.sqrt (-cubD0 a1 a2)|) - a2,
     -2 * (if cubDe a0 a1 a2 < 0 then -|Scalar.sqrt (-cubD0 a1 a2)| else |Scalar.sqrt (-cubD0 a1 a2)|) - a2]
  else
    [2 * Scalar.sqrt (-cubD0 a1 a2) * Scalar.cos (Scalar.atan2 (Scalar.sqrt (cubD a0 a1 a2)) (-cubDe a0 a1 a2) * (1 / 3)) + -a2,
     2 * Scalar.sqrt (-cubD0 a1 a2) * (1 / 2 * (-Scalar.cos (Scalar.atan2 (Scalar.sqrt (cubD a0 a1 a2)) (-cubDe a0 a1 a2) * (1 / 3))
        + Scalar.sin (Scalar.atan2 (Scalar.sqrt (cubD a0 a1 a2)) (-cubDe a0 a1 a2) * (1 / 3)) * Scalar.sqrt 3)) + -a2,
     2 * Scalar.sqrt (-cubD0 a1 a2) * (1 / 2 * (-Scalar.cos (Scalar.atan2 (Scalar.sqrt (cubD a0 a1 a2)) (-cubDe a0 a1 a2) * (1 / 3))
        - Scalar.sin (Scalar.atan2 (Scalar.sqrt (cubD a0 a1 a2)) (-cubDe a0 a1 a2) * (1 / 3)) * Scalar.sqrt 3)) + -a2]

theorem solveCubic_eq (c0 c1 c2 c3 : K) :
    solveCubic c0 c1 c2 c3 =
      if c3 = 0 then solveQuadratic c0 c1 c2
      else cubicCore (c0 * (1 / c3)) (c1 * (1 / 3 * (1 / c3))) (c2 * (1 / 3 * (1 / c3))) := by
  unfold solveCubic cubicCore cubDe cubD cubD0 cubD1 cubD2
  simp only [scalar_norm]
  push_cast
  simp only [Bool.and_self, Bool.not_eq_true', decide_eq_false_iff_not, decide_eq_true_eq, ne_eq, not_not]

theorem solveQuarticWith_eq (inner : K → K → K → K → K → List K) (c0 c1 c2 c3 c4 : K) :
    solveQuarticWith inner c0 c1 c2 c3 c4 =
      if c4 = 0 then solveCubic c0 c1 c2 c3
      else if c0 = 0 then solveCubic c1 c2 c3 c4 ++ [0]
      else if c3 / c4 = 0 ∧ c1 / c4 = 0 then solveBiquadratic (c2 / c4) (c0 / c4)
      else inner c0 c1 c2 c3 c4 := by
  unfold solveQuarticWith
  simp only [scalar_norm, Nat.cast_zero, decide_eq_true_eq, Bool.and_eq_true]

end Kurbo
