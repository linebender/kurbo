import Proofs.Lemmas.C15QBasic
/-! helper lemmas for C15Q: exactness of the quadratic pair that `factor_quartic_inner` forms from an exact LDLᵀ
    decomposition (both branches), before the Newton loop -/
namespace Kurbo

section structural
variable {K : Type} [Scalar K]

/-- the candidate loop keeps a pair that every finite candidate equals -/
theorem alphaPick_inv {a b c beta_1 beta_2 : K} {first : Bool} {st : K × K × K} {cand : K × K × Bool} {x y : K}
    (hc : cand.2.2 = true → cand.1 = x ∧ cand.2.1 = y) (hs : st.1 = x ∧ st.2.1 = y) :
    (alphaPick a b c beta_1 beta_2 first st cand).1 = x ∧ (alphaPick a b c beta_1 beta_2 first st cand).2.1 = y := by
  unfold alphaPick
  by_cases h : cand.2.2 = true
  · rw [if_pos h]
    dsimp only
    split_ifs
    · exact hc h
    · exact hs
  · rw [if_neg h]; exact hs
end structural

section algebra
variable {K : Type} [Field K]

/-- the LDLᵀ identities: `x⁴ + a x³ + b x² + c x + d = (x² + l_1 x + l_3)² + d_2 (x + l_2)²`, coefficient by coefficient -/
def LdlExact (a b c d l_1 l_3 d_2 l_2 : K) : Prop :=
  2 * l_1 = a ∧ d_2 + l_1 * l_1 + 2 * l_3 = b ∧ 2 * (d_2 * l_2 + l_1 * l_3) = c ∧ d_2 * l_2 * l_2 + l_3 * l_3 = d

theorem LdlExact.quartic_eq {a b c d l_1 l_3 d_2 l_2 : K} (h : LdlExact a b c d l_1 l_3 d_2 l_2) (x : K) :
    x ^ 4 + a * x ^ 3 + b * x ^ 2 + c * x + d = (x ^ 2 + l_1 * x + l_3) ^ 2 + d_2 * (x + l_2) ^ 2 := by
  obtain ⟨ha, h1, h2, h3⟩ := h
  rw [← ha, ← h1, ← h2, ← h3]; ring

end algebra

variable {K : Type} [Field K] [LinearOrder K] [IsStrictOrderedRing K] [FloorRing K] [Scalar K] [LawfulScalar K]

theorem sn_sne (a b : K) : sne a b = decide (a ≠ b) := by
  unfold sne; rw [sn_beq]; simp

theorem betaFixNeg_exact {d beta_1 beta_2 : K} (h : beta_1 * beta_2 = d) : betaFixNeg d beta_1 beta_2 = (beta_1, beta_2) := by
  unfold betaFixNeg
  simp only [scalar_norm, decide_eq_true_eq]
  split_ifs with h1 h2
  · rw [← h, mul_div_cancel_left₀ _ (abs_pos.mp ((abs_nonneg _).trans_lt h1))]
  · rw [← h, mul_div_cancel_right₀ _ (abs_pos.mp ((abs_nonneg _).trans_lt h2))]
  · rfl

/-- the two branches make the same replacement; only the tests are written the other way round -/
theorem betaFixZero_eq_neg (d beta_1 beta_2 : K) : betaFixZero d beta_1 beta_2 = betaFixNeg d beta_1 beta_2 := by
  unfold betaFixZero betaFixNeg
  simp only [scalar_norm]

theorem alphaCands_exact {a b c alpha_1 alpha_2 beta_1 beta_2 : K} (h1 : alpha_1 + alpha_2 = a)
    (h2 : beta_1 + alpha_1 * alpha_2 + beta_2 = b) (h3 : beta_1 * alpha_2 + alpha_1 * beta_2 = c) :
    ((alphaCands a b c alpha_1 alpha_2 beta_1 beta_2).1.2.2 = true →
      (alphaCands a b c alpha_1 alpha_2 beta_1 beta_2).1.1 = alpha_1 ∧
      (alphaCands a b c alpha_1 alpha_2 beta_1 beta_2).1.2.1 = alpha_2) ∧
    ((alphaCands a b c alpha_1 alpha_2 beta_1 beta_2).2.1.2.2 = true →
      (alphaCands a b c alpha_1 alpha_2 beta_1 beta_2).2.1.1 = alpha_1 ∧
      (alphaCands a b c alpha_1 alpha_2 beta_1 beta_2).2.1.2.1 = alpha_2) ∧
    ((alphaCands a b c alpha_1 alpha_2 beta_1 beta_2).2.2.2.2 = true →
      (alphaCands a b c alpha_1 alpha_2 beta_1 beta_2).2.2.1 = alpha_1 ∧
      (alphaCands a b c alpha_1 alpha_2 beta_1 beta_2).2.2.2.1 = alpha_2) := by
  generalize hcs : alphaCands a b c alpha_1 alpha_2 beta_1 beta_2 = cs
  unfold alphaCands at hcs
  simp only [scalar_norm, decide_eq_true_eq, Bool.and_true, Bool.true_and] at hcs
  by_cases hlt : |alpha_1| < |alpha_2|
  · rw [if_pos hlt] at hcs
    subst hcs
    dsimp only
    refine ⟨fun _ => ⟨by linear_combination (-1 : K) * h1, rfl⟩, fun hf => ⟨?_, rfl⟩, fun hf => ⟨?_, rfl⟩⟩
    · rw [div_eq_iff (of_decide_eq_true hf)]; linear_combination (-1 : K) * h3
    · rw [div_eq_iff (of_decide_eq_true hf)]; linear_combination (-1 : K) * h2
  · rw [if_neg hlt] at hcs
    subst hcs
    dsimp only
    refine ⟨fun _ => ⟨rfl, by linear_combination (-1 : K) * h1⟩, fun hf => ⟨rfl, ?_⟩, fun hf => ⟨rfl, ?_⟩⟩
    · rw [div_eq_iff (of_decide_eq_true hf)]; linear_combination (-1 : K) * h3
    · rw [div_eq_iff (of_decide_eq_true hf)]; linear_combination (-1 : K) * h2

theorem alphaSelect_exact {a b c alpha_1 alpha_2 beta_1 beta_2 : K} (h1 : alpha_1 + alpha_2 = a)
    (h2 : beta_1 + alpha_1 * alpha_2 + beta_2 = b) (h3 : beta_1 * alpha_2 + alpha_1 * beta_2 = c) :
    alphaSelect a b c alpha_1 alpha_2 beta_1 beta_2 = (alpha_1, alpha_2) := by
  unfold alphaSelect
  by_cases hne : sne (sabs alpha_1) (sabs alpha_2) = true
  · rw [if_pos hne]
    obtain ⟨c1, c2, c3⟩ := alphaCands_exact h1 h2 h3
    dsimp only
    rw [Prod.mk.injEq]
    exact alphaPick_inv c3 (alphaPick_inv c2 (alphaPick_inv c1 ⟨rfl, rfl⟩))
  · rw [if_neg hne]

theorem ldlInit_eq (a b c d l_1 l_3 d_2 l_2 : K) :
    ldlInit a b c d l_1 l_3 d_2 l_2 =
      if d_2 < 0 then
        some ((alphaSelect a b c (l_1 + Scalar.sqrt (-d_2)) (l_1 - Scalar.sqrt (-d_2))
            (betaFixNeg d (l_3 + Scalar.sqrt (-d_2) * l_2) (l_3 - Scalar.sqrt (-d_2) * l_2)).1
            (betaFixNeg d (l_3 + Scalar.sqrt (-d_2) * l_2) (l_3 - Scalar.sqrt (-d_2) * l_2)).2).1,
          (betaFixNeg d (l_3 + Scalar.sqrt (-d_2) * l_2) (l_3 - Scalar.sqrt (-d_2) * l_2)).1,
          (alphaSelect a b c (l_1 + Scalar.sqrt (-d_2)) (l_1 - Scalar.sqrt (-d_2))
            (betaFixNeg d (l_3 + Scalar.sqrt (-d_2) * l_2) (l_3 - Scalar.sqrt (-d_2) * l_2)).1
            (betaFixNeg d (l_3 + Scalar.sqrt (-d_2) * l_2) (l_3 - Scalar.sqrt (-d_2) * l_2)).2).2,
          (betaFixNeg d (l_3 + Scalar.sqrt (-d_2) * l_2) (l_3 - Scalar.sqrt (-d_2) * l_2)).2)
      else if d_2 = 0 then
        some (l_1, (betaFixZero d (l_3 + Scalar.sqrt (-(d - l_3 * l_3))) (l_3 - Scalar.sqrt (-(d - l_3 * l_3)))).1,
          l_1, (betaFixZero d (l_3 + Scalar.sqrt (-(d - l_3 * l_3))) (l_3 - Scalar.sqrt (-(d - l_3 * l_3)))).2)
      else none := by
  unfold ldlInit
  simp only [scalar_norm, Nat.cast_zero, decide_eq_true_eq]

theorem ldlInit_neg_of_exact {a b c d l_1 l_3 d_2 l_2 : K} (hd : d_2 < 0)
    (h : FactorsQuartic a b c d (l_1 + Scalar.sqrt (-d_2)) (l_3 + Scalar.sqrt (-d_2) * l_2)
      (l_1 - Scalar.sqrt (-d_2)) (l_3 - Scalar.sqrt (-d_2) * l_2)) :
    ldlInit a b c d l_1 l_3 d_2 l_2 =
      some (l_1 + Scalar.sqrt (-d_2), l_3 + Scalar.sqrt (-d_2) * l_2, l_1 - Scalar.sqrt (-d_2), l_3 - Scalar.sqrt (-d_2) * l_2) := by
  rw [ldlInit_eq, if_pos hd, betaFixNeg_exact h.2.2.2]
  dsimp only
  rw [alphaSelect_exact h.1 h.2.1 h.2.2.1]

theorem ldlInit_zero_of_exact {a b c d l_1 l_3 l_2 : K}
    (h4 : (l_3 + Scalar.sqrt (-(d - l_3 * l_3))) * (l_3 - Scalar.sqrt (-(d - l_3 * l_3))) = d) :
    ldlInit a b c d l_1 l_3 0 l_2 =
      some (l_1, l_3 + Scalar.sqrt (-(d - l_3 * l_3)), l_1, l_3 - Scalar.sqrt (-(d - l_3 * l_3))) := by
  rw [ldlInit_eq, if_neg (lt_irrefl _), if_pos rfl, betaFixZero_eq_neg, betaFixNeg_exact h4]

theorem ldlInit_pos_eq {a b c d l_1 l_3 d_2 l_2 : K} (hd : 0 < d_2) : ldlInit a b c d l_1 l_3 d_2 l_2 = none := by
  rw [ldlInit_eq, if_neg (lt_asymm hd), if_neg hd.ne']

end Kurbo
