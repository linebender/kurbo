import Proofs.Lemmas.KernelEqs
import Proofs.Lemmas.C07Inst
import Proofs.Lemmas.C04Inv
import Proofs.Lemmas.C04Field
/-! C04 over a lawful ordered field with the law of `hypot` (`C04HypotLaw`): the offset vector, the miter point, caps. -/
set_option linter.unusedSectionVars false
namespace Kurbo

/-- `hypot` is the Euclidean norm: non-negative with the right square (true of `√(x²+y²)` over ℝ; `Rat`'s executable `hypot`
    only approximates irrational roots and is not an instance) -/
class C04HypotLaw (K : Type) [Field K] [LinearOrder K] [Scalar K] : Prop where
  hypot_nonneg : ∀ x y : K, 0 ≤ Scalar.hypot x y
  hypot_mul_self : ∀ x y : K, Scalar.hypot x y * Scalar.hypot x y = x * x + y * y

variable {K : Type} [Field K] [LinearOrder K] [IsStrictOrderedRing K] [FloorRing K] [Scalar K] [LawfulScalar K]

theorem c04_norm_x (w : K) (t : Vec2 K) : (c04_norm w t).x = -t.y * (1 / 2 * w / Scalar.hypot t.x t.y) := by
  simp only [c04_norm, Vec2.hypot, kdefs, scalar_norm]
  push_cast
  ring

theorem c04_norm_y (w : K) (t : Vec2 K) : (c04_norm w t).y = t.x * (1 / 2 * w / Scalar.hypot t.x t.y) := by
  simp only [c04_norm, Vec2.hypot, kdefs, scalar_norm]
  push_cast
  ring

theorem c04_norm_dot (w : K) (t : Vec2 K) : (c04_norm w t).dot t = 0 := by
  simp only [Vec2.dot, scalar_norm, c04_norm_x, c04_norm_y]
  ring

section hypot
variable [C04HypotLaw K]

theorem c04_hypot_pos (x y : K) (h : x ≠ 0 ∨ y ≠ 0) : 0 < Scalar.hypot x y :=
  normal_len_pos (C04HypotLaw.hypot_nonneg x y) (C04HypotLaw.hypot_mul_self x y) h

theorem c04_hypot_cross_dot (ax ay cx cy : K) :
    Scalar.hypot (ax * cy - ay * cx) (ax * cx + ay * cy) = Scalar.hypot ax ay * Scalar.hypot cx cy := by
  have h1 := C04HypotLaw.hypot_nonneg (ax * cy - ay * cx) (ax * cx + ay * cy)
  have h2 : 0 ≤ Scalar.hypot ax ay * Scalar.hypot cx cy :=
    mul_nonneg (C04HypotLaw.hypot_nonneg _ _) (C04HypotLaw.hypot_nonneg _ _)
  rw [← mul_self_inj h1 h2, C04HypotLaw.hypot_mul_self]
  have ea := C04HypotLaw.hypot_mul_self ax ay
  have ec := C04HypotLaw.hypot_mul_self cx cy
  have : Scalar.hypot ax ay * Scalar.hypot cx cy * (Scalar.hypot ax ay * Scalar.hypot cx cy)
      = (Scalar.hypot ax ay * Scalar.hypot ax ay) * (Scalar.hypot cx cy * Scalar.hypot cx cy) := by ring
  rw [this, ea, ec]
  ring

theorem c04_norm_frame (w : K) (t : Vec2 K) (ht : t.x ≠ 0 ∨ t.y ≠ 0) :
    ∃ k : K, (c04_norm w t).x = -t.y * k ∧ (c04_norm w t).y = t.x * k ∧ k * Scalar.hypot t.x t.y = w / 2 ∧
      (0 < w → 0 < k) := by
  refine ⟨_, c04_norm_x w t, c04_norm_y w t, ?_, fun hw => div_pos (mul_pos one_half_pos hw) (c04_hypot_pos _ _ ht)⟩
  rw [div_mul_cancel₀ _ (c04_hypot_pos t.x t.y ht).ne']
  ring

theorem c04_norm_hypot2 (w : K) (t : Vec2 K) (ht : t.x ≠ 0 ∨ t.y ≠ 0) : (c04_norm w t).hypot2 = (w / 2) ^ 2 := by
  obtain ⟨k, hx, hy, hk, -⟩ := c04_norm_frame w t ht
  simp only [Vec2.hypot2, Vec2.dot, scalar_norm, hx, hy, sq]
  exact (normal_frame t.x t.y _ k _ (C04HypotLaw.hypot_mul_self t.x t.y) hk).1

theorem c04_norm_cross (w : K) (t : Vec2 K) (ht : t.x ≠ 0 ∨ t.y ≠ 0) :
    t.cross (c04_norm w t) = w / 2 * t.hypot := by
  obtain ⟨k, hx, hy, hk, -⟩ := c04_norm_frame w t ht
  simp only [Vec2.cross, Vec2.hypot, scalar_norm, hx, hy]
  exact (normal_frame t.x t.y _ k _ (C04HypotLaw.hypot_mul_self t.x t.y) hk).2.2

end hypot

theorem c04_offsets_opposite (p1 : Point K) (n : Vec2 K) :
    (p1 + n) - p1 = n ∧ (p1 - n) - p1 = -n ∧ ∀ p0 : Point K, (p1 - n) - (p0 - n) = p1 - p0 ∧ (p1 + n) - (p0 + n) = p1 - p0 := by
  cases n
  simp only [kdefs, scalar_norm, add_sub_cancel_left, sub_sub_cancel_left, sub_sub_sub_cancel_right,
    add_sub_add_right_eq_sub, and_self, implies_true]

/-- the vector `last_pt − return_p` that `finish` gives the end cap, for `return_p = last_pt + n` -/
theorem c04_endCap_vec (p : Point K) (n : Vec2 K) : p - (p + n) = -n := by
  cases p; cases n
  simp only [kdefs, scalar_norm, sub_add_cancel_left]

theorem c04_offset_dist (p1 : Point K) (n : Vec2 K) :
    (p1 - n).distance_squared p1 = n.hypot2 ∧ (p1 + n).distance_squared p1 = n.hypot2 := by
  simp only [kdefs, scalar_norm, sub_sub_cancel_left, add_sub_cancel_left, neg_mul_neg, and_self]

theorem c04_squareCap_eq (close : Bool) (s : Point K) (n : Vec2 K) :
    squareCap close s n =
      [PathEl.LineTo ⟨s.x + n.x - n.y, s.y + n.y + n.x⟩, PathEl.LineTo ⟨s.x - n.x - n.y, s.y - n.y + n.x⟩] ++
      (if close then [PathEl.ClosePath] else [PathEl.LineTo ⟨s.x - n.x, s.y - n.y⟩]) := by
  simp only [squareCap, Affine.act_eq, kdefs, scalar_norm]
  push_cast
  congr 1
  · simp only [List.cons.injEq, PathEl.LineTo.injEq, Point.mk.injEq, and_true]
    exact ⟨⟨by ring, by ring⟩, by ring, by ring⟩
  · cases close
    · simp only [Bool.false_eq_true, if_false, List.cons.injEq, PathEl.LineTo.injEq, Point.mk.injEq, and_true]
      exact ⟨by ring, by ring⟩
    · rfl

theorem c04_squareCap_dist (s : Point K) (n : Vec2 K) :
    (⟨s.x + n.x - n.y, s.y + n.y + n.x⟩ : Point K).distance_squared s = 2 * n.hypot2 ∧
    (⟨s.x - n.x - n.y, s.y - n.y + n.x⟩ : Point K).distance_squared s = 2 * n.hypot2 ∧
    (⟨s.x - n.x, s.y - n.y⟩ : Point K).distance_squared s = n.hypot2 := by
  simp only [kdefs, scalar_norm]
  exact ⟨by ring, by ring, by ring⟩

theorem c04_pivot_pos (p0 : Point K) (cross : K) (h : 0 < cross) :
    c04_pivotF p0 cross = [] ∧ c04_pivotB p0 cross = [PathEl.LineTo p0] := by
  simp only [c04_pivotF, c04_pivotB, scalar_norm, Nat.cast_zero, decide_eq_true_eq, h, if_true, and_self]
theorem c04_pivot_neg (p0 : Point K) (cross : K) (h : cross < 0) :
    c04_pivotF p0 cross = [PathEl.LineTo p0] ∧ c04_pivotB p0 cross = [] := by
  simp only [c04_pivotF, c04_pivotB, scalar_norm, Nat.cast_zero, decide_eq_true_eq, h, not_lt_of_gt h, if_true, if_false,
    and_self]
theorem c04_pivot_zero (p0 : Point K) : c04_pivotF p0 (0 : K) = [] ∧ c04_pivotB p0 (0 : K) = [] := by
  simp only [c04_pivotF, c04_pivotB, scalar_norm, Nat.cast_zero, decide_eq_true_eq, lt_irrefl, if_false, and_self]

/-- the point of the line through `B` along `cd` that lies on the line through `A` along `ab`, as `do_join` computes the
    miter point -/
def c04_meet (A B : Point K) (ab cd : Vec2 K) : Point K :=
  open Ops in B - cd * (ab.cross (B - A) / ab.cross cd)

theorem c04_miterPtF_eq_meet (w : K) (p0 : Point K) (ab cd : Vec2 K) :
    c04_miterPtF w p0 ab cd = c04_meet (p0 - c04_norm w ab) (p0 - c04_norm w cd) ab cd := rfl
theorem c04_miterPtB_eq_meet (w : K) (p0 : Point K) (ab cd : Vec2 K) :
    c04_miterPtB w p0 ab cd = c04_meet (p0 + c04_norm w ab) (p0 + c04_norm w cd) ab cd := rfl

theorem c04_meet_on_lines (A B : Point K) (ab cd : Vec2 K) (hX : ab.cross cd ≠ 0) :
    (c04_meet A B ab cd - B).cross cd = 0 ∧ (c04_meet A B ab cd - A).cross ab = 0 := by
  simp only [c04_meet, kdefs, scalar_norm] at hX ⊢
  constructor
  · ring
  · linear_combination div_mul_cancel₀ (ab.x * (B.y - A.y) - ab.y * (B.x - A.x)) hX

theorem c04_cross_neg (a b : Vec2 K) : a.cross (-b) = -(a.cross b) := by
  simp only [kdefs, scalar_norm]
  ring

section miter
variable [C04HypotLaw K]

theorem c04_meet_dist (p0 A B : Point K) (ab cd : Vec2 K) (ρ : K) (hX : ab.cross cd ≠ 0)
    (hA : ab.cross (A - p0) = ρ * ab.hypot) (hB : cd.cross (B - p0) = ρ * cd.hypot) :
    (c04_meet A B ab cd).distance_squared p0 * (Scalar.hypot (ab.cross cd) (ab.dot cd) + ab.dot cd)
      = 2 * ρ ^ 2 * Scalar.hypot (ab.cross cd) (ab.dot cd) := by
  obtain ⟨l1, l2⟩ := c04_meet_on_lines A B ab cd hX
  generalize c04_meet A B ab cd = M at l1 l2 ⊢
  simp only [Point.distance_squared, Vec2.hypot2, Vec2.hypot, kdefs, scalar_norm] at hX hA hB l1 l2 ⊢
  rw [c04_hypot_cross_dot]
  have := c04_miter_core ab.x ab.y cd.x cd.y _ _ ρ (M.x - p0.x) (M.y - p0.y) (C04HypotLaw.hypot_mul_self _ _)
    (C04HypotLaw.hypot_mul_self _ _) hX (by linear_combination hB - l1) (by linear_combination hA - l2)
  linear_combination this

theorem c04_miterPtF_spec (w : K) (p0 : Point K) (ab cd : Vec2 K) (hab : ab.x ≠ 0 ∨ ab.y ≠ 0) (hcd : cd.x ≠ 0 ∨ cd.y ≠ 0)
    (hX : ab.cross cd ≠ 0) :
    (c04_miterPtF w p0 ab cd).distance_squared p0 * (Scalar.hypot (ab.cross cd) (ab.dot cd) + ab.dot cd)
        = 2 * (w / 2) ^ 2 * Scalar.hypot (ab.cross cd) (ab.dot cd) ∧
    (c04_miterPtF w p0 ab cd - (p0 - c04_norm w cd)).cross cd = 0 ∧
    (c04_miterPtF w p0 ab cd - (p0 - c04_norm w ab)).cross ab = 0 := by
  rw [c04_miterPtF_eq_meet]
  have hd := c04_meet_dist p0 (p0 - c04_norm w ab) (p0 - c04_norm w cd) ab cd (-(w / 2)) hX
    (by rw [(c04_offsets_opposite p0 _).2.1, c04_cross_neg, c04_norm_cross w ab hab, neg_mul])
    (by rw [(c04_offsets_opposite p0 _).2.1, c04_cross_neg, c04_norm_cross w cd hcd, neg_mul])
  rw [neg_sq] at hd
  exact ⟨hd, c04_meet_on_lines _ _ ab cd hX⟩

theorem c04_miterPtB_spec (w : K) (p0 : Point K) (ab cd : Vec2 K) (hab : ab.x ≠ 0 ∨ ab.y ≠ 0) (hcd : cd.x ≠ 0 ∨ cd.y ≠ 0)
    (hX : ab.cross cd ≠ 0) :
    (c04_miterPtB w p0 ab cd).distance_squared p0 * (Scalar.hypot (ab.cross cd) (ab.dot cd) + ab.dot cd)
        = 2 * (w / 2) ^ 2 * Scalar.hypot (ab.cross cd) (ab.dot cd) ∧
    (c04_miterPtB w p0 ab cd - (p0 + c04_norm w cd)).cross cd = 0 ∧
    (c04_miterPtB w p0 ab cd - (p0 + c04_norm w ab)).cross ab = 0 := by
  rw [c04_miterPtB_eq_meet]
  exact ⟨c04_meet_dist p0 (p0 + c04_norm w ab) (p0 + c04_norm w cd) ab cd (w / 2) hX
      (by rw [(c04_offsets_opposite p0 _).1, c04_norm_cross w ab hab])
      (by rw [(c04_offsets_opposite p0 _).1, c04_norm_cross w cd hcd]),
    c04_meet_on_lines _ _ ab cd hX⟩

theorem c04_miterTest_iff (c : StrokeCtx K) (style : StrokeStyle K) (tan0 : Vec2 K) :
    c04_miterTest c style tan0 = true ↔
      2 * Scalar.hypot (c.last_tan.cross tan0) (c.last_tan.dot tan0)
        < (Scalar.hypot (c.last_tan.cross tan0) (c.last_tan.dot tan0) + c.last_tan.dot tan0) * style.miter_limit ^ 2 := by
  simp only [c04_miterTest, scalar_norm, decide_eq_true_eq]
  push_cast
  rfl

theorem c04_miter_within_ctx (c : StrokeCtx K) (style : StrokeStyle K) (tan0 : Vec2 K)
    (hab : c.last_tan.x ≠ 0 ∨ c.last_tan.y ≠ 0) (hcd : tan0.x ≠ 0 ∨ tan0.y ≠ 0) (ht : c04_miterTest c style tan0 = true) :
    (0 < c.last_tan.cross tan0 →
      (c04_miterPtF style.width c.last_pt c.last_tan tan0).distance_squared c.last_pt ≤ (style.width / 2 * style.miter_limit) ^ 2) ∧
    (c.last_tan.cross tan0 < 0 →
      (c04_miterPtB style.width c.last_pt c.last_tan tan0).distance_squared c.last_pt ≤ (style.width / 2 * style.miter_limit) ^ 2) := by
  rw [c04_miterTest_iff] at ht
  have hh := C04HypotLaw.hypot_nonneg (c.last_tan.cross tan0) (c.last_tan.dot tan0)
  constructor
  · intro hX
    exact c04_miter_within_core _ _ _ _ _ (c04_miterPtF_spec style.width c.last_pt c.last_tan tan0 hab hcd hX.ne').1 hh ht
  · intro hX
    exact c04_miter_within_core _ _ _ _ _ (c04_miterPtB_spec style.width c.last_pt c.last_tan tan0 hab hcd hX.ne).1 hh ht

end miter

theorem c04_peqSound : c04_PeqSound K := fun a b h => (peq_iff a b).1 h

theorem c04_sub_ne_zero {a b : Point K} (h : a ≠ b) : (a - b).x ≠ 0 ∨ (a - b).y ≠ 0 := by
  by_contra hn
  simp only [kdefs, scalar_norm, not_or, not_not] at hn
  apply h
  cases a; cases b
  simp only [Point.mk.injEq]
  simp only at hn
  exact ⟨sub_eq_zero.1 hn.1, sub_eq_zero.1 hn.2⟩

/-- the offset vector of the segment `p0 p1` in coordinates: `c04_norm w t = k·(−t.y, t.x)`, `t = p1 − p0 ≠ 0`, with `k > 0` and
    `k·|t| = w/2` -/
structure C04SegFrame (w : K) (p0 p1 : Point K) (k : K) : Prop where
  k_pos : 0 < k
  len_pos : 0 < (p1.x - p0.x) * (p1.x - p0.x) + (p1.y - p0.y) * (p1.y - p0.y)
  nx : (c04_norm w (p1 - p0)).x = -(p1.y - p0.y) * k
  ny : (c04_norm w (p1 - p0)).y = (p1.x - p0.x) * k
  sq : k * k * ((p1.x - p0.x) * (p1.x - p0.x) + (p1.y - p0.y) * (p1.y - p0.y)) = w / 2 * (w / 2)
  lin : k * ((p1.x - p0.x) * (p1.x - p0.x) + (p1.y - p0.y) * (p1.y - p0.y)) = w / 2 * Scalar.hypot (p1.x - p0.x) (p1.y - p0.y)

theorem c04_seg_frame [C04HypotLaw K] (w : K) (p0 p1 : Point K) (hw : 0 < w) (hne : p0 ≠ p1) : ∃ k : K, C04SegFrame w p0 p1 k := by
  have ht := c04_sub_ne_zero (Ne.symm hne)
  obtain ⟨k, hx, hy, hk, hk0⟩ := c04_norm_frame w (p1 - p0) ht
  have ex : (p1 - p0).x = p1.x - p0.x := by simp only [point_sub, scalar_norm]
  have ey : (p1 - p0).y = p1.y - p0.y := by simp only [point_sub, scalar_norm]
  simp only [ex, ey] at ht hx hy hk
  have hh := c04_hypot_pos _ _ ht
  have e := C04HypotLaw.hypot_mul_self (p1.x - p0.x) (p1.y - p0.y)
  refine ⟨k, hk0 hw, e ▸ mul_pos hh hh, hx, hy, ?_, ?_⟩ <;> rw [← e, ← hk] <;> ring

theorem c04_miterFB_pos (c : StrokeCtx K) (style : StrokeStyle K) (tan0 : Vec2 K) (h : 0 < c.last_tan.cross tan0) :
    c04_miterF c style tan0 =
      (if c04_miterTest c style tan0 then [PathEl.LineTo (c04_miterPtF style.width c.last_pt c.last_tan tan0)] else []) ∧
    c04_miterB c style tan0 = [] := by
  simp only [c04_miterF, c04_miterB, scalar_norm, Nat.cast_zero, decide_eq_true_eq, h, if_true, ite_self, and_self]

theorem c04_miterFB_neg (c : StrokeCtx K) (style : StrokeStyle K) (tan0 : Vec2 K) (h : c.last_tan.cross tan0 < 0) :
    c04_miterF c style tan0 = [] ∧
    c04_miterB c style tan0 =
      (if c04_miterTest c style tan0 then [PathEl.LineTo (c04_miterPtB style.width c.last_pt c.last_tan tan0)] else []) := by
  simp only [c04_miterF, c04_miterB, scalar_norm, Nat.cast_zero, decide_eq_true_eq, h, not_lt_of_gt h, if_true, if_false,
    ite_self, and_self]

theorem c04_miterFB_zero (c : StrokeCtx K) (style : StrokeStyle K) (tan0 : Vec2 K) (h : c.last_tan.cross tan0 = 0) :
    c04_miterF c style tan0 = [] ∧ c04_miterB c style tan0 = [] := by
  simp only [c04_miterF, c04_miterB, scalar_norm, Nat.cast_zero, decide_eq_true_eq, h, lt_irrefl, if_false, ite_self, and_self]

end Kurbo
