import Proofs.KDefs
import Proofs.Lemmas.RealLaws
import Kurbo.EllipsePerimeter
import Mathlib.Algebra.BigOperators.Group.Finset.Basic
import Mathlib.Algebra.Order.BigOperators.Group.Finset
import Mathlib.Algebra.Order.Floor.Semiring
import Mathlib.Data.Nat.Log
/-! Helper lemmas for C11E: the arithmetic-geometric-mean loop of `agm_elliptic_perimeter`.  For any scalar type the fuelled
    loop of the model returns `agmExit (agmSeq s n)` after `n + 1` passes when pass `n` is the first one whose stopping test
    succeeds and there is fuel for it.  Over ℝ the invariant `AgmInv` (`0 < g ≤ a ≤ 1`, `0 ≤ c`, `c² = a² − g²`, `mul = 2ⁿ/2`)
    gives the contraction `c' ≤ c/2`, `term' ≤ term/2`, hence the tail bound and the pass bound. -/
set_option linter.unusedSectionVars false
namespace Kurbo

section generic
variable {K : Type} [Scalar K]

/-- the state at the head of pass `n` (counting from 0) when the passes before it did not stop -/
def agmSeq (s : AgmState K) : ℕ → AgmState K
  | 0 => s
  | n + 1 => agmStep (agmSeq s n)

theorem agmSeq_succ (s : AgmState K) (n : ℕ) : agmSeq s (n + 1) = agmStep (agmSeq s n) := rfl

theorem agmSeq_step (s : AgmState K) (n : ℕ) : agmSeq (agmStep s) n = agmSeq s (n + 1) := by
  induction n with
  | zero => rfl
  | succ n ih => rw [agmSeq_succ, ih, agmSeq_succ s (n + 1)]

theorem agmLoop_of_first_stop (acc : K) : ∀ (n fuel k : ℕ) (s : AgmState K),
    (∀ i < n, (agmSeq s i).stops acc = false) → (agmSeq s n).stops acc = true → n < fuel →
    agmLoop acc fuel k s = (agmExit (agmSeq s n), k + n + 1) := by
  intro n
  induction n with
  | zero =>
    intro fuel k s _ hs hf
    obtain ⟨f, rfl⟩ := Nat.exists_eq_succ_of_ne_zero (Nat.ne_of_gt hf)
    have hs' : s.stops acc = true := hs
    show (if s.stops acc = true then _ else _) = _
    rw [if_pos hs']; rfl
  | succ n ih =>
    intro fuel k s hno hs hf
    obtain ⟨f, rfl⟩ := Nat.exists_eq_succ_of_ne_zero (Nat.ne_of_gt (Nat.lt_of_le_of_lt (Nat.zero_le _) hf))
    have h0 : s.stops acc = false := hno 0 (Nat.succ_pos n)
    show (if s.stops acc = true then _ else _) = _
    rw [if_neg (by rw [h0]; exact Bool.false_ne_true)]
    rw [ih f (k + 1) (agmStep s) (fun i hi => by rw [agmSeq_step]; exact hno (i + 1) (Nat.succ_lt_succ hi))
      (by rw [agmSeq_step]; exact hs) (Nat.lt_of_succ_lt_succ hf)]
    rw [agmSeq_step]
    congr 1
    omega

end generic

section real
open Real

theorem agm_core {a g : ℝ} (hg : 0 < g) (hga : g ≤ a) :
    g ≤ √(a * g) ∧ √(a * g) ≤ (a + g) / 2 ∧ (a + g) / 2 ≤ a ∧ 0 ≤ (a - g) / 2 ∧
      ((a - g) / 2) ^ 2 = ((a + g) / 2) ^ 2 - √(a * g) ^ 2 := by
  have hgg : g * g ≤ a * g := mul_le_mul_of_nonneg_right hga hg.le
  refine ⟨Real.le_sqrt_of_sq_le (by rwa [sq]), ?_, by linarith, by linarith, ?_⟩
  · exact Real.sqrt_le_iff.2 ⟨by linarith, by linarith [sq_nonneg (a - g)]⟩
  · rw [Real.sq_sqrt (mul_pos (hg.trans_le hga) hg).le]; ring

/-- the contraction claimed in the source comment (`c_(n+1) ≤ 1/2 c_n`): `c_{n+1} = (a_n − g_n)/2` and `c_n² = a_n² − g_n²` -/
theorem agm_contract {a g c : ℝ} (hg : 0 < g) (hga : g ≤ a) (hc : 0 ≤ c) (hcc : c ^ 2 = a ^ 2 - g ^ 2) :
    (a - g) / 2 ≤ c / 2 := by
  have hgg : g * g ≤ a * g := mul_le_mul_of_nonneg_right hga hg.le
  have h := (abs_le_of_sq_le_sq' (by rw [hcc]; linarith : (a - g) ^ 2 ≤ c ^ 2) hc).2
  linarith

variable [Scalar ℝ] [LawfulScalar ℝ] [LawfulReal]

/-- the loop invariant at the head of pass `n` -/
structure AgmInv (s : AgmState ℝ) (n : ℕ) : Prop where
  g_pos : 0 < s.g
  g_le_a : s.g ≤ s.a
  a_le_one : s.a ≤ 1
  c_nonneg : 0 ≤ s.c
  c_sq : s.c ^ 2 = s.a ^ 2 - s.g ^ 2
  mul_eq : s.mul = 2 ^ n / 2

theorem agmState_sum (x y : ℝ) : (agmState x y).sum = 1 := by
  simp only [agmState, scalar_norm]; norm_num

theorem agmState_a (x y : ℝ) : (agmState x y).a = 1 := by
  simp only [agmState, scalar_norm]; norm_num

theorem agmState_g (x y : ℝ) : (agmState x y).g = y / x := by
  simp only [agmState, scalar_norm]

theorem agmState_c (x y : ℝ) : (agmState x y).c = √(1 - (y / x) ^ 2) := by
  simp only [agmState, scalar_norm, LawfulReal.sqrt_eq]; norm_num

theorem agmState_mul (x y : ℝ) : (agmState x y).mul = 1 / 2 := by
  simp only [agmState, scalar_norm]; norm_num

theorem agm_term_eq (s : AgmState ℝ) : s.term = s.mul * s.c ^ 2 := by
  simp only [AgmState.term, scalar_norm]

theorem agm_stops_iff (acc : ℝ) (s : AgmState ℝ) : s.stops acc = true ↔ s.term ≤ acc * s.g := by
  simp only [AgmState.stops, scalar_norm, decide_eq_true_eq]

theorem agmStep_sum (s : AgmState ℝ) : (agmStep s).sum = s.sum - s.term := by
  simp only [agmStep, scalar_norm]

theorem agmStep_a (s : AgmState ℝ) : (agmStep s).a = (s.a + s.g) / 2 := by
  simp only [agmStep, scalar_norm]; norm_num

theorem agmStep_g (s : AgmState ℝ) : (agmStep s).g = √(s.a * s.g) := by
  simp only [agmStep, scalar_norm, LawfulReal.sqrt_eq]

theorem agmStep_c (s : AgmState ℝ) : (agmStep s).c = (s.a - s.g) / 2 := by
  simp only [agmStep, scalar_norm]; norm_num

theorem agmStep_mul (s : AgmState ℝ) : (agmStep s).mul = s.mul * 2 := by
  simp only [agmStep, scalar_norm]; norm_num

theorem agmExit_sum (s : AgmState ℝ) : (agmExit s).sum = s.sum - s.term - s.term := by
  simp only [agmExit, scalar_norm]

theorem agmExit_a_eq_step (s : AgmState ℝ) : (agmExit s).a = (agmStep s).a := rfl

theorem agmInv_init {x y : ℝ} (hy : 0 < y) (hyx : y ≤ x) : AgmInv (agmState x y) 0 := by
  have hx : 0 < x := hy.trans_le hyx
  have hq : 0 < y / x := div_pos hy hx
  have hq1 : y / x ≤ 1 := (div_le_one hx).2 hyx
  refine ⟨?_, ?_, ?_, ?_, ?_, ?_⟩
  · rw [agmState_g]; exact hq
  · rw [agmState_g, agmState_a]; exact hq1
  · rw [agmState_a]
  · rw [agmState_c]; exact Real.sqrt_nonneg _
  · rw [agmState_c, agmState_a, agmState_g, Real.sq_sqrt (sub_nonneg.2 (pow_le_one₀ hq.le hq1)), one_pow]
  · rw [agmState_mul]; norm_num

theorem agmState_c_sq {x y : ℝ} (hy : 0 < y) (hyx : y ≤ x) : (agmState x y).c ^ 2 = 1 - (y / x) ^ 2 := by
  rw [(agmInv_init hy hyx).c_sq, agmState_a, agmState_g, one_pow]

theorem agmInv_step {s : AgmState ℝ} {n : ℕ} (h : AgmInv s n) : AgmInv (agmStep s) (n + 1) := by
  obtain ⟨k1, k2, k3, k4, k5⟩ := agm_core h.g_pos h.g_le_a
  refine ⟨?_, ?_, ?_, ?_, ?_, ?_⟩
  · rw [agmStep_g]; exact lt_of_lt_of_le h.g_pos k1
  · rw [agmStep_g, agmStep_a]; exact k2
  · rw [agmStep_a]; exact k3.trans h.a_le_one
  · rw [agmStep_c]; exact k4
  · rw [agmStep_c, agmStep_a, agmStep_g]; exact k5
  · rw [agmStep_mul, h.mul_eq]; ring

theorem agmStep_g_ge {s : AgmState ℝ} {n : ℕ} (h : AgmInv s n) : s.g ≤ (agmStep s).g := by
  rw [agmStep_g]; exact (agm_core h.g_pos h.g_le_a).1

theorem agmStep_a_le {s : AgmState ℝ} {n : ℕ} (h : AgmInv s n) : (agmStep s).a ≤ s.a := by
  rw [agmStep_a]; linarith [h.g_le_a]

theorem agmStep_c_le {s : AgmState ℝ} {n : ℕ} (h : AgmInv s n) : (agmStep s).c ≤ s.c / 2 := by
  rw [agmStep_c]; exact agm_contract h.g_pos h.g_le_a h.c_nonneg h.c_sq

theorem agmStep_term_le {s : AgmState ℝ} {n : ℕ} (h : AgmInv s n) : (agmStep s).term ≤ s.term / 2 := by
  have hmul : 0 ≤ s.mul := by rw [h.mul_eq]; positivity
  rw [agm_term_eq, agm_term_eq, agmStep_mul]
  calc s.mul * 2 * (agmStep s).c ^ 2 ≤ s.mul * 2 * (s.c / 2) ^ 2 :=
        mul_le_mul_of_nonneg_left (pow_le_pow_left₀ (agmInv_step h).c_nonneg (agmStep_c_le h) 2) (by positivity)
    _ = s.mul * s.c ^ 2 / 2 := by ring

theorem agmInv_seq {s : AgmState ℝ} (h : AgmInv s 0) (n : ℕ) : AgmInv (agmSeq s n) n := by
  induction n with
  | zero => exact h
  | succ n ih => exact agmInv_step ih

theorem agm_term_nonneg {s : AgmState ℝ} {n : ℕ} (h : AgmInv s n) : 0 ≤ s.term := by
  rw [agm_term_eq, h.mul_eq]; positivity

theorem agmSeq_term_half {s : AgmState ℝ} (h : AgmInv s 0) (n : ℕ) : (agmSeq s (n + 1)).term ≤ (agmSeq s n).term / 2 :=
  agmStep_term_le (agmInv_seq h n)

theorem agmSeq_term_le {s : AgmState ℝ} (h : AgmInv s 0) (n : ℕ) : (agmSeq s n).term ≤ s.c ^ 2 / 2 ^ (n + 1) := by
  induction n with
  | zero => rw [agmSeq, agm_term_eq, h.mul_eq]; exact le_of_eq (by ring)
  | succ n ih =>
    calc (agmSeq s (n + 1)).term ≤ (agmSeq s n).term / 2 := agmSeq_term_half h n
      _ ≤ s.c ^ 2 / 2 ^ (n + 1) / 2 := by linarith
      _ = s.c ^ 2 / 2 ^ (n + 1 + 1) := by rw [pow_succ _ (n + 1), div_div]

theorem agmSeq_g_mono {s : AgmState ℝ} (h : AgmInv s 0) {n m : ℕ} (hnm : n ≤ m) : (agmSeq s n).g ≤ (agmSeq s m).g :=
  monotone_nat_of_le_succ (f := fun n => (agmSeq s n).g) (fun n => agmStep_g_ge (agmInv_seq h n)) hnm

theorem agmSeq_a_anti {s : AgmState ℝ} (h : AgmInv s 0) {n m : ℕ} (hnm : n ≤ m) : (agmSeq s m).a ≤ (agmSeq s n).a :=
  antitone_nat_of_succ_le (f := fun n => (agmSeq s n).a) (fun n => agmStep_a_le (agmInv_seq h n)) hnm

theorem agmInv_gap {s : AgmState ℝ} {n : ℕ} (h : AgmInv s n) :
    s.a - s.g = s.c ^ 2 / (s.a + s.g) ∧ s.c ^ 2 / (s.a + s.g) ≤ s.c ^ 2 / (2 * s.g) := by
  have hg := h.g_pos
  have ha : 0 < s.a := lt_of_lt_of_le hg h.g_le_a
  have hs : 0 < s.a + s.g := add_pos ha hg
  refine ⟨?_, ?_⟩
  · rw [h.c_sq, eq_div_iff hs.ne']; ring
  · exact div_le_div_of_nonneg_left (sq_nonneg _) (by positivity) (by linarith [h.g_le_a])

theorem agmSeq_a_sub_le {s : AgmState ℝ} (h : AgmInv s 0) {n m : ℕ} (hnm : n ≤ m) :
    (agmSeq s n).a - (agmSeq s m).a ≤ (agmSeq s n).c ^ 2 / ((agmSeq s n).a + (agmSeq s n).g) := by
  rw [← (agmInv_gap (agmInv_seq h n)).1]
  exact sub_le_sub_left ((agmSeq_g_mono h hnm).trans (agmInv_seq h m).g_le_a) _

theorem agmStep_a_drop (s : AgmState ℝ) : s.a - (agmStep s).a = (agmStep s).c := by
  rw [agmStep_a, agmStep_c]; ring

theorem agmSeq_sum (s : AgmState ℝ) (n : ℕ) :
    (agmSeq s n).sum = s.sum - ∑ i ∈ Finset.range n, (agmSeq s i).term := by
  induction n with
  | zero => simp [agmSeq]
  | succ n ih =>
    rw [agmSeq_succ, agmStep_sum, ih, Finset.sum_range_succ]; ring

/-- each term is at most half the one before, so the terms after `term_n` add up to at most `term_n − term_{n+m}` -/
theorem agmSeq_tail {s : AgmState ℝ} (h : AgmInv s 0) (n m : ℕ) :
    ∑ i ∈ Finset.range m, (agmSeq s (n + 1 + i)).term ≤ (agmSeq s n).term := by
  have key : ∑ i ∈ Finset.range m, (agmSeq s (n + 1 + i)).term ≤ (agmSeq s n).term - (agmSeq s (n + m)).term := by
    induction m with
    | zero => simp
    | succ m ih =>
      rw [Finset.sum_range_succ]
      have h1 := agmSeq_term_half h (n + m)
      have e1 : n + 1 + m = n + m + 1 := by omega
      have e2 : n + (m + 1) = n + m + 1 := by omega
      rw [e1, e2]
      linarith
  linarith [agm_term_nonneg (agmInv_seq h (n + m))]

/-- every partial sum of the terms is at most `c₀² = a₀² − g₀² < 1` -/
theorem agmSeq_partial_lt_one {s : AgmState ℝ} (h : AgmInv s 0) (j : ℕ) :
    ∑ i ∈ Finset.range j, (agmSeq s i).term < 1 := by
  have hc1 : s.c ^ 2 < 1 := by
    rw [h.c_sq]
    linarith [pow_le_one₀ (h.g_pos.le.trans h.g_le_a) h.a_le_one (n := 2), pow_pos h.g_pos 2]
  refine lt_of_le_of_lt ?_ hc1
  cases j with
  | zero => rw [Finset.sum_range_zero]; exact sq_nonneg _
  | succ j =>
    have ht := agmSeq_tail h 0 j
    have h0 : (agmSeq s 0).term = s.c ^ 2 / 2 := by rw [agmSeq, agm_term_eq, h.mul_eq]; ring
    rw [Finset.sum_range_succ']
    simp only [zero_add, add_comm 1] at ht
    linarith

theorem agmSeq_stops_of_bound {s : AgmState ℝ} (h : AgmInv s 0) {acc : ℝ} (hacc : 0 < acc) {j : ℕ}
    (hb : s.c ^ 2 ≤ 2 ^ (j + 1) * (acc * s.g)) : (agmSeq s j).stops acc = true := by
  rw [agm_stops_iff]
  calc (agmSeq s j).term ≤ s.c ^ 2 / 2 ^ (j + 1) := agmSeq_term_le h j
    _ ≤ acc * s.g := (div_le_iff₀' (by positivity)).2 hb
    _ ≤ acc * (agmSeq s j).g := mul_le_mul_of_nonneg_left (agmSeq_g_mono h (Nat.zero_le j)) hacc.le

theorem agmLoop_exit {s : AgmState ℝ} (h : AgmInv s 0) {acc : ℝ} (hacc : 0 < acc) {N : ℕ}
    (hb : s.c ^ 2 ≤ 2 ^ N * (acc * s.g)) :
    ∃ n, n < max N 1 ∧ (agmSeq s n).term ≤ acc * (agmSeq s n).g ∧ (∀ i < n, acc * (agmSeq s i).g < (agmSeq s i).term) ∧
      ∀ fuel, n < fuel → agmLoop acc fuel 0 s = (agmExit (agmSeq s n), n + 1) := by
  have h1 : 1 ≤ max N 1 := le_max_right N 1
  have hlast : (agmSeq s (max N 1 - 1)).stops acc = true := by
    apply agmSeq_stops_of_bound h hacc
    rw [Nat.sub_add_cancel h1]
    exact hb.trans (mul_le_mul_of_nonneg_right (pow_le_pow_right₀ one_le_two (le_max_left N 1)) (mul_pos hacc h.g_pos).le)
  have hP : ∃ j, (agmSeq s j).stops acc = true := ⟨_, hlast⟩
  classical
  have hno : ∀ i < Nat.find hP, (agmSeq s i).stops acc = false := fun i hi =>
    Bool.eq_false_iff.2 (Nat.find_min hP hi)
  refine ⟨Nat.find hP, ?_, (agm_stops_iff _ _).1 (Nat.find_spec hP),
    fun i hi => not_le.1 fun hcon => Nat.find_min hP hi ((agm_stops_iff _ _).2 hcon), fun fuel hf => ?_⟩
  · have := Nat.find_min' hP hlast
    omega
  · rw [agmLoop_of_first_stop acc (Nat.find hP) fuel 0 s hno (Nat.find_spec hP) hf, zero_add]

end real

/-! ### the returned value `2πx/a·sum` at exit: the arithmetic behind the brackets of C11E (c), (c') -/

theorem agm_value_bracket {c a g t acc sum S : ℝ} (hc : 0 < c) (ha : 0 < a) (hga : g ≤ a) (hacc : 0 ≤ acc)
    (ht : t ≤ acc / c * g) (b1 : sum ≤ S) (b2 : S ≤ sum + t) :
    c / a * sum ≤ c / a * S ∧ c / a * S ≤ c / a * sum + acc * (g / a) ∧ acc * (g / a) ≤ acc := by
  have hk : 0 ≤ c / a := (div_pos hc ha).le
  refine ⟨mul_le_mul_of_nonneg_left b1 hk, ?_, mul_le_of_le_one_right hacc ((div_le_one ha).2 hga)⟩
  calc c / a * S ≤ c / a * (sum + acc / c * g) := mul_le_mul_of_nonneg_left (b2.trans (add_le_add le_rfl ht)) hk
    _ = c / a * sum + acc * (g / a) := by
      rw [mul_add, ← mul_assoc, div_mul_div_cancel₀' hc.ne', div_mul_eq_mul_div acc, mul_div_assoc acc]

theorem agm_ratio_le {G a A d : ℝ} (hG : 0 < G) (hGa : G ≤ a) (haA : a ≤ A) (hd : A - a ≤ d) : A / a ≤ 1 + d / G := by
  rw [div_le_iff₀ (hG.trans_le hGa)]
  calc A ≤ a + d := by linarith
    _ ≤ a + d * (a / G) := by
      have := le_mul_of_one_le_right (by linarith : 0 ≤ d) ((one_le_div hG).2 hGa)
      linarith
    _ = (1 + d / G) * a := by ring

/-- the divisor `A` replaced by a smaller one `a`: `c/a·S = (c/A·S)·(A/a)` and `1 ≤ A/a ≤ 1 + d/G` -/
theorem agm_later_bracket {c S G a A d P E : ℝ} (hc : 0 ≤ c) (hS : 0 ≤ S) (hG : 0 < G) (hGa : G ≤ a) (haA : a ≤ A)
    (hd : A - a ≤ d) (b1 : P ≤ c / A * S) (b2 : c / A * S ≤ P + E) :
    P ≤ c / a * S ∧ c / a * S ≤ (P + E) * (1 + d / G) := by
  have ha : 0 < a := hG.trans_le hGa
  have hA : 0 < A := ha.trans_le haA
  have hU : 0 ≤ c / A * S := mul_nonneg (div_nonneg hc hA.le) hS
  have hr1 : 1 ≤ A / a := (one_le_div ha).2 haA
  have hr2 := agm_ratio_le hG hGa haA hd
  rw [← div_mul_div_cancel₀ hA.ne', mul_right_comm]
  exact ⟨b1.trans (le_mul_of_one_le_right hU hr1),
    (mul_le_mul_of_nonneg_left hr2 hU).trans (mul_le_mul_of_nonneg_right b2 ((zero_le_one.trans hr1).trans hr2))⟩

end Kurbo
