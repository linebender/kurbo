import Mathlib.Algebra.Order.Ring.Int
import Mathlib.Algebra.Order.Group.Unbundled.Basic
import Mathlib.Order.Lattice
/-! The signed half-open indicator `rowSign y0 y1 y = [y < y0] − [y < y1]` of a row between two ordinates: the row test of
    `PathSeg::winding_inner` and of `Rect::winding`, and the sign in the closed form `Ray.pieceCross` of the ray-crossing
    specification.  Pure order, no model term: reversal is `rowSign_swap`, two adjacent rows add up (`rowSign_add`). -/
namespace Kurbo
section order
variable {K : Type} [LinearOrder K]

/-- the row test of `winding_inner` as a function of the two end ordinates and the query ordinate -/
def rowSign (y0 y1 y : K) : Int := if y0 ≤ y ∧ y < y1 then -1 else if y1 ≤ y ∧ y < y0 then 1 else 0

theorem rowSign_eq_sub (y0 y1 y : K) :
    rowSign y0 y1 y = (if y < y0 then 1 else 0) - (if y < y1 then 1 else 0) := by
  unfold rowSign
  by_cases h0 : y < y0 <;> by_cases h1 : y < y1 <;>
    simp only [h0, h1, not_le.mpr, not_lt.mp, not_false_eq_true, and_true, and_false, and_self, if_true, if_false] <;> rfl

theorem rowSign_eq_sub_le (y0 y1 y : K) :
    rowSign y0 y1 y = (if y1 ≤ y then 1 else 0) - (if y0 ≤ y then 1 else 0) := by
  rw [rowSign_eq_sub]
  by_cases h0 : y0 ≤ y <;> by_cases h1 : y1 ≤ y <;>
    simp only [h0, h1, not_lt.mpr, not_le.mp, not_false_eq_true, if_true, if_false] <;> rfl

theorem rowSign_self (y0 y : K) : rowSign y0 y0 y = 0 := by rw [rowSign_eq_sub, sub_self]

theorem rowSign_swap (y0 y1 y : K) : rowSign y1 y0 y = - rowSign y0 y1 y := by
  rw [rowSign_eq_sub, rowSign_eq_sub, neg_sub]

theorem rowSign_add (y0 ym y1 y : K) : rowSign y0 ym y + rowSign ym y1 y = rowSign y0 y1 y := by
  rw [rowSign_eq_sub, rowSign_eq_sub, rowSign_eq_sub, sub_add_sub_cancel]

theorem rowSign_of_up {y0 y1 y : K} (h : y0 ≤ y ∧ y < y1) : rowSign y0 y1 y = -1 := if_pos h

theorem rowSign_of_down {y0 y1 y : K} (h : y1 ≤ y ∧ y < y0) : rowSign y0 y1 y = 1 := by
  rw [rowSign_swap, rowSign_of_up h]; rfl

theorem rowSign_eq_zero {y0 y1 y : K} (hup : ¬ (y0 ≤ y ∧ y < y1)) (hdown : ¬ (y1 ≤ y ∧ y < y0)) :
    rowSign y0 y1 y = 0 := by
  unfold rowSign; rw [if_neg hup, if_neg hdown]

theorem rowSign_cases (y0 y1 y : K) :
    rowSign y0 y1 y = -1 ∧ y0 ≤ y ∧ y < y1 ∨ rowSign y0 y1 y = 1 ∧ y1 ≤ y ∧ y < y0 ∨
      rowSign y0 y1 y = 0 ∧ ¬ (y0 ≤ y ∧ y < y1) ∧ ¬ (y1 ≤ y ∧ y < y0) := by
  unfold rowSign
  split_ifs with h1 h2
  · exact Or.inl ⟨rfl, h1⟩
  · exact Or.inr (Or.inl ⟨rfl, h2⟩)
  · exact Or.inr (Or.inr ⟨rfl, h1, h2⟩)

/-- `rowSign` with the interval normalised, the form in which `Rect::winding` tests it -/
theorem rowSign_eq_minmax (a b q : K) :
    rowSign a b q = if min a b ≤ q ∧ q < max a b then (if a < b then -1 else 1) else 0 := by
  unfold rowSign
  rcases lt_trichotomy a b with h | rfl | h
  · rw [min_eq_left h.le, max_eq_right h.le, if_pos h,
      if_neg (fun c : b ≤ q ∧ q < a => lt_irrefl _ (h.trans_le (c.1.trans c.2.le)))]
  · have n : ¬ (a ≤ q ∧ q < a) := fun c => lt_irrefl _ (c.1.trans_lt c.2)
    rw [min_self, max_self, if_neg n, if_neg n, if_neg n]
  · rw [min_eq_right h.le, max_eq_left h.le, if_neg (lt_asymm h),
      if_neg (fun c : a ≤ q ∧ q < b => lt_irrefl _ (h.trans_le (c.1.trans c.2.le)))]

/-- the row test of `winding_inner` (its `sign?`) in terms of `rowSign` -/
theorem rowTest_eq (y0 y1 y : K) :
    (if y0 < y1 then (if y < y0 ∨ y1 ≤ y then none else some (-1 : Int))
      else if y1 < y0 then (if y < y1 ∨ y0 ≤ y then none else some 1) else none)
      = if rowSign y0 y1 y = 0 then none else some (rowSign y0 y1 y) := by
  rcases rowSign_cases y0 y1 y with ⟨hs, hu⟩ | ⟨hs, hd⟩ | ⟨hs, hu, hd⟩
  · rw [hs, if_pos (hu.1.trans_lt hu.2), if_neg (not_or.mpr ⟨not_lt.mpr hu.1, not_le.mpr hu.2⟩)]; rfl
  · rw [hs, if_neg (not_lt_of_gt (hd.1.trans_lt hd.2)), if_pos (hd.1.trans_lt hd.2),
      if_neg (not_or.mpr ⟨not_lt.mpr hd.1, not_le.mpr hd.2⟩)]; rfl
  · rw [hs, if_pos rfl, if_pos ((not_and_or.mp hu).imp not_le.mp not_lt.mp),
      if_pos ((not_and_or.mp hd).imp not_le.mp not_lt.mp), ite_self, ite_self]

end order

section group
variable {K : Type} [AddCommGroup K] [LinearOrder K] [IsOrderedAddMonoid K]

theorem rowSign_sub_right (y0 y1 y : K) : rowSign (y0 - y) (y1 - y) 0 = rowSign y0 y1 y := by
  simp only [rowSign_eq_sub, sub_pos]

end group
end Kurbo
