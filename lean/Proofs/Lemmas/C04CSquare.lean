import Proofs.Lemmas.C04CGeom
/-! Helper lemmas for C04C: one segment with SQUARE caps – the eight-vertex outline, its crossing sum reduced to that of
    the extended rectangle by merging collinear edges, and the extended rectangle in the model's coordinates. -/
set_option linter.unusedSectionVars false
namespace Kurbo
open PathEl
variable {K : Type} [Field K] [LinearOrder K] [IsStrictOrderedRing K] [FloorRing K] [Scalar K] [LawfulScalar K]

/-- the eight vertices of the outline of one segment with square caps, in the order the stroker emits them:
    right side `p0 − n → p1 − n`, end cap `p1 − n + e`, `p1 + n + e`, `p1 + n`, left side back to `p0 + n`, start cap
    `p0 + n − e`, `p0 − n − e`, `ClosePath`; `e = (n.y, −n.x)` is `n` turned back to the tangent direction -/
def c04c_sqPath (p0 p1 : Point K) (n : Vec2 K) : List (PathEl K) :=
  [MoveTo (p0 - n), LineTo (p1 - n), LineTo ⟨p1.x - n.x + n.y, p1.y - n.y - n.x⟩,
   LineTo ⟨p1.x + n.x + n.y, p1.y + n.y - n.x⟩, LineTo ⟨p1.x + n.x, p1.y + n.y⟩, LineTo (p0 + n),
   LineTo ⟨p0.x + n.x - n.y, p0.y + n.y + n.x⟩, LineTo ⟨p0.x - n.x - n.y, p0.y - n.y + n.x⟩, ClosePath]

theorem c04c_sqPath_winding (p0 p1 q : Point K) (n : Vec2 K) (k : K) (hk : 0 ≤ k)
    (hnx : n.x = -(p1.y - p0.y) * k) (hny : n.y = (p1.x - p0.x) * k) :
    pathWinding (c04c_sqPath p0 p1 n) q
      = some (C04C.quadSum (p0.x - n.x - n.y - q.x) (p0.y - n.y + n.x - q.y) (p1.x - n.x + n.y - q.x) (p1.y - n.y - n.x - q.y)
          (p1.x + n.x + n.y - q.x) (p1.y + n.y - n.x - q.y) (p0.x + n.x - n.y - q.x) (p0.y + n.y + n.x - q.y)) := by
  show pathWinding (polygon (p0 - n) [p1 - n, ⟨p1.x - n.x + n.y, p1.y - n.y - n.x⟩,
   ⟨p1.x + n.x + n.y, p1.y + n.y - n.x⟩, ⟨p1.x + n.x, p1.y + n.y⟩, p0 + n,
   ⟨p0.x + n.x - n.y, p0.y + n.y + n.x⟩, ⟨p0.x - n.x - n.y, p0.y - n.y + n.x⟩]) q = _
  rw [pathWinding_polygon]
  simp only [lineChain, crossSum_cons, crossSum_nil, List.getLast_cons_cons, List.getLast_singleton, kc, vsub_x, vsub_y,
    PathSeg.start, PathSeg.end, Line.start, Line.end, point_sub_vec, point_add_vec, scalar_norm, add_zero]
  -- `m1`, `m2` merge the three outline edges on the long side `A B` of the extended rectangle (`A → p0 − n → p1 − n → B`)
  -- into one, `m3`, `m4` those on `C D`; the short sides are outline edges
  have hk1 : 0 ≤ k + 1 := add_nonneg hk zero_le_one
  have m1 := c04c_kcr_insert (p0.x - n.x - n.y - q.x) (p0.y - n.y + n.x - q.y) (p0.x - n.x - q.x) (p0.y - n.y - q.y)
    (p1.x - n.x - q.x) (p1.y - n.y - q.y) (p1.x - p0.x) (p1.y - p0.y) k 1 hk zero_le_one
    (by rw [hny]; ring) (by rw [hnx]; ring) (by ring) (by ring)
  have m2 := c04c_kcr_insert (p0.x - n.x - n.y - q.x) (p0.y - n.y + n.x - q.y) (p1.x - n.x - q.x) (p1.y - n.y - q.y)
    (p1.x - n.x + n.y - q.x) (p1.y - n.y - n.x - q.y) (p1.x - p0.x) (p1.y - p0.y) (k + 1) k hk1 hk
    (by rw [hny]; ring) (by rw [hnx]; ring) (by rw [hny]; ring) (by rw [hnx]; ring)
  have m3 := c04c_kcr_insert (p1.x + n.x + n.y - q.x) (p1.y + n.y - n.x - q.y) (p1.x + n.x - q.x) (p1.y + n.y - q.y)
    (p0.x + n.x - q.x) (p0.y + n.y - q.y) (p0.x - p1.x) (p0.y - p1.y) k 1 hk zero_le_one
    (by rw [hny]; ring) (by rw [hnx]; ring) (by ring) (by ring)
  have m4 := c04c_kcr_insert (p1.x + n.x + n.y - q.x) (p1.y + n.y - n.x - q.y) (p0.x + n.x - q.x) (p0.y + n.y - q.y)
    (p0.x + n.x - n.y - q.x) (p0.y + n.y + n.x - q.y) (p0.x - p1.x) (p0.y - p1.y) (k + 1) k hk1 hk
    (by rw [hny]; ring) (by rw [hnx]; ring) (by rw [hny]; ring) (by rw [hnx]; ring)
  unfold C04C.quadSum
  rw [← m2, ← m1, ← m4, ← m3]
  congr 1
  ring

section field
variable (p0x p0y p1x p1y qx qy k nx ny : K)

theorem c04c_sq_isRect (hnx : nx = -(p1y - p0y) * k) (hny : ny = (p1x - p0x) * k) :
    C04C.IsRect (p0x - nx - ny - qx) (p0y - ny + nx - qy) (p1x - nx + ny - qx) (p1y - ny - nx - qy)
      (p1x + nx + ny - qx) (p1y + ny - nx - qy) (p0x + nx - ny - qx) (p0y + ny + nx - qy) (p1x - p0x) (p1y - p0y)
      (1 + 2 * k) (2 * k)
      ((qx - p0x) * (p1x - p0x) + (qy - p0y) * (p1y - p0y)
        + k * ((p1x - p0x) * (p1x - p0x) + (p1y - p0y) * (p1y - p0y)))
      ((p1x - p0x) * (qy - p0y) - (p1y - p0y) * (qx - p0x)
        + k * ((p1x - p0x) * (p1x - p0x) + (p1y - p0y) * (p1y - p0y))) := by
  subst hnx hny
  constructor <;> ring

end field

section model
variable [C04HypotLaw K]

/-- `q` is in the OPEN rectangle swept by the segment extended by `w/2` at both ends: `−(w/2)·|t| < (q − p0)·t < t·t + (w/2)·|t|`
    (`|t| = (p1 − p0).hypot`) and distance from the supporting line `< w/2` -/
def c04c_InRectSq (p0 p1 : Point K) (w : K) (q : Point K) : Prop :=
  -(w / 2 * (p1 - p0).hypot) < (q - p0).dot (p1 - p0) ∧
  (q - p0).dot (p1 - p0) < (p1 - p0).hypot2 + w / 2 * (p1 - p0).hypot ∧
    ((p1 - p0).cross (q - p0)) ^ 2 < (w / 2) ^ 2 * (p1 - p0).hypot2

instance (p0 p1 : Point K) (w : K) (q : Point K) : Decidable (c04c_InRectSq p0 p1 w q) := by
  unfold c04c_InRectSq; infer_instance

/-- `c04c_InRectSq` in the coordinates `u`, `v` of `c04c_sq_isRect` -/
theorem c04c_inRectSq_iff {w k : K} {p0 p1 : Point K} (F : C04SegFrame w p0 p1 k) (q : Point K) :
    c04c_InRectSq p0 p1 w q ↔
      (0 < (q.x - p0.x) * (p1.x - p0.x) + (q.y - p0.y) * (p1.y - p0.y)
          + k * ((p1.x - p0.x) * (p1.x - p0.x) + (p1.y - p0.y) * (p1.y - p0.y)) ∧
       (q.x - p0.x) * (p1.x - p0.x) + (q.y - p0.y) * (p1.y - p0.y)
          + k * ((p1.x - p0.x) * (p1.x - p0.x) + (p1.y - p0.y) * (p1.y - p0.y))
          < (1 + 2 * k) * ((p1.x - p0.x) * (p1.x - p0.x) + (p1.y - p0.y) * (p1.y - p0.y)) ∧
       0 < (p1.x - p0.x) * (q.y - p0.y) - (p1.y - p0.y) * (q.x - p0.x)
          + k * ((p1.x - p0.x) * (p1.x - p0.x) + (p1.y - p0.y) * (p1.y - p0.y)) ∧
       (p1.x - p0.x) * (q.y - p0.y) - (p1.y - p0.y) * (q.x - p0.x)
          + k * ((p1.x - p0.x) * (p1.x - p0.x) + (p1.y - p0.y) * (p1.y - p0.y))
          < 2 * k * ((p1.x - p0.x) * (p1.x - p0.x) + (p1.y - p0.y) * (p1.y - p0.y))) := by
  have e : (1 + 2 * k) * ((p1.x - p0.x) * (p1.x - p0.x) + (p1.y - p0.y) * (p1.y - p0.y))
      = (p1.x - p0.x) * (p1.x - p0.x) + (p1.y - p0.y) * (p1.y - p0.y)
        + k * ((p1.x - p0.x) * (p1.x - p0.x) + (p1.y - p0.y) * (p1.y - p0.y))
        + k * ((p1.x - p0.x) * (p1.x - p0.x) + (p1.y - p0.y) * (p1.y - p0.y)) := by ring
  unfold c04c_InRectSq
  simp only [Vec2.dot, Vec2.cross, Vec2.hypot2, Vec2.hypot, scalar_norm, vsub_x, vsub_y]
  rw [c04c_halfWidth_sq F.sq, ← F.lin, c04c_sq_lt_sq_iff (mul_pos F.k_pos F.len_pos).le, mul_assoc, neg_lt_iff_pos_add, e,
    add_lt_add_iff_right]

theorem c04c_sqPath_counts (w : K) (p0 p1 q : Point K) (hw : 0 < w) (hne : p0 ≠ p1) :
    ∃ s : Int, pathWinding (c04c_sqPath p0 p1 (c04_norm w (p1 - p0))) q = some s ∧
      C04C.Counts s (c04c_InRectSq p0 p1 w q) (c04c_Near p0 p1 (2 * (w / 2) ^ 2) q) := by
  obtain ⟨k, F⟩ := c04_seg_frame w p0 p1 hw hne
  refine ⟨_, c04c_sqPath_winding p0 p1 q _ _ F.k_pos.le F.nx F.ny,
    ((c04c_sq_isRect p0.x p0.y p1.x p1.y q.x q.y k _ _ F.nx F.ny).counts
      (add_pos one_pos (mul_pos two_pos F.k_pos)) (mul_pos two_pos F.k_pos) F.len_pos).mono
      (c04c_inRectSq_iff F q).mp ?_⟩
  -- the closed extended rectangle is within `√2·w/2` of the segment
  rintro ⟨c1, c2, c3, c4⟩
  obtain ⟨s, hs0, hs1, hs⟩ := c04c_near (p1.x - p0.x) (p1.y - p0.y) (q.x - p0.x) (q.y - p0.y) k k _ _ _ F.len_pos rfl rfl rfl
    c1 c2 c3 c4
  refine ⟨s, hs0, hs1, ?_⟩
  rwa [c04c_lerp_dist, sq, ← F.sq, two_mul]

/-- "off the outline" is asked of the four edges of the extended rectangle: each is the union of three or one consecutive edges
    of the outline -/
theorem c04c_sq_winding (w : K) (p0 p1 q : Point K) (hw : 0 < w) (hne : p0 ≠ p1) (n : Vec2 K)
    (hn : n = c04_norm w (p1 - p0))
    (h1 : ¬ OnSeg (.Line ⟨⟨p0.x - n.x - n.y, p0.y - n.y + n.x⟩, ⟨p1.x - n.x + n.y, p1.y - n.y - n.x⟩⟩) q)
    (h2 : ¬ OnSeg (.Line ⟨⟨p1.x - n.x + n.y, p1.y - n.y - n.x⟩, ⟨p1.x + n.x + n.y, p1.y + n.y - n.x⟩⟩) q)
    (h3 : ¬ OnSeg (.Line ⟨⟨p1.x + n.x + n.y, p1.y + n.y - n.x⟩, ⟨p0.x + n.x - n.y, p0.y + n.y + n.x⟩⟩) q)
    (h4 : ¬ OnSeg (.Line ⟨⟨p0.x + n.x - n.y, p0.y + n.y + n.x⟩, ⟨p0.x - n.x - n.y, p0.y - n.y + n.x⟩⟩) q) :
    pathWinding (c04c_sqPath p0 p1 n) q = some (if c04c_InRectSq p0 p1 w q then 1 else 0) := by
  obtain ⟨k, F⟩ := c04_seg_frame w p0 p1 hw hne
  subst hn
  have o1 := c11_offEdge_of_not_onSeg _ _ _ h1
  have o2 := c11_offEdge_of_not_onSeg _ _ _ h2
  have o3 := c11_offEdge_of_not_onSeg _ _ _ h3
  have o4 := c11_offEdge_of_not_onSeg _ _ _ h4
  rw [c04c_sqPath_winding p0 p1 q _ _ F.k_pos.le F.nx F.ny,
    (c04c_sq_isRect p0.x p0.y p1.x p1.y q.x q.y k _ _ F.nx F.ny).quadSum_eq_ite
      (add_pos one_pos (mul_pos two_pos F.k_pos)) (mul_pos two_pos F.k_pos) F.len_pos o1 o2 o3 o4]
  exact congrArg some (if_congr (c04c_inRectSq_iff F q).symm rfl rfl)

end model
end Kurbo
