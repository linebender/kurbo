import Proofs.Lemmas.C01
import Mathlib.Tactic.LinearCombination
/-! C11 helpers, triangle part: the three-signum closed form `triW` (defined with `offEdge` in `Proofs/Lemmas/C01.lean`)
    equals the crossing sum of the outline `a → b → c → a` (crossing indicator `kcr` of `Proofs/Lemmas/C01.lean`),
    in coordinates relative to the query point, for every point on no closed edge (`offEdge`), both orientations,
    rows through vertices included, provided the three cross products do not all vanish. -/
set_option linter.unusedSectionVars false
namespace Kurbo
namespace C11Tri
variable {K : Type} [Field K] [LinearOrder K] [IsStrictOrderedRing K] [FloorRing K] [Scalar K] [LawfulScalar K]

theorem cross_ne_zero_of_sides {ax ay bx by_ : K} (h : offEdge ax ay bx by_)
    (hs : ay ≤ 0 ∧ 0 < by_ ∨ by_ ≤ 0 ∧ 0 < ay) : ax * by_ - ay * bx ≠ 0 := by
  intro hc
  have hd := h hc
  -- on the line through the origin, `A·B` times the height of one end is the height of the other times a square
  rcases hs with ⟨h1, h2⟩ | ⟨h1, h2⟩
  · have e : (ax * bx + ay * by_) * by_ = ay * (bx * bx + by_ * by_) := by linear_combination bx * hc
    exact absurd (e.le.trans (mul_nonpos_of_nonpos_of_nonneg h1 (add_nonneg (mul_self_nonneg _) (mul_self_nonneg _))))
      (not_le.mpr (mul_pos hd h2))
  · have e : (ax * bx + ay * by_) * ay = by_ * (ax * ax + ay * ay) := by linear_combination (-ax) * hc
    exact absurd (e.le.trans (mul_nonpos_of_nonpos_of_nonneg h1 (add_nonneg (mul_self_nonneg _) (mul_self_nonneg _))))
      (not_le.mpr (mul_pos hd h2))

/-- the closed form in a shape that is visibly symmetric -/
def W (x0 x1 x2 : K) : Int := if x0 < 0 ∧ x1 < 0 ∧ x2 < 0 then -1 else if 0 ≤ x0 ∧ 0 ≤ x1 ∧ 0 ≤ x2 then 1 else 0

theorem triW_eq (x0 x1 x2 : K) : triW x0 x1 x2 = W x0 x1 x2 := by
  unfold triW sgI W
  by_cases h0 : x0 < 0 <;> by_cases h1 : x1 < 0 <;> by_cases h2 : x2 < 0 <;>
    simp [h0, h1, h2, not_lt.mp]

theorem triW_sign (x0 x1 x2 : K) :
    (triW x0 x1 x2 = 1 → 0 ≤ x0 + x1 + x2) ∧ (triW x0 x1 x2 = -1 → x0 + x1 + x2 < 0) ∧
    (triW x0 x1 x2 = 1 ∨ triW x0 x1 x2 = 0 ∨ triW x0 x1 x2 = -1) := by
  rw [triW_eq, W]
  split_ifs with h1 h2
  · exact ⟨fun h => absurd h (by decide), fun _ => add_neg (add_neg h1.1 h1.2.1) h1.2.2, Or.inr (Or.inr rfl)⟩
  · exact ⟨fun _ => add_nonneg (add_nonneg h2.1 h2.2.1) h2.2.2, fun h => absurd h (by decide), Or.inl rfl⟩
  · exact ⟨fun h => absurd h (by decide), fun h => absurd h (by decide), Or.inr (Or.inl rfl)⟩

theorem W_rot (x0 x1 x2 : K) : W x1 x2 x0 = W x0 x1 x2 :=
  if_congr and_rotate.symm rfl (if_congr and_rotate.symm rfl rfl)

theorem W_of_neg {x0 x1 x2 : K} (h0 : x0 < 0) (h1 : x1 < 0) (h2 : x2 < 0) : W x0 x1 x2 = -1 := if_pos ⟨h0, h1, h2⟩

theorem W_of_nonneg {x0 x1 x2 : K} (h0 : 0 ≤ x0) (h1 : 0 ≤ x1) (h2 : 0 ≤ x2) : W x0 x1 x2 = 1 := by
  unfold W; rw [if_neg fun h => not_lt.mpr h0 h.1, if_pos ⟨h0, h1, h2⟩]

theorem W_eq_zero {x0 x1 x2 : K} (hneg : ¬ (x0 < 0 ∧ x1 < 0 ∧ x2 < 0)) (hnn : ¬ (0 ≤ x0 ∧ 0 ≤ x1 ∧ 0 ≤ x2)) :
    W x0 x1 x2 = 0 := by
  unfold W; rw [if_neg hneg, if_neg hnn]

/-- one vertex at or below the row, two above: `xu` belongs to the upward edge, `xd` to the downward edge,
    `xo` to the opposite edge; the identity is the y-component of x₁A + x₂B + x₀C = 0 -/
theorem oddBelow {xu xo xd ya yb yc : K} (I : xo * ya + xd * yb + xu * yc = 0)
    (ha : ya ≤ 0) (hb : 0 < yb) (hc : 0 < yc) (hu : xu ≠ 0) (hd : xd ≠ 0) :
    (if xu ≤ 0 then (-1 : Int) else 0) + (if 0 ≤ xd then 1 else 0) = W xu xo xd := by
  rcases lt_or_gt_of_ne hu with su | su <;> rcases lt_or_gt_of_ne hd with sd | sd
  · -- both negative: the opposite one is negative too
    have so : xo < 0 := by
      by_contra h
      linarith [mul_nonpos_of_nonneg_of_nonpos (not_lt.mp h) ha, mul_neg_of_neg_of_pos sd hb, mul_neg_of_neg_of_pos su hc]
    rw [if_pos su.le, if_neg (not_le.mpr sd), W_of_neg su so sd]; rfl
  · rw [if_pos su.le, if_pos sd.le, W_eq_zero (fun h => lt_asymm h.2.2 sd) fun h => not_lt.mpr h.1 su]; rfl
  · rw [if_neg (not_le.mpr su), if_neg (not_le.mpr sd), W_eq_zero (fun h => lt_asymm h.1 su) fun h => not_lt.mpr h.2.2 sd]
    rfl
  · have so : 0 ≤ xo := by
      by_contra h
      linarith [mul_nonneg_of_nonpos_of_nonpos (not_le.mp h).le ha, mul_pos sd hb, mul_pos su hc]
    rw [if_neg (not_le.mpr su), if_pos sd.le, W_of_nonneg su.le so sd.le]; rfl

/-- one vertex above the row, two at or below: `xd` belongs to the downward edge, `xu` to the upward one.
    `hopp` is what "the origin is not on the opposite edge" gives when that edge lies in the row. -/
theorem oddAbove {xd xo xu ya yb yc : K} (I : xo * ya + xu * yb + xd * yc = 0)
    (ha : 0 < ya) (hb : yb ≤ 0) (hc : yc ≤ 0) (hd : xd ≠ 0) (hu : xu ≠ 0)
    (hopp : yb = 0 → yc = 0 → xd * xu < 0) :
    (if 0 ≤ xd then (1 : Int) else 0) + (if xu ≤ 0 then -1 else 0) = W xd xo xu := by
  rcases lt_or_gt_of_ne hd with sd | sd <;> rcases lt_or_gt_of_ne hu with su | su
  · -- with `xo ≥ 0` the three terms of `I` are non-negative, so all vanish and the opposite edge lies in the row
    have so : xo < 0 := by
      by_contra h
      have t1 := mul_nonneg (not_lt.mp h) ha.le
      have t2 := mul_nonneg_of_nonpos_of_nonpos su.le hb
      have t3 := mul_nonneg_of_nonpos_of_nonpos sd.le hc
      have hb0 : yb = 0 := (mul_eq_zero.mp (by linarith : xu * yb = 0)).resolve_left hu
      have hc0 : yc = 0 := (mul_eq_zero.mp (by linarith : xd * yc = 0)).resolve_left hd
      exact absurd (hopp hb0 hc0) (not_lt.mpr (mul_pos_of_neg_of_neg sd su).le)
    rw [if_neg (not_le.mpr sd), if_pos su.le, W_of_neg sd so su]; rfl
  · rw [if_neg (not_le.mpr sd), if_neg (not_le.mpr su), W_eq_zero (fun h => lt_asymm h.2.2 su) fun h => not_lt.mpr h.1 sd]
    rfl
  · rw [if_pos sd.le, if_pos su.le, W_eq_zero (fun h => lt_asymm h.1 sd) fun h => not_lt.mpr h.2.2 su]; rfl
  · have so : 0 ≤ xo := by
      by_contra h
      linarith [mul_neg_of_neg_of_pos (not_le.mp h) ha, mul_nonpos_of_nonneg_of_nonpos su.le hb,
        mul_nonpos_of_nonneg_of_nonpos sd.le hc]
    rw [if_pos sd.le, if_neg (not_le.mpr su), W_of_nonneg sd.le so su.le]; rfl

/-- an edge `B C` in the row of the origin, not through it, and a vertex `A` off the row: the cross products of the
    other two edges have strictly opposite signs -/
theorem cross_mul_cross_neg {ax ay bx cx : K} (ha : ay ≠ 0) (hBC : offEdge bx 0 cx 0) :
    (ax * 0 - ay * bx) * (cx * ay - 0 * ax) < 0 := by
  have := mul_pos (mul_self_pos.mpr ha) (hBC (by ring))
  linarith

/-- `triangle_winding` for the vertices in this order, hypotheses included, so that the positions of the vertices
    relative to the row can be rotated into one another -/
def Holds (ax ay bx by_ cx cy : K) : Prop :=
  offEdge ax ay bx by_ → offEdge bx by_ cx cy → offEdge cx cy ax ay →
  ¬ (ax * by_ - ay * bx = 0 ∧ bx * cy - by_ * cx = 0 ∧ cx * ay - cy * ax = 0) →
  kcr ax ay bx by_ + kcr bx by_ cx cy + kcr cx cy ax ay = W (ax * by_ - ay * bx) (bx * cy - by_ * cx) (cx * ay - cy * ax)

theorem Holds.rot {ax ay bx by_ cx cy : K} (h : Holds bx by_ cx cy ax ay) : Holds ax ay bx by_ cx cy := by
  intro hAB hBC hCA hnd
  rw [← W_rot, ← h hBC hCA hAB fun ⟨h1, h2, h0⟩ => hnd ⟨h0, h1, h2⟩]
  ring

section cases
variable {ax ay bx by_ cx cy : K}

theorem holds_above (ha : 0 < ay) (hb : 0 < by_) (hc : 0 < cy) : Holds ax ay bx by_ cx cy := by
  intro _ _ _ hnd
  rw [kcr_above ha hb, kcr_above hb hc, kcr_above hc ha]
  have I : (bx * cy - by_ * cx) * ay + (cx * ay - cy * ax) * by_ + (ax * by_ - ay * bx) * cy = 0 := by ring
  refine (W_eq_zero ?_ ?_).symm
  · rintro ⟨g0, g1, g2⟩
    linarith [mul_neg_of_neg_of_pos g1 ha, mul_neg_of_neg_of_pos g2 hb, mul_neg_of_neg_of_pos g0 hc]
  · -- three non-negative terms add up to 0
    rintro ⟨g0, g1, g2⟩
    have t1 := mul_nonneg g1 ha.le
    have t2 := mul_nonneg g2 hb.le
    have t0 := mul_nonneg g0 hc.le
    exact hnd ⟨(mul_eq_zero.mp (by linarith)).resolve_right hc.ne', (mul_eq_zero.mp (by linarith)).resolve_right ha.ne',
      (mul_eq_zero.mp (by linarith)).resolve_right hb.ne'⟩

theorem holds_oneBelow (ha : ay ≤ 0) (hb : 0 < by_) (hc : 0 < cy) : Holds ax ay bx by_ cx cy := by
  intro hAB _ hCA _
  rw [kcr_upward _ _ ha hb, kcr_above hb hc, kcr_downward _ _ ha hc, add_zero]
  exact oddBelow (by ring) ha hb hc (cross_ne_zero_of_sides hAB (Or.inl ⟨ha, hb⟩))
    (cross_ne_zero_of_sides hCA (Or.inr ⟨ha, hc⟩))

theorem holds_oneAbove (ha : 0 < ay) (hb : by_ ≤ 0) (hc : cy ≤ 0) : Holds ax ay bx by_ cx cy := by
  intro hAB hBC hCA _
  rw [kcr_downward _ _ hb ha, kcr_below hb hc, kcr_upward _ _ hc ha, add_zero]
  refine oddAbove (by ring) ha hb hc (cross_ne_zero_of_sides hAB (Or.inr ⟨hb, ha⟩))
    (cross_ne_zero_of_sides hCA (Or.inl ⟨hc, ha⟩)) ?_
  rintro rfl rfl
  exact cross_mul_cross_neg ha.ne' hBC

/-- no vertex above the row and `A` strictly below: no edge crosses, and the closed form is `0` because non-negative
    cross products would put `B` and `C` on one ray from the origin (`B × C = 0`, `B · C > 0`) on or below the row -/
theorem holds_below (ha : ay < 0) (hb : by_ ≤ 0) (hc : cy ≤ 0) : Holds ax ay bx by_ cx cy := by
  intro _ hBC _ hnd
  rw [kcr_below ha.le hb, kcr_below hb hc, kcr_below hc ha.le]
  have I : (bx * cy - by_ * cx) * ay + (cx * ay - cy * ax) * by_ + (ax * by_ - ay * bx) * cy = 0 := by ring
  refine (W_eq_zero ?_ ?_).symm
  · rintro ⟨g0, g1, g2⟩
    linarith [mul_pos_of_neg_of_neg g1 ha, mul_nonneg_of_nonpos_of_nonpos g2.le hb,
      mul_nonneg_of_nonpos_of_nonpos g0.le hc]
  · -- three non-positive terms add up to 0
    rintro ⟨g0, g1, g2⟩
    have t1 := mul_nonpos_of_nonneg_of_nonpos g1 ha.le
    have t2 := mul_nonpos_of_nonneg_of_nonpos g2 hb
    have t0 := mul_nonpos_of_nonneg_of_nonpos g0 hc
    have z1 : bx * cy - by_ * cx = 0 := (mul_eq_zero.mp (by linarith)).resolve_right ha.ne
    have hd := hBC z1
    rcases hb.lt_or_eq with hb' | rfl <;> rcases hc.lt_or_eq with hc' | rfl
    · exact hnd ⟨(mul_eq_zero.mp (by linarith)).resolve_right hc'.ne, z1,
        (mul_eq_zero.mp (by linarith)).resolve_right hb'.ne⟩
    · have c0 : cx = 0 := (mul_eq_zero.mp (by linarith : by_ * cx = 0)).resolve_left hb'.ne
      rw [c0] at hd; linarith
    · have b0 : bx = 0 := (mul_eq_zero.mp (by linarith : bx * cy = 0)).resolve_right hc'.ne
      rw [b0] at hd; linarith
    · exact absurd (mul_nonneg g0 g2) (not_le.mpr (cross_mul_cross_neg ha.ne hBC))

end cases

theorem triangle_winding (ax ay bx by_ cx cy : K)
    (hAB : offEdge ax ay bx by_) (hBC : offEdge bx by_ cx cy) (hCA : offEdge cx cy ax ay)
    (hnd : ¬ (ax * by_ - ay * bx = 0 ∧ bx * cy - by_ * cx = 0 ∧ cx * ay - cy * ax = 0)) :
    kcr ax ay bx by_ + kcr bx by_ cx cy + kcr cx cy ax ay
      = triW (ax * by_ - ay * bx) (bx * cy - by_ * cx) (cx * ay - cy * ax) := by
  rw [triW_eq]
  refine (?_ : Holds ax ay bx by_ cx cy) hAB hBC hCA hnd
  rcases lt_or_ge 0 ay with ha | ha <;> rcases lt_or_ge 0 by_ with hb | hb <;> rcases lt_or_ge 0 cy with hc | hc
  · exact holds_above ha hb hc
  · exact (holds_oneBelow hc ha hb).rot.rot
  · exact (holds_oneBelow hb hc ha).rot
  · exact holds_oneAbove ha hb hc
  · exact holds_oneBelow ha hb hc
  · exact (holds_oneAbove hb hc ha).rot
  · exact (holds_oneAbove hc ha hb).rot.rot
  · -- all three at or below the row: rotate a vertex strictly below into first place
    rcases ha.lt_or_eq with ha' | rfl
    · exact holds_below ha' hb hc
    rcases hb.lt_or_eq with hb' | rfl
    · exact (holds_below hb' hc le_rfl).rot
    rcases hc.lt_or_eq with hc' | rfl
    · exact (holds_below hc' le_rfl le_rfl).rot.rot
    · exact absurd ⟨by ring, by ring, by ring⟩ hnd

end C11Tri
end Kurbo
