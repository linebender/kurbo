import Proofs.Lemmas.KernelEqs
import Mathlib.Analysis.Calculus.Deriv.Polynomial
import Mathlib.Analysis.Calculus.LocalExtr.Basic
import Mathlib.Topology.Order.Compact
import Mathlib.Tactic.Ring
import Mathlib.Tactic.Linarith
/-! calculus helper lemmas over ℝ: the derivative of a cubic polynomial and of the coordinates of `Line.eval`, the extremum
    principle on `[0,1]` (`exists_min_end_or_crit`: a minimum sits at an end point or at an interior critical point;
    `min_variational`: at a minimiser the derivative does not point out of the interval; `ge_of_crit_bound` /
    `le_of_crit_bound`: a bound at the ends and at the interior critical points is a bound on `[0,1]`); for any ordered
    field, convex combinations stay in an interval (`lerp_mem_Icc`); the Euclidean length `√(x² + y²)` of a pair over ℝ
    (`sqrt_sq_add_sq_scale`, `sqrt_sq_add_sq_add_le`).  What follows from the sign of a derivative is in `Lemmas/CalcMono.lean`. -/
namespace Kurbo

theorem hasDerivAt_poly3 (k0 k1 k2 k3 t : ℝ) :
    HasDerivAt (fun x : ℝ => k0 + k1 * x + k2 * x ^ 2 + k3 * x ^ 3) (k1 + k2 * (2 * t) + k3 * (3 * t ^ 2)) t := by
  open Polynomial in
  have h := (C k0 + C k1 * X + C k2 * X ^ 2 + C k3 * X ^ 3 : ℝ[X]).hasDerivAt t
  simp only [eval_add, eval_mul, eval_C, eval_X, eval_pow, derivative_add, derivative_mul, derivative_C,
    derivative_X, derivative_X_pow, zero_mul, zero_add, mul_one, Nat.cast_ofNat] at h
  have e : k1 + k2 * (2 * t) + k3 * (3 * t ^ 2) = k1 + k2 * (2 * t ^ (2 - 1)) + k3 * (3 * t ^ (3 - 1)) := by norm_num
  rw [e]; exact h

theorem line_hasDerivAt [Scalar ℝ] [LawfulScalar ℝ] (l : Line ℝ) (t : ℝ) :
    HasDerivAt (fun t => (l.eval t).x) (l.p1.x - l.p0.x) t ∧
    HasDerivAt (fun t => (l.eval t).y) (l.p1.y - l.p0.y) t := by
  simp only [Line.eval_xy]
  exact ⟨by simpa using hasDerivAt_poly3 l.p0.x (l.p1.x - l.p0.x) 0 0 t,
    by simpa using hasDerivAt_poly3 l.p0.y (l.p1.y - l.p0.y) 0 0 t⟩

theorem exists_min_end_or_crit {D D' : ℝ → ℝ} (hD : ∀ t, HasDerivAt D (D' t) t) :
    ∃ ts ∈ Set.Icc (0:ℝ) 1, (ts = 0 ∨ ts = 1 ∨ 0 < ts ∧ ts < 1 ∧ D' ts = 0) ∧ ∀ t ∈ Set.Icc (0:ℝ) 1, D ts ≤ D t := by
  have hcont : ContinuousOn D (Set.Icc 0 1) := fun t _ => (hD t).continuousAt.continuousWithinAt
  obtain ⟨ts, hts, hminOn⟩ := isCompact_Icc.exists_isMinOn (⟨0, by simp⟩ : (Set.Icc (0:ℝ) 1).Nonempty) hcont
  refine ⟨ts, hts, ?_, fun t ht => hminOn ht⟩
  rcases hts.1.eq_or_lt with e0 | e0
  · exact Or.inl e0.symm
  rcases hts.2.eq_or_lt with e1 | e1
  · exact Or.inr (Or.inl e1)
  exact Or.inr (Or.inr ⟨e0, e1, (hminOn.isLocalMin (Icc_mem_nhds e0 e1)).hasDerivAt_eq_zero (hD ts)⟩)

theorem min_variational {D D' : ℝ → ℝ} (hD : ∀ t, HasDerivAt D (D' t) t) {a y : ℝ} (ha : a ∈ Set.Icc (0:ℝ) 1)
    (hmin : ∀ t ∈ Set.Icc (0:ℝ) 1, D a ≤ D t) (hy : y ∈ Set.Icc (0:ℝ) 1) : 0 ≤ (y - a) * D' a := by
  have h := (isMinOn_iff.mpr hmin).localize.hasFDerivWithinAt_nonneg (hD a).hasFDerivAt.hasFDerivWithinAt
    (sub_mem_posTangentConeAt_of_segment_subset ((convex_Icc (0:ℝ) 1).segment_subset ha hy))
  simpa using h

theorem ge_of_crit_bound {D D' : ℝ → ℝ} (hD : ∀ t, HasDerivAt D (D' t) t) {m : ℝ} (h0 : m ≤ D 0) (h1 : m ≤ D 1)
    (hc : ∀ t, 0 < t → t < 1 → D' t = 0 → m ≤ D t) : ∀ t ∈ Set.Icc (0:ℝ) 1, m ≤ D t := by
  obtain ⟨ts, -, hcase, hmin⟩ := exists_min_end_or_crit hD
  intro t ht
  refine le_trans ?_ (hmin t ht)
  rcases hcase with rfl | rfl | ⟨e0, e1, hd⟩
  exacts [h0, h1, hc ts e0 e1 hd]

/-- `crit`: any predicate that holds at the interior zeros of the derivative -/
theorem le_of_crit_bound {f f' : ℝ → ℝ} (hf : ∀ t, HasDerivAt f (f' t) t) (crit : ℝ → Prop)
    (hcrit : ∀ t, 0 < t → t < 1 → f' t = 0 → crit t) (M : ℝ)
    (h0 : f 0 ≤ M) (h1 : f 1 ≤ M) (hM : ∀ t, 0 < t → t < 1 → crit t → f t ≤ M) :
    ∀ t ∈ Set.Icc (0:ℝ) 1, f t ≤ M := fun t ht =>
  neg_le_neg_iff.mp (ge_of_crit_bound (D := fun t => -f t) (fun t => (hf t).neg) (neg_le_neg h0) (neg_le_neg h1)
    (fun t a b h => neg_le_neg (hM t a b (hcrit t a b (neg_eq_zero.mp h)))) t ht)

theorem lerp_mem_Icc {K : Type} [Field K] [LinearOrder K] [IsStrictOrderedRing K] {m M a b t : K}
    (h0 : 0 ≤ t) (h1 : t ≤ 1) (ha : a ∈ Set.Icc m M) (hb : b ∈ Set.Icc m M) :
    a * (1 - t) + b * t ∈ Set.Icc m M := by
  have h1' : 0 ≤ 1 - t := sub_nonneg.mpr h1
  have e : ∀ c : K, c * (1 - t) + c * t = c := fun c => by rw [← mul_add, sub_add_cancel, mul_one]
  constructor
  · rw [← e m]; exact add_le_add (mul_le_mul_of_nonneg_right ha.1 h1') (mul_le_mul_of_nonneg_right hb.1 h0)
  · rw [← e M]; exact add_le_add (mul_le_mul_of_nonneg_right ha.2 h1') (mul_le_mul_of_nonneg_right hb.2 h0)

/-! The Euclidean length `√(x² + y²)` of a pair: homogeneity and the triangle inequality. -/

theorem sqrt_sq_add_sq_scale {k : ℝ} (hk : 0 ≤ k) (a b : ℝ) :
    Real.sqrt ((k * a) ^ 2 + (k * b) ^ 2) = k * Real.sqrt (a ^ 2 + b ^ 2) := by
  have : (k * a) ^ 2 + (k * b) ^ 2 = k ^ 2 * (a ^ 2 + b ^ 2) := by ring
  rw [this, Real.sqrt_mul (sq_nonneg k), Real.sqrt_sq hk]

theorem sqrt_sq_add_sq_add_le (a b c d : ℝ) :
    Real.sqrt ((a + c) ^ 2 + (b + d) ^ 2) ≤ Real.sqrt (a ^ 2 + b ^ 2) + Real.sqrt (c ^ 2 + d ^ 2) := by
  have h1 : 0 ≤ a ^ 2 + b ^ 2 := add_nonneg (sq_nonneg a) (sq_nonneg b)
  have h2 : 0 ≤ c ^ 2 + d ^ 2 := add_nonneg (sq_nonneg c) (sq_nonneg d)
  have hcs : a * c + b * d ≤ Real.sqrt (a ^ 2 + b ^ 2) * Real.sqrt (c ^ 2 + d ^ 2) := by
    rw [← Real.sqrt_mul h1]
    exact Real.le_sqrt_of_sq_le (by linarith [sq_nonneg (a * d - b * c)])
  rw [Real.sqrt_le_left (add_nonneg (Real.sqrt_nonneg _) (Real.sqrt_nonneg _))]
  linarith [Real.sq_sqrt h1, Real.sq_sqrt h2]

end Kurbo
