import Proofs.Lemmas.C01
import Proofs.Lemmas.C01Arg
/-! C01 helpers over ℝ: the code's (non-strict) crossing indicator equals the strict one off the edge, points off a
    segment satisfy the side conditions of `edge_angle`, and the angle-sum theorem for closed chains of lines. -/
set_option linter.unusedSectionVars false
namespace Kurbo
section real
open Complex Real
variable [Scalar ℝ] [LawfulScalar ℝ]

def toC (v : Vec2 ℝ) : ℂ := ⟨v.x, v.y⟩

theorem toC_sub_re (a p : Point ℝ) : (toC (a - p)).re = a.x - p.x := by simp only [toC, vsub_x]
theorem toC_sub_im (a p : Point ℝ) : (toC (a - p)).im = a.y - p.y := by simp only [toC, vsub_y]

theorem im_div_eq (A B : ℂ) : (B / A).im = (A.re * B.im - A.im * B.re) / normSq A := by
  rw [Complex.div_im]; ring
theorem re_div_eq (A B : ℂ) : (B / A).re = (A.re * B.re + A.im * B.im) / normSq A := by
  rw [Complex.div_re]; ring

/-- parallel vectors `(a, b)`, `(c, d)` on opposite sides of the axis point in opposite directions -/
theorem dot_neg_of_cross_zero {a b c d : ℝ} (e : a * d = b * c) (hb : b ≤ 0) (hd : 0 < d) (hn : 0 < a * a + b * b) :
    a * c + b * d < 0 := by
  by_contra h
  have h1 : (a * c + b * d) * b ≤ 0 := mul_nonpos_of_nonneg_of_nonpos (not_lt.mp h) hb
  have h2 : (a * c + b * d) * b = d * (a * a + b * b) := by linear_combination (-a) * e
  linarith [mul_pos hd hn]

theorem kcr_eq_kcross {A B : ℂ} (hA : A ≠ 0) (hB : B ≠ 0) (hseg : arg (B / A) ≠ π) :
    kcr A.re A.im B.re B.im = kcross A B := by
  -- cross = 0 together with opposite sides would make B/A a negative real
  have key : (A.im ≤ 0 ∧ 0 < B.im ∨ B.im ≤ 0 ∧ 0 < A.im) → A.re * B.im - A.im * B.re ≠ 0 := by
    intro hside hc
    have e : A.re * B.im = A.im * B.re := sub_eq_zero.mp hc
    have hn : 0 < normSq A := normSq_pos.mpr hA
    apply hseg
    rw [arg_eq_pi_iff, re_div_eq, im_div_eq, hc, zero_div]
    refine ⟨div_neg_of_neg_of_pos ?_ hn, rfl⟩
    rcases hside with ⟨h1, h2⟩ | ⟨h1, h2⟩
    · exact dot_neg_of_cross_zero e h1 h2 (normSq_apply A ▸ hn)
    · linarith [dot_neg_of_cross_zero (a := B.re) (c := A.re) (by linarith) h1 h2 (normSq_apply B ▸ normSq_pos.mpr hB)]
  unfold kcross
  rcases rowSign_cases A.im B.im 0 with ⟨-, h1, h2⟩ | ⟨-, h1, h2⟩ | ⟨hs, hu, hd⟩
  · rw [kcr_upward _ _ h1 h2]
    simp only [h1, h2, true_and, (key (Or.inl ⟨h1, h2⟩)).le_iff_lt, not_lt.mpr h1, false_and, and_false, if_false]
  · rw [kcr_downward _ _ h1 h2]
    simp only [h1, h2, true_and, (key (Or.inr ⟨h1, h2⟩)).symm.le_iff_lt, not_le.mpr h2, false_and, if_false]
  · rw [kcr_eq_rowSign_mul, hs, zero_mul, if_neg (fun h => hd ⟨h.1, h.2.1⟩), if_neg (fun h => hu ⟨h.1, h.2.1⟩)]

/-- the side conditions of `edge_angle` for the edge of `s`, seen from `p` -/
def OffEdge (s : PathSeg ℝ) (p : Point ℝ) : Prop :=
  toC (s.start - p) ≠ 0 ∧ toC (s.end - p) ≠ 0 ∧ arg (toC (s.end - p) / toC (s.start - p)) ≠ π

theorem kc_eq_kcross {s : PathSeg ℝ} {p : Point ℝ} (h : OffEdge s p) :
    kc (s.start - p) (s.end - p) = kcross (toC (s.start - p)) (toC (s.end - p)) := by
  rw [← kcr_eq_kcross h.1 h.2.1 h.2.2]; rfl

/-- `B / A` is a negative real exactly when `A × B = 0` and `A · B < 0`, so the algebraic `C11Tri.offEdge` (on the supporting
    line only strictly outside the segment) gives the side conditions of `edge_angle` -/
theorem offEdge_complex {A B : ℂ} (h : C11Tri.offEdge A.re A.im B.re B.im) : A ≠ 0 ∧ B ≠ 0 ∧ arg (B / A) ≠ π := by
  have hA : A ≠ 0 := fun h0 => by
    have := h (by rw [h0]; simp)
    rw [h0] at this
    simp at this
  have hB : B ≠ 0 := fun h0 => by
    have := h (by rw [h0]; simp)
    rw [h0] at this
    simp at this
  refine ⟨hA, hB, fun hpi => ?_⟩
  obtain ⟨hre, him⟩ := arg_eq_pi_iff.mp hpi
  rw [im_div_eq, div_eq_zero_iff] at him
  rw [re_div_eq] at hre
  exact absurd hre (not_lt.mpr (div_nonneg (h (him.resolve_right (normSq_pos.mpr hA).ne')).le (normSq_nonneg A)))

theorem offEdge_of_not_onSeg (a b p : Point ℝ) (h : ¬ OnSeg (.Line ⟨a, b⟩) p) : OffEdge (.Line ⟨a, b⟩) p := by
  have := c11_offEdge_of_not_onSeg a b p h
  rw [← toC_sub_re, ← toC_sub_im, ← toC_sub_re b, ← toC_sub_im b] at this
  exact offEdge_complex this

theorem edge_arg_eq {s : PathSeg ℝ} {p : Point ℝ} (h : OffEdge s p) :
    arg (toC (s.end - p) / toC (s.start - p)) =
      (phi (toC (s.end - p)) - phi (toC (s.start - p))) + 2 * π * ((kc (s.start - p) (s.end - p) : Int) : ℝ) := by
  rw [kc_eq_kcross h]
  linear_combination -edge_angle h.1 h.2.1 h.2.2

theorem angleSum_eq (ss : List (PathSeg ℝ)) (p : Point ℝ) (hoff : ∀ s ∈ ss, OffEdge s p) :
    (ss.map fun s => arg (toC (s.end - p) / toC (s.start - p))).sum =
      (ss.map fun s => (phi (toC (s.end - p)) - phi (toC (s.start - p)))).sum + 2 * π * (crossSum ss p : ℝ) := by
  induction ss with
  | nil => simp only [List.map_nil, List.sum_nil, crossSum_nil, Int.cast_zero, mul_zero, add_zero]
  | cons s r ih =>
    simp only [List.map_cons, List.sum_cons, crossSum_cons]
    rw [edge_arg_eq (hoff s List.mem_cons_self), ih (fun s' hs' => hoff s' (List.mem_cons_of_mem _ hs'))]
    push_cast
    ring

theorem closedChains_crossSum_eq_angleSum {ss : List (PathSeg ℝ)} (hc : ClosedChains ss) (p : Point ℝ)
    (hoff : ∀ s ∈ ss, OffEdge s p) :
    (crossSum ss p : ℝ) = (1 / (2 * π)) * (ss.map fun s => arg (toC (s.end - p) / toC (s.start - p))).sum := by
  rw [angleSum_eq ss p hoff, sum_closedChains (fun q => phi (toC (q - p))) hc, zero_add, one_div,
    inv_mul_cancel_left₀ (by positivity : (2 * π) ≠ 0)]

end real
end Kurbo
