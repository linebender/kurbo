import Proofs.KDefs
import Proofs.Lemmas.C13
import Proofs.C06
import Mathlib.Algebra.BigOperators.Group.Finset.Basic
import Mathlib.Algebra.Order.BigOperators.Group.Finset
import Mathlib.Algebra.Order.Archimedean.Basic
import Mathlib.Tactic.LinearCombination
/-! Arithmetic side of C13.
    * the specification of dashing by arc length: a pattern position `Ph` (index, remaining length of the entry, on/off),
      `walk` (advance the position by a length, returning the on-length covered), `walk_add` ("vertices are invisible"),
      conservation over a polyline (`walkList_eq_walk`);
    * `dashInitLoop` computes the position of the offset in the periodic pattern;
    * the geometry of one `step` on a straight segment (needs `hypot² = x² + y²`, `hypot ≥ 0`: `LawfulHypotSq`). -/
set_option linter.unusedSectionVars false
namespace Kurbo
namespace DashSpec
variable {K : Type} [Field K] [LinearOrder K] [IsStrictOrderedRing K]

/-- position in the dash pattern: index of the entry, length of it still ahead, whether it is an "on" entry -/
structure Ph (K : Type) where
  ix : Nat
  rem : K
  act : Bool
deriving DecidableEq

/-- switch to the next pattern entry (`dash_ix + 1` with wrap-around, `is_active = !is_active`);
    the pattern is `pat 0, …, pat (n-1)` repeated -/
def Ph.next (n : Nat) (pat : Nat → K) (ph : Ph K) : Ph K :=
  ⟨(ph.ix + 1) % n, pat ((ph.ix + 1) % n), !ph.act⟩

/-- length counted if the entry is an "on" entry -/
def onPart (act : Bool) (x : K) : K := if act then x else 0

theorem onPart_zero (act : Bool) : onPart act (0 : K) = 0 := by
  cases act <;> rfl

theorem onPart_add (act : Bool) (x y : K) : onPart act x + onPart act y = onPart act (x + y) := by
  cases act
  · exact add_zero 0
  · rfl

theorem onPart_nonneg (act : Bool) (x : K) (h : 0 ≤ x) : 0 ≤ onPart act x := by
  cases act
  · exact le_rfl
  · exact h

theorem onPart_le (act : Bool) (x : K) (h : 0 ≤ x) : onPart act x ≤ x := by
  cases act
  · exact h
  · exact le_rfl

/-- advance by a stretch of arc length `l`: returns the on-length covered and the position at the end
    (fuel = maximal number of switches + 1).  This is literally what the iterator does to one straight segment of length `l`:
    `while dash_remaining < seg_remaining { switch }; dash_remaining -= seg_remaining`. -/
def walk (n : Nat) (pat : Nat → K) : Nat → Ph K → K → Option (K × Ph K)
  | 0, _, _ => none
  | f + 1, ph, l =>
    if ph.rem < l then
      match walk n pat f (ph.next n pat) (l - ph.rem) with
      | some (o, ph') => some (onPart ph.act ph.rem + o, ph')
      | none => none
    else some (onPart ph.act l, { ph with rem := ph.rem - l })

/-- position after advancing by `l` -/
def advance (n : Nat) (pat : Nat → K) (f : Nat) (ph : Ph K) (l : K) : Option (Ph K) := (walk n pat f ph l).map (·.2)
/-- on-length between a position and the position `l` further -/
def onLength (n : Nat) (pat : Nat → K) (f : Nat) (ph : Ph K) (l : K) : Option K := (walk n pat f ph l).map (·.1)

theorem walk_within (n : Nat) (pat : Nat → K) (f : Nat) (ph : Ph K) (l : K) (h : l ≤ ph.rem) :
    walk n pat (f + 1) ph l = some (onPart ph.act l, { ph with rem := ph.rem - l }) := by
  unfold walk; rw [if_neg (not_lt.mpr h)]

theorem walk_switch (n : Nat) (pat : Nat → K) (f : Nat) (ph : Ph K) (l : K) (h : ph.rem < l) :
    walk n pat (f + 1) ph l = (walk n pat f (ph.next n pat) (l - ph.rem)).map
      fun r => (onPart ph.act ph.rem + r.1, r.2) := by
  conv_lhs => unfold walk
  rw [if_pos h]
  cases walk n pat f (ph.next n pat) (l - ph.rem) <;> rfl

theorem walk_of_not_lt {n : Nat} {pat : Nat → K} {f : Nat} {ph ph' : Ph K} {l o : K} (hnlt : ¬ ph.rem < l)
    (h : walk n pat f ph l = some (o, ph')) : o = onPart ph.act l ∧ ph' = { ph with rem := ph.rem - l } := by
  cases f with
  | zero => cases h
  | succ f =>
    rw [walk_within n pat f ph l (not_lt.mp hnlt)] at h
    cases h
    exact ⟨rfl, rfl⟩

theorem walk_of_lt {n : Nat} {pat : Nat → K} {f : Nat} {ph ph' : Ph K} {l o : K} (hlt : ph.rem < l)
    (h : walk n pat f ph l = some (o, ph')) :
    ∃ f' o1, f = f' + 1 ∧ walk n pat f' (ph.next n pat) (l - ph.rem) = some (o1, ph') ∧ o = onPart ph.act ph.rem + o1 := by
  cases f with
  | zero => cases h
  | succ f =>
    rw [walk_switch n pat f ph l hlt] at h
    obtain ⟨⟨o1, ph1⟩, hq, e⟩ := Option.map_eq_some_iff.mp h
    cases e
    exact ⟨f, o1, rfl, hq, rfl⟩

theorem walk_mono (n : Nat) (pat : Nat → K) (f k : Nat) (ph : Ph K) (l : K) (r : K × Ph K)
    (h : walk n pat f ph l = some r) : walk n pat (f + k) ph l = some r := by
  induction f generalizing ph l r with
  | zero => cases h
  | succ f ih =>
    rw [Nat.add_right_comm]
    by_cases hlt : ph.rem < l
    · rw [walk_switch n pat _ ph l hlt] at h ⊢
      obtain ⟨q, hq, rfl⟩ := Option.map_eq_some_iff.mp h
      rw [ih _ _ _ hq]
      rfl
    · rw [walk_within n pat _ ph l (not_lt.mp hlt)] at h ⊢
      exact h

theorem walk_within_add (n : Nat) (pat : Nat → K) (m : Nat) (ph ph2 : Ph K) (l1 l2 o2 : K)
    (c2 : walk n pat m { ph with rem := ph.rem - l1 } l2 = some (o2, ph2)) :
    walk n pat m ph (l1 + l2) = some (onPart ph.act l1 + o2, ph2) := by
  by_cases hlt : ph.rem - l1 < l2
  · obtain ⟨m', o2', rfl, c, rfl⟩ := walk_of_lt hlt c2
    have c' : walk n pat m' (ph.next n pat) (l2 - (ph.rem - l1)) = some (o2', ph2) := c
    have e : l1 + l2 - ph.rem = l2 - (ph.rem - l1) := by ring
    rw [walk_switch n pat m' ph _ (sub_lt_iff_lt_add'.mp hlt), e, c']
    show some (onPart ph.act ph.rem + o2', ph2) = some (onPart ph.act l1 + (onPart ph.act (ph.rem - l1) + o2'), ph2)
    rw [← add_assoc, onPart_add, add_sub_cancel]
  · obtain ⟨rfl, rfl⟩ := walk_of_not_lt hlt c2
    obtain ⟨m', rfl⟩ : ∃ m', m = m' + 1 := by
      cases m with
      | zero => cases c2
      | succ m' => exact ⟨m', rfl⟩
    rw [walk_within n pat m' ph _ (le_sub_iff_add_le'.mp (not_lt.mp hlt)), onPart_add, sub_sub]

/-- **Vertices are invisible.** Walking `l1` and then `l2` covers the same on-length and ends in the same position as
    walking `l1 + l2` in one piece (also when a switch falls exactly on the vertex: the strict `<` leaves `rem = 0` and
    the switch happens at the start of the second stretch). -/
theorem walk_add (n : Nat) (pat : Nat → K) (f m : Nat) (ph ph1 ph2 : Ph K) (l1 l2 o1 o2 : K) (h2 : 0 ≤ l2)
    (c1 : walk n pat f ph l1 = some (o1, ph1)) (c2 : walk n pat m ph1 l2 = some (o2, ph2)) :
    walk n pat (f + m) ph (l1 + l2) = some (o1 + o2, ph2) := by
  induction f generalizing ph l1 o1 with
  | zero => cases c1
  | succ f ih =>
    by_cases hlt : ph.rem < l1
    · obtain ⟨f', o1', e, c, rfl⟩ := walk_of_lt hlt c1
      cases e
      rw [Nat.add_right_comm, walk_switch n pat _ ph _ (lt_add_of_lt_of_nonneg hlt h2), add_sub_right_comm, ih _ _ _ c,
        Option.map_some, add_assoc]
    · obtain ⟨rfl, rfl⟩ := walk_of_not_lt hlt c1
      rw [Nat.add_comm]
      exact walk_mono n pat m (f + 1) ph _ _ (walk_within_add n pat m ph ph2 l1 l2 o2 c2)

/-- walk the segments of a polyline one after the other (fuel `f` for each segment): total on-length and final position -/
def walkList (n : Nat) (pat : Nat → K) (f : Nat) : Ph K → List K → Option (K × Ph K)
  | ph, [] => some (0, ph)
  | ph, l :: ls =>
    match walk n pat f ph l with
    | none => none
    | some (o, ph1) =>
      match walkList n pat f ph1 ls with
      | none => none
      | some (o', ph2) => some (o + o', ph2)

theorem walkList_cons_eq_some {n : Nat} {pat : Nat → K} {f : Nat} {ph ph' : Ph K} {x o : K} {ls : List K} :
    walkList n pat f ph (x :: ls) = some (o, ph') ↔
      ∃ o1 ph1 o2, walk n pat f ph x = some (o1, ph1) ∧ walkList n pat f ph1 ls = some (o2, ph') ∧ o = o1 + o2 := by
  rw [walkList]
  cases hc : walk n pat f ph x with
  | none => simp
  | some q =>
    obtain ⟨o1, ph1⟩ := q
    dsimp only
    cases hc2 : walkList n pat f ph1 ls with
    | none =>
      simp only [reduceCtorEq, false_iff, not_exists, not_and]
      rintro _ _ _ ⟨rfl, rfl⟩ h
      rw [hc2] at h
      cases h
    | some q2 =>
      obtain ⟨o2, ph2⟩ := q2
      simp only [Option.some.injEq, Prod.mk.injEq]
      constructor
      · rintro ⟨rfl, rfl⟩
        exact ⟨o1, ph1, o2, ⟨rfl, rfl⟩, hc2, rfl⟩
      · rintro ⟨_, _, _, ⟨rfl, rfl⟩, h, rfl⟩
        rw [hc2] at h
        cases h
        exact ⟨rfl, rfl⟩

theorem walkList_single {n : Nat} {pat : Nat → K} {f : Nat} {ph ph' : Ph K} {x o : K}
    (h : walkList n pat f ph [x] = some (o, ph')) : walk n pat f ph x = some (o, ph') := by
  obtain ⟨o1, ph1, o2, h1, h2, rfl⟩ := walkList_cons_eq_some.mp h
  cases h2
  rw [h1, add_zero]

theorem walkList_append (n : Nat) (pat : Nat → K) (f : Nat) : ∀ (a b : List K) (ph ph' : Ph K) (o : K),
    walkList n pat f ph (a ++ b) = some (o, ph') →
    ∃ o1 ph1 o2, walkList n pat f ph a = some (o1, ph1) ∧ walkList n pat f ph1 b = some (o2, ph') ∧ o = o1 + o2
  | [], b, ph, ph', o, h => ⟨0, ph, o, rfl, h, (zero_add o).symm⟩
  | x :: a, b, ph, ph', o, h => by
    obtain ⟨ox, phx, o', hx, h', rfl⟩ := walkList_cons_eq_some.mp h
    obtain ⟨o1, ph1, o2, e1, e2, rfl⟩ := walkList_append n pat f a b phx ph' o' h'
    exact ⟨ox + o1, ph1, o2, walkList_cons_eq_some.mpr ⟨ox, phx, o1, hx, e1, rfl⟩, e2, (add_assoc _ _ _).symm⟩

theorem walkList_of_lt {n : Nat} {pat : Nat → K} {f : Nat} {ph ph' : Ph K} {x o : K} {ls : List K}
    (hlt : ph.rem < x) (h : walkList n pat f ph (x :: ls) = some (o, ph')) :
    ∃ o1, walkList n pat f (ph.next n pat) ((x - ph.rem) :: ls) = some (o1, ph') ∧ o = onPart ph.act ph.rem + o1 := by
  obtain ⟨o1, ph1, o2, e1, e2, rfl⟩ := walkList_cons_eq_some.mp h
  obtain ⟨f', o1', rfl, e4, rfl⟩ := walk_of_lt hlt e1
  exact ⟨o1' + o2, walkList_cons_eq_some.mpr ⟨o1', ph1, o2, walk_mono n pat f' 1 _ _ _ e4, e2, rfl⟩, add_assoc _ _ _⟩

theorem walkList_of_not_lt {n : Nat} {pat : Nat → K} {f : Nat} {ph ph' : Ph K} {x o : K} {ls : List K}
    (hnlt : ¬ ph.rem < x) (h : walkList n pat f ph (x :: ls) = some (o, ph')) :
    ∃ o2, walkList n pat f { ph with rem := ph.rem - x } ls = some (o2, ph') ∧ o = onPart ph.act x + o2 := by
  obtain ⟨o1, ph1, o2, e1, e2, rfl⟩ := walkList_cons_eq_some.mp h
  obtain ⟨rfl, rfl⟩ := walk_of_not_lt hnlt e1
  exact ⟨o2, e2, rfl⟩

/-- **Conservation.** Dashing a polyline segment by segment covers the same on-length, and ends at the same pattern
    position, as dashing one straight stretch of the total length: the result depends on arc length only. -/
theorem walkList_eq_walk (n : Nat) (pat : Nat → K) (f : Nat) : ∀ (ls : List K) (l : K) (ph ph' : Ph K) (o : K),
    (∀ x ∈ ls, 0 ≤ x) → walkList n pat f ph (l :: ls) = some (o, ph') →
    walk n pat (f * (ls.length + 1)) ph (l + ls.sum) = some (o, ph')
  | [], l, ph, ph', o, _, h => by
    rw [List.sum_nil, add_zero, List.length_nil, Nat.zero_add, Nat.mul_one]
    exact walkList_single h
  | l2 :: ls, l, ph, ph', o, hnn, h => by
    obtain ⟨o1, ph1, o2, h1, h2, rfl⟩ := walkList_cons_eq_some.mp h
    have hnn' : ∀ x ∈ ls, 0 ≤ x := fun x hx => hnn x (List.mem_cons_of_mem _ hx)
    have hs : 0 ≤ l2 + ls.sum := add_nonneg (hnn l2 List.mem_cons_self) (List.sum_nonneg hnn')
    rw [List.sum_cons, List.length_cons, Nat.mul_succ, Nat.add_comm]
    exact walk_add n pat f _ ph ph1 ph' l _ o1 o2 hs h1 (walkList_eq_walk n pat f ls l2 ph1 ph' o2 hnn' h2)

theorem walk_bounds (n : Nat) (pat : Nat → K) (hpat : ∀ i, 0 ≤ pat i) (f : Nat) (ph ph' : Ph K) (l o : K)
    (hr : 0 ≤ ph.rem) (hl : 0 ≤ l) (h : walk n pat f ph l = some (o, ph')) : 0 ≤ o ∧ o ≤ l ∧ 0 ≤ ph'.rem := by
  induction f generalizing ph l o with
  | zero => cases h
  | succ f ih =>
    by_cases hlt : ph.rem < l
    · obtain ⟨f', o1, e, c, rfl⟩ := walk_of_lt hlt h
      cases e
      obtain ⟨b1, b2, b3⟩ := ih (ph.next n pat) (l - ph.rem) o1 (hpat _) (sub_nonneg.mpr hlt.le) c
      exact ⟨add_nonneg (onPart_nonneg ph.act ph.rem hr) b1,
        (add_le_add (onPart_le ph.act ph.rem hr) b2).trans_eq (add_sub_cancel _ _), b3⟩
    · obtain ⟨rfl, rfl⟩ := walk_of_not_lt hlt h
      exact ⟨onPart_nonneg _ _ hl, onPart_le _ _ hl, sub_nonneg.mpr (not_lt.mp hlt)⟩

theorem walk_isSome (n : Nat) (pat : Nat → K) (m : K) (hpat : ∀ i, m ≤ pat i) (f : Nat) (ph : Ph K) (l : K)
    (hl : l ≤ ph.rem + (f : Nat) * m) : ∃ r, walk n pat (f + 1) ph l = some r := by
  induction f generalizing ph l with
  | zero => exact ⟨_, walk_within n pat 0 ph l (by rwa [Nat.cast_zero, zero_mul, add_zero] at hl)⟩
  | succ f ih =>
    by_cases hlt : ph.rem < l
    · rw [Nat.cast_succ, add_mul, one_mul] at hl
      have hn : (f : K) * m + m ≤ (ph.next n pat).rem + f * m := by
        rw [add_comm]; exact add_le_add (hpat _) le_rfl
      obtain ⟨r, hr⟩ := ih (ph.next n pat) (l - ph.rem) ((sub_le_iff_le_add'.mpr hl).trans hn)
      rw [walk_switch n pat _ ph l hlt, hr]
      exact ⟨_, rfl⟩
    · exact ⟨_, walk_within n pat _ ph l (not_lt.mp hlt)⟩

theorem walk_terminates (n : Nat) (pat : Nat → K) (m : K) (hpat : ∀ i, m ≤ pat i) (f : Nat) (ph : Ph K) (l : K)
    (hr : 0 ≤ ph.rem) (hl : l ≤ (f + 1 : Nat) * m) : ∃ r, walk n pat (f + 2) ph l = some r :=
  walk_isSome n pat m hpat (f + 1) ph l (hl.trans (le_add_of_nonneg_left hr))

theorem walkList_terminates (n : Nat) (pat : Nat → K) (m : K) (hm : 0 ≤ m) (hpat : ∀ i, m ≤ pat i) (f : Nat) :
    ∀ (ls : List K) (ph : Ph K), 0 ≤ ph.rem → (∀ l ∈ ls, 0 ≤ l ∧ l ≤ (f + 1 : Nat) * m) →
    ∃ r, walkList n pat (f + 2) ph ls = some r
  | [], ph, _, _ => ⟨_, rfl⟩
  | l :: ls, ph, hr, hl => by
    obtain ⟨h0, h1⟩ := hl l List.mem_cons_self
    obtain ⟨⟨o1, ph1⟩, e1⟩ := walk_terminates n pat m hpat f ph l hr h1
    have hb := walk_bounds n pat (fun i => le_trans hm (hpat i)) _ ph ph1 l o1 hr h0 e1
    obtain ⟨⟨o2, ph2⟩, e2⟩ := walkList_terminates n pat m hm hpat f ls ph1 hb.2.2
      (fun x hx => hl x (List.mem_cons_of_mem _ hx))
    exact ⟨_, walkList_cons_eq_some.mpr ⟨o1, ph1, o2, e1, e2, rfl⟩⟩

theorem walkList_exists (n : Nat) (pat : Nat → K) [Archimedean K] (m : K) (hm : 0 < m) (hpat : ∀ i, m ≤ pat i)
    (ls : List K) (hnn : ∀ x ∈ ls, 0 ≤ x) (ph : Ph K) (hr : 0 ≤ ph.rem) : ∃ f r, walkList n pat f ph ls = some r := by
  obtain ⟨k, hk⟩ := Archimedean.arch ls.sum hm
  rw [nsmul_eq_mul] at hk
  refine ⟨k + 2, walkList_terminates n pat m hm.le hpat k ls ph hr fun l hl => ⟨hnn l hl, ?_⟩⟩
  have h1 := List.single_le_sum hnn l hl
  push_cast
  linarith

end DashSpec
end Kurbo

namespace Kurbo
open DashSpec
variable {K : Type} [Field K] [LinearOrder K] [IsStrictOrderedRing K] [FloorRing K] [Scalar K] [LawfulScalar K]

/-- entry `i` of the pattern (`0` outside) -/
def patOf (dashes : Array K) (i : Nat) : K := dashes.getD i 0
/-- the pattern repeated periodically -/
def cyc (dashes : Array K) (j : Nat) : K := patOf dashes (j % dashes.size)
/-- end of the `k`-th entry of the repeated pattern, measured from the start of the pattern -/
def prefixSum (dashes : Array K) (k : Nat) : K := ∑ j ∈ Finset.range (k + 1), cyc dashes j

theorem prefixSum_zero (dashes : Array K) : prefixSum dashes 0 = cyc dashes 0 :=
  Finset.sum_range_one _

theorem prefixSum_succ (dashes : Array K) (k : Nat) :
    prefixSum dashes (k + 1) = prefixSum dashes k + cyc dashes (k + 1) :=
  Finset.sum_range_succ _ _

theorem dashAt_cyc (dashes : Array K) (hn : 0 < dashes.size) (j : Nat) :
    dashAt dashes (j % dashes.size) = some (cyc dashes j) := by
  rw [dashAt_lt _ _ (Nat.mod_lt _ hn)]
  unfold cyc patOf
  rw [Array.getD_eq_getD_getElem?, Array.getElem?_eq_getElem (Nat.mod_lt _ hn)]
  rfl

theorem cyc_eq_getElem (dashes : Array K) (hn : 0 < dashes.size) (j : Nat) :
    cyc dashes j = dashes[j % dashes.size]'(Nat.mod_lt _ hn) := by
  have := dashAt_cyc dashes hn j
  rw [dashAt_lt _ _ (Nat.mod_lt _ hn)] at this
  exact (Option.some.inj this).symm

theorem cyc_ge (dashes : Array K) (hn : 0 < dashes.size) (m : K) (h : ∀ i, (hi : i < dashes.size) → m ≤ dashes[i])
    (j : Nat) : m ≤ cyc dashes j := by
  rw [cyc_eq_getElem dashes hn]
  exact h _ _

/-- the `while dash_remaining < 0` loop, started at entry `k` of the repeated pattern with the offset `-rem` still to go
    beyond the end of that entry: it stops at the first entry `k + steps` whose end is not before the offset -/
theorem dashInitLoop_spec (dashes : Array K) (hn : 0 < dashes.size) (offset : K) (steps fuel k : Nat) (act : Bool)
    (hf : steps ≤ fuel) (hneg : ∀ j < steps, prefixSum dashes (k + j) < offset)
    (h0 : offset ≤ prefixSum dashes (k + steps)) :
    dashInitLoop dashes fuel (k % dashes.size) (prefixSum dashes k - offset) act =
      some ((k + steps) % dashes.size, prefixSum dashes (k + steps) - offset, if steps % 2 = 0 then act else !act) := by
  induction steps generalizing fuel k act with
  | zero =>
    have h0 : offset ≤ prefixSum dashes k := h0
    cases fuel with
    | zero => rfl
    | succ fuel =>
      unfold dashInitLoop
      simp only [scalar_norm, Nat.cast_zero, decide_eq_true_eq, if_neg (not_lt.mpr (sub_nonneg.mpr h0))]
      rfl
  | succ steps ih =>
    obtain ⟨fuel, rfl⟩ : ∃ f, fuel = f + 1 := ⟨fuel - 1, by omega⟩
    have hr : prefixSum dashes k - offset < 0 := sub_neg.mpr (hneg 0 (Nat.succ_pos _))
    have ih := ih fuel (k + 1) (!act) (Nat.le_of_succ_le_succ hf)
      (fun j hj => by rw [Nat.add_right_comm]; exact hneg (j + 1) (Nat.succ_lt_succ hj))
      (by rw [Nat.add_right_comm]; exact h0)
    have e : prefixSum dashes k - offset + cyc dashes (k + 1) = prefixSum dashes (k + 1) - offset := by
      rw [prefixSum_succ, sub_add_eq_add_sub]
    unfold dashInitLoop
    simp only [scalar_norm, Nat.cast_zero, decide_eq_true_eq, if_pos hr, Nat.mod_add_mod, dashAt_cyc dashes hn]
    rw [e, ih, Nat.add_right_comm k 1 steps, Nat.add_assoc k steps 1]
    -- what is left is the activity: one more switch flips it, as the parity of `steps + 1` against that of `steps`
    rcases Nat.mod_two_eq_zero_or_one steps with h | h <;> simp [h, Nat.succ_mod_two_eq_zero_iff]

theorem prefixSum_ge (dashes : Array K) (m : K) (hm : ∀ j, m ≤ cyc dashes j) (k : Nat) :
    ((k + 1 : Nat) : K) * m ≤ prefixSum dashes k := by
  induction k with
  | zero => rw [prefixSum_zero, Nat.cast_one, one_mul]; exact hm 0
  | succ k ih => rw [prefixSum_succ, Nat.cast_succ, add_mul, one_mul]; exact add_le_add ih (hm _)

theorem exists_pos_lower_bound (dashes : Array K) (hn : 0 < dashes.size)
    (hpos : ∀ i, (h : i < dashes.size) → 0 < dashes[i]) : ∃ m : K, 0 < m ∧ ∀ j, m ≤ cyc dashes j := by
  have key : ∀ l : List K, (∀ x ∈ l, 0 < x) → ∃ m : K, 0 < m ∧ ∀ x ∈ l, m ≤ x := by
    intro l
    induction l with
    | nil => intro _; exact ⟨1, one_pos, fun x hx => by cases hx⟩
    | cons a l ih =>
      intro h
      obtain ⟨m, hm0, hm⟩ := ih (fun x hx => h x (List.mem_cons_of_mem _ hx))
      refine ⟨min a m, lt_min (h a List.mem_cons_self) hm0, ?_⟩
      intro x hx
      rcases List.mem_cons.mp hx with rfl | hx
      · exact min_le_left _ _
      · exact le_trans (min_le_right _ _) (hm x hx)
  obtain ⟨m, hm0, hm⟩ := key dashes.toList (by
    intro x hx
    obtain ⟨i, hi, rfl⟩ := List.getElem_of_mem hx
    exact hpos i (by simpa using hi))
  refine ⟨m, hm0, fun j => hm _ ?_⟩
  rw [cyc_eq_getElem dashes hn]
  exact Array.getElem_mem_toList _

theorem cyc_zero (dashes : Array K) (hn : 0 < dashes.size) : cyc dashes 0 = dashes[0] := by
  simpa using cyc_eq_getElem dashes hn 0

theorem dashImpl_phase (inner : List (PathEl K)) (dashes : Array K) (hn : 0 < dashes.size) (offset : K)
    (steps fuel : Nat) (hf : steps ≤ fuel) (hmin : ∀ k < steps, prefixSum dashes k < offset)
    (hlast : offset ≤ prefixSum dashes steps) :
    ∃ it, dashImpl inner offset dashes fuel = some it ∧ it.dash_ix = steps % dashes.size ∧
      it.dash_remaining = prefixSum dashes steps - offset ∧ it.is_active = decide (steps % 2 = 0) ∧
      it.PhaseInit ∧ it.dashes = dashes := by
  have h := dashInitLoop_spec dashes hn offset steps fuel 0 true hf
    (fun j hj => by rw [Nat.zero_add]; exact hmin j hj) (by rw [Nat.zero_add]; exact hlast)
  rw [Nat.zero_mod, Nat.zero_add, prefixSum_zero] at h
  unfold dashImpl
  simp only [dashAt_lt _ _ hn, scalar_norm, ← cyc_zero dashes hn, h]
  refine ⟨_, rfl, rfl, rfl, ?_, ⟨rfl, rfl, rfl⟩, rfl⟩
  by_cases h2 : steps % 2 = 0 <;> simp [h2]

/-- a one-entry pattern `[a]`, `a > 0`, at offset `0`: the hypotheses of `dashImpl_phase` hold with `steps = 0`, and the
    iterator starts inside the first dash with all of it to go -/
theorem dashImpl_single (inner : List (PathEl K)) (a : K) (ha : 0 < a) :
    (∀ i, (h : i < (#[a] : Array K).size) → 0 < (#[a] : Array K)[i]) ∧
    (∀ k < 0, prefixSum (#[a] : Array K) k < 0) ∧ (0 : K) ≤ prefixSum #[a] 0 ∧
    ∃ it, dashImpl inner 0 #[a] = some it ∧ it.dash_remaining = a ∧ it.is_active = true := by
  have hps : prefixSum (#[a] : Array K) 0 = a := by simp [prefixSum, cyc, patOf]
  have hlast : (0 : K) ≤ prefixSum #[a] 0 := hps.symm ▸ ha.le
  have hmin : ∀ k < 0, prefixSum (#[a] : Array K) k < 0 := fun k hk => absurd hk (Nat.not_lt_zero k)
  refine ⟨fun i hi => ?_, hmin, hlast, ?_⟩
  · obtain rfl : i = 0 := Nat.lt_one_iff.mp hi
    exact ha
  · obtain ⟨it, h1, -, h3, h4, -, -⟩ := dashImpl_phase inner (#[a] : Array K) Nat.one_pos 0 0 100000 (Nat.zero_le _) hmin hlast
    exact ⟨it, h1, by rw [h3, hps, sub_zero], by rw [h4]; rfl⟩

/-- `hypot` is the Euclidean norm: non-negative with the right square (true of `√(x²+y²)` over ℝ; `Rat`'s executable
    `hypot` only approximates irrational roots and is not an instance) -/
class LawfulHypotSq (K : Type) [Field K] [LinearOrder K] [Scalar K] : Prop where
  hypot_nonneg : ∀ x y : K, 0 ≤ Scalar.hypot x y
  hypot_sq : ∀ x y : K, Scalar.hypot x y ^ 2 = x ^ 2 + y ^ 2

variable [LawfulHypotSq K]

theorem hypot_smul (c x y : K) (hc : 0 ≤ c) : Scalar.hypot (c * x) (c * y) = c * Scalar.hypot x y := by
  have h1 := LawfulHypotSq.hypot_nonneg (c * x) (c * y)
  have h2 : 0 ≤ c * Scalar.hypot x y := mul_nonneg hc (LawfulHypotSq.hypot_nonneg x y)
  rw [← sq_eq_sq₀ h1 h2, LawfulHypotSq.hypot_sq, mul_pow c (Scalar.hypot x y), LawfulHypotSq.hypot_sq]
  ring

theorem line_sub_arclen (l : Line K) (t0 t1 a a' : K) (h : t0 ≤ t1) :
    (l.subsegment ⟨t0, t1⟩).arclen a = (t1 - t0) * l.arclen a' := by
  simp only [Line.arclen, Vec2.hypot, kdefs, scalar_norm]
  rw [← hypot_smul _ _ _ (sub_nonneg.mpr h)]
  congr 1 <;> ring

theorem line_inv_arclen_eq (l : Line K) (d a : K) : l.inv_arclen d a = d / l.arclen a := by
  simp only [Line.arclen, Line.inv_arclen, scalar_norm]

theorem line_arclen_nonneg (l : Line K) (a : K) : 0 ≤ l.arclen a := LawfulHypotSq.hypot_nonneg _ _

theorem line_eval_dist (l : Line K) (t0 t1 a : K) (h : t0 ≤ t1) :
    (l.eval t1 - l.eval t0).hypot = (t1 - t0) * l.arclen a := line_sub_arclen l t0 t1 a a h

/-- the arithmetic of a switch at arc length `d` beyond the parameter `t` on a line of length `L`: the new parameter is
    `t + d / L`, the invariant `seg_remaining = (1 − t)·L` is kept, the new parameter stays below `1` -/
theorem switch_arith (L t d : K) (hLpos : 0 < L) :
    ((t + d / L) - t) * L = d ∧ (1 - (t + d / L)) * L = (1 - t) * L - d ∧ (d < (1 - t) * L → t + d / L < 1) := by
  refine ⟨?_, ?_, fun h => ?_⟩
  · rw [add_sub_cancel_left, div_mul_cancel₀ _ hLpos.ne']
  · rw [← sub_sub, sub_mul, div_mul_cancel₀ _ hLpos.ne']
  · exact lt_sub_iff_add_lt'.mp ((div_lt_iff₀ hLpos).mpr h)

theorem line_eval_add_dist (l : Line K) (L t d : K) (hL : l.arclen 0 = L) (hLpos : 0 < L) (h0 : 0 ≤ d) :
    (l.eval (t + d / L) - l.eval t).hypot = d := by
  rw [line_eval_dist l _ _ 0 (le_add_of_nonneg_right (div_nonneg h0 hLpos.le)), hL]
  exact (switch_arith L t d hLpos).1

section
omit [LawfulHypotSq K]
theorem nextIx_eq_mod (s : DashIt K) (h : s.dash_ix < s.dashes.size) :
    s.nextIx = (s.dash_ix + 1) % s.dashes.size := by
  unfold DashIt.nextIx
  split
  · rename_i he
    simp only [beq_iff_eq] at he
    rw [he, Nat.mod_self]
  · rename_i he
    simp only [beq_iff_eq] at he
    rw [Nat.mod_eq_of_lt (by omega)]
end

theorem cutT_line (s : DashIt K) (l : Line K) (hseg : s.current_seg = .Line l) (a : K) (ht : s.t ≤ 1) :
    s.cutT = s.dash_remaining / ((1 - s.t) * l.arclen a) := by
  unfold DashIt.cutT DashIt.restSeg
  rw [hseg]
  simp only [PathSeg.subsegment, PathSeg.inv_arclen]
  rw [line_inv_arclen_eq _ _ (Scalar.ofRat dashAccuracy)]
  have := line_sub_arclen l s.t 1 (Scalar.ofRat dashAccuracy) a ht
  simp only [scalar_norm, Nat.cast_one] at this ⊢
  rw [this]

/-- the state after a switch inside a straight segment of length `L` -/
def DashIt.switched (s : DashIt K) (L : K) : DashIt K :=
  { s with state := if s.is_active then .Working else s.state, is_active := !s.is_active,
           t := s.t + s.dash_remaining / L, seg_remaining := s.seg_remaining - s.dash_remaining,
           dash_ix := (s.dash_ix + 1) % s.dashes.size, dash_remaining := cyc s.dashes (s.dash_ix + 1) }

theorem step_line_switch (s : DashIt K) (l : Line K) (L : K) (hseg : s.current_seg = .Line l)
    (hL : l.arclen 0 = L) (ht : s.t < 1) (hst : (s.state == .ToStash && s.stash.isEmpty) = false)
    (hix : s.dash_ix < s.dashes.size) (hlt : s.dash_remaining < s.seg_remaining) :
    s.step = some (some (if s.is_active then .LineTo (l.eval (s.t + s.dash_remaining / L))
                         else .MoveTo (l.eval (s.t + s.dash_remaining / L))), s.switched L) := by
  have hn : 0 < s.dashes.size := by omega
  have h1 : Scalar.lt s.dash_remaining s.seg_remaining = true := by
    simp only [scalar_norm, decide_eq_true_eq]; exact hlt
  rw [step_switch s hst h1, nextIx_eq_mod s hix, dashAt_cyc _ hn]
  have hcut := cutT_line s l hseg 0 ht.le
  rw [hL] at hcut
  have e_t : s.t + s.cutT * (1 - s.t) = s.t + s.dash_remaining / L := by
    rw [hcut, mul_comm (1 - s.t) L, ← div_div, div_mul_cancel₀ _ (sub_pos.mpr ht).ne']
  have e_pt : s.restSeg.eval s.cutT = l.eval (s.t + s.dash_remaining / L) := by
    unfold DashIt.restSeg
    rw [hseg]
    simp only [PathSeg.subsegment, PathSeg.eval]
    rw [line_subsegment_eval, ← e_t]
    simp only [scalar_norm, Nat.cast_one]
  have e_on : segToEl (s.restSeg.subsegment ⟨@OfNat.ofNat K 0 Ops.instOfNat, s.cutT⟩)
      = .LineTo (l.eval (s.t + s.dash_remaining / L)) := by
    rw [← e_pt]
    unfold DashIt.restSeg
    rw [hseg]
    simp only [PathSeg.subsegment, PathSeg.eval, segToEl, Line.subsegment]
  rw [e_on, e_pt]
  simp only [DashIt.switched, scalar_norm, Nat.cast_one, e_t]

section
omit [LawfulHypotSq K]
theorem scalar_lt_eq_false {a b : K} (h : ¬ a < b) : Scalar.lt a b = false := by
  simp only [scalar_norm, decide_eq_false_iff_not]; exact h

theorem restSeg_line_el (s : DashIt K) (l : Line K) (hseg : s.current_seg = .Line l) : segToEl s.restSeg = .LineTo l.p1 := by
  unfold DashIt.restSeg
  rw [hseg]
  simp only [PathSeg.subsegment, segToEl, Line.subsegment, scalar_norm, Nat.cast_one, (line_eval_zero_one l).2]

theorem step_line_end_working (s : DashIt K) (l : Line K) (hseg : s.current_seg = .Line l)
    (hst : (s.state == .ToStash && s.stash.isEmpty) = false) (hns : s.state ≠ .ToStash)
    (hnlt : ¬ s.dash_remaining < s.seg_remaining) :
    s.step = some (if s.is_active then some (.LineTo l.p1) else none,
      ({ s with dash_remaining := s.dash_remaining - s.seg_remaining } : DashIt K).get_input) := by
  have hb : (s.state == DashState.ToStash) = false := beq_false_of_ne hns
  rw [step_seg_end_ns s hst hb (scalar_lt_eq_false hnlt), restSeg_line_el s l hseg]
  simp only [scalar_norm]

theorem step_line_end_stash (s : DashIt K) (l : Line K) (hseg : s.current_seg = .Line l)
    (hst : (s.state == .ToStash && s.stash.isEmpty) = false) (hs : s.state = .ToStash) (ha : s.is_active = true)
    (hnlt : ¬ s.dash_remaining < s.seg_remaining) :
    s.step = some (none, ({ s with stash := s.stash.push (.LineTo l.p1),
                                   dash_remaining := s.dash_remaining - s.seg_remaining } : DashIt K).get_input) := by
  rw [step_seg_end_stash s hst hs ha (scalar_lt_eq_false hnlt), restSeg_line_el s l hseg]
  simp only [scalar_norm]
end

end Kurbo
