import Proofs.Lemmas.C13BFrame
/-! C13B: the iterator followed to the `ClosePath` of a closed polyline sub-path.
    * `c13b_working_closeB` / `c13b_working_closeA`: from a `Working` state (first dash over) on the closing line / with
      `LineTo`s and the `ClosePath` still in the input;
    * `c13b_stash_closeB` / `c13b_stash_closeA`: the same from a `ToStash` state (first dash still under way). -/
namespace Kurbo
open DashSpec
variable {K : Type} [Field K] [LinearOrder K] [IsStrictOrderedRing K] [FloorRing K] [Scalar K] [LawfulScalar K]

/-- `sF` is the state right after `handle_closepath`, at the end of a closed sub-path that was being followed in `s`;
    `rest` = the input after the `ClosePath` -/
structure c13b_Closed (s sF : DashIt K) (rest : List (PathEl K)) : Prop where
  state : sF.state = .FromStash
  cp : sF.closepath_pending = true
  done : sF.input_done = s.input_done
  inner : sF.inner = rest
  phase : sF.PhaseInit
  init : s.SameInit sF

theorem OnLine.loadClose {s : DashIt K} {l : Line K} {L : K} (hon : OnLine s l L)
    (hn : ¬ s.dash_remaining < s.seg_remaining) (rest : List (PathEl K)) :
    OnLine (({ s with dash_remaining := s.dash_remaining - s.seg_remaining } : DashIt K).c13b_loadClose rest)
      ⟨s.last_pt, s.start_pt⟩ ((Line.mk s.last_pt s.start_pt).arclen 0) :=
  OnLine.fresh rfl rfl rfl hon.working hon.ix (sub_nonneg.mpr (not_lt.mp hn)) rfl

theorem OnLineS.loadClose {s : DashIt K} {l : Line K} {L : K} (hon : OnLineS s l L)
    (hn : ¬ s.dash_remaining < s.seg_remaining) (rest : List (PathEl K)) :
    OnLineS ((s.stashEnd l.p1).c13b_loadClose rest) ⟨s.last_pt, s.start_pt⟩ ((Line.mk s.last_pt s.start_pt).arclen 0) :=
  .of_working (OnLine.fresh rfl rfl rfl rfl hon.ix (sub_nonneg.mpr (not_lt.mp hn)) rfl) hon.stashing hon.active
    (stash_push_isEmpty _ _)

variable [LawfulHypotSq K]

theorem c13b_line_arclen_self (p : Point K) (a : K) : (Line.mk p p).arclen a = 0 := by
  have h2 : ((Line.mk p p).arclen a) ^ 2 = 0 := by
    simp only [Line.arclen, Vec2.hypot, kdefs, scalar_norm]
    rw [LawfulHypotSq.hypot_sq]
    ring
  exact pow_eq_zero_iff (two_ne_zero) |>.mp h2

/-- from the `Working` state `s` a chain of `step`s leads to `handle_closepath`: the strokes `E` have the length `o`; if the
    pattern is on at the closing point (`ph'`), playback of the stash starts at index 1 and the last element emitted is
    `LineTo` the closing point -/
def c13b_WorkClose (s : DashIt K) (l : Line K) (rest : List (PathEl K)) (o : K) (ph' : Ph K) : Prop :=
  ∃ E sF, Steps s E sF ∧ c13b_Closed s sF rest ∧ sF.stash = s.stash ∧
    sF.stash_ix = (if ph'.act then 1 else s.stash_ix) ∧
    ∀ pen, (s.is_active = true → pen = l.eval s.t) →
      drawnLen pen E = o ∧ (ph'.act = true → c13_penAfter pen E = s.start_pt ∧ ∃ E', E = E' ++ [.LineTo s.start_pt])

/-- **On the closing line** (`closepath_pending`), state `Working`: a chain of `step`s dashes the rest of the line, the last
    of them runs `handle_closepath`.  `ph'` = the specification's position at the closing point. -/
theorem c13b_working_closeB (l : Line K) (L : K) (f : Nat) (s : DashIt K) (o : K) (ph' : Ph K)
    (hpat : ∀ i, 0 ≤ cyc s.dashes i) (hon : OnLine s l L) (hcp : s.closepath_pending = true) (hst : l.p1 = s.start_pt)
    (hw : walk s.dashes.size (cyc s.dashes) f s.ph s.seg_remaining = some (o, ph')) :
    c13b_WorkClose s l s.inner o ph' := by
  obtain ⟨outs, s₁, hsim, hin1⟩ := seg_sim l L f s o ph' hpat hon hw
  have hfr := hsim.frame
  have hstep := hsim.on.step_end hsim.fits
  rw [c13b_get_input_pending _ (by show s₁.closepath_pending = true; exact hfr.cp.trans hcp),
    c13b_handle_working _ (by show s₁.state = .Working; exact hsim.on.working)] at hstep
  have hsteps := hsim.steps.trans (Steps.single hsim.on.working hstep)
  rw [finEl_eq] at hsteps
  obtain rfl := hsim.ph
  refine ⟨_, _, hsteps, ⟨rfl, hfr.cp.trans hcp, hfr.done, hin1, ⟨rfl, rfl, rfl⟩, hfr.init⟩, hfr.stash,
    ?_, fun pen hpen => ?_⟩
  · show (if s₁.is_active then 1 else s₁.stash_ix) = if s₁.is_active then 1 else s.stash_ix
    rw [hfr.stash_ix]
  · obtain ⟨d1, d2⟩ := hsim.drawn pen hpen
    refine ⟨d1, fun ha => ?_⟩
    have ha1 : s₁.is_active = true := ha
    refine ⟨(d2 ha1).trans hst, outs, ?_⟩
    rw [finEl, if_pos ha1, hst]

/-- **With `LineTo`s and the `ClosePath` still ahead**, state `Working`: the specification walks the rest of the current
    segment, the further segments and the closing line (of length 0 if the sub-path ends at its start). -/
theorem c13b_working_closeA (pts : List (Point K)) (rest : List (PathEl K)) (l : Line K) (L : K) (f : Nat) (s : DashIt K)
    (o : K) (ph' : Ph K) (hpat : ∀ i, 0 ≤ cyc s.dashes i) (hon : OnLine s l L) (hcp : s.closepath_pending = false)
    (hin : s.inner = pts.map .LineTo ++ .ClosePath :: rest)
    (hw : walkList s.dashes.size (cyc s.dashes) f s.ph (s.seg_remaining :: polyLens s.last_pt (pts ++ [s.start_pt]))
      = some (o, ph')) :
    c13b_WorkClose s l rest o ph' := by
  rw [c13b_polyLens_snoc, ← List.cons_append] at hw
  obtain ⟨o1, ph1, o2, e1, e2, rfl⟩ := walkList_append _ _ _ _ _ _ _ _ hw
  have e2' := walkList_single e2
  obtain ⟨outs, s₁, l₁, L₁, hsim, hin1, fr2⟩ := polyline_sim pts (.ClosePath :: rest) l L f s o1 ph1 hpat hon hcp hin e1
  have hfr := hsim.frame
  have hstep := hsim.on.step_end hsim.fits
  have hcp1 : s₁.closepath_pending = false := hfr.cp.trans hcp
  rw [← fr2, ← hfr.start] at e2'
  by_cases heq : s₁.last_pt = s₁.start_pt
  · -- the sub-path ends at its start: closed at once; the specification's closing line has length 0
    rw [c13b_get_input_close_eq ({ s₁ with dash_remaining := s₁.dash_remaining - s₁.seg_remaining } : DashIt K) rest
      hcp1 hin1 heq, c13b_handle_working _ (by show s₁.state = .Working; exact hsim.on.working)] at hstep
    rw [heq, c13b_line_arclen_self] at e2'
    have hr1 : ¬ ph1.rem < 0 := by
      obtain rfl := hsim.ph
      exact not_lt.mpr (sub_nonneg.mpr (not_lt.mp hsim.fits))
    obtain ⟨rfl, a2⟩ := walk_of_not_lt hr1 e2'
    rw [onPart_zero, add_zero]
    have hact : ph'.act = s₁.is_active := by rw [a2, hsim.ph]
    have hsteps := hsim.steps.trans (Steps.single hsim.on.working hstep)
    rw [finEl_eq] at hsteps
    refine ⟨_, _, hsteps, ⟨rfl, rfl, hfr.done, rfl, ⟨rfl, rfl, rfl⟩, hfr.init⟩, hfr.stash, ?_, fun pen hpen => ?_⟩
    · rw [hact]
      show (if s₁.is_active then 1 else s₁.stash_ix) = if s₁.is_active then 1 else s.stash_ix
      rw [hfr.stash_ix]
    · obtain ⟨d1, d2⟩ := hsim.drawn pen hpen
      refine ⟨d1, fun ha => ?_⟩
      have ha1 : s₁.is_active = true := hact ▸ ha
      have hp1 : l₁.p1 = s.start_pt := by rw [← hsim.on.last, heq, hfr.start]
      refine ⟨(d2 ha1).trans hp1, outs, ?_⟩
      rw [finEl, if_pos ha1, hp1]
  · -- the closing line is loaded and dashed
    rw [c13b_get_input_close_ne ({ s₁ with dash_remaining := s₁.dash_remaining - s₁.seg_remaining } : DashIt K) rest
      hcp1 hin1 heq] at hstep
    have hw2 : walk s₁.dashes.size (cyc s₁.dashes) f ⟨s₁.dash_ix, s₁.dash_remaining - s₁.seg_remaining, s₁.is_active⟩
        ((Line.mk s₁.last_pt s₁.start_pt).arclen 0) = some (o2, ph') := by
      rw [hfr.dashes, ← hsim.ph]; exact e2'
    obtain ⟨E₂, sF, g1, g2, g3, g4, g5⟩ := c13b_working_closeB ⟨s₁.last_pt, s₁.start_pt⟩ _ f
      (({ s₁ with dash_remaining := s₁.dash_remaining - s₁.seg_remaining } : DashIt K).c13b_loadClose rest) o2 ph'
      (by rw [hfr.dashes]; exact hpat) (hsim.on.loadClose hsim.fits rest) rfl rfl hw2
    have hs : Steps s₁ (finEl s₁ l₁ ++ E₂) sF := by
      rw [← finEl_eq]; exact Steps.cons hsim.on.working hstep g1
    refine ⟨outs ++ (finEl s₁ l₁ ++ E₂), sF, hsim.steps.trans hs,
      ⟨g2.state, g2.cp, g2.done.trans hfr.done, g2.inner, g2.phase, hfr.init.trans g2.init⟩, g3.trans hfr.stash,
      g4.trans (by show (if ph'.act then 1 else s₁.stash_ix) = _; rw [hfr.stash_ix]), fun pen hpen => ?_⟩
    obtain ⟨d1, d2⟩ := hsim.drawn pen hpen
    obtain ⟨d3, d4⟩ := g5 (c13_penAfter pen (outs ++ finEl s₁ l₁)) (fun ha => by
      rw [d2 ha, hsim.on.last]
      exact ((line_eval_zero_one (Line.mk l₁.p1 s₁.start_pt)).1).symm)
    rw [← List.append_assoc, drawnLen_append, d1, d3, penAfter_append]
    refine ⟨rfl, fun ha => ?_⟩
    obtain ⟨d5, E', d6⟩ := d4 ha
    refine ⟨d5.trans hfr.start, outs ++ finEl s₁ l₁ ++ E', ?_⟩
    rw [d6, ← hfr.start]
    simp only [List.append_assoc]
    rfl

/-- From the `ToStash` state `s` a run leads to the state `sF` right after `handle_closepath`: `N` = what the first dash still
    adds to the stash, `E` = what is emitted after it; `T` = the length of the rest of the sub-path.  If the first dash ends
    before the closing point (`dash_remaining < T`), playback starts at index 1 iff the pattern is on at the closing point
    (`ph'`); otherwise the whole stash is played back and `N = W`, with the `ClosePath` last – the last `LineTo` is pushed to
    the stash before `get_input` appends the `ClosePath`. -/
def c13b_StashClose (s : DashIt K) (l : Line K) (rest : List (PathEl K)) (o : K) (ph' : Ph K) (T : K)
    (W : List (PathEl K)) : Prop :=
  ∃ sF N E, Run s E sF ∧ c13b_Closed s sF rest ∧
    sF.stash.toList = s.stash.toList ++ N ∧ (∀ pen, drawnLen (l.eval s.t) N + drawnLen pen E = o) ∧
    (s.dash_remaining < T → sF.stash_ix = (if ph'.act then 1 else 0) ∧ (∀ el ∈ N, ∃ p, el = PathEl.LineTo p) ∧
      (ph'.act = true → (∀ pen, c13_penAfter pen E = s.start_pt) ∧ ∃ E', E = E' ++ [.LineTo s.start_pt]) ∧
      drawnLen (l.eval s.t) N = s.dash_remaining) ∧
    (¬ s.dash_remaining < T → sF.stash_ix = 0 ∧ E = [] ∧ N = W)

/-- the first dash ends inside the current segment: the `LineTo` to the switch point is stashed, the `Working` part follows -/
theorem c13b_stash_switch_close (l : Line K) (L : K) (s : DashIt K) (rest : List (PathEl K)) (o1 : K) (ph' : Ph K) (T : K)
    (W : List (PathEl K)) (hpat : ∀ i, 0 ≤ cyc s.dashes i) (hon : OnLineS s l L) (hix : s.stash_ix = 0)
    (hlt : s.dash_remaining < s.seg_remaining) (hT : s.seg_remaining ≤ T)
    (hwork : c13b_WorkClose (s.stashSwitched l L) l rest o1 ph') :
    c13b_StashClose s l rest (onPart s.is_active s.dash_remaining + o1) ph' T W := by
  obtain ⟨c1, -, c3, -, c5⟩ := hon.switch hpat hlt
  obtain ⟨E, sF, g1, g2, g3, g4, g5⟩ := hwork
  have hoff : ∀ pen, (s.stashSwitched l L).is_active = true → pen = l.eval (s.stashSwitched l L).t :=
    fun pen h => by rw [c3] at h; cases h
  refine ⟨sF, [.LineTo (l.eval (s.t + s.dash_remaining / L))], E, (Run.silent c1).trans (Run.steps g1),
    ⟨g2.state, g2.cp, g2.done, g2.inner, g2.phase, DashIt.SameInit.trans (.refl _) g2.init⟩, ?_,
    fun pen => ?_, fun _ => ⟨?_, fun el hel => ⟨_, List.mem_singleton.mp hel⟩, fun ha =>
      ⟨fun pen => ((g5 pen (hoff pen)).2 ha).1, ((g5 (l.eval s.t) (hoff _)).2 ha).2⟩, ?_⟩,
    fun h => absurd (hlt.trans_le hT) h⟩
  · rw [g3]
    exact Array.toList_push
  · show (l.eval (s.t + s.dash_remaining / L) - l.eval s.t).hypot + 0 + drawnLen pen E = _
    rw [c5, add_zero, (g5 pen (hoff pen)).1, hon.active]
    rfl
  · rw [g4]
    show (if ph'.act then 1 else s.stash_ix) = _
    rw [hix]
  · show (l.eval (s.t + s.dash_remaining / L) - l.eval s.t).hypot + 0 = s.dash_remaining
    rw [c5, add_zero]

/-- one segment further inside the first dash: from what holds of the state `s4` at the start of the next segment `l4` to
    the state `s` at which the rest of the current segment `l` fits into the first dash -/
theorem c13b_StashClose.cons {s s4 : DashIt K} {l l4 : Line K} {L : K} (hon : OnLineS s l L) (hrun : Run s [] s4)
    (hst : s4.stash = s.stash.push (.LineTo l.p1)) (hrem : s4.dash_remaining = s.dash_remaining - s.seg_remaining)
    (hsp : s4.start_pt = s.start_pt) (hinit : s.SameInit s4) (hdone : s4.input_done = s.input_done)
    (he : l4.eval s4.t = l.p1) {rest : List (PathEl K)} {o2 : K} {ph' : Ph K} {T : K} {W : List (PathEl K)}
    (h : c13b_StashClose s4 l4 rest o2 ph' T W) :
    c13b_StashClose s l rest (onPart s.is_active s.seg_remaining + o2) ph' (s.seg_remaining + T) (.LineTo l.p1 :: W) := by
  obtain ⟨sF, N', E, b1, b2, b3, b4, b5, b6⟩ := h
  have htot : s.dash_remaining < s.seg_remaining + T ↔ s4.dash_remaining < T := by rw [hrem, sub_lt_iff_lt_add']
  rw [he] at b4 b5
  refine ⟨sF, .LineTo l.p1 :: N', E, hrun.trans b1,
    ⟨b2.state, b2.cp, b2.done.trans hdone, b2.inner, b2.phase, hinit.trans b2.init⟩, ?_, fun pen => ?_, fun h => ?_,
    fun h => ?_⟩
  · rw [b3, hst, Array.toList_push, List.append_assoc]
    rfl
  · show (l.p1 - l.eval s.t).hypot + drawnLen l.p1 N' + drawnLen pen E = _
    rw [hon.dist_end, hon.active, ← b4 pen, add_assoc]
    rfl
  · obtain ⟨d1, d2, d3, d4⟩ := b5 (htot.mp h)
    rw [hsp] at d3
    refine ⟨d1, fun el hel => ?_, d3, ?_⟩
    · rcases List.mem_cons.mp hel with rfl | hel
      · exact ⟨_, rfl⟩
      · exact d2 el hel
    · show (l.p1 - l.eval s.t).hypot + drawnLen l.p1 N' = s.dash_remaining
      rw [hon.dist_end, d4, hrem, add_sub_cancel]
  · obtain ⟨d1, d2, d3⟩ := b6 (fun h' => h (htot.mpr h'))
    exact ⟨d1, d2, by rw [d3]⟩

/-- **First dash on the closing line** (`closepath_pending`, state `ToStash`). -/
theorem c13b_stash_closeB (l : Line K) (L : K) (f : Nat) (s : DashIt K) (o : K) (ph' : Ph K)
    (hpat : ∀ i, 0 ≤ cyc s.dashes i) (hon : OnLineS s l L) (hcp : s.closepath_pending = true) (hst : l.p1 = s.start_pt)
    (hix : s.stash_ix = 0) (hw : walk s.dashes.size (cyc s.dashes) f s.ph s.seg_remaining = some (o, ph')) :
    c13b_StashClose s l s.inner o ph' s.seg_remaining [.LineTo l.p1, .ClosePath] := by
  by_cases hlt : s.dash_remaining < s.seg_remaining
  · obtain ⟨f', o1, rfl, w1, rfl⟩ := walk_of_lt (show s.ph.rem < s.seg_remaining from hlt) hw
    obtain ⟨-, c2, -, c4, -⟩ := hon.switch hpat hlt
    exact c13b_stash_switch_close l L s _ o1 ph' _ _ hpat hon hix hlt le_rfl
      (c13b_working_closeB l L f' _ o1 ph' hpat c2 hcp hst (by rw [c4]; exact w1))
  · have hr : Run s [] (s.stashEnd l.p1).c13b_closedS := Run.silent fun fuel => by
      rw [next_stash_end s l hon.seg hon.stashing hon.nonempty hon.active hlt,
        c13b_get_input_pending (s.stashEnd l.p1) hcp, c13b_handle_toStash (s.stashEnd l.p1) hon.stashing]
    obtain ⟨rfl, -⟩ := walk_of_not_lt (show ¬ s.ph.rem < s.seg_remaining from hlt) hw
    refine ⟨_, [.LineTo l.p1, .ClosePath], [], hr,
      ⟨rfl, hcp, rfl, rfl, ⟨rfl, rfl, rfl⟩, .refl _⟩, ?_, fun pen => ?_, fun h => absurd h hlt,
      fun _ => ⟨hix, rfl, rfl⟩⟩
    · exact c13b_closedS_stashEnd_toList s l.p1
    · show (l.p1 - l.eval s.t).hypot + 0 + 0 = onPart s.is_active s.seg_remaining
      rw [hon.dist_end, hon.active, add_zero, add_zero]
      rfl

/-- what the first dash adds to the stash when the whole closed sub-path lies inside it: the remaining `LineTo`s, the
    closing line if the sub-path does not end at its start, and the `ClosePath` last (`p` = end of the current segment, then
    the remaining vertices) -/
def c13b_wholeN (start : Point K) : Point K → List (Point K) → List (PathEl K)
  | p, [] => if p.peq start then [.LineTo p, .ClosePath] else [.LineTo p, .LineTo start, .ClosePath]
  | p, q :: r => .LineTo p :: c13b_wholeN start q r

theorem c13b_stash_switchA (pts : List (Point K)) (rest : List (PathEl K)) (l : Line K) (L : K) (f : Nat)
    (s : DashIt K) (o : K) (ph' : Ph K) (T : K) (W : List (PathEl K))
    (hpat : ∀ i, 0 ≤ cyc s.dashes i) (hon : OnLineS s l L) (hcp : s.closepath_pending = false) (hix : s.stash_ix = 0)
    (hin : s.inner = pts.map .LineTo ++ .ClosePath :: rest)
    (hw : walkList s.dashes.size (cyc s.dashes) f s.ph (s.seg_remaining :: polyLens s.last_pt (pts ++ [s.start_pt]))
      = some (o, ph'))
    (hlt : s.dash_remaining < s.seg_remaining) (hT : s.seg_remaining ≤ T) :
    c13b_StashClose s l rest o ph' T W := by
  obtain ⟨o1, w1, rfl⟩ := walkList_of_lt (show s.ph.rem < s.seg_remaining from hlt) hw
  obtain ⟨-, c2, -, c4, -⟩ := hon.switch hpat hlt
  exact c13b_stash_switch_close l L s rest o1 ph' T W hpat hon hix hlt hT
    (c13b_working_closeA pts rest l L f _ o1 ph' hpat c2 hcp hin (by rw [c4]; exact w1))

/-- **First dash with `LineTo`s and the `ClosePath` still ahead** (state `ToStash`). -/
theorem c13b_stash_closeA (pts : List (Point K)) (rest : List (PathEl K)) (l : Line K) (L : K) (f : Nat)
    (s : DashIt K) (o : K) (ph' : Ph K) (hpat : ∀ i, 0 ≤ cyc s.dashes i) (hon : OnLineS s l L)
    (hcp : s.closepath_pending = false) (hix : s.stash_ix = 0) (hin : s.inner = pts.map .LineTo ++ .ClosePath :: rest)
    (hw : walkList s.dashes.size (cyc s.dashes) f s.ph (s.seg_remaining :: polyLens s.last_pt (pts ++ [s.start_pt]))
      = some (o, ph')) :
    c13b_StashClose s l rest o ph' (s.seg_remaining + (polyLens s.last_pt (pts ++ [s.start_pt])).sum)
      (c13b_wholeN s.start_pt l.p1 pts) := by
  induction pts generalizing l L s o with
  | nil =>
    by_cases hlt : s.dash_remaining < s.seg_remaining
    · exact c13b_stash_switchA [] rest l L f s o ph' _ _ hpat hon hcp hix hin hw hlt
        (le_add_of_nonneg_right (List.sum_nonneg (polyLens_nonneg _ _)))
    obtain ⟨o2, w1, rfl⟩ := walkList_of_not_lt (show ¬ s.ph.rem < s.seg_remaining from hlt) hw
    have w3 := walkList_single w1
    have hsum : (polyLens s.last_pt ([] ++ [s.start_pt])).sum = (Line.mk s.last_pt s.start_pt).arclen 0 :=
      List.sum_singleton
    rw [hsum]
    have hend := next_stash_end s l hon.seg hon.stashing hon.nonempty hon.active hlt
    by_cases heq : s.last_pt = s.start_pt
    · -- the sub-path ends at its start: the last `LineTo` is stashed, then `ClosePath` at once
      have hr : Run s [] ({ s.stashEnd l.p1 with inner := rest, closepath_pending := true } : DashIt K).c13b_closedS :=
        Run.silent fun fuel => by
          rw [hend, c13b_get_input_close_eq (s.stashEnd l.p1) rest hcp hin heq,
            c13b_handle_toStash _ (by show s.state = .ToStash; exact hon.stashing)]
      rw [heq, c13b_line_arclen_self] at w3 ⊢
      have hrem : ¬ (s.ph.rem - s.seg_remaining) < 0 := not_lt.mpr (sub_nonneg.mpr (not_lt.mp hlt))
      obtain ⟨rfl, -⟩ := walk_of_not_lt hrem w3
      rw [onPart_zero, add_zero, add_zero]
      refine ⟨_, [.LineTo l.p1, .ClosePath], [], hr,
        ⟨rfl, rfl, rfl, rfl, ⟨rfl, rfl, rfl⟩, .refl _⟩, ?_, fun pen => ?_, fun h => absurd h hlt,
        fun _ => ⟨hix, rfl, ?_⟩⟩
      · exact c13b_closedS_stashEnd_toList s l.p1
      · show (l.p1 - l.eval s.t).hypot + 0 + 0 = onPart s.is_active s.seg_remaining
        rw [hon.dist_end, hon.active, add_zero, add_zero]
        rfl
      · exact (if_pos ((peq_iff _ _).mpr (hon.last.symm.trans heq))).symm
    · -- the closing line is loaded, still inside the first dash
      have hr : Run s [] ((s.stashEnd l.p1).c13b_loadClose rest) := Run.silent fun fuel => by
        rw [hend, c13b_get_input_close_ne (s.stashEnd l.p1) rest hcp hin heq]
      have hW : c13b_wholeN s.start_pt l.p1 [] = [.LineTo l.p1, .LineTo s.start_pt, .ClosePath] :=
        if_neg (fun hp => heq (hon.last.trans ((peq_iff _ _).mp hp)))
      rw [hW]
      exact c13b_StashClose.cons (s4 := (s.stashEnd l.p1).c13b_loadClose rest) (l4 := ⟨s.last_pt, s.start_pt⟩) hon hr rfl
        rfl rfl (.refl _) rfl ((line_eval_zero_one _).1.trans hon.last)
        (c13b_stash_closeB ⟨s.last_pt, s.start_pt⟩ _ f ((s.stashEnd l.p1).c13b_loadClose rest) o2 ph' hpat
          (hon.loadClose hlt rest) rfl rfl hix w3)
  | cons q pts ih =>
    by_cases hlt : s.dash_remaining < s.seg_remaining
    · exact c13b_stash_switchA (q :: pts) rest l L f s o ph' _ _ hpat hon hcp hix hin hw hlt
        (le_add_of_nonneg_right (List.sum_nonneg (polyLens_nonneg _ _)))
    obtain ⟨o2, w1, rfl⟩ := walkList_of_not_lt (show ¬ s.ph.rem < s.seg_remaining from hlt) hw
    have hr : Run s [] ((s.stashEnd l.p1).loadLine q (pts.map PathEl.LineTo ++ .ClosePath :: rest)) :=
      Run.silent fun fuel => by
        rw [next_stash_end s l hon.seg hon.stashing hon.nonempty hon.active hlt,
          get_input_lineTo (s.stashEnd l.p1) q (pts.map PathEl.LineTo ++ .ClosePath :: rest) hcp hin]
    exact c13b_StashClose.cons (s4 := (s.stashEnd l.p1).loadLine q (pts.map PathEl.LineTo ++ .ClosePath :: rest))
      (l4 := ⟨s.last_pt, q⟩) hon hr rfl rfl rfl (.refl _) rfl ((line_eval_zero_one _).1.trans hon.last)
      (ih ⟨s.last_pt, q⟩ _ ((s.stashEnd l.p1).loadLine q (pts.map .LineTo ++ .ClosePath :: rest)) o2 hpat
        (hon.loadLine hlt q _) hcp hix rfl w1)

end Kurbo
