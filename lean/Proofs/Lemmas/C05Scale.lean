import Proofs.Lemmas.C05Real
import Proofs.Lemmas.C12
/-! Helper lemmas for C05: scaling the path by `k > 0` and the tolerance by `k` scales the flattened output.  `scaleBy k` is
    the action of `Affine.scale k`, which commutes with interpolation, hence with `eval` and `subsegment`.  The control of
    the cubic's emission loop does not change when `step`, `val_sum` and every `val` are scaled alike (`cubicUs_scale`). -/
set_option linter.unusedSectionVars false
namespace Kurbo

section defs
variable {K : Type} [Mul K]
def Point.scaleBy (k : K) (p : Point K) : Point K := ⟨k * p.x, k * p.y⟩
def QuadBez.scaleBy (k : K) (q : QuadBez K) : QuadBez K := ⟨q.p0.scaleBy k, q.p1.scaleBy k, q.p2.scaleBy k⟩
def CubicBez.scaleBy (k : K) (c : CubicBez K) : CubicBez K :=
  ⟨c.p0.scaleBy k, c.p1.scaleBy k, c.p2.scaleBy k, c.p3.scaleBy k⟩
def PathEl.scaleBy (k : K) : PathEl K → PathEl K
  | .MoveTo p => .MoveTo (p.scaleBy k)
  | .LineTo p => .LineTo (p.scaleBy k)
  | .QuadTo p1 p2 => .QuadTo (p1.scaleBy k) (p2.scaleBy k)
  | .CurveTo p1 p2 p3 => .CurveTo (p1.scaleBy k) (p2.scaleBy k) (p3.scaleBy k)
  | .ClosePath => .ClosePath
end defs

section lawful
variable {K : Type} [Field K] [LinearOrder K] [IsStrictOrderedRing K] [FloorRing K] [Scalar K] [LawfulScalar K]

theorem scale_quot (m a c : K) (hm : m ≠ 0) : (m * a) * (1 / (m * c)) = a * (1 / c) := by
  rw [mul_one_div, mul_one_div, mul_div_mul_left _ _ hm]

theorem Point.scaleBy_eq (k : K) (p : Point K) : p.scaleBy k = Affine.scale k * p := by
  simp only [Affine.scale_eq, Affine.act_eq, zero_mul, add_zero, zero_add]
  rfl

theorem lerp_scaleBy (k : K) (p q : Point K) (t : K) : (p.lerp q t).scaleBy k = (p.scaleBy k).lerp (q.scaleBy k) t := by
  simp only [Point.scaleBy_eq, affine_lerp]

theorem subdivCross_scale (k : K) (q : QuadBez K) : (q.scaleBy k).subdivCross = k ^ 2 * q.subdivCross := by
  rw [subdivCross_eq, subdivCross_eq]
  simp only [QuadBez.scaleBy, Point.scaleBy]
  ring

theorem subdivX0_scale (k : K) (hk : k ≠ 0) (q : QuadBez K) : (q.scaleBy k).subdivX0 = q.subdivX0 := by
  rw [subdivX0_eq, subdivX0_eq, subdivCross_scale]
  simp only [QuadBez.scaleBy, Point.scaleBy]
  rw [← scale_quot (k ^ 2) _ q.subdivCross (pow_ne_zero 2 hk)]
  congr 1
  ring

theorem subdivX2_scale (k : K) (hk : k ≠ 0) (q : QuadBez K) : (q.scaleBy k).subdivX2 = q.subdivX2 := by
  rw [subdivX2_eq, subdivX2_eq, subdivCross_scale]
  simp only [QuadBez.scaleBy, Point.scaleBy]
  rw [← scale_quot (k ^ 2) _ q.subdivCross (pow_ne_zero 2 hk)]
  congr 1
  ring

theorem quad_eval_scale (k : K) (q : QuadBez K) (t : K) : (q.scaleBy k).eval t = (q.eval t).scaleBy k := by
  simp only [quad_eval_lerp, QuadBez.scaleBy, lerp_scaleBy]


theorem toQuadsErr_scale (k : K) (c : CubicBez K) : toQuadsErr (c.scaleBy k) = k ^ 2 * toQuadsErr c := by
  rw [toQuadsErr_eq, toQuadsErr_eq]
  simp only [CubicBez.scaleBy, Point.scaleBy]
  ring

theorem toQuadsMax_scale (k : K) (a : K) : toQuadsMax (k * a) = k ^ 2 * toQuadsMax a := by
  rw [toQuadsMax_eq, toQuadsMax_eq]
  ring

theorem toQuadsN_scale (k : K) (hk : k ≠ 0) (c : CubicBez K) (a : K) :
    toQuadsN (c.scaleBy k) (k * a) = toQuadsN c a := by
  rw [toQuadsN_eq, toQuadsN_eq, toQuadsErr_scale, toQuadsMax_scale]
  simp only [scalar_norm]
  rw [mul_div_mul_left _ _ (pow_ne_zero 2 hk)]

theorem cubic_eval_scale (k : K) (c : CubicBez K) (t : K) : (c.scaleBy k).eval t = (c.eval t).scaleBy k := by
  simp only [cubic_eval_lerp, CubicBez.scaleBy, lerp_scaleBy]

theorem cubic_subsegment_scale (k : K) (c : CubicBez K) (r : Range K) :
    (c.scaleBy k).subsegment r = (c.subsegment r).scaleBy k := by
  -- both sides trace `u ↦ (c.eval (t0 + u·(t1 − t0))).scaleBy k`
  refine cubic_ext_eval fun u => ?_
  rw [CubicBez.subsegment_eval, cubic_eval_scale, cubic_eval_scale, CubicBez.subsegment_eval]

theorem toQuadsPiece_scale (k : K) (c : CubicBez K) (n i : Nat) :
    toQuadsPiece (c.scaleBy k) n i =
      ((toQuadsPiece c n i).1, (toQuadsPiece c n i).2.1, (toQuadsPiece c n i).2.2.scaleBy k) := by
  simp only [toQuadsPiece, cubic_subsegment_scale]
  generalize c.subsegment _ = seg
  -- the control point `((3·p1 − p0) + (3·p2 − p3))/4` is linear in the control points of `seg`
  simp only [CubicBez.scaleBy, QuadBez.scaleBy, Point.scaleBy]
  kring

theorem to_quads_scale (k : K) (hk : k ≠ 0) (c : CubicBez K) (a : K) :
    (c.scaleBy k).to_quads (k * a) =
      (c.to_quads a).map fun tq => (tq.1, tq.2.1, tq.2.2.scaleBy k) := by
  unfold CubicBez.to_quads
  simp only [toQuadsN_scale k hk, List.map_map]
  apply List.map_congr_left
  intro i _
  simp only [Function.comp, toQuadsPiece_scale]


/-- the parameters of the scaled quadratic: only `val` changes -/
def FlattenParams.scaleVal (m : K) (p : FlattenParams K) : FlattenParams K := { p with val := m * p.val }

theorem determine_subdiv_t_scaleVal (q q' : QuadBez K) (p : FlattenParams K) (m x : K) :
    q'.determine_subdiv_t (p.scaleVal m) x = q.determine_subdiv_t p x := by
  rw [determine_subdiv_t_eq, determine_subdiv_t_eq]; rfl

theorem cubicUs_scale (m : K) (hm : 0 < m) (step : K) (n : Nat) : ∀ (vals : List K) (i : Nat) (vs : K),
    cubicUs (m * step) n (vals.map (m * ·)) i (m * vs) = cubicUs step n vals i vs
  | [], _, _ => rfl
  | v :: vals, i, vs => by
    have hgo : cubicAsk (m * step) (m * vs) (m * v) = cubicAsk step vs v := by
      funext j
      rw [Bool.eq_iff_iff, cubicAsk_iff, cubicAsk_iff, show (j : K) * (m * step) = m * ((j : K) * step) by ring,
        ← mul_add]
      exact mul_lt_mul_iff_right₀ hm
    have hu : cubicU (m * step) (m * vs) (srecip (m * v)) = cubicU step vs (srecip v) := by
      funext j
      rw [cubicU_eq, cubicU_eq, show (j : K) * (m * step) - m * vs = m * ((j : K) * step - vs) by ring,
        mul_div_mul_left _ _ hm.ne']
    rw [List.map_cons, cubicUs, cubicUs, hgo, hu, LawfulScalar.add_eq, LawfulScalar.add_eq, ← mul_add,
      cubicUs_scale m hm step n vals]

theorem quadPt_scale (k m : K) (q : QuadBez K) (p : FlattenParams K) :
    quadPt (q.scaleBy k) (p.scaleVal m) = PathEl.scaleBy k ∘ quadPt q p := by
  funext u
  unfold quadPt
  rw [determine_subdiv_t_scaleVal q, quad_eval_scale]; rfl

end lawful

section real
class LawfulHypotR [Scalar ℝ] : Prop where
  hypot_eq : ∀ x y : ℝ, Scalar.hypot x y = Real.sqrt (x * x + y * y)

variable [Scalar ℝ] [LawfulScalar ℝ] [LawfulSqrt] [LawfulHypotR]

theorem subdivDD_hypot_scale (k : ℝ) (hk : 0 ≤ k) (q : QuadBez ℝ) :
    (q.scaleBy k).subdivDD.hypot = k * q.subdivDD.hypot := by
  unfold QuadBez.subdivDD Vec2.hypot
  simp only [kdefs, scalar_norm, LawfulHypotR.hypot_eq, QuadBez.scaleBy, Point.scaleBy]
  rw [show (k * q.p1.x - k * q.p0.x - (k * q.p2.x - k * q.p1.x)) * (k * q.p1.x - k * q.p0.x - (k * q.p2.x - k * q.p1.x)) +
      (k * q.p1.y - k * q.p0.y - (k * q.p2.y - k * q.p1.y)) * (k * q.p1.y - k * q.p0.y - (k * q.p2.y - k * q.p1.y)) =
      k ^ 2 * ((q.p1.x - q.p0.x - (q.p2.x - q.p1.x)) * (q.p1.x - q.p0.x - (q.p2.x - q.p1.x)) +
        (q.p1.y - q.p0.y - (q.p2.y - q.p1.y)) * (q.p1.y - q.p0.y - (q.p2.y - q.p1.y))) by ring]
  rw [Real.sqrt_mul (sq_nonneg k), Real.sqrt_sq hk]

theorem subdivDen_scale (k : ℝ) (hk : 0 < k) (q : QuadBez ℝ) : (q.scaleBy k).subdivDen = k * q.subdivDen := by
  unfold QuadBez.subdivDen
  rw [subdivDD_hypot_scale k hk.le, subdivX0_scale k hk.ne', subdivX2_scale k hk.ne']
  simp only [scalar_norm]
  ring

theorem subdivScale_scale (k : ℝ) (hk : 0 < k) (q : QuadBez ℝ) : (q.scaleBy k).subdivScale = k * q.subdivScale := by
  unfold QuadBez.subdivScale
  rw [subdivDen_scale k hk, subdivCross_scale]
  simp only [scalar_norm]
  rw [show k ^ 2 * q.subdivCross / (k * q.subdivDen) = k * (q.subdivCross / q.subdivDen) by
    rw [pow_two, mul_assoc, mul_div_mul_left _ _ hk.ne', mul_div_assoc]]
  rw [abs_mul, abs_of_pos hk]

theorem estimate_subdiv_val_scale (k : ℝ) (hk : 0 < k) (q : QuadBez ℝ) (s : ℝ) :
    ((q.scaleBy k).estimate_subdiv (Real.sqrt k * s)).val = Real.sqrt k * (q.estimate_subdiv s).val := by
  have hsk : 0 < Real.sqrt k := Real.sqrt_pos.mpr hk
  rw [estimate_subdiv_val, estimate_subdiv_val, subdivDen_scale k hk, subdivScale_scale k hk,
    subdivX0_scale k hk.ne', subdivX2_scale k hk.ne']
  simp only [scalar_norm, LawfulSqrt.sqrt_eq]
  rw [Real.sqrt_mul hk.le]
  by_cases hd : q.subdivDen = 0
  · have : k * q.subdivDen = 0 := by rw [hd, mul_zero]
    simp [hd]
  · have hd' : k * q.subdivDen ≠ 0 := mul_ne_zero hk.ne' hd
    simp only [hd, hd', ne_eq, not_false_eq_true, decide_true, if_true]
    rw [mul_ite]
    congr 1
    · ring
    · rw [mul_div_mul_left _ _ hsk.ne']
      ring

theorem estimate_subdiv_scale (k : ℝ) (hk : 0 < k) (q : QuadBez ℝ) (s : ℝ) :
    (q.scaleBy k).estimate_subdiv (Real.sqrt k * s) = (q.estimate_subdiv s).scaleVal (Real.sqrt k) := by
  have ha0 : ((q.scaleBy k).estimate_subdiv (Real.sqrt k * s)).a0 = (q.estimate_subdiv s).a0 := by
    rw [estimate_subdiv_a0, estimate_subdiv_a0, subdivX0_scale k hk.ne']
  have ha2 : ((q.scaleBy k).estimate_subdiv (Real.sqrt k * s)).a2 = (q.estimate_subdiv s).a2 := by
    rw [estimate_subdiv_a2, estimate_subdiv_a2, subdivX2_scale k hk.ne']
  have hu0 : ((q.scaleBy k).estimate_subdiv (Real.sqrt k * s)).u0 = (q.estimate_subdiv s).u0 := by
    rw [estimate_subdiv_u0, estimate_subdiv_u0, ha0]
  have hus : ((q.scaleBy k).estimate_subdiv (Real.sqrt k * s)).uscale = (q.estimate_subdiv s).uscale := by
    rw [estimate_subdiv_uscale, estimate_subdiv_uscale, ha0, ha2]
  have hv := estimate_subdiv_val_scale k hk q s
  cases h : (q.scaleBy k).estimate_subdiv (Real.sqrt k * s)
  rw [h] at ha0 ha2 hu0 hus hv
  simp only at ha0 ha2 hu0 hus hv
  rw [ha0, ha2, hu0, hus, hv]
  rfl


theorem flattenQuadN_scale (k : ℝ) (hk : 0 < k) (q : QuadBez ℝ) (s : ℝ) :
    flattenQuadN (q.scaleBy k) (Real.sqrt k * s) = flattenQuadN q s := by
  have hsk : 0 < Real.sqrt k := Real.sqrt_pos.mpr hk
  rw [flattenQuadN_eq, flattenQuadN_eq, estimate_subdiv_val_scale k hk]
  simp only [scalar_norm]
  have e : ∀ c : ℝ, c * (Real.sqrt k * (q.estimate_subdiv s).val) / (Real.sqrt k * s) =
      c * (q.estimate_subdiv s).val / s := by
    intro c
    rw [mul_left_comm, mul_div_mul_left _ _ hsk.ne']
  rw [e]

theorem flattenQuadT_scale (k : ℝ) (hk : 0 < k) (q : QuadBez ℝ) (s : ℝ) (i : Nat) :
    flattenQuadT (q.scaleBy k) (Real.sqrt k * s) i = flattenQuadT q s i := by
  rw [flattenQuadT_lawful, flattenQuadT_lawful, flattenQuadN_scale k hk, estimate_subdiv_scale k hk,
    determine_subdiv_t_scaleVal q]

theorem flattenQuad_scale' (k : ℝ) (hk : 0 < k) (q : QuadBez ℝ) (s : ℝ) :
    flattenQuad (q.scaleBy k) (Real.sqrt k * s) = (flattenQuad q s).map (PathEl.scaleBy k) := by
  rw [flattenQuad_eq, flattenQuad_eq, flattenQuadN_scale k hk, List.map_append, List.map_map]
  congr 1
  apply List.map_congr_left
  intro i _
  simp only [Function.comp, PathEl.scaleBy]
  rw [flattenQuadT_scale k hk, quad_eval_scale]


theorem flattenCubicBuf_scale (k : ℝ) (hk : 0 < k) (c : CubicBez ℝ) (tol s : ℝ) :
    flattenCubicBuf (c.scaleBy k) (k * tol) (Real.sqrt k * s) =
      (flattenCubicBuf c tol s).map fun qp => (qp.1.scaleBy k, qp.2.scaleVal (Real.sqrt k)) := by
  rw [flattenCubicBuf_eq, flattenCubicBuf_eq]
  simp only [scalar_norm, LawfulScalar.mul_eq]
  rw [mul_assoc k tol, to_quads_scale k hk.ne', List.map_map, List.map_map]
  apply List.map_congr_left
  intro tq _
  simp only [Function.comp]
  rw [mul_assoc (Real.sqrt k) s, estimate_subdiv_scale k hk]

theorem flattenCubicSum_scale (k : ℝ) (hk : 0 < k) (c : CubicBez ℝ) (tol s : ℝ) :
    flattenCubicSum (c.scaleBy k) (k * tol) (Real.sqrt k * s) = Real.sqrt k * flattenCubicSum c tol s := by
  rw [flattenCubicSum_eq_sum, flattenCubicSum_eq_sum, flattenCubicBuf_scale k hk, List.map_map, ← List.sum_map_mul_left]
  rfl

theorem flattenCubicN_scale (k : ℝ) (hk : 0 < k) (c : CubicBez ℝ) (tol s : ℝ) :
    flattenCubicN (c.scaleBy k) (k * tol) (Real.sqrt k * s) = flattenCubicN c tol s := by
  have hsk : 0 < Real.sqrt k := Real.sqrt_pos.mpr hk
  unfold flattenCubicN
  rw [flattenCubicSum_scale k hk]
  simp only [scalar_norm]
  have e : ∀ a b : ℝ, a * (Real.sqrt k * flattenCubicSum c tol s) / (Real.sqrt k * s * b) =
      a * flattenCubicSum c tol s / (s * b) := by
    intro a b
    rw [mul_left_comm, mul_assoc (Real.sqrt k) s b, mul_div_mul_left _ _ hsk.ne']
  rw [e]

theorem flattenCubicUs_scale (k : ℝ) (hk : 0 < k) (c : CubicBez ℝ) (tol s : ℝ) :
    flattenCubicUs (c.scaleBy k) (k * tol) (Real.sqrt k * s) = flattenCubicUs c tol s := by
  have h := cubicUs_scale (Real.sqrt k) (Real.sqrt_pos.mpr hk) (flattenCubicSum c tol s / natK (flattenCubicN c tol s))
    (flattenCubicN c tol s) ((flattenCubicBuf c tol s).map fun qp => qp.2.val) 1 0
  rw [mul_zero, List.map_map, ← mul_div_assoc] at h
  unfold flattenCubicUs
  rw [flattenCubicBuf_scale k hk, flattenCubicSum_scale k hk, flattenCubicN_scale k hk, List.map_map, sn_div, sn_div,
    sn_ofNat, Nat.cast_zero]
  exact h

theorem flattenCubic_scale' (k : ℝ) (hk : 0 < k) (c : CubicBez ℝ) (tol s : ℝ) :
    flattenCubic (c.scaleBy k) (k * tol) (Real.sqrt k * s) = (flattenCubic c tol s).map (PathEl.scaleBy k) := by
  rw [flattenCubic_eq_groups, flattenCubic_eq_groups, flattenCubicGroups, flattenCubicGroups, flattenCubicUs_scale k hk,
    flattenCubicBuf_scale k hk, List.zipWith_map_left, List.map_append, List.map_flatten, List.map_zipWith]
  simp only [quadPt_scale, List.map_map]
  rfl


def stScale (k : ℝ) (st : Option (Point ℝ) × Option (Point ℝ)) : Option (Point ℝ) × Option (Point ℝ) :=
  (st.1.map (Point.scaleBy k), st.2.map (Point.scaleBy k))

theorem flattenState_scale (k : ℝ) (st : Option (Point ℝ) × Option (Point ℝ)) (el : PathEl ℝ) :
    flattenState (stScale k st) (el.scaleBy k) = stScale k (flattenState st el) := by
  cases el <;> rfl

theorem flattenRun_scale (k : ℝ) (hk : 0 < k) (st : Option (Point ℝ) × Option (Point ℝ)) (el : PathEl ℝ) (tol s : ℝ) :
    flattenRun (stScale k st) (el.scaleBy k) (k * tol) (Real.sqrt k * s) =
      (flattenRun st el tol s).map (PathEl.scaleBy k) := by
  obtain ⟨l, st2⟩ := st
  cases el with
  | MoveTo p => rfl
  | LineTo p => rfl
  | ClosePath => rfl
  | QuadTo p1 p2 =>
    cases l with
    | none => rfl
    | some p0 => exact flattenQuad_scale' k hk ⟨p0, p1, p2⟩ s
  | CurveTo p1 p2 p3 =>
    cases l with
    | none => rfl
    | some p0 => exact flattenCubic_scale' k hk ⟨p0, p1, p2, p3⟩ tol s

theorem flattenRuns_scale (k : ℝ) (hk : 0 < k) (st : Option (Point ℝ) × Option (Point ℝ)) (els : List (PathEl ℝ))
    (tol : ℝ) :
    flattenRuns (stScale k st) (els.map (PathEl.scaleBy k)) (k * tol) =
      (flattenRuns st els tol).map (List.map (PathEl.scaleBy k)) := by
  induction els generalizing st with
  | nil => rfl
  | cons el rest ih =>
    rw [List.map_cons, flattenRuns_cons, flattenRuns_cons, List.map_cons, flattenState_scale, ih]
    congr 1
    rw [LawfulSqrt.sqrt_eq, LawfulSqrt.sqrt_eq, Real.sqrt_mul hk.le]
    exact flattenRun_scale k hk st el tol _

end real

theorem realScalarC05_lawfulHypot : @LawfulHypotR realScalarC05 :=
  letI := realScalarC05
  { hypot_eq := fun _ _ => rfl }

end Kurbo
