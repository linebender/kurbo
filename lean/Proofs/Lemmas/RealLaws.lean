import Proofs.Lemmas.CanonScalar
import Mathlib.Analysis.SpecialFunctions.Pow.Real
import Mathlib.Analysis.SpecialFunctions.Sqrt
import Mathlib.Analysis.SpecialFunctions.Trigonometric.Basic
import Mathlib.Algebra.Order.Archimedean.Real.Basic
/-! The laws of the transcendental `Scalar` fields over ℝ (`LawfulReal`) and their witness `realScalar`, ℝ with the Mathlib
    functions.  What is specific to one property's further laws sits with that property. -/
set_option linter.unusedSectionVars false
namespace Kurbo
open Real

/-- real cube root, as `f64::cbrt` computes it (sign-aware) -/
noncomputable def realCbrt (x : ℝ) : ℝ := if 0 ≤ x then x ^ ((1:ℝ)/3) else -((-x) ^ ((1:ℝ)/3))

/-- the transcendental fields of a `Scalar ℝ` instance are the real functions they are named after -/
class LawfulReal [Scalar ℝ] : Prop where
  sqrt_eq : ∀ x : ℝ, Scalar.sqrt x = Real.sqrt x
  cbrt_eq : ∀ x : ℝ, Scalar.cbrt x = realCbrt x
  sin_eq : ∀ x : ℝ, Scalar.sin x = Real.sin x
  cos_eq : ∀ x : ℝ, Scalar.cos x = Real.cos x
  /-- `y.atan2(x)` is the argument of `x + i·y` in `(-π, π]` -/
  atan2_eq : ∀ y x : ℝ, Scalar.atan2 y x = Complex.arg ⟨x, y⟩

section real
variable [Scalar ℝ] [LawfulScalar ℝ] [LawfulReal]

theorem sqrtExact_of_lawfulReal (x : ℝ) (hx : 0 ≤ x) : SqrtExact x := by
  unfold SqrtExact; rw [LawfulReal.sqrt_eq]
  exact ⟨Real.sqrt_nonneg x, Real.mul_self_sqrt hx⟩

end real

/-- ℝ with the Mathlib functions as a `Scalar`, `as usize` being the plain floor: the witness of `LawfulScalar`, `LawfulReal`
    and of those further law classes of the properties that do not ask `as usize` to saturate (`LawfulAcos`, `LawfulRealLog`,
    `LawfulRealAngle`, `LawfulCount`, …).  `LawfulPowf` (C17) does ask it and excludes this structure
    (`glue_lawfulPowf_not_lawfulCount`); its witnesses are `realScalar17` and `glue_realScalar`. -/
@[instance_reducible] noncomputable def realScalar : Scalar ℝ where
  add := (· + ·); sub := (· - ·); mul := (· * ·); div := (· / ·); neg := (- ·)
  abs x := |x|
  lt a b := decide (a < b); le a b := decide (a ≤ b); beq a b := decide (a = b)
  ofRat r := (r : ℝ)
  floor x := (⌊x⌋ : ℝ); ceil x := (⌈x⌉ : ℝ)
  round a := if a < 0 then (⌈a - 1/2⌉ : ℝ) else (⌊a + 1/2⌋ : ℝ)
  trunc a := if a < 0 then (⌈a⌉ : ℝ) else (⌊a⌋ : ℝ)
  sqrt := Real.sqrt
  cbrt := realCbrt
  sin := Real.sin
  cos := Real.cos
  tan := Real.tan
  acos := Real.arccos
  atan2 y x := Complex.arg ⟨x, y⟩
  powf x y := x ^ y
  ln := Real.log
  log2 x := Real.log x / Real.log 2
  fma a b c := a * b + c
  hypot x y := Real.sqrt (x * x + y * y)
  copysign a b := if b < 0 then -|a| else |a|
  fin _ := true
  finQuot den _ := decide (den ≠ 0)
  isNan _ := false
  toUSize x := ⌊x⌋₊
  signum x := if x < 0 then -1 else 1
  min a b := min a b
  max a b := max a b
  fmod a b := a - b * (if a / b < 0 then (⌈a / b⌉ : ℝ) else (⌊a / b⌋ : ℝ))
  pi := Real.pi

theorem realScalar_lawful : @LawfulScalar ℝ _ _ _ _ realScalar :=
  canonScalar_lawful realScalar

theorem realScalar_lawfulReal : @LawfulReal realScalar :=
  letI := realScalar
  { sqrt_eq := fun _ => rfl, cbrt_eq := fun _ => rfl, sin_eq := fun _ => rfl, cos_eq := fun _ => rfl,
    atan2_eq := fun _ _ => rfl }

end Kurbo
