import Proofs.Lemmas.C10Quarter
import Proofs.Lemmas.C10ATaylor
import Mathlib.Analysis.Real.Pi.Bounds
/-! The radial error of the circular-arc cubic with arm `4/3·tan(φ/2)` and the two numeric inequalities behind the
    constants `1.1163` and `3.999999` of the source.
    * with that arm, `|B(t) − ctr|² = r²·(1 + 16·S⁶/C²·(σ² − 4σ³))`, `S, C = sin, cos (φ/2)`, `σ = t(1−t)`, and
      `0 ≤ σ² − 4σ³ ≤ 1/108`: the curve never enters the circle and leaves it by the relative amount
      `√(1 + (4/27)·S⁶/C²) − 1`;
    * `arc_trig_core`: for every real `m ≥ 3.999999` and `0 ≤ x ≤ π/(2m)` that amount is `≤ 1.1163/m⁶`.
      At `m = 3.999999`, `x = π/(2m)` the two sides are `2.7253042e-4` and `2.7253459e-4`: the relative margin is `1.53e-5`, so
      `√(1+u) ≤ 1 + u/2` is too coarse (it loses `1.36e-4`): the square root is removed exactly (`1 + u ≤ (1 + k)²`,
      `k = 1.1163/m⁶`), which leaves `(4/27)·sin⁶x·m⁶ ≤ cos²x·(2·1.1163 + 1.1163²/m⁶)`; then
      `sin x ≤ x − x³/6 + x⁵/120` (loses `4.5e-6`), `cos x ≥ 1 − x²/2 + x⁴/24 − x⁶/720` (loses `3e-8`), `π < 3.141593`
      (loses `6.6e-7`), `1/m⁶ ≥ (2x/π)⁶`, and a polynomial inequality of degree 12 in `y = x²` on `[0, 0.154213]` remains;
    * `trig_bound_real`: for `m ≥ 5` the cruder `(2/27)·sin⁶x·m⁶ ≤ 1.1163·cos²x` (what `√(1+u) ≤ 1 + u/2` would need; at the
      worst point `x = π/(2m)` the gap is smallest at `m = 5`, 0.187 %, and grows to 0.32 % as `m → ∞`). -/
set_option linter.unusedSectionVars false
namespace Kurbo

/-- `(π/2)⁶ < 15.02171609`, from `π < 3.141593` -/
theorem pow_six_le_of_le_pi_div_two {z : ℝ} (h0 : 0 ≤ z) (h : z ≤ Real.pi / 2) : z ^ 6 ≤ 1502171609 / 100000000 :=
  (pow_le_pow_left₀ h0 (by linarith [Real.pi_lt_d6] : z ≤ 3141593 / 2000000) 6).trans (by norm_num)

/-- the sine side of `trig_bound_real` and `arc_trig_core`: `sin x ≤ x·q(x²)` with `q(y) = 1 − y/6 + y²/120`, and `x·m ≤ π/2` -/
theorem sin_pow_six_mul_le {m x : ℝ} (hm : 0 ≤ m) (hx0 : 0 ≤ x) (hx1 : x ≤ 1) (hxm : x * m ≤ Real.pi / 2) :
    Real.sin x ^ 6 * m ^ 6 ≤ 1502171609 / 100000000 * (1 - x ^ 2 / 6 + (x ^ 2) ^ 2 / 120) ^ 6 := by
  have hs0 : 0 ≤ Real.sin x := Real.sin_nonneg_of_nonneg_of_le_pi hx0 (by linarith [Real.pi_gt_three])
  have hs1 : Real.sin x ≤ x * (1 - x ^ 2 / 6 + (x ^ 2) ^ 2 / 120) := (c10a_sin_le_taylor5 hx0).trans_eq (by ring)
  calc Real.sin x ^ 6 * m ^ 6
      ≤ (x * (1 - x ^ 2 / 6 + (x ^ 2) ^ 2 / 120)) ^ 6 * m ^ 6 :=
        mul_le_mul_of_nonneg_right (pow_le_pow_left₀ hs0 hs1 6) (pow_nonneg hm 6)
    _ = (x * m) ^ 6 * (1 - x ^ 2 / 6 + (x ^ 2) ^ 2 / 120) ^ 6 := by rw [mul_pow, mul_pow, mul_right_comm]
    _ ≤ 1502171609 / 100000000 * (1 - x ^ 2 / 6 + (x ^ 2) ^ 2 / 120) ^ 6 :=
        mul_le_mul_of_nonneg_right (pow_six_le_of_le_pi_div_two (mul_nonneg hx0 hm) hxm) (by positivity)

theorem trig_poly_core {y : ℝ} (h0 : 0 ≤ y) (h1 : y ≤ 987 / 10000) :
    (1 - y / 6 + y ^ 2 / 120) ^ 6 ≤ (10016 / 10000) ^ 2 * (1 - y / 2) ^ 2 := by
  have hy2 : y ^ 2 ≤ 987 / 10000 * y := by rw [sq]; exact mul_le_mul_of_nonneg_right h1 h0
  have hP0 : 0 ≤ 1 - y / 6 + y ^ 2 / 120 := by linear_combination (1 / 6) * h1 + (1 / 120) * sq_nonneg y
  have hP1 : 1 - y / 6 + y ^ 2 / 120 ≤ 1 - 1656 / 10000 * y := by
    linear_combination (1 / 120) * hy2 + (1 / 6 - 1656 / 10000 - 987 / 1200000) * h0
  have hA : (1 - 1656 / 10000 * y) ^ 3 ≤ 10016 / 10000 * (1 - y / 2) := by
    linear_combination (3 * (1656 / 10000) ^ 2) * hy2 + (1656 / 10000) ^ 3 * pow_nonneg h0 3
      + (4 / 1000 + 3 * (1656 / 10000) ^ 2 * (987 / 10000)) * h1
  calc (1 - y / 6 + y ^ 2 / 120) ^ 6 ≤ (1 - 1656 / 10000 * y) ^ 6 := pow_le_pow_left₀ hP0 hP1 6
    _ = ((1 - 1656 / 10000 * y) ^ 3) ^ 2 := pow_mul _ 3 2
    _ ≤ (10016 / 10000 * (1 - y / 2)) ^ 2 := pow_le_pow_left₀ (pow_nonneg (by linarith) 3) hA 2
    _ = (10016 / 10000) ^ 2 * (1 - y / 2) ^ 2 := mul_pow _ _ 2

theorem trig_bound_real (m x : ℝ) (hm : 5 ≤ m) (hx0 : 0 ≤ x) (hxm : x * m ≤ Real.pi / 2) :
    2 / 27 * Real.sin x ^ 6 * m ^ 6 ≤ 11163 / 10000 * Real.cos x ^ 2 := by
  have hx1 : x ≤ 3141593 / 10000000 := by
    linear_combination (1 / 5) * mul_le_mul_of_nonneg_left hm hx0 + (1 / 5) * hxm + (1 / 10) * Real.pi_lt_d6
  have hy1 : x ^ 2 ≤ 987 / 10000 := (pow_le_pow_left₀ hx0 hx1 2).trans (by norm_num)
  have hsin := sin_pow_six_mul_le (le_trans (by norm_num) hm) hx0 (hx1.trans (by norm_num)) hxm
  have hcos : (1 - x ^ 2 / 2) ^ 2 ≤ Real.cos x ^ 2 :=
    pow_le_pow_left₀ (by linear_combination (1 / 2) * hy1) Real.one_sub_sq_div_two_le_cos 2
  calc 2 / 27 * Real.sin x ^ 6 * m ^ 6
      = 2 / 27 * (Real.sin x ^ 6 * m ^ 6) := mul_assoc _ _ _
    _ ≤ 2 / 27 * (1502171609 / 100000000 * ((10016 / 10000) ^ 2 * (1 - x ^ 2 / 2) ^ 2)) :=
        mul_le_mul_of_nonneg_left (hsin.trans (mul_le_mul_of_nonneg_left (trig_poly_core (sq_nonneg x) hy1) (by norm_num)))
          (by norm_num)
    _ = 2 / 27 * (1502171609 / 100000000) * (10016 / 10000) ^ 2 * (1 - x ^ 2 / 2) ^ 2 := by ring
    _ ≤ 11163 / 10000 * (1 - x ^ 2 / 2) ^ 2 := mul_le_mul_of_nonneg_right (by norm_num) (sq_nonneg _)
    _ ≤ 11163 / 10000 * Real.cos x ^ 2 := mul_le_mul_of_nonneg_left hcos (by norm_num)

/-- polynomial core for `m ≥ 3.999999`: with `q = 1 − y/6 + y²/120` (`sin x ≤ x·q(x²)`), `g = 1 − y/2 + y²/24 − y³/720`
    (`cos x ≥ g(x²)`), `2.225439421 ≥ (4/27)(3.141593/2)⁶`, `0.08295 ≤ 1.1163²·(2/3.141593)⁶`:
    `2.225439421·q⁶ ≤ g²·(2·1.1163 + 0.08295·y³)` on `[0, 0.154213]` (margin `1.93e-5` of `2.2326` at the right end) -/
theorem arc_poly_core {y : ℝ} (h0 : 0 ≤ y) (h1 : y ≤ 154213 / 1000000) :
    2225439421 / 1000000000 * (1 - y / 6 + y ^ 2 / 120) ^ 6
      ≤ (1 - y / 2 + y ^ 2 / 24 - y ^ 3 / 720) ^ 2 * (2 * (11163 / 10000) + 8295 / 100000 * y ^ 3) := by
  have hB : 0 ≤ 154213 / 1000000 - y := sub_nonneg.2 h1
  have H0 := hB
  have H1 := mul_nonneg hB h0
  have H2 := mul_nonneg hB (pow_nonneg h0 2)
  have H3 := mul_nonneg hB (pow_nonneg h0 3)
  have H4 := mul_nonneg hB (pow_nonneg h0 4)
  have H5 := mul_nonneg hB (pow_nonneg h0 5)
  have H6 := mul_nonneg hB (pow_nonneg h0 6)
  have H7 := mul_nonneg hB (pow_nonneg h0 7)
  have H8 := mul_nonneg hB (pow_nonneg h0 8)
  have H9 := mul_nonneg hB (pow_nonneg h0 9)
  have H10 := mul_nonneg hB (pow_nonneg h0 10)
  have H11 := mul_nonneg hB (pow_nonneg h0 11)
  have G1 := mul_nonneg (mul_nonneg hB hB) h0
  have G2 := mul_nonneg (mul_nonneg hB hB) (pow_nonneg h0 2)
  have G3 := mul_nonneg (mul_nonneg hB hB) (pow_nonneg h0 3)
  have G4 := mul_nonneg (mul_nonneg hB hB) (pow_nonneg h0 4)
  have G5 := mul_nonneg (mul_nonneg hB hB) (pow_nonneg h0 5)
  have G6 := mul_nonneg (mul_nonneg hB hB) (pow_nonneg h0 6)
  have G7 := mul_nonneg (mul_nonneg hB hB) (pow_nonneg h0 7)
  have G8 := mul_nonneg (mul_nonneg hB hB) (pow_nonneg h0 8)
  have G9 := mul_nonneg (mul_nonneg hB hB) (pow_nonneg h0 9)
  have G10 := mul_nonneg (mul_nonneg hB hB) (pow_nonneg h0 10)
  -- with `B` the right end: `Hk` is `(B − y)·yᵏ ≥ 0`, `Gk` is `(B − y)²·yᵏ ≥ 0`; right side minus left side of the goal, a
  -- polynomial of degree 12, is a nonnegative combination of these 22 products and `1`, which `linarith` finds
  linarith

theorem arc_trig_core (m x : ℝ) (hm : 3999999 / 1000000 ≤ m) (hx0 : 0 ≤ x) (hxm : x * m ≤ Real.pi / 2) :
    4 / 27 * Real.sin x ^ 6 * m ^ 6
      ≤ Real.cos x ^ 2 * (2 * (11163 / 10000) + (11163 / 10000) ^ 2 / m ^ 6) := by
  have hm0 : (0 : ℝ) < m := lt_of_lt_of_le (by norm_num) hm
  have hm6 : (0 : ℝ) < m ^ 6 := pow_pos hm0 6
  have hx1 : x ≤ 3926993 / 10000000 := by
    linear_combination (1000000 / 3999999) * mul_le_mul_of_nonneg_left hm hx0 + (1000000 / 3999999) * hxm
      + (500000 / 3999999) * Real.pi_lt_d6
  have hy0 : 0 ≤ x ^ 2 := sq_nonneg x
  have hy1 : x ^ 2 ≤ 154213 / 1000000 := (pow_le_pow_left₀ hx0 hx1 2).trans (by norm_num)
  have hy3 : (x ^ 2) ^ 3 ≤ 1 := pow_le_one₀ hy0 (hy1.trans (by norm_num))
  have hsin := sin_pow_six_mul_le hm0.le hx0 (hx1.trans (by norm_num)) hxm
  have hg : 1 - x ^ 2 / 2 + (x ^ 2) ^ 2 / 24 - (x ^ 2) ^ 3 / 720 ≤ Real.cos x :=
    (c10a_cos_ge_taylor6 hx0).trans_eq' (by ring)
  have hcos : (1 - x ^ 2 / 2 + (x ^ 2) ^ 2 / 24 - (x ^ 2) ^ 3 / 720) ^ 2 ≤ Real.cos x ^ 2 :=
    pow_le_pow_left₀ (by linear_combination (1 / 2) * hy1 + (1 / 24) * sq_nonneg (x ^ 2) + (1 / 720) * hy3) hg 2
  -- `1/m⁶ ≥ (2x/π)⁶`
  have hlam : 8295 / 100000 * (x ^ 2) ^ 3 ≤ (11163 / 10000) ^ 2 / m ^ 6 := by
    rw [le_div_iff₀ hm6]
    calc 8295 / 100000 * (x ^ 2) ^ 3 * m ^ 6 = 8295 / 100000 * (x * m) ^ 6 := by ring
      _ ≤ 8295 / 100000 * (1502171609 / 100000000) :=
          mul_le_mul_of_nonneg_left (pow_six_le_of_le_pi_div_two (mul_nonneg hx0 hm0.le) hxm) (by norm_num)
      _ ≤ (11163 / 10000) ^ 2 := by norm_num
  calc 4 / 27 * Real.sin x ^ 6 * m ^ 6
      = 4 / 27 * (Real.sin x ^ 6 * m ^ 6) := mul_assoc _ _ _
    _ ≤ 4 / 27 * (1502171609 / 100000000 * (1 - x ^ 2 / 6 + (x ^ 2) ^ 2 / 120) ^ 6) :=
        mul_le_mul_of_nonneg_left hsin (by norm_num)
    _ = 4 / 27 * (1502171609 / 100000000) * (1 - x ^ 2 / 6 + (x ^ 2) ^ 2 / 120) ^ 6 := (mul_assoc _ _ _).symm
    _ ≤ 2225439421 / 1000000000 * (1 - x ^ 2 / 6 + (x ^ 2) ^ 2 / 120) ^ 6 :=
        mul_le_mul_of_nonneg_right (by norm_num) (by positivity)
    _ ≤ (1 - x ^ 2 / 2 + (x ^ 2) ^ 2 / 24 - (x ^ 2) ^ 3 / 720) ^ 2 * (2 * (11163 / 10000) + 8295 / 100000 * (x ^ 2) ^ 3) :=
        arc_poly_core hy0 hy1
    _ ≤ Real.cos x ^ 2 * (2 * (11163 / 10000) + (11163 / 10000) ^ 2 / m ^ 6) :=
        mul_le_mul hcos (add_le_add le_rfl hlam) (by positivity) (sq_nonneg _)

theorem tanArm_error_le {m x : ℝ} (hm : 3999999 / 1000000 ≤ m) (hxm : |x| * m ≤ Real.pi / 2) :
    0 < Real.cos x ∧
    4 / 27 * Real.sin x ^ 6 / Real.cos x ^ 2 ≤ 2 * (11163 / 10000 / m ^ 6) + (11163 / 10000 / m ^ 6) ^ 2 := by
  have hm6 : (0 : ℝ) < m ^ 6 := pow_pos (lt_of_lt_of_le (by norm_num) hm) 6
  have hxlt : |x| < Real.pi / 2 := by
    linear_combination (1000000 / 3999999) * mul_le_mul_of_nonneg_left hm (abs_nonneg x) + (1000000 / 3999999) * hxm
      + (1 / 2 - 500000 / 3999999) * Real.pi_pos
  have hC : 0 < Real.cos x := Real.cos_pos_of_mem_Ioo (abs_lt.mp hxlt)
  have hS : Real.sin |x| ^ 6 = Real.sin x ^ 6 := by
    rcases abs_choice x with h | h
    · rw [h]
    · rw [h, Real.sin_neg, Even.neg_pow (by decide)]
  have h := arc_trig_core m |x| hm (abs_nonneg x) hxm
  rw [Real.cos_abs, hS] at h
  refine ⟨hC, ?_⟩
  rw [show 2 * (11163 / 10000 / m ^ 6) + (11163 / 10000 / m ^ 6) ^ 2
      = (2 * (11163 / 10000) + (11163 / 10000) ^ 2 / m ^ 6) / m ^ 6 by ring,
    div_le_div_iff₀ (pow_pos hC 2) hm6]
  exact h.trans_eq (mul_comm _ _)

theorem sigma_poly_range {t : ℝ} (h0 : 0 ≤ t) (h1 : t ≤ 1) :
    0 ≤ (t * (1 - t)) ^ 2 - 4 * (t * (1 - t)) ^ 3 ∧ (t * (1 - t)) ^ 2 - 4 * (t * (1 - t)) ^ 3 ≤ 1 / 108 := by
  obtain ⟨hs0, hs1⟩ := sigma_range h0 h1
  have h := cubic_sigma_bounds (c2 := 1) (c3 := 4) (lo := 0) (hi := 1 / 108) zero_le_one four_pos hs0 hs1 le_rfl
    (by norm_num) (by norm_num)
  rwa [mul_one, mul_comm _ (4 : ℝ)] at h

/-- from the squared distance to the distance without loss: `1 + 2k + k² = (1 + k)²` -/
theorem radial_band {D2 r u k : ℝ} (h : D2 = r ^ 2 * (1 + u)) (hu0 : 0 ≤ u) (hk : 0 ≤ k) (huk : u ≤ 2 * k + k ^ 2) :
    |r| ≤ Real.sqrt D2 ∧ Real.sqrt D2 ≤ |r| * (1 + k) := by
  rw [h, Real.sqrt_mul (sq_nonneg r), Real.sqrt_sq_eq_abs]
  exact ⟨le_mul_of_one_le_right (abs_nonneg r) (Real.one_le_sqrt.mpr (by linarith)),
    mul_le_mul_of_nonneg_left (Real.sqrt_le_iff.mpr ⟨by linarith, by linarith⟩) (abs_nonneg r)⟩

theorem abs_sub_le_of_band {s r T : ℝ} (h1 : r ≤ s) (h2 : s ≤ r + T) : |s - r| ≤ T :=
  abs_sub_le_iff.mpr ⟨by linarith, by linarith⟩

section
variable [Scalar ℝ] [LawfulScalar ℝ]

theorem circleArcCubic_tan_dist_sq (ctr : Point ℝ) (r μ φ t : ℝ) (hC : Real.cos (φ / 2) ≠ 0) :
    (((circleArcCubic ctr r (4 / 3 * Real.tan (φ / 2)) (μ - φ) (μ + φ)).eval t).x - ctr.x) ^ 2
      + (((circleArcCubic ctr r (4 / 3 * Real.tan (φ / 2)) (μ - φ) (μ + φ)).eval t).y - ctr.y) ^ 2
      = r ^ 2 * (1 + 16 * Real.sin (φ / 2) ^ 6 / Real.cos (φ / 2) ^ 2 * ((t * (1 - t)) ^ 2 - 4 * (t * (1 - t)) ^ 3)) := by
  have hid := circleArcCubic_radial_identity ctr r (4 / 3 * Real.tan (φ / 2)) μ φ t
  set S := Real.sin (φ / 2) with hS
  set C := Real.cos (φ / 2) with hCd
  set a := 4 / 3 * Real.tan (φ / 2) with ha
  have hSC : S ^ 2 + C ^ 2 = 1 := Real.sin_sq_add_cos_sq (φ / 2)
  have haC : a * C = 4 / 3 * S := by
    rw [ha, Real.tan_eq_sin_div_cos, ← hS, ← hCd]; field_simp
  have hsin : Real.sin φ = 2 * S * C := by
    rw [show φ = 2 * (φ / 2) by ring, Real.sin_two_mul]
  have hcos : Real.cos φ = C ^ 2 - S ^ 2 := by
    rw [show φ = 2 * (φ / 2) by ring, Real.cos_two_mul]
    rw [← hCd]
    linear_combination hSC
  rw [hsin, hcos] at hid
  have hC2 : C ^ 2 ≠ 0 := pow_ne_zero 2 hC
  have k1 : 9 * a ^ 2 - 12 * (2 * S * C) ^ 2 + 12 * a * (C ^ 2 - S ^ 2) * (2 * S * C) = 16 * S ^ 6 / C ^ 2 := by
    rw [eq_div_iff hC2]
    linear_combination (9 * (a * C + 4 / 3 * S) + 24 * S * C ^ 2 * (C ^ 2 - S ^ 2)) * haC
      - 16 * S ^ 2 * (1 + S ^ 2 + C ^ 2) * hSC
  have k2 : (2 * (2 * S * C) - 3 * a * (C ^ 2 - S ^ 2)) ^ 2 = 16 * S ^ 6 / C ^ 2 := by
    rw [eq_div_iff hC2]
    have : (2 * (2 * S * C) - 3 * a * (C ^ 2 - S ^ 2)) * C = 4 * S ^ 3 := by
      linear_combination (-3 * (C ^ 2 - S ^ 2)) * haC
    calc (2 * (2 * S * C) - 3 * a * (C ^ 2 - S ^ 2)) ^ 2 * C ^ 2
        = ((2 * (2 * S * C) - 3 * a * (C ^ 2 - S ^ 2)) * C) ^ 2 := by ring
      _ = 16 * S ^ 6 := by rw [this]; ring
  rw [k1, k2] at hid
  linear_combination hid

/-- `m` is real: it is `n` for the formula branch of circles and `n_err` for arcs -/
theorem tanArm_piece_band (ctr : Point ℝ) (R α step m T : ℝ) (hm : 3999999 / 1000000 ≤ m)
    (hstep : |step| * m ≤ 2 * Real.pi) (hT : |R| * (11163 / 10000 / m ^ 6) ≤ T) {t : ℝ} (h0 : 0 ≤ t) (h1 : t ≤ 1) :
    let q := circleArcCubic ctr R (4 / 3 * Real.tan (step / 4)) α (α + step)
    |R| ≤ Real.sqrt (((q.eval t).x - ctr.x) ^ 2 + ((q.eval t).y - ctr.y) ^ 2) ∧
    Real.sqrt (((q.eval t).x - ctr.x) ^ 2 + ((q.eval t).y - ctr.y) ^ 2) ≤ |R| + T := by
  intro q
  have hx : |step / 4| * m ≤ Real.pi / 2 := by
    rw [abs_div, abs_of_pos (by norm_num : (0 : ℝ) < 4), div_mul_eq_mul_div]
    linear_combination (1 / 4) * hstep
  have h4 : step / 2 / 2 = step / 4 := by ring
  obtain ⟨hC, herr⟩ := tanArm_error_le hm hx
  obtain ⟨hs0, hs1⟩ := sigma_poly_range h0 h1
  -- the piece has mid angle `α + step/2` and half-angle `step/2`
  have hD := circleArcCubic_tan_dist_sq ctr R (α + step / 2) (step / 2) t (by rw [h4]; exact hC.ne')
  rw [add_sub_cancel_right, add_assoc, add_halves, h4] at hD
  have hE0 : 0 ≤ 16 * Real.sin (step / 4) ^ 6 / Real.cos (step / 4) ^ 2 := by positivity
  have hk0 : (0 : ℝ) ≤ 11163 / 10000 / m ^ 6 := by positivity
  obtain ⟨hin, hout⟩ := radial_band hD (mul_nonneg hE0 hs0) hk0
    ((mul_le_mul_of_nonneg_left hs1 hE0).trans (le_of_eq_of_le (by ring) herr))
  exact ⟨hin, hout.trans (by linear_combination hT)⟩

theorem circle_formula_piece_within (ctr : Point ℝ) (r T : ℝ) (n k : Nat) (hn : 4 ≤ n)
    (hT : |r| * (11163 / 10000 / (n : ℝ) ^ 6) ≤ T) {t : ℝ} (h0 : 0 ≤ t) (h1 : t ≤ 1) :
    let q := circleArcCubic ctr r (4 / 3 * Real.tan (Real.pi / 2 / n)) (circleAngle n k) (circleAngle n (k + 1))
    abs (Real.sqrt (((q.eval t).x - ctr.x) ^ 2 + ((q.eval t).y - ctr.y) ^ 2) - abs r) ≤ T := by
  dsimp only
  have hn4 : (4 : ℝ) ≤ n := by exact_mod_cast hn
  have hn0 : (0 : ℝ) < n := lt_of_lt_of_le (by norm_num) hn4
  rw [circleAngle_succ, show Real.pi / 2 / (n : ℝ) = 2 * Real.pi / n / 4 by ring]
  obtain ⟨hin, hout⟩ := tanArm_piece_band ctr r (circleAngle n k) (2 * Real.pi / n) n T (le_trans (by norm_num) hn4)
    (by rw [abs_of_nonneg (by positivity), div_mul_cancel₀ _ hn0.ne']) hT h0 h1
  exact abs_sub_le_of_band hin hout

theorem radius_bound_le_tol {r tol m : ℝ} (htol : 0 < tol) (hm : 0 < m)
    (h : 11163 / 10000 * (r / tol) ≤ m ^ 6) : r * (11163 / 10000 / m ^ 6) ≤ tol := by
  rw [show r * (11163 / 10000 / m ^ 6) = 11163 / 10000 * (r / tol) * tol / m ^ 6 by field_simp,
    div_le_iff₀ (pow_pos hm 6), mul_comm tol]
  exact mul_le_mul_of_nonneg_right h htol.le

end
end Kurbo
