import Proofs.Lemmas.C11EAgm
import Proofs.Lemmas.C11Real
/-! Helper lemmas for C11E: `agm_elliptic_perimeter` and `Ellipse::perimeter` around the loop (ordering of the radii,
    the normalised accuracy, the explicit pass bound `agmPassBound`, the branches of `perimeterFuel` as one equation). -/
set_option linter.unusedSectionVars false
namespace Kurbo
open Real

variable [Scalar ℝ] [LawfulScalar ℝ] [LawfulReal] [LawfulRealAngle]

/-- explicit bound on the number of passes of the loop of `agm_elliptic_perimeter(accuracy, (x, y))`, `x ≥ y > 0`:
    `max(1, ⌈log₂⌈c₀² / (acc'·g₀)⌉⌉)` with `g₀ = y/x`, `c₀² = 1 − g₀²`, `acc' = accuracy/(2πx)` -/
noncomputable def agmPassBound (accuracy x y : ℝ) : ℕ :=
  max (Nat.clog 2 ⌈(1 - (y / x) ^ 2) / (accuracy / (2 * π * x) * (y / x))⌉₊) 1

theorem agmPassBound_pos (accuracy x y : ℝ) : 1 ≤ agmPassBound accuracy x y := le_max_right _ _

theorem agmPassBound_spec {accuracy x y : ℝ} (hacc : 0 < accuracy) (hy : 0 < y) (hyx : y ≤ x) :
    (agmState x y).c ^ 2 ≤ 2 ^ agmPassBound accuracy x y * (accuracy / (2 * π * x) * (agmState x y).g) := by
  have hx : 0 < x := hy.trans_le hyx
  have hd : 0 < accuracy / (2 * π * x) * (y / x) := by have := Real.pi_pos; positivity
  rw [agmState_c_sq hy hyx, agmState_g, ← div_le_iff₀ hd]
  exact (Nat.le_ceil _).trans (by
    exact_mod_cast (Nat.le_pow_clog one_lt_two _).trans (Nat.pow_le_pow_right two_pos (le_max_left _ 1)))

theorem agmEllipticPerimeterFuel_eq (fuel : ℕ) (accuracy : ℝ) (r : Vec2 ℝ) :
    agmEllipticPerimeterFuel fuel accuracy r =
      (2 * π * max r.x r.y / (agmLoop (accuracy / (2 * π * max r.x r.y)) fuel 0 (agmState (max r.x r.y) (min r.x r.y))).1.a
          * (agmLoop (accuracy / (2 * π * max r.x r.y)) fuel 0 (agmState (max r.x r.y) (min r.x r.y))).1.sum,
        (agmLoop (accuracy / (2 * π * max r.x r.y)) fuel 0 (agmState (max r.x r.y) (min r.x r.y))).2) := by
  unfold agmEllipticPerimeterFuel
  simp only [scalar_norm, LawfulRealAngle.pi_eq, Nat.cast_ofNat]
  by_cases h : r.y ≤ r.x
  · rw [max_eq_left h, min_eq_right h, decide_eq_true h, if_pos rfl]
  · rw [max_eq_right (le_of_not_ge h), min_eq_left (le_of_not_ge h), decide_eq_false h, if_neg Bool.false_ne_true]

/-- the `!is_finite() → NaN` branch of `perimeterFuel` is not in the equation: `is_finite` is constantly true on a lawful scalar -/
theorem ellipse_perimeterFuel_eq (fuel : ℕ) (e : Ellipse ℝ) (accuracy : ℝ) :
    e.perimeterFuel fuel accuracy =
      if e.radii.x = 0 ∨ e.radii.y = 0 then (4 * max e.radii.x e.radii.y, 0)
      else if kummerEllipticPerimeterRange e.radii ≤ accuracy then (kummerEllipticPerimeter e.radii, 0)
      else agmEllipticPerimeterFuel fuel accuracy e.radii := by
  unfold Ellipse.perimeterFuel
  simp only [scalar_norm, Vec2.is_finite, MIsFinite.is_finite, Bool.and_self, Bool.not_true, Bool.false_eq_true, if_false,
    Bool.or_eq_true, decide_eq_true_eq, Nat.cast_zero, Nat.cast_ofNat]

theorem ellipse_radii_nonneg (e : Ellipse ℝ) : 0 ≤ e.radii.x ∧ 0 ≤ e.radii.y := by
  simp only [Ellipse.radii, Affine.svd, LawfulReal.sqrt_eq]
  exact ⟨Real.sqrt_nonneg _, Real.sqrt_nonneg _⟩

end Kurbo
