import Proofs.KDefs
import Proofs.Lemmas.C18S
import Proofs.Lemmas.C07
/-! helpers for `Proofs/C18T.lean` (the fall-back chains of `PathSeg::tangents`; the loop of `simplify_bezpath` skips a
    segment that is a single point) -/
namespace Kurbo
open Kurbo.Ops in
/-- `PathSeg::tangents` as it was before the repair (commit f4732a0 of the crate): the last fall-back is always the chord.
    Only used to state that the repair changes nothing on segments whose end points differ. -/
def PathSeg.tangentsOld {K : Type} [Scalar K] (s : PathSeg K) : Vec2 K × Vec2 K :=
  let eps : K := Scalar.ofRat (1/1000000000000)
  match s with
  | .Line l =>
    let d := l.p1 - l.p0
    (d, d)
  | .Quad q =>
    let d01 := q.p1 - q.p0
    let d0 := if eps <. d01.hypot2 then d01 else q.p2 - q.p0
    let d12 := q.p2 - q.p1
    let d1 := if eps <. d12.hypot2 then d12 else q.p2 - q.p0
    (d0, d1)
  | .Cubic c =>
    let d01 := c.p1 - c.p0
    let d0 := if eps <. d01.hypot2 then d01 else
      let d02 := c.p2 - c.p0
      if eps <. d02.hypot2 then d02 else c.p3 - c.p0
    let d23 := c.p3 - c.p2
    let d1 := if eps <. d23.hypot2 then d23 else
      let d13 := c.p3 - c.p1
      if eps <. d13.hypot2 then d13 else c.p3 - c.p0
    (d0, d1)

def PathSeg.IsPoint {K : Type} : PathSeg K → Prop
  | .Line l => l.p1 = l.p0
  | .Quad q => q.p1 = q.p0 ∧ q.p2 = q.p0
  | .Cubic c => c.p1 = c.p0 ∧ c.p2 = c.p0 ∧ c.p3 = c.p0

section lawful
variable {K : Type} [Field K] [LinearOrder K] [IsStrictOrderedRing K] [FloorRing K] [Scalar K] [LawfulScalar K]

theorem c18t_isZero_iff (v : Vec2 K) : v.isZero = true ↔ v = ⟨0, 0⟩ := by
  cases v
  simp only [Vec2.isZero, scalar_norm, Bool.and_eq_true, decide_eq_true_eq, Vec2.mk.injEq, Nat.cast_zero]

theorem c18t_isZero_false_iff (v : Vec2 K) : v.isZero = false ↔ v ≠ ⟨0, 0⟩ := by
  rw [Ne, ← c18t_isZero_iff, Bool.not_eq_true]

theorem c18t_ne_zero_of_eps_lt {eps : K} (he : 0 ≤ eps) (v : Vec2 K) (h : Scalar.lt eps v.hypot2 = true) :
    v ≠ ⟨0, 0⟩ := by
  rintro rfl
  simp only [kdefs, scalar_norm, decide_eq_true_eq, mul_zero, add_zero] at h
  exact absurd h (not_lt.mpr he)

/-- `EPS = 1e-12` of `PathSeg::tangents` -/
theorem c18t_eps_nonneg : (0 : K) ≤ Scalar.ofRat (1/1000000000000) := by
  rw [sn_ofRat]; push_cast; positivity

theorem c18t_point_sub_eq_zero (a b : Point K) : (a - b : Vec2 K) = ⟨0, 0⟩ ↔ a = b := by
  cases a; cases b
  simp only [kdefs, scalar_norm, Vec2.mk.injEq, Point.mk.injEq, sub_eq_zero]

/-- a guarded choice whose guard excludes the value `z` for the alternative it guards -/
theorem c18t_ite_eq_iff {α : Type} {p : Prop} [Decidable p] {x y z : α} (hp : p → x ≠ z) :
    (if p then x else y) = z ↔ ¬ p ∧ y = z := by
  by_cases h : p
  · rw [if_pos h]; exact ⟨fun e => absurd e (hp h), fun e => absurd h e.1⟩
  · rw [if_neg h]; exact ⟨fun e => ⟨h, e⟩, fun e => e.2⟩

theorem c18t_quadPick {eps : K} (he : 0 ≤ eps) (a c : Vec2 K) :
    (if (Scalar.lt eps a.hypot2 || c.isZero) = true then a else c) = ⟨0, 0⟩
      ↔ a = ⟨0, 0⟩ ∧ c = ⟨0, 0⟩ := by
  by_cases hc : c = ⟨0, 0⟩
  · rw [if_pos (by rw [(c18t_isZero_iff c).2 hc, Bool.or_true]), and_iff_left hc]
  · -- `c.isZero` is false, so the guard is `eps < |a|²`
    rw [c18t_ite_eq_iff fun h => c18t_ne_zero_of_eps_lt he a (by rwa [(c18t_isZero_false_iff c).2 hc, Bool.or_false] at h)]
    exact ⟨fun h => absurd h.2 hc, fun h => absurd h.2 hc⟩

theorem c18t_not_isZero_iff (v : Vec2 K) : (!v.isZero) = true ↔ v ≠ ⟨0, 0⟩ := by
  rw [Bool.not_eq_true', c18t_isZero_false_iff]

theorem c18t_cubicPick {eps : K} (he : 0 ≤ eps) (a b c : Vec2 K) :
    (if Scalar.lt eps a.hypot2 = true then a
      else if Scalar.lt eps b.hypot2 = true then b
      else if (!c.isZero) = true then c
      else if (!a.isZero) = true then a
      else b) = ⟨0, 0⟩
      ↔ a = ⟨0, 0⟩ ∧ b = ⟨0, 0⟩ ∧ c = ⟨0, 0⟩ := by
  -- each of the four guards excludes zero for the vector it guards
  rw [c18t_ite_eq_iff (c18t_ne_zero_of_eps_lt he a), c18t_ite_eq_iff (c18t_ne_zero_of_eps_lt he b),
    c18t_ite_eq_iff (c18t_not_isZero_iff c).1, c18t_ite_eq_iff (c18t_not_isZero_iff a).1,
    c18t_not_isZero_iff, c18t_not_isZero_iff, not_ne_iff, not_ne_iff]
  constructor
  · rintro ⟨_, _, hc, ha, hb⟩
    exact ⟨ha, hb, hc⟩
  · rintro ⟨rfl, rfl, rfl⟩
    exact ⟨fun h => c18t_ne_zero_of_eps_lt he _ h rfl, fun h => c18t_ne_zero_of_eps_lt he _ h rfl, rfl, rfl, rfl⟩

end lawful

theorem c18t_elSeg_of_isPoint {K : Type} [Scalar K] [LawfulPeq K] (s : PathSeg K) (h : s.IsPoint) :
    simpElSeg s.start s.drawEl = none := by
  cases s <;> simp only [PathSeg.IsPoint] at h <;>
    simp [simpElSeg, PathSeg.drawEl, PathSeg.start, Line.start, QuadBez.start, CubicBez.start, h]

end Kurbo
