import Proofs.Lemmas.C04Geom
import Proofs.Lemmas.RealLaws
/-! `C04HypotLaw` is inhabited: ℝ with `hypot x y = √(x·x + y·y)` (`realScalar` of `Lemmas/RealLaws.lean`). -/
namespace Kurbo

theorem c04_realScalar_hypotLaw : @C04HypotLaw ℝ _ _ realScalar :=
  letI := realScalar
  { hypot_nonneg := fun x y => Real.sqrt_nonneg _
    hypot_mul_self := fun x y => by
      show Real.sqrt (x * x + y * y) * Real.sqrt (x * x + y * y) = x * x + y * y
      exact Real.mul_self_sqrt (add_nonneg (mul_self_nonneg x) (mul_self_nonneg y)) }

/-- the hypotheses "lawful scalar with a lawful `hypot`" of the geometric theorems of C04 are satisfiable -/
theorem c04_exReal : ∃ (_ : Scalar ℝ) (_ : LawfulScalar ℝ), C04HypotLaw ℝ :=
  ⟨realScalar, realScalar_lawful, c04_realScalar_hypotLaw⟩

end Kurbo
