import Proofs.Lemmas.C03Q
import Proofs.Lemmas.C03QKink
/-! Example data for `Proofs/C03Q.lean` (non-vacuity of the hypotheses). -/
namespace Kurbo

/-- an arch, in branch (2) -/
def c03q_exArch : QuadBez ℝ := ⟨⟨0, 0⟩, ⟨1, 2⟩, ⟨3, 0⟩⟩
/-- collinear control points with a cusp at `t = 2/3` (branch (3)): the point runs from 0 to 4/3 and back to 1, length 5/3 -/
def c03q_exCusp : QuadBez ℝ := ⟨⟨0, 0⟩, ⟨2, 0⟩, ⟨1, 0⟩⟩
/-- a uniformly parametrised straight segment -/
def c03q_exLine : QuadBez ℝ := ⟨⟨1, 1⟩, ⟨2, 3⟩, ⟨3, 5⟩⟩
/-- the same from the origin -/
def c03q_exLine0 : QuadBez ℝ := ⟨⟨0, 0⟩, ⟨1, 2⟩, ⟨2, 4⟩⟩

theorem c03q_exArch_coeffs : c03q_A c03q_exArch = 17 ∧ c03q_B c03q_exArch = -14 ∧ c03q_C c03q_exArch = 5 := by
  unfold c03q_A c03q_B c03q_C c03q_exArch
  norm_num

theorem c03q_exCusp_coeffs : c03q_A c03q_exCusp = 9 ∧ c03q_B c03q_exCusp = -12 ∧ c03q_C c03q_exCusp = 4 := by
  unfold c03q_A c03q_B c03q_C c03q_exCusp
  norm_num

theorem c03q_sqrt_four : √(4:ℝ) = 2 := (Real.sqrt_eq_iff_mul_self_eq_of_pos two_pos).2 (by norm_num)

theorem c03q_exArch_branch2 :
    ¬ c03q_A c03q_exArch ≤ 5 / 10000 * c03q_C c03q_exArch ∧
    ¬ c03q_bac2 (c03q_A c03q_exArch) (c03q_B c03q_exArch) (c03q_C c03q_exArch)
        ≤ 1 / 10000000000000 * (2 * √(c03q_C c03q_exArch)) := by
  obtain ⟨hA, hB, hC⟩ := c03q_exArch_coeffs
  rw [hA, hB, hC]
  refine ⟨by norm_num, ?_⟩
  unfold c03q_bac2
  have h5 : (22 / 10 : ℝ) < √5 := by rw [Real.lt_sqrt (by norm_num)]; norm_num
  have h5' : √(5:ℝ) < 3 := by rw [Real.sqrt_lt' (by norm_num)]; norm_num
  have h17 : (4 : ℝ) < √17 := by rw [Real.lt_sqrt (by norm_num)]; norm_num
  have hi : (√(17:ℝ))⁻¹ < 4⁻¹ := (inv_lt_inv₀ (by linarith) (by norm_num)).mpr h17
  intro h
  linarith

theorem c03q_exCusp_branch3 :
    ¬ c03q_A c03q_exCusp ≤ 5 / 10000 * c03q_C c03q_exCusp ∧
    c03q_bac2 (c03q_A c03q_exCusp) (c03q_B c03q_exCusp) (c03q_C c03q_exCusp)
        ≤ 1 / 10000000000000 * (2 * √(c03q_C c03q_exCusp)) ∧
    4 * c03q_A c03q_exCusp * c03q_C c03q_exCusp = c03q_B c03q_exCusp ^ 2 := by
  obtain ⟨hA, hB, hC⟩ := c03q_exCusp_coeffs
  rw [hA, hB, hC]
  refine ⟨by norm_num, ?_, by norm_num⟩
  unfold c03q_bac2
  rw [(Real.sqrt_eq_iff_mul_self_eq_of_pos three_pos).2 (by norm_num : (3:ℝ) * 3 = 9), c03q_sqrt_four]
  norm_num

/-- a near-cusp: `d1 = (1,0)`, `d2 = (21/20)·(−(n²−1), 2n)/(n²+1)` with `n = 5·10⁶` (a Pythagorean direction at angle `≈ 4e-7` from
    `−d1`), i.e. `p0 = (0,0), p1 = (1,0), p2 = (2,0) + d2`; true length `≈ 0.954761904766` -/
noncomputable def c03q_exNearCusp : QuadBez ℝ :=
  ⟨⟨0, 0⟩, ⟨1, 0⟩, ⟨475000000000061 / 500000000000020, 10500000 / 25000000000001⟩⟩

theorem c03q_exNearCusp_coeffs : c03q_A c03q_exNearCusp = 441 / 400 ∧
    c03q_B c03q_exNearCusp = -(21 / 10) * (24999999999999 / 25000000000001) ∧ c03q_C c03q_exNearCusp = 1 := by
  unfold c03q_A c03q_B c03q_C c03q_exNearCusp
  norm_num

theorem c03q_exNearCusp_branch3 :
    ¬ c03q_A c03q_exNearCusp ≤ 5 / 10000 * c03q_C c03q_exNearCusp ∧
    c03q_bac2 (c03q_A c03q_exNearCusp) (c03q_B c03q_exNearCusp) (c03q_C c03q_exNearCusp)
        ≤ 1 / 10000000000000 * (2 * √(c03q_C c03q_exNearCusp)) ∧
    (4 : ℝ) / 1000000000000
      ≤ c03q_logpart (c03q_A c03q_exNearCusp) (c03q_B c03q_exNearCusp) (c03q_C c03q_exNearCusp) := by
  obtain ⟨hA, hB, hC⟩ := c03q_exNearCusp_coeffs
  rw [hA, hB, hC, c03q_logpart_nearCusp.1, Real.sqrt_one]
  exact ⟨by norm_num, by norm_num, c03q_logpart_nearCusp.2⟩

end Kurbo
