import Proofs.Lemmas.C08Ext
import Proofs.C06
/-! C08 helpers, any lawful scalar: the convex-hull bound that the de Casteljau form of `eval` gives; what `extrema`
    lists, for every kind of segment; `bounding_box` as a fold over `extrema`, which touches the arc. -/
set_option linter.unusedSectionVars false
namespace Kurbo
variable {K : Type} [Field K] [LinearOrder K] [IsStrictOrderedRing K] [FloorRing K] [Scalar K] [LawfulScalar K]

theorem Rect.containsClosed_iff_Icc (r : Rect K) (p : Point K) :
    r.ContainsClosed p ↔ p.x ∈ Set.Icc r.x0 r.x1 ∧ p.y ∈ Set.Icc r.y0 r.y1 := and_assoc.symm

theorem lerp_in_box {r : Rect K} {p q : Point K} (hp : r.ContainsClosed p) (hq : r.ContainsClosed q)
    {t : K} (ht0 : 0 ≤ t) (ht1 : t ≤ 1) : r.ContainsClosed (p.lerp q t) := by
  rw [Rect.containsClosed_iff_Icc] at hp hq ⊢
  rw [Point.lerp_eq]
  exact ⟨lerp_mem_Icc ht0 ht1 hp.1 hq.1, lerp_mem_Icc ht0 ht1 hp.2 hq.2⟩

/-- the control points of a segment (specification vocabulary) -/
def PathSeg.controlPoints {K : Type} : PathSeg K → List (Point K)
  | .Line l => [l.p0, l.p1]
  | .Quad q => [q.p0, q.p1, q.p2]
  | .Cubic c => [c.p0, c.p1, c.p2, c.p3]

@[simp] theorem PathSeg.controlPoints_line {K : Type} (l : Kurbo.Line K) :
    (PathSeg.Line l).controlPoints = [l.p0, l.p1] := rfl

@[simp] theorem PathSeg.controlPoints_quad {K : Type} (q : QuadBez K) :
    (PathSeg.Quad q).controlPoints = [q.p0, q.p1, q.p2] := rfl

@[simp] theorem PathSeg.controlPoints_cubic {K : Type} (c : CubicBez K) :
    (PathSeg.Cubic c).controlPoints = [c.p0, c.p1, c.p2, c.p3] := rfl

theorem PathSeg.mem_controlPoints_line {K : Type} {l : Kurbo.Line K} {p : Point K} :
    p ∈ (PathSeg.Line l).controlPoints ↔ p = l.p0 ∨ p = l.p1 := by simp

theorem PathSeg.mem_controlPoints_quad {K : Type} {q : QuadBez K} {p : Point K} :
    p ∈ (PathSeg.Quad q).controlPoints ↔ p = q.p0 ∨ p = q.p1 ∨ p = q.p2 := by simp

theorem PathSeg.mem_controlPoints_cubic {K : Type} {c : CubicBez K} {p : Point K} :
    p ∈ (PathSeg.Cubic c).controlPoints ↔ p = c.p0 ∨ p = c.p1 ∨ p = c.p2 ∨ p = c.p3 := by simp

theorem seg_eval_closed {P : Point K → Prop} {t : K} (hP : ∀ p q, P p → P q → P (p.lerp q t))
    (s : PathSeg K) (h : ∀ p ∈ s.controlPoints, P p) : P (s.eval t) := by
  cases s with
  | Line l => exact hP _ _ (h _ (by simp)) (h _ (by simp))
  | Quad q => exact quad_eval_closed hP q (h _ (by simp)) (h _ (by simp)) (h _ (by simp))
  | Cubic c => exact cubic_eval_closed hP c (h _ (by simp)) (h _ (by simp)) (h _ (by simp)) (h _ (by simp))

/-- `l` lists the zeros of `p` inside `(0,1)`, and nothing if `p` vanishes identically: what `QuadBez::extrema` and
    `one_coord` compute for one coordinate -/
def ListsCrit (p : K → K) (l : List K) : Prop := ∀ t, t ∈ l ↔ 0 < t ∧ t < 1 ∧ p t = 0 ∧ ∃ u, p u ≠ 0

theorem ListsCrit.nil_const (k : K) : ListsCrit (fun _ => k) [] :=
  fun _ => iff_of_false List.not_mem_nil fun ⟨_, _, hz, _, hu⟩ => hu hz

theorem ListsCrit.smul {p q : K → K} {l : List K} (h : ListsCrit p l) {k : K} (hk : k ≠ 0) (e : ∀ t, q t = k * p t) :
    ListsCrit q l := fun t => by
  simp only [h t, e, mul_eq_zero, hk, false_or, ne_eq]

theorem ListsCrit.or {p q : K → K} {l lx ly : List K} (hm : ∀ t, t ∈ l ↔ t ∈ lx ∨ t ∈ ly) (hx : ListsCrit p lx)
    (hy : ListsCrit q ly) (t : K) :
    t ∈ l ↔ 0 < t ∧ t < 1 ∧ ((p t = 0 ∧ ∃ u, p u ≠ 0) ∨ (q t = 0 ∧ ∃ u, q u ≠ 0)) := by
  rw [hm, hx t, hy t, ← and_or_left, ← and_or_left]

theorem unitRoot_listsCrit (d0 dd : K) : ListsCrit (fun t => d0 + t * dd) (unitRoot d0 dd) := by
  intro t
  rw [mem_unitRoot]
  constructor
  · rintro ⟨hdd, h0, h1, ht⟩
    have hz : d0 + t * dd = 0 := (affine_root_iff d0 dd t hdd).mpr ht
    exact ⟨h0, h1, hz, t + 1, by
      show d0 + (t + 1) * dd ≠ 0
      rw [add_mul, ← add_assoc, hz, zero_add, one_mul]; exact hdd⟩
  · rintro ⟨h0, h1, hz, u, hu⟩
    have hdd : dd ≠ 0 := by
      rintro rfl
      simp only [mul_zero, add_zero] at hz hu
      exact hu hz
    exact ⟨hdd, h0, h1, (affine_root_iff d0 dd t hdd).mp hz⟩

theorem cubicOneCoord_listsCrit (S : QuadSolverSpec K) (d0 d1 d2 : K) :
    ListsCrit (fun t => d0 + 2 * (d1 - d0) * t + (d0 - 2 * d1 + d2) * t ^ 2) (cubicOneCoord d0 d1 d2) := by
  intro t
  have hpoly : (∃ u, d0 + 2 * (d1 - d0) * u + (d0 - 2 * d1 + d2) * u ^ 2 ≠ 0) ↔
      ¬ (d0 = 0 ∧ 2 * (d1 - d0) = 0 ∧ d0 - 2 * d1 + d2 = 0) := by
    constructor
    · rintro ⟨u, hu⟩ ⟨h0, h1, h2⟩
      exact hu (by rw [h2, h1, h0]; ring)
    · intro hnz
      by_contra hall
      simp only [not_exists, not_not] at hall
      exact hnz (quadpoly_zero _ _ _ hall)
  rw [hpoly]
  constructor
  · intro h
    have hnz := cubicOneCoord_nonzero S d0 d1 d2 t h
    obtain ⟨⟨h0, h1⟩, hz⟩ := (cubicOneCoord_mem_iff S d0 d1 d2 t hnz).mp h
    exact ⟨h0, h1, hz, hnz⟩
  · rintro ⟨h0, h1, hz, hnz⟩
    exact (cubicOneCoord_mem_iff S d0 d1 d2 t hnz).mpr ⟨⟨h0, h1⟩, hz⟩

def PathSeg.vel : PathSeg K → K → Point K
  | .Line l => fun _ => ⟨l.p1.x - l.p0.x, l.p1.y - l.p0.y⟩
  | .Quad q => fun t => q.deriv.eval t
  | .Cubic c => fun t => c.deriv.eval t

/-- what `extrema` returns, for every kind of segment; `S` is asked of cubics only, the others do not go through
    `solveQuadratic` -/
theorem seg_mem_extrema (s : PathSeg K) (S : (∃ c, s = .Cubic c) → QuadSolverSpec K) (t : K) :
    t ∈ s.extrema ↔ 0 < t ∧ t < 1 ∧
      (((s.vel t).x = 0 ∧ ∃ u, (s.vel u).x ≠ 0) ∨ ((s.vel t).y = 0 ∧ ∃ u, (s.vel u).y ≠ 0)) := by
  cases s with
  | Line l => exact ListsCrit.or (lx := []) (ly := []) (by simp [PathSeg.extrema]) (.nil_const _) (.nil_const _) t
  | Quad q =>
    exact ListsCrit.or (mem_quad_extrema q)
      ((unitRoot_listsCrit _ _).smul two_ne_zero fun u => (quad_deriv_eval q u).1)
      ((unitRoot_listsCrit _ _).smul two_ne_zero fun u => (quad_deriv_eval q u).2) t
  | Cubic c =>
    have S := S ⟨c, rfl⟩
    exact ListsCrit.or (mem_cubic_extrema c)
      ((cubicOneCoord_listsCrit S _ _ _).smul three_ne_zero fun u => (cubic_deriv_eval c u).1)
      ((cubicOneCoord_listsCrit S _ _ _).smul three_ne_zero fun u => (cubic_deriv_eval c u).2) t

theorem seg_crit (s : PathSeg K) (S : (∃ c, s = .Cubic c) → QuadSolverSpec K) :
    (∀ t, 0 < t → t < 1 → (s.vel t).x = 0 → t ∈ s.extrema ∨ ∀ u, (s.vel u).x = 0) ∧
    (∀ t, 0 < t → t < 1 → (s.vel t).y = 0 → t ∈ s.extrema ∨ ∀ u, (s.vel u).y = 0) := by
  constructor <;> intro t h0 h1 hz
  · by_cases hall : ∀ u, (s.vel u).x = 0
    · exact Or.inr hall
    · exact Or.inl ((seg_mem_extrema s S t).mpr ⟨h0, h1, Or.inl ⟨hz, not_forall.mp hall⟩⟩)
  · by_cases hall : ∀ u, (s.vel u).y = 0
    · exact Or.inr hall
    · exact Or.inl ((seg_mem_extrema s S t).mpr ⟨h0, h1, Or.inr ⟨hz, not_forall.mp hall⟩⟩)

theorem seg_eval_zero_one (s : PathSeg K) : s.eval 0 = s.start ∧ s.eval 1 = s.end := by
  cases s with
  | Line l => exact line_eval_zero_one l
  | Quad q => exact quad_eval_zero_one q
  | Cubic c => exact cubic_eval_zero_one c

theorem seg_bounding_box_eq (s : PathSeg K) :
    s.bounding_box = s.extrema.foldl (fun bb t => bb.union_pt (s.eval t)) (Rect.from_points (s.eval 0) (s.eval 1)) := by
  rw [(seg_eval_zero_one s).1, (seg_eval_zero_one s).2]
  rfl

theorem seg_extrema_unit (s : PathSeg K) (t : K) (h : t ∈ s.extrema) : 0 < t ∧ t < 1 := by
  cases s with
  | Line l => simp [PathSeg.extrema] at h
  | Quad q =>
    simp only [PathSeg.extrema] at h
    rw [mem_quad_extrema] at h
    rcases h with h | h <;> (rw [mem_unitRoot] at h; exact ⟨h.2.1, h.2.2.1⟩)
  | Cubic c =>
    simp only [PathSeg.extrema] at h
    rw [mem_cubic_extrema] at h
    rcases h with h | h <;> exact cubicOneCoord_unit _ _ _ t h

theorem seg_bounding_box_touches (s : PathSeg K) :
    s.bounding_box.Touches (fun z => ∃ t, 0 ≤ t ∧ t ≤ 1 ∧ s.eval t = z) := by
  rw [seg_bounding_box_eq]
  exact Rect.Touches.foldl_union_pt _ _
    (Rect.touches_from_points ⟨0, le_rfl, zero_le_one, rfl⟩ ⟨1, zero_le_one, le_rfl, rfl⟩)
    fun t ht => ⟨t, (seg_extrema_unit s t ht).1.le, (seg_extrema_unit s t ht).2.le, rfl⟩

end Kurbo
