import Proofs.Lemmas.Angle
import Mathlib.Analysis.SpecialFunctions.Sqrt
import Mathlib.Tactic.FieldSimp
/-! C16A helpers: the real algebra behind `Arc::from_svg_arc` (SVG implementation notes F.6.5), independent of the model:
    the centre in the frame of the axes, and `start_v`, `end_v` as unit complex numbers with their cross product.  Everything
    is over ℝ with Mathlib's `√` and `Complex.arg`; the angle arithmetic is in `Angle.lean`. -/
namespace Kurbo.SvgArcR
open Real

/-- `sum_of_sq` of the code; `sumSq / (rx·ry)²` is `px²/rx² + py²/ry²` -/
def sumSq (px py rx ry : ℝ) : ℝ := (rx * py) * (rx * py) + (ry * px) * (ry * px)

/-- `coe` of F.6.5.2, in the shape the code computes it -/
noncomputable def coe (la sw : Bool) (px py rx ry : ℝ) : ℝ :=
  (if (la == sw) = true then -1 else 1) * √|((rx * ry) * (rx * ry) - sumSq px py rx ry) / sumSq px py rx ry|

/-- centre in the frame of the ellipse axes (`transformed_cx`, `transformed_cy`) -/
noncomputable def tcx (la sw : Bool) (px py rx ry : ℝ) : ℝ := coe la sw px py rx ry * (rx * py) / ry
noncomputable def tcy (la sw : Bool) (px py rx ry : ℝ) : ℝ := -coe la sw px py rx ry * (ry * px) / rx

/-- `start_v`, `end_v` as complex numbers (`atan2 y x = arg (x + iy)`) -/
noncomputable def startV (la sw : Bool) (px py rx ry : ℝ) : ℂ :=
  ⟨(px - tcx la sw px py rx ry) / rx, (py - tcy la sw px py rx ry) / ry⟩
noncomputable def endV (la sw : Bool) (px py rx ry : ℝ) : ℂ :=
  ⟨(-px - tcx la sw px py rx ry) / rx, (-py - tcy la sw px py rx ry) / ry⟩

noncomputable def sweepAngle (la sw : Bool) (px py rx ry : ℝ) : ℝ :=
  svgSweep sw (startV la sw px py rx ry) (endV la sw px py rx ry)

/-- what F.6.5 assumes once the radii are sanitized -/
structure Fits (px py rx ry : ℝ) : Prop where
  rx_pos : 0 < rx
  ry_pos : 0 < ry
  p_ne : px ≠ 0 ∨ py ≠ 0
  le : sumSq px py rx ry ≤ (rx * ry) * (rx * ry)

section algebra
variable {la sw : Bool} {px py rx ry : ℝ}

theorem Fits.sumSq_pos (h : Fits px py rx ry) : 0 < sumSq px py rx ry := by
  rcases h.p_ne with h0 | h0
  · exact add_pos_of_nonneg_of_pos (mul_self_nonneg _) (mul_self_pos.mpr (mul_ne_zero h.ry_pos.ne' h0))
  · exact add_pos_of_pos_of_nonneg (mul_self_pos.mpr (mul_ne_zero h.rx_pos.ne' h0)) (mul_self_nonneg _)

theorem Fits.rxry_sq_pos (h : Fits px py rx ry) : 0 < (rx * ry) * (rx * ry) :=
  mul_self_pos.mpr (mul_pos h.rx_pos h.ry_pos).ne'

theorem Fits.coe_sq_mul (h : Fits px py rx ry) :
    coe la sw px py rx ry ^ 2 * sumSq px py rx ry = (rx * ry) * (rx * ry) - sumSq px py rx ry := by
  have hS := h.sumSq_pos
  have hq : 0 ≤ ((rx * ry) * (rx * ry) - sumSq px py rx ry) / sumSq px py rx ry :=
    div_nonneg (sub_nonneg.mpr h.le) hS.le
  have hsg : (if (la == sw) = true then (-1 : ℝ) else 1) ^ 2 = 1 := by split_ifs <;> norm_num
  rw [coe, abs_of_nonneg hq, mul_pow, Real.sq_sqrt hq, hsg, one_mul, div_mul_cancel₀ _ hS.ne']

/-- `S = (rx·ry)²`: the radii were scaled up, or fit exactly -/
theorem Fits.coe_eq_zero_iff (h : Fits px py rx ry) :
    coe la sw px py rx ry = 0 ↔ sumSq px py rx ry = (rx * ry) * (rx * ry) := by
  have hk := h.coe_sq_mul (la := la) (sw := sw)
  constructor
  · intro h0
    rw [h0, zero_pow two_ne_zero, zero_mul] at hk
    exact (sub_eq_zero.mp hk.symm).symm
  · intro h0
    rw [h0, sub_self, ← h0] at hk
    exact pow_eq_zero_iff two_ne_zero |>.mp ((mul_eq_zero.mp hk).resolve_right h.sumSq_pos.ne')

theorem Fits.tc_eq_zero_iff (h : Fits px py rx ry) :
    tcx la sw px py rx ry = 0 ∧ tcy la sw px py rx ry = 0 ↔ coe la sw px py rx ry = 0 := by
  unfold tcx tcy
  constructor
  · rintro ⟨h1, h2⟩
    rw [div_eq_zero_iff, or_iff_left h.ry_pos.ne', mul_eq_zero] at h1
    rw [div_eq_zero_iff, or_iff_left h.rx_pos.ne', mul_eq_zero, neg_eq_zero] at h2
    rcases h.p_ne with h0 | h0
    · exact h2.resolve_right (mul_ne_zero h.ry_pos.ne' h0)
    · exact h1.resolve_right (mul_ne_zero h.rx_pos.ne' h0)
  · intro hk
    rw [hk, zero_mul, zero_div, neg_zero, zero_mul, zero_div]
    exact ⟨rfl, rfl⟩

/-- `ε = 1`: `start_v`, `ε = −1`: `end_v`; `(ε² + coe²)·sum_of_sq = (rx·ry)²` -/
theorem Fits.unitV (h : Fits px py rx ry) {ε : ℝ} (hε : ε ^ 2 = 1) :
    ((ε * px - tcx la sw px py rx ry) / rx) ^ 2 + ((ε * py - tcy la sw px py rx ry) / ry) ^ 2 = 1 := by
  have hk := h.coe_sq_mul (la := la) (sw := sw)
  simp only [tcx, tcy]
  unfold sumSq at hk
  set k := coe la sw px py rx ry
  have hrx := h.rx_pos.ne'; have hry := h.ry_pos.ne'
  field_simp
  linear_combination hk + ((rx * py) ^ 2 + (ry * px) ^ 2) * hε

theorem Fits.startV_norm (h : Fits px py rx ry) : ‖startV la sw px py rx ry‖ = 1 := by
  have := h.unitV (la := la) (sw := sw) (ε := 1) (one_pow 2)
  rw [one_mul, one_mul] at this
  exact norm_eq_one_of_sq this

theorem Fits.endV_norm (h : Fits px py rx ry) : ‖endV la sw px py rx ry‖ = 1 := by
  have := h.unitV (la := la) (sw := sw) (ε := -1) (by norm_num)
  rw [neg_one_mul, neg_one_mul] at this
  exact norm_eq_one_of_sq this

theorem cross_eq (hrx : rx ≠ 0) (hry : ry ≠ 0) :
    (startV la sw px py rx ry).re * (endV la sw px py rx ry).im - (startV la sw px py rx ry).im * (endV la sw px py rx ry).re
      = 2 * coe la sw px py rx ry * sumSq px py rx ry / ((rx * ry) * (rx * ry)) := by
  simp only [startV, endV, tcx, tcy, sumSq]
  set k := coe la sw px py rx ry
  field_simp
  ring

theorem Fits.startV_ne_endV (h : Fits px py rx ry) : startV la sw px py rx ry ≠ endV la sw px py rx ry := by
  intro e
  have h1 := congrArg Complex.re e
  have h2 := congrArg Complex.im e
  simp only [startV, endV] at h1 h2
  rw [div_left_inj' h.rx_pos.ne', sub_left_inj, self_eq_neg] at h1
  rw [div_left_inj' h.ry_pos.ne', sub_left_inj, self_eq_neg] at h2
  exact h.p_ne.elim (fun h0 => h0 h1) (fun h0 => h0 h2)

end algebra

end Kurbo.SvgArcR
