import Proofs.Lemmas.C13BFrame
import Proofs.Lemmas.C13Real
/-! C13B: `dash` does return on a closed sub-path (forward execution of a two-vertex closed path that lies inside the first
    dash, for every lawful scalar), and the witness over ℝ for the hypotheses of the theorems of `Proofs/C13B.lean`. -/
namespace Kurbo
open DashSpec
variable {K : Type} [Field K] [LinearOrder K] [IsStrictOrderedRing K] [FloorRing K] [Scalar K] [LawfulScalar K]

/-- **A closed two-vertex sub-path inside the first dash**: `M p0 L q Z` (`q ≠ p0`) with the pattern on at the offset and
    the first dash at least as long as `|p0 q| + |q p0|` is returned as `M p0, L q, L p0, Z` (the whole sub-path with its
    closing line, `ClosePath` last) – and `dash` does return (no fuel or budget problem), for every lawful scalar. -/
theorem c13b_dash_closed_short (p0 q : Point K) (off : K) (dashes : Array K) (budget : Nat) (it : DashIt K)
    (hit : dashImpl [.MoveTo p0, .LineTo q, .ClosePath] off dashes = some it) (hn : 0 < dashes.size) (hne : q ≠ p0)
    (hact : it.is_active = true) (hge1 : ¬ it.dash_remaining < (Line.mk p0 q).arclen 0)
    (hge2 : ¬ it.dash_remaining - (Line.mk p0 q).arclen 0 < (Line.mk q p0).arclen 0) (hb : 5 ≤ budget) :
    dash [.MoveTo p0, .LineTo q, .ClosePath] off dashes budget = .ok [.MoveTo p0, .LineTo q, .LineTo p0, .ClosePath] := by
  have hbt := dashImpl_built hit hn
  have hact' : it.init_is_active = true := hbt.phase.2.2.symm.trans hact
  rw [hbt.phase.2.1] at hge1 hge2
  obtain ⟨n, rfl⟩ : ∃ n, budget = n + 1 := ⟨budget - 1, by omega⟩
  -- `MoveTo p0`, then the first segment: `LineTo q` goes to the stash and the closing line is loaded; then the closing
  -- line: `LineTo p0` goes to the stash, then `ClosePath`; then playback, and the input is at its end
  have hrun := RunN.silent (next_start it p0 q [.ClosePath] hbt.state hbt.done hbt.cp hbt.stash hbt.inner) <|
    RunN.silent (next_startOn it p0 q [.ClosePath] hbt.stash hact') <|
    RunN.silent (fun fuel => by
      rw [next_stash_end (it.startOn p0 q [.ClosePath]) ⟨p0, q⟩ rfl rfl (stash_push_isEmpty _ _) hact' hge1,
        c13b_get_input_close_ne ((it.startOn p0 q [.ClosePath]).stashEnd q) [] hbt.cp rfl hne]) <|
    RunN.silent (fun fuel => by
      rw [next_stash_end (((it.startOn p0 q [.ClosePath]).stashEnd q).c13b_loadClose []) ⟨q, p0⟩ rfl rfl
          (stash_push_isEmpty _ _) hact' hge2,
        c13b_get_input_pending _ rfl, c13b_handle_toStash _ rfl]) <|
    RunN.replay_cp (s := ((((it.startOn p0 q [.ClosePath]).stashEnd q).c13b_loadClose []).stashEnd p0).c13b_closedS)
      (L := [.MoveTo p0, .LineTo q, .LineTo p0, .ClosePath]) rfl hbt.done rfl (by
        show List.drop it.stash_ix ((((it.stash.push _).push _).push _).push _).toList = _
        rw [hbt.stash, hbt.stash_ix]
        rfl)
  unfold dash
  rw [hit]
  show dashCollect (n + 1) it [] = _
  rw [dashCollect_succ]
  exact hrun.returns (c13b_stops_end _ rfl hbt.done rfl rfl) [] (Nat.le_of_succ_le_succ hb)
    (show 9 < 100000 by decide) (Nat.le_refl _)

/-- `dash` returns on a closed sub-path over ℝ: `M (0,0) L (1,0) Z` with pattern [4], offset 0 (`steps = 0`) -/
theorem c13b_exReal_closed_ok : ∃ (_ : Scalar ℝ) (_ : LawfulScalar ℝ) (_ : LawfulHypotSq ℝ),
    dash [.MoveTo ⟨0, 0⟩, .LineTo ⟨1, 0⟩, .ClosePath] (0 : ℝ) #[4] 10
      = .ok [.MoveTo ⟨0, 0⟩, .LineTo ⟨1, 0⟩, .LineTo ⟨0, 0⟩, .ClosePath] ∧
    (∀ i, (h : i < (#[4] : Array ℝ).size) → 0 < (#[4] : Array ℝ)[i]) ∧
    (∀ k < 0, prefixSum (#[4] : Array ℝ) k < 0) ∧ (0 : ℝ) ≤ prefixSum #[4] 0 := by
  let _ := realScalar
  have _ := realScalar_lawful
  obtain ⟨hpos, hmin, hlast, it, h1, h3, h4⟩ :=
    dashImpl_single [.MoveTo ⟨0, 0⟩, .LineTo ⟨1, 0⟩, .ClosePath] (4 : ℝ) four_pos
  refine ⟨realScalar, realScalar_lawful, realScalar_lawfulHypotSq, ?_, hpos, hmin, hlast⟩
  have e1 := realScalar_line_arclen ⟨0, 0⟩ ⟨1, 0⟩ 0 1 zero_le_one (by norm_num)
  have e2 := realScalar_line_arclen ⟨1, 0⟩ ⟨0, 0⟩ 0 1 zero_le_one (by norm_num)
  refine c13b_dash_closed_short ⟨0, 0⟩ ⟨1, 0⟩ 0 #[4] 10 it h1 (by decide) ?_ h4 ?_ ?_ (by omega)
  · intro h
    have := congrArg Point.x h
    norm_num at this
  · rw [h3, e1]; norm_num
  · rw [h3, e1, e2]; norm_num

end Kurbo
