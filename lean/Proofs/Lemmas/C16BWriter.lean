import Proofs.Lemmas.C16BCanon
import Proofs.Lemmas.C16BMeaning
/-! C16B: the output *format* of `BezPath::write_to` (svg.rs: `M{},{}`, `L{},{}`, `Q{},{} {},{}`, `C{},{} {},{} {},{}`, `Z`,
    elements separated by one space) as a byte-list function `c16b_write`, parametrised by the number printer `spell`; it is a
    well-formed spelling (`c16b_wSpelled`) of the command list `els.map c16b_ofEl`, whose meaning is `els` again when every
    `ClosePath` is followed by a `MoveTo` or the end.  `c16b_write` is defined here, by reading the Rust source; the model of
    `write_to` is `svgWrite` (`Kurbo/SvgWrite.lean`), proved equal to `c16b_write` in `Proofs/C16W.lean`.  Nothing ties `spell` to
    Rust's `Display for f64` (checked numeral by numeral in the correspondence stratum `writer`). -/
set_option linter.unusedSectionVars false
namespace Kurbo

/-- the separator after the last number of a command: one space in front of something that is neither white space nor a comma,
    or nothing at the very end -/
def c16b_LastOk (sep r : List UInt8) : Prop := (sep = [32] ∧ StopsAt c16b_isSep r) ∨ (sep = [] ∧ r = [])

theorem c16b_chunk_ok_comma {p : NumParts} (r : List UInt8) (hv : p.Valid) : (c16b_chunk p [44]).Ok r :=
  c16b_chunk_ok hv (c16b_stops_sep p (.inr rfl) r) (SepOk.comma (ws := []) nofun)

theorem c16b_chunk_ok_last {p : NumParts} {sep r : List UInt8} (hv : p.Valid) (h : c16b_LastOk sep r) :
    (c16b_chunk p sep).Ok r := by
  rcases h with ⟨rfl, hr⟩ | ⟨rfl, rfl⟩
  · exact c16b_canonChunk_ok hv hr
  · exact c16b_chunk_ok hv (NumParts.stops_nil _) (SepOk.ws (ws := []) nofun (StopsAt.nil _))

section
variable {K : Type} [Scalar K]

/-- `{},{}` -/
def c16b_writePt (spell : K → NumParts) (p : Point K) : List UInt8 := (spell p.x).bytes ++ 44 :: (spell p.y).bytes

/-- one element as `write_to` formats it -/
def c16b_writeEl (spell : K → NumParts) : PathEl K → List UInt8
  | .MoveTo p => 77 :: c16b_writePt spell p
  | .LineTo p => 76 :: c16b_writePt spell p
  | .QuadTo p1 p2 => 81 :: (c16b_writePt spell p1 ++ 32 :: c16b_writePt spell p2)
  | .CurveTo p1 p2 p3 => 67 :: (c16b_writePt spell p1 ++ 32 :: (c16b_writePt spell p2 ++ 32 :: c16b_writePt spell p3))
  | .ClosePath => [90]

/-- **the format of `write_to`**: the elements, separated by one space -/
def c16b_write (spell : K → NumParts) : List (PathEl K) → List UInt8
  | [] => []
  | [e] => c16b_writeEl spell e
  | e :: e' :: es => c16b_writeEl spell e ++ 32 :: c16b_write spell (e' :: es)

/-- the pair `x,y` as chunks; `sep` follows `y` -/
def c16b_wPt (spell : K → NumParts) (sep : List UInt8) (p : Point K) : Point NumChunk :=
  ⟨c16b_chunk (spell p.x) [44], c16b_chunk (spell p.y) sep⟩

/-- the element as a spelled command; `sep` follows its last number -/
def c16b_wCmd (spell : K → NumParts) (sep : List UInt8) : PathEl K → C16Cmd NumChunk
  | .MoveTo p => .moveTo false (c16b_wPt spell sep p)
  | .LineTo p => .lineTo false (c16b_wPt spell sep p)
  | .QuadTo p1 p2 => .quadTo false (c16b_wPt spell [32] p1) (c16b_wPt spell sep p2)
  | .CurveTo p1 p2 p3 => .curveTo false (c16b_wPt spell [32] p1) (c16b_wPt spell [32] p2) (c16b_wPt spell sep p3)
  | .ClosePath => .close false

/-- the output of `write_to` cut into spelled commands: the space between two elements is the separator after the last number of
    the first – or, after a `Z`, white space in front of the next letter -/
def c16b_wSpelled (spell : K → NumParts) : Bool → List (PathEl K) → List C16Spelled
  | _, [] => []
  | prevClose, e :: es =>
    { ws := if prevClose then [32] else [], explicit := true, cmd := c16b_wCmd spell (if es.isEmpty then [] else [32]) e } ::
      c16b_wSpelled spell (e.isClose) es

theorem c16b_wPt_bytes (spell : K → NumParts) (sep : List UInt8) (p : Point K) :
    (c16b_ptc (c16b_wPt spell sep p)).bytes = c16b_writePt spell p ++ sep := by
  simp [c16b_ptc, c16b_wPt, PtChunk.bytes, NumChunk.bytes, c16b_chunk, c16b_writePt]

theorem c16b_wCmd_bytes (spell : K → NumParts) (sep : List UInt8) (e : PathEl K) :
    (c16b_wCmd spell sep e).letter :: (c16b_wCmd spell sep e).argBytes =
      c16b_writeEl spell e ++ (if e.isClose then [] else sep) := by
  cases e <;>
    simp [c16b_wCmd, C16Cmd.letter, C16Cmd.argBytes, c16b_writeEl, c16b_wPt_bytes, PathEl.isClose]

theorem c16b_wSpelled_bytes (spell : K → NumParts) (prevClose : Bool) (els : List (PathEl K)) :
    c16b_spell (c16b_wSpelled spell prevClose els) [] =
      (if prevClose && !els.isEmpty then [32] else []) ++ c16b_write spell els := by
  induction els generalizing prevClose with
  | nil => simp [c16b_wSpelled, c16b_spell, c16b_write]
  | cons e es ih =>
    simp only [c16b_wSpelled, c16b_spell, C16Spelled.bytes, if_true, List.singleton_append, c16b_wCmd_bytes, ih]
    cases es with
    | nil => cases prevClose <;> cases h : e.isClose <;> simp [c16b_write]
    | cons e' es => cases prevClose <;> cases h : e.isClose <;> simp [c16b_write]

theorem c16b_wPt_ok (spell : K → NumParts) {sep r : List UInt8} (p : Point K) (hx : (spell p.x).Valid)
    (hy : (spell p.y).Valid) (h : c16b_LastOk sep r) : (c16b_ptc (c16b_wPt spell sep p)).Ok r :=
  ⟨c16b_chunk_ok_comma _ hx, c16b_chunk_ok_last hy h⟩

theorem c16b_wPt_last (spell : K → NumParts) (sep r : List UInt8) (p : Point K) (hx : (spell p.x).Valid) :
    c16b_LastOk [32] ((c16b_ptc (c16b_wPt spell sep p)).bytes ++ r) := by
  refine .inl ⟨rfl, ?_⟩
  have := c16b_chunk_stops hx [44] ((c16b_chunk (spell p.y) sep).bytes ++ r)
  simpa [c16b_ptc, c16b_wPt, PtChunk.bytes] using this

theorem c16b_wCmd_argsOk (spell : K → NumParts) (sep r : List UInt8) (e : PathEl K)
    (hv : ∀ x ∈ (c16b_ofEl e).scalars, (spell x).Valid) (h : e.isClose = false → c16b_LastOk sep r) :
    (c16b_wCmd spell sep e).ArgsOk r := by
  cases e <;> simp only [c16b_ofEl, C16Cmd.scalars, List.forall_mem_cons] at hv
  case MoveTo p | LineTo p => exact c16b_wPt_ok spell p hv.1 hv.2.1 (h rfl)
  case QuadTo p1 p2 =>
    obtain ⟨h1x, h1y, h2x, h2y, -⟩ := hv
    exact ⟨c16b_wPt_ok spell p1 h1x h1y (c16b_wPt_last spell sep r p2 h2x), c16b_wPt_ok spell p2 h2x h2y (h rfl)⟩
  case CurveTo p1 p2 p3 =>
    obtain ⟨h1x, h1y, h2x, h2y, h3x, h3y, -⟩ := hv
    exact ⟨c16b_wPt_ok spell p1 h1x h1y (c16b_wPt_last spell [32] _ p2 h2x),
      c16b_wPt_ok spell p2 h2x h2y (c16b_wPt_last spell sep r p3 h3x), c16b_wPt_ok spell p3 h3x h3y (h rfl)⟩
  case ClosePath => trivial

theorem c16b_wSpelled_stops (spell : K → NumParts) (els : List (PathEl K)) :
    StopsAt c16b_isSep (c16b_spell (c16b_wSpelled spell false els) []) := by
  cases els with
  | nil => exact StopsAt.nil _
  | cons e es =>
    simp only [c16b_wSpelled, c16b_spell, C16Spelled.bytes, Bool.false_eq_true, if_false, if_true, List.nil_append,
      List.cons_append]
    exact StopsAt.cons (c16b_letter_not_sep _)

theorem c16b_wSpelled_ok (spell : K → NumParts) (els : List (PathEl K)) (lc : UInt8) (prevClose : Bool)
    (hv : ∀ e ∈ els, ∀ x ∈ (c16b_ofEl e).scalars, (spell x).Valid) :
    c16b_SpelledOk lc (c16b_wSpelled spell prevClose els) [] := by
  induction els generalizing lc prevClose with
  | nil => intro b hb; cases hb
  | cons e es ih =>
    refine ⟨⟨?_, ?_, ?_⟩, ih _ _ (fun e' he' => hv e' (List.mem_cons_of_mem _ he'))⟩
    · intro b hb
      cases prevClose <;> simp at hb
      rw [hb]; decide
    · apply c16b_wCmd_argsOk spell _ _ e (hv e List.mem_cons_self)
      intro hc
      rw [hc]
      cases es with
      | nil => exact .inr ⟨rfl, rfl⟩
      | cons e' es => exact .inl ⟨rfl, c16b_wSpelled_stops spell _⟩
    · intro h; cases h

theorem c16b_wPt_value (spell : K → NumParts) (sep : List UInt8) (p : Point K)
    (hx : tokValue (parseTok (spell p.x).bytes) = p.x) (hy : tokValue (parseTok (spell p.y).bytes) = p.y) :
    c16b_mapPt (NumChunk.value (K := K)) (c16b_wPt spell sep p) = p := by
  cases p
  simp only [c16b_mapPt, c16b_wPt, NumChunk.value, c16b_chunk] at hx hy ⊢
  rw [hx, hy]

theorem c16b_wCmd_value (spell : K → NumParts) (sep : List UInt8) (e : PathEl K)
    (h : ∀ x ∈ (c16b_ofEl e).scalars, tokValue (parseTok (spell x).bytes) = x) :
    (c16b_wCmd spell sep e).map (NumChunk.value (K := K)) = c16b_ofEl e := by
  cases e <;> simp only [c16b_ofEl, C16Cmd.scalars, List.forall_mem_cons] at h
  case MoveTo p => exact congrArg (C16Cmd.moveTo false) (c16b_wPt_value spell sep p h.1 h.2.1)
  case LineTo p => exact congrArg (C16Cmd.lineTo false) (c16b_wPt_value spell sep p h.1 h.2.1)
  case QuadTo p1 p2 =>
    obtain ⟨h1x, h1y, h2x, h2y, -⟩ := h
    show C16Cmd.quadTo false (c16b_mapPt _ (c16b_wPt spell [32] p1)) (c16b_mapPt _ (c16b_wPt spell sep p2)) = .quadTo false p1 p2
    rw [c16b_wPt_value spell _ p1 h1x h1y, c16b_wPt_value spell _ p2 h2x h2y]
  case CurveTo p1 p2 p3 =>
    obtain ⟨h1x, h1y, h2x, h2y, h3x, h3y, -⟩ := h
    show C16Cmd.curveTo false (c16b_mapPt _ (c16b_wPt spell [32] p1)) (c16b_mapPt _ (c16b_wPt spell [32] p2))
      (c16b_mapPt _ (c16b_wPt spell sep p3)) = .curveTo false p1 p2 p3
    rw [c16b_wPt_value spell _ p1 h1x h1y, c16b_wPt_value spell _ p2 h2x h2y, c16b_wPt_value spell _ p3 h3x h3y]
  case ClosePath => rfl

theorem c16b_wSpelled_values (spell : K → NumParts) (els : List (PathEl K)) (prevClose : Bool)
    (h : ∀ e ∈ els, ∀ x ∈ (c16b_ofEl e).scalars, tokValue (parseTok (spell x).bytes) = x) :
    (c16b_wSpelled spell prevClose els).map (C16Spelled.value (K := K)) = els.map c16b_ofEl := by
  induction els generalizing prevClose with
  | nil => rfl
  | cons e es ih =>
    simp only [c16b_wSpelled, List.map_cons, C16Spelled.value]
    rw [c16b_wCmd_value spell _ e (h e List.mem_cons_self), ← ih _ (fun e' he' => h e' (List.mem_cons_of_mem _ he'))]

theorem c16b_wSpelled_startsWithMove (spell : K → NumParts) (els : List (PathEl K)) (prevClose : Bool)
    (h : c16b_startsWithMove (els.map c16b_ofEl)) :
    c16b_startsWithMove ((c16b_wSpelled spell prevClose els).map (·.cmd)) := by
  cases els with
  | nil => trivial
  | cons e es => cases e <;> first | trivial | cases h

theorem c16b_elems_ofEls (st : SvgSt K) (els : List (PathEl K)) : c16b_elems st (els.map c16b_ofEl) = els := by
  induction els generalizing st with
  | nil => rfl
  | cons e es ih => simp only [List.map_cons, c16b_elems, c16b_elem_ofEl, ih]

theorem c16w_run_reparse (els : List (PathEl K)) (st : SvgSt K) (pending : Bool)
    (hi : st.implicit_moveto = if pending then some st.first_pt else none) :
    (c16b_run st (els.map c16b_ofEl)).path = st.path ++ reparse st.first_pt pending els := by
  rw [c16b_run_path _ st pending hi, c16b_elems_ofEls]

theorem reparse_eq_self (first : Point K) (pending : Bool) (els : List (PathEl K))
    (h : c16b_closeThenMove (els.map c16b_ofEl)) (hp : pending = true → c16b_startsWithMove (els.map c16b_ofEl)) :
    reparse first pending els = els := by
  induction els generalizing first pending with
  | nil => rfl
  | cons e es ih =>
    have htail : c16b_closeThenMove (es.map c16b_ofEl) := by
      cases es <;> first | trivial | exact h.2
    have hnext : (c16b_ofEl e).isClose = true → c16b_startsWithMove (es.map c16b_ofEl) := by
      cases es <;> first | exact fun _ => trivial | exact h.1
    have hpend : (c16b_ofEl e).isMove = false → pending = false := by
      cases pending with
      | false => intro _; rfl
      | true => intro he; rw [show (c16b_ofEl e).isMove = true from hp rfl] at he; cases he
    cases e with
    | MoveTo p => simp only [reparse]; rw [ih _ false htail nofun]
    | ClosePath => simp only [reparse]; rw [hpend rfl, ih _ _ htail (fun _ => hnext rfl)]; rfl
    | LineTo p => simp only [reparse]; rw [hpend rfl, ih _ false htail nofun]; rfl
    | QuadTo p1 p2 => simp only [reparse]; rw [hpend rfl, ih _ false htail nofun]; rfl
    | CurveTo p1 p2 p3 => simp only [reparse]; rw [hpend rfl, ih _ false htail nofun]; rfl

theorem c16b_run_ofEls (st : SvgSt K) (els : List (PathEl K)) (pending : Bool)
    (hi : st.implicit_moveto = if pending then some st.first_pt else none) (h : c16b_closeThenMove (els.map c16b_ofEl))
    (hp : pending = true → c16b_startsWithMove (els.map c16b_ofEl)) :
    (c16b_run st (els.map c16b_ofEl)).path = st.path ++ els := by
  rw [c16w_run_reparse els st pending hi, reparse_eq_self _ _ _ h hp]

end
end Kurbo
