import Proofs.Lemmas.C15QBasic
/-! helper lemmas for C15Q: composition of the pieces of `factor_quartic_inner`, and the roots `solve_quartic_inner` returns -/
set_option linter.unusedSectionVars false
namespace Kurbo

section algebra
variable {K : Type} [Field K]

theorem monic_quartic_scaled (c0 c1 c2 c3 c4 x : K) (h4 : c4 ≠ 0) :
    c0 + c1 * x + c2 * x ^ 2 + c3 * x ^ 3 + c4 * x ^ 4 =
      c4 * (x ^ 4 + c3 / c4 * x ^ 3 + c2 / c4 * x ^ 2 + c1 / c4 * x + c0 / c4) := by
  linear_combination (-x ^ 3) * mul_div_cancel₀ c3 h4 - x ^ 2 * mul_div_cancel₀ c2 h4 - x * mul_div_cancel₀ c1 h4
    - mul_div_cancel₀ c0 h4

end algebra

variable {K : Type} [Field K] [LinearOrder K] [IsStrictOrderedRing K] [FloorRing K] [Scalar K] [LawfulScalar K]

theorem sn_one : (@OfNat.ofNat K 1 Ops.instOfNat) = (1 : K) := by rw [sn_ofNat]; simp

theorem factorQuarticInner_of_phi {a b c d : K} {rescale : Bool} {phi : K} (hq : quarticPhi a b c d rescale = some phi) :
    factorQuarticInner a b c d rescale =
      match ldlInit a b c d (ldlSelect a b c d phi).1 (ldlSelect a b c d phi).2.1 (ldlSelect a b c d phi).2.2.1
          (ldlSelect a b c d phi).2.2.2 with
      | none => none
      | some z0 =>
        some (((quarticNewton a b c d 8 z0 (newtonEps a b c d z0)).1, (quarticNewton a b c d 8 z0 (newtonEps a b c d z0)).2.1),
          ((quarticNewton a b c d 8 z0 (newtonEps a b c d z0)).2.2.1, (quarticNewton a b c d 8 z0 (newtonEps a b c d z0)).2.2.2)) := by
  unfold factorQuarticInner
  rw [hq]
  rfl

theorem factorQuarticInner_of_exact_init {a b c d : K} {rescale : Bool} {phi : K} {z0 : K × K × K × K}
    (hq : quarticPhi a b c d rescale = some phi)
    (hi : ldlInit a b c d (ldlSelect a b c d phi).1 (ldlSelect a b c d phi).2.1 (ldlSelect a b c d phi).2.2.1
      (ldlSelect a b c d phi).2.2.2 = some z0)
    (hex : FactorsQuartic a b c d z0.1 z0.2.1 z0.2.2.1 z0.2.2.2) :
    factorQuarticInner a b c d rescale = some ((z0.1, z0.2.1), (z0.2.2.1, z0.2.2.2)) := by
  rw [factorQuarticInner_of_phi hq, hi]
  have h0 : newtonEps a b c d z0 = 0 := (calcEpsT_eq_zero_iff' a b c d _ _ _ _).mpr hex
  simp only [h0, quarticNewton_zero']

theorem solveQuarticInner_of_factor {a b c d : K} {rescale : Bool} {a1 b1 a2 b2 : K}
    (hf : factorQuarticInner a b c d rescale = some ((a1, b1), (a2, b2)))
    (hs1 : 0 < quadArg b1 a1 1 → SqrtExact (quadArg b1 a1 1)) (hs2 : 0 < quadArg b2 a2 1 → SqrtExact (quadArg b2 a2 1)) :
    ∃ r, solveQuarticInner a b c d rescale = some r ∧ r.length ≤ 4 ∧
      ∀ x, x ∈ r ↔ (x ^ 2 + a1 * x + b1) * (x ^ 2 + a2 * x + b2) = 0 := by
  unfold solveQuarticInner
  rw [hf]
  simp only [Option.map_some, sn_one]
  obtain ⟨m1, -, l1⟩ := solveQuadratic_quadratic b1 a1 1 one_ne_zero hs1
  obtain ⟨m2, -, l2⟩ := solveQuadratic_quadratic b2 a2 1 one_ne_zero hs2
  refine ⟨_, rfl, by rw [List.length_append]; omega, fun x => ?_⟩
  rw [List.mem_append, m1 x, m2 x, mul_eq_zero, show b1 + a1 * x + 1 * x ^ 2 = x ^ 2 + a1 * x + b1 by ring,
    show b2 + a2 * x + 1 * x ^ 2 = x ^ 2 + a2 * x + b2 by ring]

theorem solveQuarticInner_none {a b c d : K} {rescale : Bool} (hf : factorQuarticInner a b c d rescale = none) :
    solveQuarticInner a b c d rescale = none := by
  unfold solveQuarticInner; rw [hf]; rfl

theorem solveQuarticGeneral_of_some {a b c d : K} {r : List K} (h : solveQuarticInner a b c d false = some r) :
    solveQuarticGeneral a b c d = r := by
  unfold solveQuarticGeneral; rw [h]

theorem quarticKQpow_eq (n : Nat) : (quarticKQpow n : K) = (quarticKQ : K) ^ n := by
  unfold quarticKQpow quarticKQ
  rw [sn_ofRat, sn_ofRat]; push_cast; rfl

theorem solveQuartic_eq (c0 c1 c2 c3 c4 : K) :
    solveQuartic c0 c1 c2 c3 c4 =
      solveQuarticWith (fun c0 c1 c2 c3 c4 => solveQuarticGeneral (c3 / c4) (c2 / c4) (c1 / c4) (c0 / c4)) c0 c1 c2 c3 c4 := by
  unfold solveQuartic
  simp only [scalar_norm]

end Kurbo
