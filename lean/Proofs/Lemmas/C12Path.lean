import Proofs.Lemmas.KernelEqs
import Proofs.Lemmas.C07Inst
/-! Helper lemmas for the path-level statement of C12: the `Segments` iterator model (`segStep`, `segsIdxFrom`) commutes
    with an injective point map that is applied element-wise. -/
namespace Kurbo
variable {K : Type} [Field K] [LinearOrder K] [IsStrictOrderedRing K] [FloorRing K] [Scalar K] [LawfulScalar K]

def mapSegSt (A : Affine K) (st : SegSt K) : SegSt K := st.map (fun sl => (A * sl.1, A * sl.2))

theorem segStep_commutes (A : Affine K) (inj : ∀ p q : Point K, A * p = A * q → p = q) (st : SegSt K) (el : PathEl K) :
    segStep (mapSegSt A st) (A * el) =
      (segStep st el).map (fun r => (mapSegSt A r.1, r.2.map (fun s : PathSeg K => A * s))) := by
  have hpeq : ∀ p q : Point K, (A * p).peq (A * q) = p.peq q := by
    intro p q
    rw [Bool.eq_iff_iff, peq_iff, peq_iff]
    exact ⟨inj p q, fun h => by rw [h]⟩
  cases st with
  | none =>
    cases el <;> simp only [segStep, mapSegSt, Option.map, affine_mul_pathEl_def, Affine.mul_PathEl, PathEl.end_point]
    all_goals rfl
  | some sl =>
    obtain ⟨start, last⟩ := sl
    cases el <;> simp only [segStep, mapSegSt, Option.map, affine_mul_pathEl_def, Affine.mul_PathEl]
    case ClosePath =>
      rw [hpeq]
      cases last.peq start <;> rfl
    all_goals rfl

theorem segsIdxFrom_commutes (A : Affine K) (inj : ∀ p q : Point K, A * p = A * q → p = q)
    (els : List (PathEl K)) : ∀ (st : SegSt K) (ix : Nat),
    segsIdxFrom (mapSegSt A st) ix (els.map (fun e : PathEl K => A * e)) =
      (segsIdxFrom st ix els).map (List.map (fun q : Nat × PathSeg K => (q.1, A * q.2))) := by
  induction els with
  | nil => intro st ix; rfl
  | cons el rest ih =>
    intro st ix
    simp only [List.map_cons, segsIdxFrom, segStep_commutes A inj]
    cases h : segStep st el with
    | none => rfl
    | some r =>
      obtain ⟨st', out⟩ := r
      simp only [Option.map_some, ih]
      cases segsIdxFrom st' (ix + 1) rest with
      | none => rfl
      | some l => cases out <;> rfl

end Kurbo
