import Proofs.Lemmas.C17Fit
import Proofs.Lemmas.C17Loop
/-! Helper lemmas for C17: soundness of `try_approx_quadratic` / `approx_spline_n` (the tested cubic is the
    difference curve between the degree-raised quadratic and the cubic piece). -/
namespace Kurbo
variable {K : Type} [Field K] [LinearOrder K] [IsStrictOrderedRing K] [FloorRing K] [Scalar K] [LawfulScalar K]

/-- **difference-curve identity**: the cubic tested by `try_approx_quadratic` and by the loop of `approx_spline_n`
    is the degree-raised quadratic `(q0,q1,q2)` minus the cubic `cur` (given that its first and last control points
    are the end-point differences) -/
theorem diff_curve (q0 q1 q2 e0 e3 : Point K) (cur : CubicBez K) (r : K) (hr : r = 2 / 3)
    (h0x : e0.x = q0.x - cur.p0.x) (h0y : e0.y = q0.y - cur.p0.y)
    (h3x : e3.x = q2.x - cur.p3.x) (h3y : e3.y = q2.y - cur.p3.y) (t : K) :
    ((CubicBez.new e0 (q0.lerp q1 r - cur.p1.to_vec2) (q2.lerp q1 r - cur.p2.to_vec2) e3).eval t).x
        = ((QuadBez.mk q0 q1 q2).eval t).x - (cur.eval t).x ∧
    ((CubicBez.new e0 (q0.lerp q1 r - cur.p1.to_vec2) (q2.lerp q1 r - cur.p2.to_vec2) e3).eval t).y
        = ((QuadBez.mk q0 q1 q2).eval t).y - (cur.eval t).y := by
  subst hr
  simp only [kdefs, h0x, h3x, h0y, h3y]
  kring

theorem two_thirds_eq : (open Ops in ((2 : K) / (3 : K))) = 2 / 3 := by
  simp only [scalar_norm]; push_cast; rfl

/-- what both callers of `fit_inside` conclude from `true`: the tested cubic is the difference curve, its end points
    `e0 = q0 − cur.p0`, `e3 = q2 − cur.p3` are within `a`, so the quadratic is within `a` of `cur` at equal parameters -/
theorem errorCubic_sound [LawfulHypot K] (a : K) (ha : 0 ≤ a) (fuel : Nat) (q0 q1 q2 e0 e3 : Point K) (cur : CubicBez K)
    (h0x : e0.x = q0.x - cur.p0.x) (h0y : e0.y = q0.y - cur.p0.y)
    (h3x : e3.x = q2.x - cur.p3.x) (h3y : e3.y = q2.y - cur.p3.y) (n0 : e0.nsq ≤ a ^ 2) (n3 : e3.nsq ≤ a ^ 2)
    (hfit : (open Ops in (CubicBez.new e0 (q0.lerp q1 ((2 : K) / (3 : K)) - cur.p1.to_vec2)
      (q2.lerp q1 ((2 : K) / (3 : K)) - cur.p2.to_vec2) e3).fit_inside a fuel) = true)
    (t : K) (ht0 : 0 ≤ t) (ht1 : t ≤ 1) :
    (((QuadBez.mk q0 q1 q2).eval t).x - (cur.eval t).x) ^ 2
      + (((QuadBez.mk q0 q1 q2).eval t).y - (cur.eval t).y) ^ 2 ≤ a ^ 2 := by
  have hs := fit_inside_sound a ha fuel _ n0 n3 hfit t ht0 ht1
  obtain ⟨ex, ey⟩ := diff_curve q0 q1 q2 e0 e3 cur _ two_thirds_eq h0x h0y h3x h3y t
  unfold Point.nsq at hs
  rwa [ex, ey] at hs

theorem splineCheck_iff (a : K) (c0 : Point K) (S : Nat → CubicBez K) (n j : Nat) :
    splineCheck a c0 S n j = true ↔
      (splineD1 c0 S n (j + 1)).hypot ≤ a ∧ (splineErr c0 S n j).fit_inside a fitFuel = true := by
  unfold splineCheck
  simp only [scalar_norm, Bool.not_eq_true', Bool.or_eq_false_iff, decide_eq_false_iff_not, not_lt,
    Bool.not_eq_false']

theorem splineD1_bound [LawfulHypot K] (a : K) (ha : 0 ≤ a) (c0 : Point K) (S : Nat → CubicBez K) (n : Nat)
    (hchk : ∀ j, j < n → splineCheck a c0 S n j = true) (j : Nat) (hj : j ≤ n) :
    (splineD1 c0 S n j).x ^ 2 + (splineD1 c0 S n j).y ^ 2 ≤ a ^ 2 := by
  rcases j with _ | k
  · rw [splineD1_zero, vec2_zero_eq]; exact le_of_eq_of_le (by simp) (sq_nonneg a)
  · have := ((splineCheck_iff a c0 S n k).mp (hchk k (by omega))).1
    rwa [vec2_hypot_le_iff _ _ ha] at this

/-- the carried end-point error is the difference of the current on-curve point and the start of the current piece -/
theorem splineD1_start (c : CubicBez K) (n j : Nat) :
    (splineD1 c.p0 (cubicPiece c n) n j).x = (splineQ2 c.p0 (cubicPiece c n) n j).x - (cubicPiece c n j).p0.x ∧
    (splineD1 c.p0 (cubicPiece c n) n j).y = (splineQ2 c.p0 (cubicPiece c n) n j).y - (cubicPiece c n j).p0.y := by
  rcases j with _ | k
  · simp only [splineD1_zero, splineQ2_zero, cubicPiece_first, Vec2.ZERO, scalar_norm]; push_cast
    constructor <;> ring
  · rw [splineD1_succ, ← cubicPiece_join]
    constructor <;> kring

theorem spline_piece_sound [LawfulHypot K] (c : CubicBez K) (n : Nat) (a : K) (ha : 0 ≤ a)
    (hchk : ∀ j, j < n → splineCheck a c.p0 (cubicPiece c n) n j = true) (j : Nat) (hj : j < n)
    (t : K) (ht0 : 0 ≤ t) (ht1 : t ≤ 1) :
    (((QuadBez.mk (splineQ2 c.p0 (cubicPiece c n) n j) (splineQ (cubicPiece c n) n j)
          (splineQ2 c.p0 (cubicPiece c n) n (j + 1))).eval t).x - (c.eval (((j : K) + t) / n)).x) ^ 2
    + (((QuadBez.mk (splineQ2 c.p0 (cubicPiece c n) n j) (splineQ (cubicPiece c n) n j)
          (splineQ2 c.p0 (cubicPiece c n) n (j + 1))).eval t).y - (c.eval (((j : K) + t) / n)).y) ^ 2 ≤ a ^ 2 := by
  obtain ⟨s0x, s0y⟩ := splineD1_start c n j
  have s3 := splineD1_succ c.p0 (cubicPiece c n) n j
  rw [← cubicPiece_eval]
  exact errorCubic_sound a ha fitFuel _ _ _ (splineD1 c.p0 (cubicPiece c n) n j).to_point
    (splineD1 c.p0 (cubicPiece c n) n (j + 1)).to_point (cubicPiece c n j) s0x s0y (by rw [s3]; kring) (by rw [s3]; kring)
    (splineD1_bound a ha c.p0 _ n hchk j (by omega)) (splineD1_bound a ha c.p0 _ n hchk (j + 1) (by omega))
    ((splineCheck_iff a c.p0 _ n j).mp (hchk j hj)).2 t ht0 ht1

theorem quadSplineToQuads_three {K' : Type} [Scalar K'] (p0 p1 p2 : Point K') :
    quadSplineToQuads [p0, p1, p2] = [⟨p0, p1, p2⟩] := rfl

theorem spline_quads (c : CubicBez K) (n : Nat) (idx : Nat) (hidx : idx < n) :
    (⟨if idx = 0 then c.p0 else (splineQ (cubicPiece c n) n (idx - 1)).midpoint (splineQ (cubicPiece c n) n idx),
      splineQ (cubicPiece c n) n idx,
      if idx + 1 < n then (splineQ (cubicPiece c n) n idx).midpoint (splineQ (cubicPiece c n) n (idx + 1)) else c.p3⟩
        : QuadBez K)
      = ⟨splineQ2 c.p0 (cubicPiece c n) n idx, splineQ (cubicPiece c n) n idx,
          splineQ2 c.p0 (cubicPiece c n) n (idx + 1)⟩ := by
  have e0 : splineQ2 c.p0 (cubicPiece c n) n idx
      = if idx = 0 then c.p0 else (splineQ (cubicPiece c n) n (idx - 1)).midpoint (splineQ (cubicPiece c n) n idx) := by
    rcases idx with _ | k
    · exact splineQ2_zero _ _ _
    · rw [splineQ2_succ_of_lt _ _ hidx, if_neg (Nat.succ_ne_zero k), Nat.add_sub_cancel]
  have e1 : splineQ2 c.p0 (cubicPiece c n) n (idx + 1)
      = if idx + 1 < n then (splineQ (cubicPiece c n) n idx).midpoint (splineQ (cubicPiece c n) n (idx + 1)) else c.p3 := by
    by_cases hlt : idx + 1 < n
    · rw [splineQ2_succ_of_lt _ _ hlt, if_pos hlt]
    · have hn : n = idx + 1 := by omega
      subst hn
      rw [splineQ2_succ_of_not_lt _ _ hlt, if_neg hlt, cubicPiece_last]
  rw [e0, e1]

/-- one run of `approx_spline` over ℚ (it settles on five pieces), evaluated once for the examples of C17 -/
theorem approx_spline_run :
    (⟨⟨0, 0⟩, ⟨1, 2⟩, ⟨3, 2⟩, ⟨4, 0⟩⟩ : CubicBez Rat).approx_spline (1 / 200)
      = some [⟨0, 0⟩, ⟨3 / 10, 3 / 5⟩, ⟨551 / 500, 33 / 25⟩, ⟨2, 39 / 25⟩, ⟨1449 / 500, 33 / 25⟩, ⟨37 / 10, 3 / 5⟩,
          ⟨4, 0⟩] := by
  decide +kernel

end Kurbo
