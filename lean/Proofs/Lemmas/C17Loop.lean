import Kurbo.Quads
import Mathlib.Tactic.SplitIfs
import Mathlib.Data.List.Basic
import Mathlib.Data.List.Forall2
/-! Helper lemmas for C17: the loop of `approx_spline_n` in closed form, `QuadSpline::to_quads`, and where the results
    of `approx_spline` / `cubics_to_quadratic_splines` come from (no arithmetic law is used: valid for every `Scalar`,
    also `Float`).

    `splineStep` is the body of the loop, copied verbatim from `CubicBez.approx_spline_n`; `approx_spline_n_eq`
    (`rfl`) shows that it *is* the body.  `splineState … j` is the loop state after `j` iterations in closed form.
    `open Ops` is confined to the first section: it holds only these helper *definitions* in model syntax (so that they
    are syntactically the sub-terms of the model) and their case equations; no arithmetic statement lives there. -/
namespace Kurbo
section
open Ops
variable {K : Type} [Scalar K]

/-- the loop body of `approx_spline_n`, verbatim -/
def splineStep (n : Nat) (accuracy : K) (acc : Option (SplineSt K)) (i : Nat) : Option (SplineSt K) :=
  match acc with
  | none => none
  | some st =>
    let current_cubic := st.next_cubic
    let q0 := st.q2
    let q1 := st.next_q1
    let st' : Option (SplineSt K × Point K) :=
      if i < n then
        match st.rest with
        | [] => none
        | nc :: rest' =>
          let nq1 := nc.approx_quad_control (natK i / natK (n - 1))
          some ({ st with next_cubic := nc, next_q1 := nq1, spline := st.spline ++ [nq1], rest := rest' }, q1.midpoint nq1)
      else some (st, current_cubic.p3)
    match st' with
    | none => none
    | some (st2, q2) =>
      let d0 := st.d1
      let d1 := q2.to_vec2 - current_cubic.p3.to_vec2
      if accuracy <. d1.hypot
          || !(CubicBez.new d0.to_point (q0.lerp q1 ((2 : K) / (3 : K)) - current_cubic.p1.to_vec2)
                (q2.lerp q1 ((2 : K) / (3 : K)) - current_cubic.p2.to_vec2) d1.to_point).fit_inside accuracy fitFuel then none
      else some { st2 with q2 := q2, d1 := d1 }

theorem approx_spline_n_eq (self : CubicBez K) (n : Nat) (accuracy : K) :
    self.approx_spline_n n accuracy =
      if n == 1 then
        (self.try_approx_quadratic accuracy).map fun q => [q.p0, q.p1, q.p2]
      else
        match self.split_into_n n with
        | [] => none
        | first :: rest =>
          match ((List.range n).map (· + 1)).foldl (splineStep n accuracy)
              (some { next_cubic := first, next_q1 := first.approx_quad_control (0 : K), q2 := self.p0, d1 := Vec2.ZERO,
                      spline := [self.p0, first.approx_quad_control (0 : K)], rest := rest }) with
          | none => none
          | some st => some (st.spline ++ [self.p3]) := rfl

/-- control point `k` (0-based, `k < n`) of the spline built from the pieces `S 0 … S (n-1)` -/
def splineQ (S : Nat → CubicBez K) (n k : Nat) : Point K :=
  if k = 0 then (S 0).approx_quad_control (0 : K) else (S k).approx_quad_control (natK k / natK (n - 1))

theorem splineQ_succ (S : Nat → CubicBez K) (n k : Nat) :
    splineQ S n (k + 1) = (S (k + 1)).approx_quad_control (natK (k + 1) / natK (n - 1)) := by
  unfold splineQ; rw [if_neg (Nat.succ_ne_zero k)]

theorem splineQ_zero (S : Nat → CubicBez K) (n : Nat) : splineQ S n 0 = (S 0).approx_quad_control (0 : K) := by
  unfold splineQ; rw [if_pos rfl]

/-- the on-curve point `q2` after iteration `j` (`j = 0`: the start point) -/
def splineQ2 (c0 : Point K) (S : Nat → CubicBez K) (n j : Nat) : Point K :=
  if j = 0 then c0 else if j < n then (splineQ S n (j - 1)).midpoint (splineQ S n j) else (S (j - 1)).p3

/-- the end-point error `d1` after iteration `j` -/
def splineD1 (c0 : Point K) (S : Nat → CubicBez K) (n j : Nat) : Vec2 K :=
  if j = 0 then Vec2.ZERO else (splineQ2 c0 S n j).to_vec2 - (S (j - 1)).p3.to_vec2

theorem splineQ2_zero (c0 : Point K) (S : Nat → CubicBez K) (n : Nat) : splineQ2 c0 S n 0 = c0 := if_pos rfl

theorem splineQ2_succ_of_lt (c0 : Point K) (S : Nat → CubicBez K) {n j : Nat} (h : j + 1 < n) :
    splineQ2 c0 S n (j + 1) = (splineQ S n j).midpoint (splineQ S n (j + 1)) := by
  rw [splineQ2, if_neg (Nat.succ_ne_zero j), if_pos h, Nat.add_sub_cancel]

theorem splineQ2_succ_of_not_lt (c0 : Point K) (S : Nat → CubicBez K) {n j : Nat} (h : ¬ j + 1 < n) :
    splineQ2 c0 S n (j + 1) = (S j).p3 := by
  rw [splineQ2, if_neg (Nat.succ_ne_zero j), if_neg h, Nat.add_sub_cancel]

theorem splineD1_zero (c0 : Point K) (S : Nat → CubicBez K) (n : Nat) : splineD1 c0 S n 0 = Vec2.ZERO := if_pos rfl

theorem splineD1_succ (c0 : Point K) (S : Nat → CubicBez K) (n j : Nat) :
    splineD1 c0 S n (j + 1) = (splineQ2 c0 S n (j + 1)).to_vec2 - (S j).p3.to_vec2 := by
  rw [splineD1, if_neg (Nat.succ_ne_zero j), Nat.add_sub_cancel]

/-- the error cubic tested in iteration `j + 1` (quadratic number `j`) -/
def splineErr (c0 : Point K) (S : Nat → CubicBez K) (n j : Nat) : CubicBez K :=
  CubicBez.new (splineD1 c0 S n j).to_point
    ((splineQ2 c0 S n j).lerp (splineQ S n j) ((2 : K) / (3 : K)) - (S j).p1.to_vec2)
    ((splineQ2 c0 S n (j + 1)).lerp (splineQ S n j) ((2 : K) / (3 : K)) - (S j).p2.to_vec2)
    (splineD1 c0 S n (j + 1)).to_point

/-- iteration `j + 1` does not give up -/
def splineCheck (a : K) (c0 : Point K) (S : Nat → CubicBez K) (n j : Nat) : Bool :=
  !(a <. (splineD1 c0 S n (j + 1)).hypot || !(splineErr c0 S n j).fit_inside a fitFuel)

/-- the loop state after `j` iterations -/
def splineState (c0 : Point K) (S : Nat → CubicBez K) (n j : Nat) : SplineSt K :=
  { next_cubic := S (min j (n - 1)), next_q1 := splineQ S n (min j (n - 1)), q2 := splineQ2 c0 S n j,
    d1 := splineD1 c0 S n j, spline := c0 :: (List.range (min j (n - 1) + 1)).map (splineQ S n),
    rest := ((List.range n).map S).drop (min j (n - 1) + 1) }

end

variable {K : Type} [Scalar K]

omit [Scalar K] in
theorem ite_not_swap {α : Type} (b : Bool) (x y : α) :
    (if b = true then x else y) = if (!b) = true then y else x := by
  cases b <;> rfl

theorem splineStep_state (a : K) (c0 : Point K) (S : Nat → CubicBez K) (n j : Nat) (hj : j < n) :
    splineStep n a (some (splineState c0 S n j)) (j + 1)
      = if splineCheck a c0 S n j then some (splineState c0 S n (j + 1)) else none := by
  by_cases hlt : j + 1 < n
  · have m1 : min j (n - 1) = j := by omega
    have m2 : min (j + 1) (n - 1) = j + 1 := by omega
    have hdrop : ((List.range n).map S).drop (j + 1) = S (j + 1) :: ((List.range n).map S).drop (j + 2) := by
      rw [List.drop_eq_getElem_cons (by simp; omega)]
      simp
    have hQ := splineQ_succ S n j
    have hQ2 := splineQ2_succ_of_lt c0 S hlt
    have hD1 := splineD1_succ c0 S n j
    have hsp : c0 :: List.map (splineQ S n) (List.range (j + 1)) ++ [splineQ S n (j + 1)]
        = c0 :: List.map (splineQ S n) (List.range (j + 1 + 1)) := by
      rw [List.range_succ (n := j + 1)]; simp
    simp only [splineStep, splineState, m1, m2, hlt, if_true, hdrop]
    rw [← hQ, ← hQ2, ← hD1, hsp]
    simp only [splineCheck, splineErr]
    exact ite_not_swap _ _ _
  · have hn : j + 1 = n := by omega
    have m1 : min j (n - 1) = j := by omega
    have m2 : min (j + 1) (n - 1) = j := by omega
    have hQ2 := splineQ2_succ_of_not_lt c0 S hlt
    have hD1 := splineD1_succ c0 S n j
    simp only [splineStep, splineState, m1, m2, hlt, if_false]
    simp only [splineCheck, splineErr, hD1, hQ2]
    exact ite_not_swap _ _ _

theorem splineStep_none (n : Nat) (a : K) (i : Nat) : splineStep n a none i = none := rfl

theorem splineFold (a : K) (c0 : Point K) (S : Nat → CubicBez K) (n : Nat) : ∀ j, j ≤ n →
    ((List.range j).map (· + 1)).foldl (splineStep n a) (some (splineState c0 S n 0))
      = if (List.range j).all (splineCheck a c0 S n) then some (splineState c0 S n j) else none
  | 0, _ => by simp
  | j + 1, hj => by
    rw [List.range_succ, List.map_append, List.foldl_append, splineFold a c0 S n j (by omega)]
    simp only [List.map_cons, List.map_nil, List.foldl_cons, List.foldl_nil, List.all_append, List.all_cons,
      List.all_nil, Bool.and_true]
    by_cases hall : (List.range j).all (splineCheck a c0 S n) = true
    · rw [if_pos hall, splineStep_state a c0 S n j (by omega), hall]
      simp
    · rw [if_neg hall, splineStep_none]
      simp only [Bool.not_eq_true] at hall
      simp [hall]

theorem splineState_zero (c0 : Point K) (S : Nat → CubicBez K) (n : Nat) :
    splineState c0 S (n + 1) 0
      = { next_cubic := S 0, next_q1 := splineQ S (n + 1) 0, q2 := c0, d1 := Vec2.ZERO,
          spline := [c0, splineQ S (n + 1) 0], rest := (List.range n).map (fun i => S (i + 1)) } := by
  simp [splineState, splineQ2_zero, splineD1_zero, List.range_succ_eq_map, Function.comp_def]

theorem split_into_n_length (c : CubicBez K) (n : Nat) : (c.split_into_n n).length = n := by
  unfold CubicBez.split_into_n
  split <;> simp

omit [Scalar K] in
theorem list_eq_map_range {α : Type} (L : List α) (d : α) :
    L = (List.range L.length).map fun i => L[i]?.getD d := by
  refine List.ext_getElem (by simp) fun i h _ => ?_
  simp [h]

theorem approx_spline_n_closed (c : CubicBez K) (n : Nat) (a : K) (pts : List (Point K)) (S : Nat → CubicBez K)
    (hn : n ≠ 1) (hS : c.split_into_n n = (List.range n).map S) (h : c.approx_spline_n n a = some pts) :
    2 ≤ n ∧ pts = c.p0 :: ((List.range n).map (splineQ S n) ++ [c.p3]) ∧
      ∀ j, j < n → splineCheck a c.p0 S n j = true := by
  rw [approx_spline_n_eq, hS] at h
  have hn' : (n == 1) = false := by simpa using hn
  simp only [hn', Bool.false_eq_true, if_false] at h
  rcases n with _ | n
  · simp at h
  · rw [List.range_succ_eq_map, List.map_cons, List.map_map] at h
    simp only [] at h
    have hinit := splineState_zero c.p0 S n
    rw [splineQ_zero] at hinit
    have hfold := splineFold a c.p0 S (n + 1) (n + 1) (Nat.le_refl _)
    rw [hinit] at hfold
    simp only [Function.comp_def] at h
    rw [← List.range_succ_eq_map] at h
    rw [hfold] at h
    by_cases hall : (List.range (n + 1)).all (splineCheck a c.p0 S (n + 1)) = true
    · rw [if_pos hall] at h
      simp only [Option.some.injEq] at h
      refine ⟨by omega, ?_, ?_⟩
      · rw [← h]
        simp [splineState]
      · intro j hj
        rw [List.all_eq_true] at hall
        exact hall j (List.mem_range.mpr hj)
    · rw [if_neg hall] at h
      cases h

omit [Scalar K] in
theorem ctrl_get_lt (Q : Nat → Point K) (c3 : Point K) (n k : Nat) (hk : k < n) :
    ((List.range n).map Q ++ [c3])[k]? = some (Q k) := by
  rw [List.getElem?_append_left (by simpa using hk)]
  simp [hk]

omit [Scalar K] in
theorem ctrl_get_n (Q : Nat → Point K) (c3 : Point K) (n : Nat) :
    ((List.range n).map Q ++ [c3])[n]? = some c3 := by
  rw [List.getElem?_append_right (by simp)]
  simp

theorem quadSplineToQuads_closed (c0 c3 : Point K) (Q : Nat → Point K) (n : Nat) :
    quadSplineToQuads (c0 :: ((List.range n).map Q ++ [c3]))
      = (List.range n).map fun idx =>
          (⟨if idx = 0 then c0 else (Q (idx - 1)).midpoint (Q idx), Q idx,
            if idx + 1 < n then (Q idx).midpoint (Q (idx + 1)) else c3⟩ : QuadBez K) := by
  unfold quadSplineToQuads
  have hlen : (c0 :: ((List.range n).map Q ++ [c3])).length - 2 = n := by simp
  simp only [hlen]
  conv_rhs => rw [← List.filterMap_eq_map]
  apply List.filterMap_congr
  intro idx hidx
  have hi : idx < n := List.mem_range.mp hidx
  have h1 : (c0 :: ((List.range n).map Q ++ [c3]))[idx + 1]? = some (Q idx) := by
    rw [List.getElem?_cons_succ]; exact ctrl_get_lt Q c3 n idx hi
  have h0 : (c0 :: ((List.range n).map Q ++ [c3]))[idx]? = some (if idx = 0 then c0 else Q (idx - 1)) := by
    rcases idx with _ | k
    · simp
    · rw [List.getElem?_cons_succ, ctrl_get_lt Q c3 n k (by omega)]; simp
  have h2 : (c0 :: ((List.range n).map Q ++ [c3]))[idx + 2]? = some (if idx + 1 < n then Q (idx + 1) else c3) := by
    rw [List.getElem?_cons_succ]
    by_cases hlt : idx + 1 < n
    · rw [ctrl_get_lt Q c3 n (idx + 1) hlt, if_pos hlt]
    · have : idx + 1 = n := by omega
      rw [if_neg hlt, this, ctrl_get_n]
  rw [h0, h1, h2]
  have hl2 : (c0 :: ((List.range n).map Q ++ [c3])).length - 1 = n + 1 := by simp
  simp only [hl2, Function.comp_apply, Option.some.injEq]
  have e : (idx + 2 < n + 1) ↔ (idx + 1 < n) := by omega
  by_cases hlt : idx + 1 < n <;> rcases idx with _ | k <;> simp [e, hlt]

omit [Scalar K] in
/-- every list of `n + 2` points has the shape used by `quadSplineToQuads_closed` -/
theorem list_shape {α : Type} (pts : List α) (n : Nat) (h : pts.length = n + 2) (d : α) :
    pts = pts[0]?.getD d :: ((List.range n).map (fun k => pts[k + 1]?.getD d) ++ [pts[n + 1]?.getD d]) := by
  conv_lhs => rw [list_eq_map_range pts d, h, List.range_succ_eq_map, List.range_succ]
  simp [Function.comp_def]

theorem forall₂_right_all {α β : Type} {R : α → β → Prop} {P : β → Prop} (h : ∀ a b, R a b → P b)
    {l₁ : List α} {l₂ : List β} (hf : List.Forall₂ R l₁ l₂) : ∀ b ∈ l₂, P b :=
  ((List.forall₂_and_left _ _).mp (hf.imp fun a b hab => (⟨h a b hab, hab⟩ : P b ∧ R a b)).flip).1

theorem approx_spline_some (c : CubicBez K) (a : K) (pts : List (Point K)) (h : c.approx_spline a = some pts) :
    ∃ n, 1 ≤ n ∧ n ≤ maxSplineSplit ∧ c.approx_spline_n n a = some pts := by
  unfold CubicBez.approx_spline at h
  obtain ⟨n, hn, hf⟩ := List.exists_of_findSome?_eq_some h
  simp only [List.mem_map, List.mem_range] at hn
  obtain ⟨m, hm, rfl⟩ := hn
  exact ⟨m + 1, by omega, by omega, hf⟩

theorem splines_go_forall₂ (a : K) (order : Nat) : ∀ (curves : List (CubicBez K)) (splines : List (List (Point K))),
    cubicsToQuadraticSplines.go a order curves = some splines →
    List.Forall₂ (fun c sp => c.approx_spline_n order a = some sp) curves splines
  | [], splines, h => by
    simp only [cubicsToQuadraticSplines.go, Option.some.injEq] at h
    subst h; exact List.Forall₂.nil
  | c :: cs, splines, h => by
    rw [cubicsToQuadraticSplines.go] at h
    split at h
    · cases h
    · rename_i sp hsp
      cases hg : cubicsToQuadraticSplines.go a order cs with
      | none => rw [hg] at h; cases h
      | some rest =>
        rw [hg] at h
        simp only [Option.map_some, Option.some.injEq] at h
        subst h
        exact List.Forall₂.cons hsp (splines_go_forall₂ a order cs rest hg)

theorem cubicsToQuadraticSplines_some (curves : List (CubicBez K)) (a : K) (splines : List (List (Point K)))
    (h : cubicsToQuadraticSplines curves a = some splines) :
    ∃ order, 1 ≤ order ∧ order ≤ maxSplineSplit + 1 ∧
      List.Forall₂ (fun c sp => c.approx_spline_n order a = some sp) curves splines := by
  unfold cubicsToQuadraticSplines at h
  obtain ⟨n, hn, hf⟩ := List.exists_of_findSome?_eq_some h
  simp only [List.mem_map, List.mem_range] at hn
  obtain ⟨m, hm, rfl⟩ := hn
  exact ⟨m + 1, by omega, by omega, splines_go_forall₂ a (m + 1) curves splines hf⟩

end Kurbo
