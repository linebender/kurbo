import Kurbo.Solve
import Proofs.Lawful
import Mathlib.Tactic.LinearCombination
/-! helper lemmas for C15, quadratic part (any lawful scalar; the only fact about `Scalar.sqrt` that is used is
    exactness at the one discriminant the call computes) -/
namespace Kurbo

section field
variable {K : Type} [Field K]

theorem quad_eq_scaled (c0 c1 c2 x : K) (h2 : c2 ≠ 0) :
    c0 + c1 * x + c2 * x ^ 2 = c2 * (x ^ 2 + c1 / c2 * x + c0 / c2) := by
  linear_combination (-x) * mul_div_cancel₀ c1 h2 - mul_div_cancel₀ c0 h2

end field

/-! `scalar_norm` turns `Scalar.copysign s p` into `if p < 0 then -|s| else |s|`; `copysign_mul_self`, `abs_copysign`,
    `mul_copysign_nonneg` say what is used of it: its square, its absolute value, its sign. -/
section ordered
variable {K : Type} [Field K] [LinearOrder K]

theorem copysign_mul_self (s p : K) : (if p < 0 then -|s| else |s|) * (if p < 0 then -|s| else |s|) = s * s := by
  split_ifs
  · rw [neg_mul_neg, abs_mul_abs_self]
  · exact abs_mul_abs_self s

variable [IsStrictOrderedRing K]

theorem abs_copysign (s : K) (c : Prop) [Decidable c] : |(if c then -|s| else |s|)| = |s| := by
  split_ifs
  · rw [abs_neg, abs_abs]
  · rw [abs_abs]

theorem mul_copysign_nonneg (s p : K) : 0 ≤ p * (if p < 0 then -|s| else |s|) := by
  split_ifs with hp
  · rw [mul_neg]; exact neg_nonneg.mpr (mul_nonpos_of_nonpos_of_nonneg hp.le (abs_nonneg s))
  · exact mul_nonneg (not_lt.mp hp) (abs_nonneg s)

/-- roots of a monic quadratic with positive discriminant, via the numerically stable formula: `sg` is a square root of the
    discriminant with the sign of `p`, so nothing cancels in `p + sg` -/
theorem monic_roots {p q sg : K} (hD : 0 < p * p - 4 * q) (hs2 : sg * sg = p * p - 4 * q) (hps : 0 ≤ p * sg) :
    -(1 / 2) * (p + sg) ≠ 0 ∧ -(1 / 2) * (p + sg) ≠ q / (-(1 / 2) * (p + sg)) ∧
    ∀ x, (x ^ 2 + p * x + q = 0 ↔ x = -(1 / 2) * (p + sg) ∨ x = q / (-(1 / 2) * (p + sg))) := by
  generalize hr1 : -(1 / 2) * (p + sg) = r1
  have hne : r1 ≠ 0 := fun h0 => by
    have : p * p + 2 * (p * sg) + (p * p - 4 * q) = 0 := by
      linear_combination (-2 * (p + sg)) * hr1 - (2 * (p + sg)) * h0 - hs2
    exact (add_pos_of_nonneg_of_pos (add_nonneg (mul_self_nonneg p) (mul_nonneg zero_le_two hps)) hD).ne' this
  have hq : q = r1 * (-p - r1) := by rw [← hr1]; linear_combination (1 / 4 : K) * hs2
  have hother : q / r1 = -p - r1 := by rw [div_eq_iff hne]; linear_combination hq
  have hdist : r1 ≠ -p - r1 := fun h => by
    have : p * p - 4 * q = 0 := by rw [← hs2]; linear_combination (-2 * sg) * hr1 - sg * h
    exact hD.ne' this
  rw [hother]
  refine ⟨hne, hdist, fun x => ?_⟩
  have hfac : x ^ 2 + p * x + q = (x - r1) * (x - (-p - r1)) := by linear_combination hq
  rw [hfac, mul_eq_zero, sub_eq_zero, sub_eq_zero]

end ordered

variable {K : Type} [Field K] [LinearOrder K] [IsStrictOrderedRing K] [FloorRing K] [Scalar K] [LawfulScalar K]

/-- the discriminant of the scaled polynomial, as `solve_quadratic` computes it -/
def quadArg (c0 c1 c2 : K) : K := c1 / c2 * (c1 / c2) - 4 * (c0 / c2)

/-- the first root `solve_quadratic` computes in the two-root branch -/
def quadRoot1 (c0 c1 c2 : K) : K :=
  -(1 / 2) * (c1 / c2 + if c1 / c2 < 0 then -|Scalar.sqrt (quadArg c0 c1 c2)| else |Scalar.sqrt (quadArg c0 c1 c2)|)

/-- `solve_quadratic` in field operations (`!is_finite()` of a quotient reads "divisor = 0"; `arg` is always finite, so the
    overflow branch `root1 = -sc1` is not in the equation) -/
theorem solveQuadratic_eq (c0 c1 c2 : K) :
    solveQuadratic c0 c1 c2 =
      if c2 = 0 then
        if c1 ≠ 0 then [-c0 / c1] else if c0 = 0 ∧ c1 = 0 then [0] else []
      else if quadArg c0 c1 c2 < 0 then []
      else if quadArg c0 c1 c2 = 0 then [-(1 / 2) * (c1 / c2)]
      else if quadRoot1 c0 c1 c2 ≠ 0 then
        if quadRoot1 c0 c1 c2 < c0 / c2 / quadRoot1 c0 c1 c2 then [quadRoot1 c0 c1 c2, c0 / c2 / quadRoot1 c0 c1 c2]
        else [c0 / c2 / quadRoot1 c0 c1 c2, quadRoot1 c0 c1 c2]
      else [quadRoot1 c0 c1 c2] := by
  unfold solveQuadratic quadRoot1 quadArg
  simp only [scalar_norm, mul_one_div]
  push_cast
  simp only [Bool.or_self, Bool.not_eq_true', decide_eq_false_iff_not, decide_eq_true_eq, Bool.and_eq_true,
    Bool.not_true, Bool.false_eq_true, if_false, ne_eq, not_not]

theorem solveQuadratic_linear_eq (c0 c1 : K) (h1 : c1 ≠ 0) : solveQuadratic c0 c1 0 = [-c0 / c1] := by
  rw [solveQuadratic_eq, if_pos rfl, if_pos h1]

theorem solveQuadratic_zero (c0 : K) :
    solveQuadratic c0 0 0 = if c0 = 0 then [(0 : K)] else [] := by
  rw [solveQuadratic_eq, if_pos rfl, if_neg (not_not.mpr rfl)]
  simp only [and_true]

theorem solveQuadratic_quadratic (c0 c1 c2 : K) (h2 : c2 ≠ 0)
    (hs : 0 < quadArg c0 c1 c2 → SqrtExact (quadArg c0 c1 c2)) :
    (∀ x, x ∈ solveQuadratic c0 c1 c2 ↔ c0 + c1 * x + c2 * x ^ 2 = 0) ∧
    (solveQuadratic c0 c1 c2).Pairwise (· < ·) ∧ (solveQuadratic c0 c1 c2).length ≤ 2 := by
  have key : ∀ x, c0 + c1 * x + c2 * x ^ 2 = 0 ↔ x ^ 2 + c1 / c2 * x + c0 / c2 = 0 := by
    intro x; rw [quad_eq_scaled c0 c1 c2 x h2, mul_eq_zero, or_iff_right h2]
  -- completing the square: `4·(x² + p x + q) = (2x + p)² − (p² − 4q)`
  have hsq : ∀ x, (2 * x + c1 / c2) ^ 2 = 4 * (x ^ 2 + c1 / c2 * x + c0 / c2) + quadArg c0 c1 c2 := by
    intro x; unfold quadArg; ring
  rw [solveQuadratic_eq, if_neg h2]
  rcases lt_trichotomy (quadArg c0 c1 c2) 0 with hd | hd | hd
  · rw [if_pos hd]
    refine ⟨fun x => ?_, List.Pairwise.nil, Nat.zero_le _⟩
    rw [key]
    refine iff_of_false List.not_mem_nil fun h => ?_
    have := hsq x
    rw [h, mul_zero, zero_add] at this
    exact not_le.mpr hd (this ▸ sq_nonneg _)
  · rw [if_neg hd.not_lt, if_pos hd]
    refine ⟨fun x => ?_, List.pairwise_singleton _ _, Nat.le_succ 1⟩
    have := hsq x
    rw [hd, add_zero] at this
    have h4 : x ^ 2 + c1 / c2 * x + c0 / c2 = 0 ↔ (2 * x + c1 / c2) ^ 2 = 0 := by
      rw [this]; exact ⟨fun h => by rw [h, mul_zero], fun h => (mul_eq_zero.mp h).resolve_left four_ne_zero⟩
    rw [key, List.mem_singleton, h4, sq_eq_zero_iff]
    constructor
    · rintro rfl; ring
    · intro h; linear_combination (1 / 2 : K) * h
  · obtain ⟨hr1, hne, hiff⟩ := monic_roots (p := c1 / c2) (q := c0 / c2) hd
      ((copysign_mul_self (Scalar.sqrt (quadArg c0 c1 c2)) (c1 / c2)).trans (hs hd).2) (mul_copysign_nonneg _ _)
    rw [if_neg (lt_asymm hd), if_neg (ne_of_gt hd), if_pos (show quadRoot1 c0 c1 c2 ≠ 0 from hr1)]
    have hne' : quadRoot1 c0 c1 c2 ≠ c0 / c2 / quadRoot1 c0 c1 c2 := hne
    have hiff' : ∀ x, x ^ 2 + c1 / c2 * x + c0 / c2 = 0 ↔
        x = quadRoot1 c0 c1 c2 ∨ x = c0 / c2 / quadRoot1 c0 c1 c2 := hiff
    generalize quadRoot1 c0 c1 c2 = r1 at hne' hiff' ⊢
    generalize c0 / c2 / r1 = r2 at hne' hiff' ⊢
    by_cases hlt : r1 < r2
    · rw [if_pos hlt]
      refine ⟨fun x => ?_, List.pairwise_pair.mpr hlt, Nat.le_refl 2⟩
      rw [key, hiff', List.mem_pair]
    · rw [if_neg hlt]
      refine ⟨fun x => ?_, List.pairwise_pair.mpr (lt_of_le_of_ne (not_lt.mp hlt) hne'.symm), Nat.le_refl 2⟩
      rw [key, hiff', List.mem_pair, or_comm]

end Kurbo
