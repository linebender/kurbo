import Proofs.Lemmas.C18Integral
import Proofs.Lemmas.C02
/-! The area swept along a segment: helper lemmas for the segment level of `Proofs/C02.lean`.

    `signed_area = ½·[x·y]₀¹ − ∫ y dx` (`c18_mi_area`), and `∫ y dx` is the first moment integral of C18.  So the
    primitive of the area is made of the primitive `c18_momentPrim` of the moment integrals, and the area of a segment
    that traces another one along a polynomial `L` (a sub-segment, the reversed segment) comes from the change of variables
    of `Proofs/Lemmas/C18.lean`.  Lines and quadratics enter through the cubic with the same `eval` (`PathSeg.asCubic`),
    which has the same area by direct computation (`Line.as_cubic_signed_area`, `QuadBez.raise_signed_area`).  Reversal negates the area of a segment, hence of a reversed chain (`areaSum_reverse`). -/
namespace Kurbo
variable {K : Type} [Field K] [LinearOrder K] [IsStrictOrderedRing K] [FloorRing K] [Scalar K] [LawfulScalar K]

/-- the area swept by the radius vector from parameter `0` to `t`, `½∫₀ᵗ (x·y′ − y·x′) = ½·[x·y]₀ᵗ − ∫₀ᵗ y·x′`: a polynomial
    in `t`, so that it makes sense over any field -/
def CubicBez.areaTo (c : CubicBez K) (t : K) : K :=
  ((c.eval t).x * (c.eval t).y - c.p0.x * c.p0.y) / 2 - (c18_momentPrim c t).1

theorem CubicBez.areaTo_zero (c : CubicBez K) : c.areaTo 0 = 0 := by
  rw [CubicBez.areaTo, c18_momentPrim_zero, (cubic_eval_zero_one c).1, sub_self, zero_div, Prod.fst_zero, sub_zero]

theorem CubicBez.areaTo_one (c : CubicBez K) : c.areaTo 1 = c.signed_area := by
  rw [CubicBez.areaTo, ← c18_mi_eq_prim, c18_mi_area, (cubic_eval_zero_one c).2]
  ring

open Polynomial in
theorem cubic_signed_area_reparam {c c' : CubicBez K} (L : K[X]) (he : ∀ u, c'.eval u = c.eval (L.eval u)) :
    c'.signed_area = c.areaTo (L.eval 1) - c.areaTo (L.eval 0) := by
  have e0 : c'.p0 = c.eval (L.eval 0) := by rw [← (cubic_eval_zero_one c').1, he]
  have e1 : c'.p3 = c.eval (L.eval 1) := by rw [← (cubic_eval_zero_one c').2, he]
  have hm := c18_mi_area c'
  rw [c18_mi_reparam_poly L he, e0, e1, Prod.fst_sub] at hm
  rw [CubicBez.areaTo, CubicBez.areaTo]
  linear_combination hm

theorem QuadBez.raise_signed_area (q : QuadBez K) : q.raise.signed_area = q.signed_area := by kring

theorem Line.as_cubic_signed_area (l : Line K) (s u : K) :
    (CubicBez.mk l.p0 (l.eval s) (l.eval u) l.p1).signed_area = l.signed_area := by kring

/-- the cubic that traces the same curve with the same parametrisation: a line with the control points at the thirds
    (`to_cubic` puts them on the end points, which re-parametrises the line by the smoothstep), a quadratic raised -/
def PathSeg.asCubic : PathSeg K → CubicBez K
  | .Line l => ⟨l.p0, l.p0.lerp l.p1 (1 / 3), l.p0.lerp l.p1 (2 / 3), l.p1⟩
  | .Quad q => q.raise
  | .Cubic c => c

theorem PathSeg.asCubic_eval (s : PathSeg K) (t : K) : s.asCubic.eval t = s.eval t := by
  cases s with
  | Line l => exact c18_thirds_eval l t
  | Quad q => exact quad_raise_eval q t
  | Cubic c => rfl

theorem PathSeg.asCubic_signed_area (s : PathSeg K) : s.asCubic.signed_area = s.signed_area := by
  cases s with
  | Line l => exact l.as_cubic_signed_area (1 / 3) (2 / 3)
  | Quad q => exact q.raise_signed_area
  | Cubic c => rfl

def PathSeg.areaTo (s : PathSeg K) (t : K) : K := s.asCubic.areaTo t

theorem PathSeg.areaTo_zero (s : PathSeg K) : s.areaTo 0 = 0 := s.asCubic.areaTo_zero

theorem PathSeg.areaTo_one (s : PathSeg K) : s.areaTo 1 = s.signed_area := by
  rw [PathSeg.areaTo, CubicBez.areaTo_one, PathSeg.asCubic_signed_area]

open Polynomial in
/-- the signed area depends only on the traced curve: a segment of any kind that traces `s` along `u ↦ L(u)`, `L` any
    polynomial, has the area that `s` sweeps from `L(0)` to `L(1)` -/
theorem PathSeg.signed_area_of_reparam {s s' : PathSeg K} (L : K[X]) (he : ∀ u, s'.eval u = s.eval (L.eval u)) :
    s'.signed_area = s.areaTo (L.eval 1) - s.areaTo (L.eval 0) := by
  rw [← PathSeg.asCubic_signed_area]
  exact cubic_signed_area_reparam L fun u => by rw [PathSeg.asCubic_eval, he, PathSeg.asCubic_eval]

open Polynomial in
theorem PathSeg.signed_area_subsegment (s : PathSeg K) (t0 t1 : K) :
    (s.subsegment ⟨t0, t1⟩).signed_area = s.areaTo t1 - s.areaTo t0 := by
  have h := PathSeg.signed_area_of_reparam (s := s) (s' := s.subsegment ⟨t0, t1⟩) (C t0 + X * C (t1 - t0)) fun u => by
    rw [pathSeg_subsegment_eval, eval_add, eval_mul, eval_C, eval_C, eval_X]
  rwa [eval_add, eval_mul, eval_C, eval_C, eval_X, one_mul, add_sub_cancel, eval_add, eval_mul, eval_C, eval_C, eval_X,
    zero_mul, add_zero] at h

open Polynomial in
/-- the reversed segment traces `s` along `1 − X` -/
theorem PathSeg.reverse_signed_area (s : PathSeg K) : s.reverse.signed_area = - s.signed_area := by
  have h := PathSeg.signed_area_of_reparam (s := s) (s' := s.reverse) (1 - X) fun u => by
    rw [pathSeg_reverse_eval, eval_sub, eval_one, eval_X]
  rwa [eval_sub, eval_one, eval_X, sub_self, eval_sub, eval_one, eval_X, sub_zero, PathSeg.areaTo_zero,
    PathSeg.areaTo_one, zero_sub] at h

theorem areaSum_map_reverse (ss : List (PathSeg K)) : areaSum (ss.map PathSeg.reverse) = - areaSum ss := by
  induction ss with
  | nil => exact neg_zero.symm
  | cons s r ih => rw [List.map_cons, areaSum_cons, areaSum_cons, ih, PathSeg.reverse_signed_area, neg_add]

theorem areaSum_reverse (ss : List (PathSeg K)) : areaSum (ss.reverse.map PathSeg.reverse) = - areaSum ss := by
  rw [areaSum_map_reverse, areaSum, List.map_reverse, List.sum_reverse, areaSum]

end Kurbo

namespace Kurbo
section real
variable [Scalar ℝ] [LawfulScalar ℝ]
open intervalIntegral

/-- `½∫ (x·y′ − y·x′)` over any parameter range is the increment of `areaTo`: `∫ x·y′` and `∫ y·x′` are differences of
    `c18_F` (`c18_integral_prod`) and add up to `[x·y]` (`c18_F_one_der_add`) -/
theorem cubic_green_eq_areaTo (c : CubicBez ℝ) (u v : ℝ) :
    (1 / 2) * ∫ t in u..v, ((c.eval t).x * (c.deriv.eval t).y - (c.eval t).y * (c.deriv.eval t).x)
      = c.areaTo v - c.areaTo u := by
  have hx (w : ℝ) : c18_poly (c18_px c) 4 w = (c.eval w).x := by rw [c18_eval_eq]
  have hy (w : ℝ) : c18_poly (c18_py c) 4 w = (c.eval w).y := by rw [c18_eval_eq]
  have e : ∀ t, (c.eval t).x * (c.deriv.eval t).y - (c.eval t).y * (c.deriv.eval t).x
      = c18_poly (c18_px c) 4 t * c18_poly c18_one 4 t * c18_poly (c18_der (c18_py c)) 3 t
        - c18_poly (c18_py c) 4 t * c18_poly c18_one 4 t * c18_poly (c18_der (c18_px c)) 3 t := fun t => by
    rw [c18_one_poly, mul_one, mul_one, hx, hy, c18_deriv_eq]
  have ii : ∀ a b d : ℕ → ℝ, IntervalIntegrable
      (fun t => c18_poly a 4 t * c18_poly b 4 t * c18_poly d 3 t) MeasureTheory.volume u v := fun a b d => by
    apply Continuous.intervalIntegrable
    simp only [c18_poly]
    fun_prop
  simp_rw [e]
  rw [integral_sub (ii _ _ _) (ii _ _ _), c18_integral_prod, c18_integral_prod]
  have pv := c18_F_one_der_add (c18_px c) (c18_py c) v
  have pu := c18_F_one_der_add (c18_px c) (c18_py c) u
  have h0x := hx 0
  have h0y := hy 0
  rw [(cubic_eval_zero_one c).1] at h0x h0y
  rw [hx, hy, h0x, h0y] at pv pu
  simp only [CubicBez.areaTo, c18_momentPrim, c18_F_comm c18_one]
  linear_combination (1 / 2 : ℝ) * pv - (1 / 2 : ℝ) * pu

end real
end Kurbo
