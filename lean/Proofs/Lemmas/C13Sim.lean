import Proofs.Lemmas.C13Arith
/-! C13: the model's `step` sequence on straight segments refines the arc-length specification `DashSpec.walk`
    (state `Working`, open polyline). -/
set_option linter.unusedSectionVars false
namespace Kurbo
open DashSpec
variable {K : Type} [Field K] [LinearOrder K] [IsStrictOrderedRing K] [FloorRing K] [Scalar K] [LawfulScalar K]

/-- a chain of `step`s taken in state `Working`, with the elements they produce (these are exactly the elements that
    successive `next` calls return, see `next_working_some` / `next_working_none`) -/
inductive Steps : DashIt K → List (PathEl K) → DashIt K → Prop
  | refl (s : DashIt K) : Steps s [] s
  | cons {s s1 s2 : DashIt K} {r : Option (PathEl K)} {outs : List (PathEl K)} :
      s.state = .Working → s.step = some (r, s1) → Steps s1 outs s2 → Steps s (r.toList ++ outs) s2

theorem Steps.trans {a b c : DashIt K} {o1 o2 : List (PathEl K)} (h1 : Steps a o1 b) (h2 : Steps b o2 c) :
    Steps a (o1 ++ o2) c := by
  induction h1 with
  | refl s => exact h2
  | cons hw e _ ih => rw [List.append_assoc]; exact Steps.cons hw e (ih h2)

theorem Steps.single {s s1 : DashIt K} {r : Option (PathEl K)} (hw : s.state = .Working)
    (e : s.step = some (r, s1)) : Steps s r.toList s1 := by
  have := Steps.cons hw e (Steps.refl s1)
  rwa [List.append_nil] at this

/-- total length of the strokes drawn by a list of polyline elements, the pen starting at `pen` -/
def drawnLen : Point K → List (PathEl K) → K
  | _, [] => 0
  | _, .MoveTo p :: r => drawnLen p r
  | pen, .LineTo p :: r => (p - pen).hypot + drawnLen p r
  | pen, _ :: r => drawnLen pen r

/-- where the pen is afterwards -/
def c13_penAfter : Point K → List (PathEl K) → Point K
  | pen, [] => pen
  | _, .MoveTo p :: r => c13_penAfter p r
  | _, .LineTo p :: r => c13_penAfter p r
  | pen, _ :: r => c13_penAfter pen r

theorem drawnLen_append (pen : Point K) (a b : List (PathEl K)) :
    drawnLen pen (a ++ b) = drawnLen pen a + drawnLen (c13_penAfter pen a) b := by
  induction a generalizing pen with
  | nil => simp [drawnLen, c13_penAfter]
  | cons el a ih =>
    cases el <;> simp only [List.cons_append, drawnLen, c13_penAfter, ih, add_assoc]

theorem penAfter_append (pen : Point K) (a b : List (PathEl K)) :
    c13_penAfter pen (a ++ b) = c13_penAfter (c13_penAfter pen a) b := by
  induction a generalizing pen with
  | nil => simp [c13_penAfter]
  | cons el a ih =>
    cases el <;> simp only [List.cons_append, c13_penAfter, ih]

/-- the fields that no `step` inside a polyline touches -/
def DashIt.SameAux (s s₁ : DashIt K) : Prop :=
  s₁.closepath_pending = s.closepath_pending ∧ s₁.stash = s.stash ∧ s₁.stash_ix = s.stash_ix ∧
    s₁.input_done = s.input_done

theorem DashIt.SameAux.trans {a b c : DashIt K} (h1 : a.SameAux b) (h2 : b.SameAux c) : a.SameAux c :=
  ⟨h2.1.trans h1.1, h2.2.1.trans h1.2.1, h2.2.2.1.trans h1.2.2.1, h2.2.2.2.trans h1.2.2.2⟩

/-- what the `step`s inside the `LineTo`s of one sub-path leave alone: the fields of `SameAux` and `SameInit`, and the start
    point of the sub-path -/
structure SubFrame (s s₁ : DashIt K) : Prop where
  aux : s.SameAux s₁
  init : s.SameInit s₁
  start : s₁.start_pt = s.start_pt

theorem SubFrame.refl (s : DashIt K) : SubFrame s s := ⟨⟨rfl, rfl, rfl, rfl⟩, DashIt.SameInit.refl s, rfl⟩

theorem SubFrame.trans {a b c : DashIt K} (h1 : SubFrame a b) (h2 : SubFrame b c) : SubFrame a c :=
  ⟨h1.aux.trans h2.aux, h1.init.trans h2.init, h2.start.trans h1.start⟩

theorem SubFrame.cp {s s₁ : DashIt K} (h : SubFrame s s₁) : s₁.closepath_pending = s.closepath_pending := h.aux.1
theorem SubFrame.stash {s s₁ : DashIt K} (h : SubFrame s s₁) : s₁.stash = s.stash := h.aux.2.1
theorem SubFrame.stash_ix {s s₁ : DashIt K} (h : SubFrame s s₁) : s₁.stash_ix = s.stash_ix := h.aux.2.2.1
theorem SubFrame.done {s s₁ : DashIt K} (h : SubFrame s s₁) : s₁.input_done = s.input_done := h.aux.2.2.2
theorem SubFrame.dashes {s s₁ : DashIt K} (h : SubFrame s s₁) : s₁.dashes = s.dashes := h.init.1

/-- pattern position of the iterator -/
def DashIt.ph (s : DashIt K) : Ph K := ⟨s.dash_ix, s.dash_remaining, s.is_active⟩

/-- the iterator is in state `Working` inside the straight segment `l` of length `L` -/
structure OnLine (s : DashIt K) (l : Line K) (L : K) : Prop where
  seg : s.current_seg = .Line l
  len : l.arclen 0 = L
  t_lt : s.t < 1
  rem : s.seg_remaining = (1 - s.t) * L
  working : s.state = .Working
  ix : s.dash_ix < s.dashes.size
  dash_nonneg : 0 ≤ s.dash_remaining
  last : s.last_pt = l.p1

/-- what the `step` at the end of the segment emits -/
def finEl (s : DashIt K) (l : Line K) : List (PathEl K) := if s.is_active then [.LineTo l.p1] else []

variable [LawfulHypotSq K]

theorem OnLine.len_pos {s : DashIt K} {l : Line K} {L : K} (hon : OnLine s l L)
    (hlt : s.dash_remaining < s.seg_remaining) : 0 < L := by
  have h : 0 < (1 - s.t) * L := by rw [← hon.rem]; exact hon.dash_nonneg.trans_lt hlt
  exact (mul_pos_iff_of_pos_left (sub_pos.mpr hon.t_lt)).mp h

theorem OnLine.dist_end {s : DashIt K} {l : Line K} {L : K} (hon : OnLine s l L) :
    (l.p1 - l.eval s.t).hypot = s.seg_remaining := by
  rw [← (line_eval_zero_one l).2, line_eval_dist l _ _ 0 hon.t_lt.le, hon.len, ← hon.rem]

theorem OnLine.switched {s : DashIt K} {l : Line K} {L : K} (hon : OnLine s l L)
    (hpat : ∀ i, 0 ≤ cyc s.dashes i) (hlt : s.dash_remaining < s.seg_remaining) : OnLine (s.switched L) l L := by
  obtain ⟨-, h2, h3⟩ := switch_arith L s.t s.dash_remaining (hon.len_pos hlt)
  refine ⟨hon.seg, hon.len, h3 (hon.rem ▸ hlt), ?_, ?_, Nat.mod_lt _ (Nat.zero_lt_of_lt hon.ix), hpat _, hon.last⟩
  · show s.seg_remaining - s.dash_remaining = (1 - (s.t + s.dash_remaining / L)) * L
    rw [h2, hon.rem]
  · show (if s.is_active then DashState.Working else s.state) = .Working
    rw [hon.working, ite_self]

theorem OnLine.step_switch {s : DashIt K} {l : Line K} {L : K} (hon : OnLine s l L)
    (hlt : s.dash_remaining < s.seg_remaining) :
    s.step = some (some (if s.is_active then .LineTo (l.eval (s.t + s.dash_remaining / L))
      else .MoveTo (l.eval (s.t + s.dash_remaining / L))), s.switched L) :=
  step_line_switch s l L hon.seg hon.len hon.t_lt (by rw [hon.working]; rfl) hon.ix hlt

omit [LawfulHypotSq K] in
theorem OnLine.step_end {s : DashIt K} {l : Line K} {L : K} (hon : OnLine s l L)
    (hn : ¬ s.dash_remaining < s.seg_remaining) :
    s.step = some (if s.is_active then some (.LineTo l.p1) else none,
      ({ s with dash_remaining := s.dash_remaining - s.seg_remaining } : DashIt K).get_input) :=
  step_line_end_working s l hon.seg (by rw [hon.working]; rfl) (by rw [hon.working]; decide) hn

omit [LawfulHypotSq K] in
theorem switched_ph (s : DashIt K) (L : K) : (s.switched L).ph = s.ph.next s.dashes.size (cyc s.dashes) := by
  simp only [DashIt.switched, DashIt.ph, Ph.next, cyc, Nat.mod_mod]

/-- Where a chain of `Working` steps from `s`, inside the line `l`, has led: to `s₁` inside the line `l₁` of length `L₁`, the
    rest of which fits into the current entry.  `outs` = the elements returned on the way; `o`, `ph'` = the on-length and
    the pattern position the specification computes for the stretch (the `step` that finishes `l₁` has not been taken: it
    will subtract `seg_remaining` and, if the entry is on, emit `finEl s₁ l₁`). -/
structure SimEnd (s : DashIt K) (l : Line K) (outs : List (PathEl K)) (s₁ : DashIt K) (l₁ : Line K) (L₁ : K) (o : K)
    (ph' : Ph K) : Prop where
  steps : Steps s outs s₁
  on : OnLine s₁ l₁ L₁
  fits : ¬ s₁.dash_remaining < s₁.seg_remaining
  ph : ph' = ⟨s₁.dash_ix, s₁.dash_remaining - s₁.seg_remaining, s₁.is_active⟩
  frame : SubFrame s s₁
  /-- the strokes have the specification's length, drawn from `pen` = the point of `s` if its entry is on (else anywhere) -/
  drawn : ∀ pen, (s.is_active = true → pen = l.eval s.t) →
    drawnLen pen (outs ++ finEl s₁ l₁) = o ∧ (s₁.is_active = true → c13_penAfter pen (outs ++ finEl s₁ l₁) = l₁.p1)

/-- **One segment.** If the specification walks the rest of the current segment from the iterator's pattern position, the
    iterator gets there by a chain of switching `step`s inside the segment; no input is consumed. -/
theorem seg_sim (l : Line K) (L : K) (f : Nat) (s : DashIt K) (o : K) (ph' : Ph K)
    (hpat : ∀ i, 0 ≤ cyc s.dashes i) (hon : OnLine s l L)
    (h : walk s.dashes.size (cyc s.dashes) f s.ph s.seg_remaining = some (o, ph')) :
    ∃ outs s₁, SimEnd s l outs s₁ l L o ph' ∧ s₁.inner = s.inner := by
  induction f generalizing s o with
  | zero => cases h
  | succ f ih =>
    by_cases hlt : s.dash_remaining < s.seg_remaining
    · obtain ⟨f', o1, e, hc, rfl⟩ := walk_of_lt (show s.ph.rem < s.seg_remaining from hlt) h
      cases e
      rw [← switched_ph s L] at hc
      obtain ⟨outs', s₁, h1, hin⟩ := ih (s.switched L) o1 hpat (hon.switched hpat hlt) hc
      have hfr0 : SubFrame s (s.switched L) := ⟨⟨rfl, rfl, rfl, rfl⟩, .refl _, rfl⟩
      refine ⟨_, s₁, ⟨Steps.cons hon.working (hon.step_switch hlt) h1.steps, h1.on, h1.fits, h1.ph, hfr0.trans h1.frame, ?_⟩,
        hin⟩
      intro pen hpen
      obtain ⟨d1, d2⟩ := h1.drawn (l.eval (s.t + s.dash_remaining / L)) (fun _ => rfl)
      have hd := line_eval_add_dist l L s.t s.dash_remaining hon.len (hon.len_pos hlt) hon.dash_nonneg
      show drawnLen pen ((some (if s.is_active then PathEl.LineTo (l.eval (s.t + s.dash_remaining / L))
        else .MoveTo (l.eval (s.t + s.dash_remaining / L)))).toList ++ outs' ++ finEl s₁ l)
          = onPart s.is_active s.dash_remaining + o1 ∧ _
      cases hact : s.is_active
      · -- off: a `MoveTo` to the switch point
        exact ⟨d1.trans (zero_add o1).symm, d2⟩
      · -- on: a `LineTo` to the switch point, of length `dash_remaining`
        refine ⟨?_, d2⟩
        show (l.eval (s.t + s.dash_remaining / L) - pen).hypot + drawnLen _ (outs' ++ finEl s₁ l) = s.dash_remaining + o1
        rw [d1, hpen hact, hd]
    · obtain ⟨rfl, rfl⟩ := walk_of_not_lt (show ¬ s.ph.rem < s.seg_remaining from hlt) h
      refine ⟨[], s, ⟨Steps.refl s, hon, hlt, rfl, SubFrame.refl s, ?_⟩, rfl⟩
      intro pen hpen
      show drawnLen pen (finEl s l) = onPart s.is_active s.seg_remaining ∧ _
      unfold finEl
      cases hact : s.is_active
      · exact ⟨rfl, fun h => by cases h⟩
      · refine ⟨?_, fun _ => rfl⟩
        show (l.p1 - pen).hypot + 0 = s.seg_remaining
        rw [add_zero, hpen hact, hon.dist_end]

section
omit [LawfulHypotSq K]
/-- a `LineTo q` is loaded: the segment from `last_pt` to `q` -/
def DashIt.loadLine (s : DashIt K) (q : Point K) (tl : List (PathEl K)) : DashIt K :=
  { s with inner := tl, seg_remaining := (Line.mk s.last_pt q).arclen 0,
           current_seg := .Line ⟨s.last_pt, q⟩, last_pt := q, t := 0 }

/-- `DashIt.loaded` with the line from `last_pt`, in the arithmetic of a lawful scalar (`Line.arclen` ignores its accuracy) -/
theorem loaded_line (s : DashIt K) (tl : List (PathEl K)) (q : Point K) :
    s.loaded tl (.Line ⟨s.last_pt, q⟩) = s.loadLine q tl := by
  simp only [DashIt.loaded, DashIt.loadLine, PathSeg.arclen, PathSeg.end, Line.end, Line.arclen, scalar_norm, Nat.cast_zero]

theorem get_input_lineTo (s : DashIt K) (q : Point K) (tl : List (PathEl K)) (hcp : s.closepath_pending = false)
    (hin : s.inner = .LineTo q :: tl) : s.get_input = s.loadLine q tl := by
  rw [get_input_of_not_pending s hcp, hin, getInputList_lineTo, loaded_line]

theorem finEl_eq (s : DashIt K) (l : Line K) :
    (if s.is_active then some (PathEl.LineTo l.p1) else none).toList = finEl s l := by
  unfold finEl; cases s.is_active <;> rfl

/-- a freshly loaded straight segment: at `t = 0` the whole length remains -/
theorem OnLine.fresh {s : DashIt K} {p q : Point K} (hseg : s.current_seg = .Line ⟨p, q⟩) (ht : s.t = 0)
    (hrem : s.seg_remaining = (Line.mk p q).arclen 0) (hw : s.state = .Working) (hix : s.dash_ix < s.dashes.size)
    (hd : 0 ≤ s.dash_remaining) (hl : s.last_pt = q) : OnLine s ⟨p, q⟩ ((Line.mk p q).arclen 0) :=
  ⟨hseg, rfl, by rw [ht]; exact zero_lt_one, by rw [hrem, ht, sub_zero, one_mul], hw, hix, hd, hl⟩

theorem OnLine.loadLine {s : DashIt K} {l : Line K} {L : K} (hon : OnLine s l L)
    (hn : ¬ s.dash_remaining < s.seg_remaining) (q : Point K) (tl : List (PathEl K)) :
    OnLine (({ s with dash_remaining := s.dash_remaining - s.seg_remaining } : DashIt K).loadLine q tl)
      ⟨s.last_pt, q⟩ ((Line.mk s.last_pt q).arclen 0) :=
  OnLine.fresh rfl rfl rfl hon.working hon.ix (sub_nonneg.mpr (not_lt.mp hn)) rfl
end

/-- lengths of the segments of the polyline `p, q₁, q₂, …` -/
def polyLens : Point K → List (Point K) → List K
  | _, [] => []
  | p, q :: r => (Line.mk p q).arclen 0 :: polyLens q r

theorem polyLens_length (p : Point K) (pts : List (Point K)) : (polyLens p pts).length = pts.length := by
  induction pts generalizing p with
  | nil => rfl
  | cons q r ih => simp [polyLens, ih]

theorem polyLens_nonneg (p : Point K) (pts : List (Point K)) : ∀ x ∈ polyLens p pts, 0 ≤ x := by
  induction pts generalizing p with
  | nil => intro x hx; cases hx
  | cons q r ih =>
    intro x hx
    rcases List.mem_cons.mp hx with rfl | hx
    · exact line_arclen_nonneg _ _
    · exact ih q x hx

/-- the last point of the polyline `p, q₁, …, qₖ` -/
def c13b_lastPt : Point K → List (Point K) → Point K
  | p, [] => p
  | _, q :: r => c13b_lastPt q r

omit [LawfulHypotSq K] in
theorem c13b_polyLens_snoc (p : Point K) (pts : List (Point K)) (r : Point K) :
    polyLens p (pts ++ [r]) = polyLens p pts ++ [(Line.mk (c13b_lastPt p pts) r).arclen 0] := by
  induction pts generalizing p with
  | nil => rfl
  | cons q pts ih => simp only [List.cons_append, polyLens, c13b_lastPt, ih]

/-- **Open polyline.** The same with `LineTo q₁, …, LineTo qₖ` next in the input and the specification walking the rest of
    the current segment and then the `k` further ones: the end lies in the last segment, the `LineTo`s are consumed. -/
theorem polyline_sim (pts : List (Point K)) (rest : List (PathEl K)) (l : Line K) (L : K) (f : Nat) (s : DashIt K)
    (o : K) (ph' : Ph K) (hpat : ∀ i, 0 ≤ cyc s.dashes i) (hon : OnLine s l L) (hcp : s.closepath_pending = false)
    (hin : s.inner = pts.map .LineTo ++ rest)
    (h : walkList s.dashes.size (cyc s.dashes) f s.ph (s.seg_remaining :: polyLens s.last_pt pts) = some (o, ph')) :
    ∃ outs s₁ l₁ L₁, SimEnd s l outs s₁ l₁ L₁ o ph' ∧ s₁.inner = rest ∧ s₁.last_pt = c13b_lastPt s.last_pt pts := by
  induction pts generalizing l L s o with
  | nil =>
    obtain ⟨o1, ph1, o2, hc, h2, rfl⟩ := walkList_cons_eq_some.mp h
    cases h2
    rw [add_zero]
    obtain ⟨outs, s₁, h1, hin1⟩ := seg_sim l L f s o1 ph' hpat hon hc
    exact ⟨outs, s₁, l, L, h1, hin1.trans hin, h1.on.last.trans hon.last.symm⟩
  | cons q pts ih =>
    obtain ⟨o1, ph1, o2, hc, hc2, rfl⟩ := walkList_cons_eq_some.mp h
    obtain ⟨outs1, s₁, h1, hin1⟩ := seg_sim l L f s o1 ph1 hpat hon hc
    have hcp1 : s₁.closepath_pending = false := h1.frame.cp.trans hcp
    -- the step that finishes the segment and loads the next one
    have hstep := h1.on.step_end h1.fits
    rw [get_input_lineTo ({ s₁ with dash_remaining := s₁.dash_remaining - s₁.seg_remaining } : DashIt K) q
      (pts.map .LineTo ++ rest) hcp1 (hin1.trans (hin.trans rfl))] at hstep
    have hw2 : walkList s₁.dashes.size (cyc s₁.dashes) f
        ⟨s₁.dash_ix, s₁.dash_remaining - s₁.seg_remaining, s₁.is_active⟩
        ((Line.mk s₁.last_pt q).arclen 0 :: polyLens q pts) = some (o2, ph') := by
      rw [h1.frame.dashes, ← h1.ph, h1.on.last, ← hon.last]
      exact hc2
    obtain ⟨outs2, s₃, l₃, L₃, g, gin, glast⟩ :=
      ih ⟨s₁.last_pt, q⟩ _ _ o2 (by rw [h1.frame.dashes]; exact hpat) (h1.on.loadLine h1.fits q _) hcp1 rfl hw2
    have hs : Steps s₁ (finEl s₁ l ++ outs2) s₃ := by rw [← finEl_eq]; exact Steps.cons h1.on.working hstep g.steps
    -- `g.frame` starts at the state with the next segment loaded, which differs from `s₁` in none of the framed fields
    have hfr2 : SubFrame s₁ s₃ :=
      ⟨⟨g.frame.cp, g.frame.stash, g.frame.stash_ix, g.frame.done⟩, g.frame.init, g.frame.start⟩
    refine ⟨outs1 ++ (finEl s₁ l ++ outs2), s₃, l₃, L₃, ⟨h1.steps.trans hs, g.on, g.fits, g.ph, h1.frame.trans hfr2, ?_⟩,
      gin, glast⟩
    intro pen hpen
    obtain ⟨d1, d2⟩ := h1.drawn pen hpen
    obtain ⟨d3, d4⟩ := g.drawn (c13_penAfter pen (outs1 ++ finEl s₁ l)) (fun ha => by
      rw [d2 ha, h1.on.last]
      exact ((line_eval_zero_one (Line.mk l.p1 q)).1).symm)
    rw [← List.append_assoc, List.append_assoc _ outs2, drawnLen_append, d1, d3, penAfter_append]
    exact ⟨rfl, d4⟩

end Kurbo
