import Proofs.Lemmas.C08Box
import Proofs.Lemmas.C07
/-! C08 helpers, path level: the control points of every segment of a path are points of its elements;
    `controlBox` contains all of them. -/
set_option linter.unusedSectionVars false
namespace Kurbo

section anyScalar
variable {K : Type} [Scalar K]

/-- the points stored in a path element (specification vocabulary; the list `control_box` folds over) -/
def elPoints : PathEl K → List (Point K)
  | .MoveTo p => [p]
  | .LineTo p => [p]
  | .QuadTo a b => [a, b]
  | .CurveTo a b c => [a, b, c]
  | .ClosePath => []

theorem end_point_mem_elPoints (el : PathEl K) (p : Point K) (h : el.end_point = some p) : p ∈ elPoints el := by
  cases el <;> simp only [PathEl.end_point, Option.some.injEq] at h <;> try (subst h; simp [elPoints])
  cases h

theorem stepT_pts (P : Point K → Prop) (sl : Point K × Point K) (el : PathEl K) (h1 : P sl.1) (h2 : P sl.2)
    (hel : ∀ p ∈ elPoints el, P p) :
    P (stepT sl el).1.1 ∧ P (stepT sl el).1.2 ∧
      ∀ s, (stepT sl el).2 = some s → ∀ p ∈ PathSeg.controlPoints s, P p := by
  cases el with
  | MoveTo p =>
    simp only [stepT]
    exact ⟨hel p (by simp [elPoints]), hel p (by simp [elPoints]), by simp⟩
  | LineTo p =>
    simp only [stepT, Option.some.injEq]
    refine ⟨h1, hel p (by simp [elPoints]), ?_⟩
    rintro s rfl q hq
    rcases PathSeg.mem_controlPoints_line.mp hq with rfl | rfl
    · exact h2
    · exact hel _ (by simp [elPoints])
  | QuadTo a b =>
    simp only [stepT, Option.some.injEq]
    refine ⟨h1, hel b (by simp [elPoints]), ?_⟩
    rintro s rfl q hq
    rcases PathSeg.mem_controlPoints_quad.mp hq with rfl | rfl | rfl
    · exact h2
    · exact hel _ (by simp [elPoints])
    · exact hel _ (by simp [elPoints])
  | CurveTo a b c =>
    simp only [stepT, Option.some.injEq]
    refine ⟨h1, hel c (by simp [elPoints]), ?_⟩
    rintro s rfl q hq
    rcases PathSeg.mem_controlPoints_cubic.mp hq with rfl | rfl | rfl | rfl
    · exact h2
    · exact hel _ (by simp [elPoints])
    · exact hel _ (by simp [elPoints])
    · exact hel _ (by simp [elPoints])
  | ClosePath =>
    simp only [stepT]
    split
    · refine ⟨h1, h1, ?_⟩
      simp only [Option.some.injEq]
      rintro s rfl q hq
      rcases PathSeg.mem_controlPoints_line.mp hq with rfl | rfl
      · exact h2
      · exact h1
    · exact ⟨h1, h2, by simp⟩

theorem segsT_pts (P : Point K → Prop) (els : List (PathEl K)) (sl : Point K × Point K)
    (h1 : P sl.1) (h2 : P sl.2) (hel : ∀ el ∈ els, ∀ p ∈ elPoints el, P p) :
    ∀ s ∈ segsT sl els, ∀ p ∈ PathSeg.controlPoints s, P p := by
  induction els generalizing sl with
  | nil => intro s hs; cases hs
  | cons el rest ih =>
    obtain ⟨a, b, c⟩ := stepT_pts P sl el h1 h2 (hel el (by simp))
    intro s hs
    rcases List.mem_append.1 hs with hs | hs
    · exact c s (Option.mem_toList.1 hs)
    · exact ih _ a b (fun e he => hel e (by simp [he])) s hs

theorem segs_pts (P : Point K → Prop) (els : List (PathEl K)) (ss : List (PathSeg K)) (h : segs els = some ss)
    (hel : ∀ el ∈ els, ∀ p ∈ elPoints el, P p) : ∀ s ∈ ss, ∀ p ∈ PathSeg.controlPoints s, P p := by
  cases els with
  | nil => cases h; intro s hs; cases hs
  | cons el rest =>
    rw [segs_cons] at h
    cases hep : el.end_point with
    | none => rw [hep] at h; cases h
    | some p0 =>
      rw [hep] at h; cases h
      have hp0 : P p0 := hel el (by simp) p0 (end_point_mem_elPoints el p0 hep)
      exact segsT_pts P _ _ hp0 hp0 hel

theorem controlBox_cons (els : List (PathEl K)) (p : Point K) (rest : List (Point K))
    (h : els.flatMap elPoints = p :: rest) :
    controlBox els = rest.foldl (fun bb q => bb.union_pt q) (Rect.from_points p p) := by
  have hf : ∀ g : PathEl K → List (Point K), (∀ el, g el = elPoints el) → List.flatMap g els = p :: rest := by
    intro g hg
    rw [show g = elPoints from funext hg]; exact h
  unfold controlBox
  simp only []
  rw [hf]
  intro el; cases el <;> rfl

end anyScalar

section lawful
variable {K : Type} [Field K] [LinearOrder K] [IsStrictOrderedRing K] [FloorRing K] [Scalar K] [LawfulScalar K]

theorem controlBox_contains_elPoints (els : List (PathEl K)) :
    ∀ el ∈ els, ∀ p ∈ elPoints el, (controlBox els).ContainsClosed p := by
  intro el hel p hp
  have hmem : p ∈ els.flatMap elPoints := List.mem_flatMap.mpr ⟨el, hel, hp⟩
  cases hpts : els.flatMap elPoints with
  | nil => rw [hpts] at hmem; simp at hmem
  | cons p0 rest =>
    rw [controlBox_cons els p0 rest hpts]
    rw [hpts] at hmem
    obtain ⟨h1, h2⟩ := foldl_union_pt_contains (fun q : Point K => q) rest (Rect.from_points p0 p0)
    rcases List.mem_cons.mp hmem with rfl | hm
    · exact h1.closed (Rect.from_points_contains p p).1
    · exact h2 p hm

theorem path_bbox_touches (els : List (PathEl K)) (ss : List (PathSeg K)) (bb : Rect K)
    (hs : segs els = some ss) (hne : ss ≠ []) (hb : pathBoundingBox els = some bb) :
    bb.Touches (fun z => ∃ s ∈ ss, ∃ t, 0 ≤ t ∧ t ≤ 1 ∧ s.eval t = z) := by
  have seg : ∀ s ∈ ss, s.bounding_box.Touches (fun z => ∃ s ∈ ss, ∃ t, 0 ≤ t ∧ t ≤ 1 ∧ s.eval t = z) := fun s hmem =>
    (seg_bounding_box_touches s).mono fun _ ⟨t, a, b, e⟩ => ⟨s, hmem, t, a, b, e⟩
  unfold pathBoundingBox at hb
  rw [hs] at hb
  simp only [Option.map_some, Option.some.injEq] at hb
  cases ss with
  | nil => exact absurd rfl hne
  | cons s0 rest =>
    subst hb
    exact Rect.Touches.foldl_union _ _ (seg s0 List.mem_cons_self) fun s hmem => seg s (List.mem_cons_of_mem _ hmem)

end lawful
end Kurbo
