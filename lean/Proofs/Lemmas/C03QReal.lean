import Mathlib.Analysis.SpecialFunctions.Integrals.Basic
import Mathlib.Analysis.SpecialFunctions.Sqrt
import Mathlib.Analysis.SpecialFunctions.Log.Deriv
import Mathlib.Analysis.SpecialFunctions.Pow.Real
import Mathlib.Analysis.Calculus.Deriv.Pow
import Mathlib.Tactic.LinearCombination
/-! Helper lemmas for `Proofs/C03Q.lean`, plain real analysis (no `Scalar` here; at the end `c03q_bac2`, `c03q_v0`, `c03q_logpart`,
    the model's `ba_c2`, `v0` and logarithmic term as functions of three reals, are related to `F`):
    `∫ₓʸ √(a t² + b t + c) dt = F y − F x` with the textbook antiderivative
    `F t = (2at+b)/(4a) · √Q(t) + (4ac − b²)/(8 a √a) · log (2 √a √Q(t) + 2at + b)`.
    For `a > 0` and `4ac ≥ b²` it is differentiable on all of ℝ: if `4ac > b²` the argument of the logarithm is positive
    everywhere, and if `4ac = b²` the logarithm has coefficient 0 and the rest is `(t − t₀) · √Q(t)/2`, `t₀` the cusp. -/
namespace Kurbo
open intervalIntegral

/-- the quadratic under the root: `|q′(t)|² = 4 · Q(t)` -/
def c03q_Q (a b c t : ℝ) : ℝ := a * t ^ 2 + b * t + c

/-- the argument of the logarithm of the antiderivative -/
noncomputable def c03q_L (a b c t : ℝ) : ℝ := 2 * √a * √(c03q_Q a b c t) + (2 * a * t + b)

/-- the non-logarithmic part of the antiderivative -/
noncomputable def c03q_Fnl (a b c t : ℝ) : ℝ := (2 * a * t + b) / (4 * a) * √(c03q_Q a b c t)

/-- the antiderivative of `√Q` -/
noncomputable def c03q_F (a b c t : ℝ) : ℝ :=
  c03q_Fnl a b c t + (4 * a * c - b ^ 2) / (8 * a * √a) * Real.log (c03q_L a b c t)

theorem c03q_four_a_Q (a b c t : ℝ) :
    4 * a * c03q_Q a b c t = (2 * a * t + b) ^ 2 + (4 * a * c - b ^ 2) := by
  unfold c03q_Q; ring

theorem c03q_Q_nonneg {a b c : ℝ} (ha : 0 < a) (hD : 0 ≤ 4 * a * c - b ^ 2) (t : ℝ) :
    0 ≤ c03q_Q a b c t := by
  have h : 0 ≤ 4 * a * c03q_Q a b c t := by rw [c03q_four_a_Q]; positivity
  exact nonneg_of_mul_nonneg_right h (by linarith)

theorem c03q_Q_zero (a b c : ℝ) : c03q_Q a b c 0 = c := by unfold c03q_Q; ring

theorem c03q_Q_one (a b c : ℝ) : c03q_Q a b c 1 = a + b + c := by unfold c03q_Q; ring

/-! ### the sign of the argument of the logarithm

`L = p + s` with `p = 2 √a √Q ≥ 0`, `s = 2at + b` and `p² = s² + D`, `D = 4ac − b²`: it vanishes exactly when `D = 0` and `s ≤ 0`. -/

theorem c03q_add_pos_iff {p s D : ℝ} (hp : 0 ≤ p) (h : p ^ 2 = s ^ 2 + D) :
    0 < p + s ↔ 0 < D ∨ 0 < s := by
  constructor
  · intro hps
    by_contra hn
    rw [not_or, not_lt, not_lt] at hn
    have hle : p ^ 2 ≤ (-s) ^ 2 := by rw [h, neg_sq]; linarith
    have := (abs_le_of_sq_le_sq' hle (neg_nonneg.2 hn.2)).2
    linarith
  · rintro (h' | h')
    · have := (abs_lt_of_sq_lt_sq' (by linarith : s ^ 2 < p ^ 2) hp).1
      linarith
    · linarith

theorem c03q_L_pos_iff {a b c : ℝ} (ha : 0 < a) (hD : 0 ≤ 4 * a * c - b ^ 2) (t : ℝ) :
    0 < c03q_L a b c t ↔ 0 < 4 * a * c - b ^ 2 ∨ 0 < 2 * a * t + b := by
  refine c03q_add_pos_iff (by positivity) ?_
  rw [mul_pow, mul_pow, Real.sq_sqrt ha.le, Real.sq_sqrt (c03q_Q_nonneg ha hD t), ← c03q_four_a_Q]
  ring

theorem c03q_L_pos {a b c : ℝ} (ha : 0 < a) (hD : 0 ≤ 4 * a * c - b ^ 2)
    (h0 : 0 < c03q_L a b c 0) {t : ℝ} (ht : 0 ≤ t) : 0 < c03q_L a b c t := by
  rw [c03q_L_pos_iff ha hD] at h0 ⊢
  refine h0.imp_right fun hb => ?_
  have : 0 ≤ 2 * a * t := by positivity
  linarith

theorem c03q_Q_pos {a b c : ℝ} (ha : 0 < a) (hD : 0 ≤ 4 * a * c - b ^ 2) {t : ℝ}
    (hL : 0 < c03q_L a b c t) : 0 < c03q_Q a b c t := by
  have h : 0 < 4 * a * c03q_Q a b c t := by
    rw [c03q_four_a_Q]
    rcases (c03q_L_pos_iff ha hD t).1 hL with h | h
    · exact add_pos_of_nonneg_of_pos (sq_nonneg _) h
    · exact add_pos_of_pos_of_nonneg (pow_pos h 2) hD
  exact pos_of_mul_pos_right h (by linarith)

theorem c03q_hasDerivAt_lin (a b t : ℝ) : HasDerivAt (fun t : ℝ => 2 * a * t + b) (2 * a) t := by
  simpa using ((hasDerivAt_id t).const_mul (2 * a)).add_const b

theorem c03q_hasDerivAt_Q (a b c t : ℝ) : HasDerivAt (c03q_Q a b c) (2 * a * t + b) t := by
  unfold c03q_Q
  have h1 : HasDerivAt (fun t : ℝ => a * t ^ 2) (a * (2 * t)) t := by
    simpa using ((hasDerivAt_id t).fun_pow 2).const_mul a
  have h2 : HasDerivAt (fun t : ℝ => b * t) b t := by
    simpa using (hasDerivAt_id t).const_mul b
  refine ((h1.fun_add h2).add_const c).congr_deriv ?_
  ring

theorem c03q_hasDerivAt_Fnl {a b c t : ℝ} (ha : 0 < a) (hQ : 0 < c03q_Q a b c t) :
    HasDerivAt (c03q_Fnl a b c)
      (√(c03q_Q a b c t) - (4 * a * c - b ^ 2) / (8 * a * √(c03q_Q a b c t))) t := by
  have hs := (c03q_hasDerivAt_Q a b c t).sqrt hQ.ne'
  refine (((c03q_hasDerivAt_lin a b t).div_const (4 * a)).fun_mul hs).congr_deriv ?_
  have hr : 0 < √(c03q_Q a b c t) := Real.sqrt_pos.mpr hQ
  have hrr := Real.sq_sqrt hQ.le
  have h4 := c03q_four_a_Q a b c t
  field_simp
  linear_combination (-32 * a) * hrr - 8 * h4

theorem c03q_hasDerivAt_log_L {a b c t : ℝ} (ha : 0 < a) (hQ : 0 < c03q_Q a b c t) (hL : 0 < c03q_L a b c t) :
    HasDerivAt (fun t => Real.log (c03q_L a b c t)) (√a / √(c03q_Q a b c t)) t := by
  have hs := (c03q_hasDerivAt_Q a b c t).sqrt hQ.ne'
  refine (((hs.const_mul (2 * √a)).fun_add (c03q_hasDerivAt_lin a b t)).log hL.ne').congr_deriv ?_
  have hr : 0 < √(c03q_Q a b c t) := Real.sqrt_pos.mpr hQ
  have huu := Real.sq_sqrt ha.le
  have hL' : 2 * √a * √(c03q_Q a b c t) + (2 * a * t + b) ≠ 0 := hL.ne'
  rw [div_eq_div_iff hL' hr.ne']
  field_simp
  linear_combination (-2 * √(c03q_Q a b c t)) * huu

theorem c03q_hasDerivAt_F_of_pos {a b c t : ℝ} (ha : 0 < a) (hQ : 0 < c03q_Q a b c t)
    (hL : 0 < c03q_L a b c t) : HasDerivAt (c03q_F a b c) (√(c03q_Q a b c t)) t := by
  refine ((c03q_hasDerivAt_Fnl ha hQ).fun_add
    ((c03q_hasDerivAt_log_L ha hQ hL).const_mul ((4 * a * c - b ^ 2) / (8 * a * √a)))).congr_deriv ?_
  have hr : 0 < √(c03q_Q a b c t) := Real.sqrt_pos.mpr hQ
  have hu : 0 < √a := Real.sqrt_pos.mpr ha
  field_simp
  ring

theorem hasDerivAt_sub_mul {g : ℝ → ℝ} {x : ℝ} (hg : ContinuousAt g x) :
    HasDerivAt (fun t => (t - x) * g t) (g x) x := by
  rw [hasDerivAt_iff_tendsto_slope]
  refine (hg.tendsto.mono_left nhdsWithin_le_nhds).congr' ?_
  filter_upwards [self_mem_nhdsWithin] with t ht
  rw [slope_def_field, sub_self, zero_mul, sub_zero, mul_div_cancel_left₀ _ (sub_ne_zero.2 ht)]

theorem c03q_hasDerivAt_Fnl_collinear {a b c : ℝ} (ha : 0 < a) (hD : 4 * a * c - b ^ 2 = 0) (t : ℝ) :
    HasDerivAt (c03q_Fnl a b c) (√(c03q_Q a b c t)) t := by
  have h4 := c03q_four_a_Q a b c t
  rw [hD, add_zero] at h4
  rcases eq_or_ne (2 * a * t + b) 0 with hs | hs
  · -- at the cusp `Q t = 0` and `Fnl u = (u − t) · √Q(u)/2` for every `u`
    have hQ : c03q_Q a b c t = 0 := by
      rw [hs] at h4
      exact (mul_eq_zero.1 (h4.trans (by ring))).resolve_left (by positivity)
    have hc : ContinuousAt (fun u => √(c03q_Q a b c u) / 2) t := by unfold c03q_Q; fun_prop
    have h := hasDerivAt_sub_mul hc
    rw [hQ, Real.sqrt_zero, zero_div] at h
    rw [hQ, Real.sqrt_zero]
    refine h.congr_of_eventuallyEq (Filter.Eventually.of_forall fun u => ?_)
    unfold c03q_Fnl
    rw [show (2 * a * u + b) / (4 * a) = (u - t) / 2 by field_simp; linear_combination 2 * hs]
    ring
  · have hQ : 0 < c03q_Q a b c t :=
      pos_of_mul_pos_right (a := 4 * a) (by rw [h4]; positivity) (by positivity)
    have h := c03q_hasDerivAt_Fnl (b := b) (c := c) ha hQ
    rwa [hD, zero_div, sub_zero] at h

theorem c03q_F_collinear {a b c : ℝ} (hD : 4 * a * c - b ^ 2 = 0) : c03q_F a b c = c03q_Fnl a b c := by
  funext t
  unfold c03q_F
  rw [hD, zero_div, zero_mul, add_zero]

theorem c03q_hasDerivAt_F {a b c : ℝ} (ha : 0 < a) (hD : 0 ≤ 4 * a * c - b ^ 2) (t : ℝ) :
    HasDerivAt (c03q_F a b c) (√(c03q_Q a b c t)) t := by
  rcases hD.lt_or_eq with h | h
  · have hL := (c03q_L_pos_iff ha hD t).2 (Or.inl h)
    exact c03q_hasDerivAt_F_of_pos ha (c03q_Q_pos ha hD hL) hL
  · rw [c03q_F_collinear h.symm]
    exact c03q_hasDerivAt_Fnl_collinear ha h.symm t

theorem c03q_integral_sqrt_Q {a b c : ℝ} (ha : 0 < a) (hD : 0 ≤ 4 * a * c - b ^ 2) (x y : ℝ) :
    ∫ t in x..y, √(c03q_Q a b c t) = c03q_F a b c y - c03q_F a b c x := by
  refine integral_eq_sub_of_hasDerivAt (fun t _ => c03q_hasDerivAt_F ha hD t) (Continuous.intervalIntegrable ?_ _ _)
  unfold c03q_Q
  fun_prop

/-- `ba_c2` of the model -/
noncomputable def c03q_bac2 (A B C : ℝ) : ℝ := B * (√A)⁻¹ + 2 * √C

/-- `v0` of the model (the non-logarithmic part of the closed form) -/
noncomputable def c03q_v0 (A B C : ℝ) : ℝ :=
  1 / 4 * (√A)⁻¹ * (√A)⁻¹ * B * (2 * √(A + B + C) - 2 * √C) + √(A + B + C)

/-- the logarithmic part of the closed form, as the model computes it -/
noncomputable def c03q_logpart (A B C : ℝ) : ℝ :=
  1 / 4 * (√A)⁻¹ ^ 3 * (4 * C * A - B * B) *
    Real.log (((2 * A + B) * (√A)⁻¹ + 2 * √(A + B + C)) / c03q_bac2 A B C)

theorem c03q_L_eq {A : ℝ} (hA : 0 < A) (B C t : ℝ) :
    c03q_L A B C t = √A * ((2 * A * t + B) * (√A)⁻¹ + 2 * √(c03q_Q A B C t)) := by
  have hu : √A ≠ 0 := ne_of_gt (Real.sqrt_pos.mpr hA)
  unfold c03q_L
  field_simp
  ring

theorem c03q_L_zero_eq {A : ℝ} (hA : 0 < A) (B C : ℝ) : c03q_L A B C 0 = √A * c03q_bac2 A B C := by
  rw [c03q_L_eq hA, c03q_Q_zero, mul_zero, zero_add]
  rfl

theorem c03q_L_zero_pos {A B C : ℝ} (hA : 0 < A) (h0 : 0 < c03q_bac2 A B C) : 0 < c03q_L A B C 0 := by
  rw [c03q_L_zero_eq hA]
  exact mul_pos (Real.sqrt_pos.mpr hA) h0

theorem c03q_bac2_pos_or_collinear {A B C : ℝ} (hA : 0 < A) (hD : 0 ≤ 4 * A * C - B ^ 2) :
    0 < c03q_bac2 A B C ∨ 4 * A * C - B ^ 2 = 0 := by
  refine hD.lt_or_eq.imp (fun h => ?_) Eq.symm
  have := (c03q_L_pos_iff hA hD 0).2 (Or.inl h)
  rw [c03q_L_zero_eq hA] at this
  exact pos_of_mul_pos_right this (Real.sqrt_nonneg A)

theorem c03q_v0_eq {A : ℝ} (hA : 0 < A) (B C : ℝ) :
    c03q_v0 A B C = √(A + B + C) + B / (2 * A) * (√(A + B + C) - √C) := by
  unfold c03q_v0
  rw [mul_assoc (1 / 4), ← mul_inv, Real.mul_self_sqrt hA.le]
  field_simp
  ring

theorem c03q_v0_eq_Fnl {A : ℝ} (hA : 0 < A) (B C : ℝ) :
    c03q_v0 A B C = 2 * (c03q_Fnl A B C 1 - c03q_Fnl A B C 0) := by
  rw [c03q_v0_eq hA]
  unfold c03q_Fnl
  rw [c03q_Q_one, c03q_Q_zero]
  field_simp
  ring

theorem c03q_logpart_eq {A B C : ℝ} (hA : 0 < A) (h0 : 0 < c03q_L A B C 0) (h1 : 0 < c03q_L A B C 1) :
    c03q_logpart A B C = 2 * ((4 * A * C - B ^ 2) / (8 * A * √A) * Real.log (c03q_L A B C 1)
      - (4 * A * C - B ^ 2) / (8 * A * √A) * Real.log (c03q_L A B C 0)) := by
  have hu : √A ≠ 0 := (Real.sqrt_pos.mpr hA).ne'
  have huu := Real.sq_sqrt hA.le
  have e : ((2 * A + B) * (√A)⁻¹ + 2 * √(A + B + C)) / c03q_bac2 A B C = c03q_L A B C 1 / c03q_L A B C 0 := by
    rw [c03q_L_eq hA B C 1, c03q_L_zero_eq hA, c03q_Q_one, mul_one, mul_div_mul_left _ _ hu]
  unfold c03q_logpart
  rw [e, Real.log_div h1.ne' h0.ne']
  field_simp
  linear_combination (-8 * (4 * C * A - B ^ 2) * (Real.log (c03q_L A B C 1) - Real.log (c03q_L A B C 0))) * huu

theorem c03q_closed_form_eq {A B C : ℝ} (hA : 0 < A) (hD : 0 ≤ 4 * A * C - B ^ 2)
    (h0 : 0 < c03q_bac2 A B C) :
    c03q_v0 A B C + c03q_logpart A B C = 2 * (c03q_F A B C 1 - c03q_F A B C 0) := by
  have hL0 := c03q_L_zero_pos hA h0
  rw [c03q_v0_eq_Fnl hA, c03q_logpart_eq hA hL0 (c03q_L_pos hA hD hL0 zero_le_one)]
  unfold c03q_F
  ring

theorem c03q_logpart_collinear {A B C : ℝ} (hD : 4 * A * C - B ^ 2 = 0) : c03q_logpart A B C = 0 := by
  unfold c03q_logpart
  rw [show 4 * C * A - B * B = 0 by linarith, mul_zero, zero_mul]

theorem c03q_two_integral_eq {A B C : ℝ} (hA : 0 < A) (hD : 0 ≤ 4 * A * C - B ^ 2) :
    2 * ∫ t in (0:ℝ)..1, √(c03q_Q A B C t) = c03q_v0 A B C + c03q_logpart A B C := by
  rw [c03q_integral_sqrt_Q hA hD]
  rcases c03q_bac2_pos_or_collinear hA hD with h | h
  · rw [c03q_closed_form_eq hA hD h]
  · rw [c03q_logpart_collinear h, add_zero, c03q_v0_eq_Fnl hA, c03q_F_collinear h]

end Kurbo
