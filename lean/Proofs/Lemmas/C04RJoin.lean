import Proofs.Lemmas.Angle
import Proofs.Lemmas.RealLaws
import Proofs.Lemmas.C04Geom
/-! Helper lemmas for C04R: the round branch of `do_join`; with `LawfulReal` (`atan2 y x = arg (x + iy)`) and
    `C04HypotLaw`: the turning angle `atan2(ab × cd, ab · cd)` rotates `norm(ab)` to `norm(cd)` (`c04r_rotate_norm`; from it
    `Proofs/C04R.lean` gets that the round join starts where the previous offset segment ended). -/
set_option linter.unusedSectionVars false
namespace Kurbo

section lawful
variable {K : Type} [Field K] [LinearOrder K] [IsStrictOrderedRing K] [FloorRing K] [Scalar K] [LawfulScalar K]

theorem c04r_joinApp_round (c : StrokeCtx K) (style : StrokeStyle K) (tan0 : Vec2 K) (hj0 : style.join ≠ 0)
    (hj1 : style.join ≠ 1) (ht : c04_joinTest c tan0 = true) :
    c04_joinApp c style tan0 =
      if 0 < Scalar.atan2 (c.last_tan.cross tan0) (c.last_tan.dot tan0) then
        (c04_pivotF c.last_pt (c.last_tan.cross tan0) ++
            roundJoin c.join_thresh c.last_pt (c04_norm style.width tan0) (Scalar.atan2 (c.last_tan.cross tan0) (c.last_tan.dot tan0)),
         c04_pivotB c.last_pt (c.last_tan.cross tan0) ++ [.LineTo (c.last_pt + c04_norm style.width tan0)])
      else
        (c04_pivotF c.last_pt (c.last_tan.cross tan0) ++ [.LineTo (c.last_pt - c04_norm style.width tan0)],
         c04_pivotB c.last_pt (c.last_tan.cross tan0) ++
            roundJoinRev c.join_thresh c.last_pt (-(c04_norm style.width tan0)) (-(Scalar.atan2 (c.last_tan.cross tan0) (c.last_tan.dot tan0)))) := by
  simp only [c04_joinApp_round c style tan0 hj0 hj1 ht, scalar_norm, Nat.cast_zero, decide_eq_true_eq]

end lawful

section real
variable [Scalar ℝ] [LawfulScalar ℝ] [LawfulReal] [C04HypotLaw ℝ]

theorem c04r_turn_cos_sin (ab cd : Vec2 ℝ) :
    Scalar.hypot ab.x ab.y * Scalar.hypot cd.x cd.y * Real.cos (Scalar.atan2 (ab.cross cd) (ab.dot cd)) = ab.x * cd.x + ab.y * cd.y ∧
    Scalar.hypot ab.x ab.y * Scalar.hypot cd.x cd.y * Real.sin (Scalar.atan2 (ab.cross cd) (ab.dot cd)) = ab.x * cd.y - ab.y * cd.x := by
  have hd : ab.dot cd = ab.x * cd.x + ab.y * cd.y := by simp only [Vec2.dot, scalar_norm]
  have hc : ab.cross cd = ab.x * cd.y - ab.y * cd.x := by simp only [Vec2.cross, scalar_norm]
  rw [LawfulReal.atan2_eq, hd, hc]
  -- Lagrange: `(ab · cd)² + (ab × cd)² = |ab|²·|cd|²`
  refine polar_arg (mul_nonneg (C04HypotLaw.hypot_nonneg _ _) (C04HypotLaw.hypot_nonneg _ _)) ?_
  linear_combination (-(Scalar.hypot cd.x cd.y ^ 2)) * C04HypotLaw.hypot_mul_self ab.x ab.y
    - (ab.x * ab.x + ab.y * ab.y) * C04HypotLaw.hypot_mul_self cd.x cd.y

/-- the branch test of the round join (`angle > 0`) against the sign of `ab × cd`, which `inner_join_pivot` tests -/
theorem c04r_turn_sign (ab cd : Vec2 ℝ) :
    (0 < Scalar.atan2 (ab.cross cd) (ab.dot cd) → 0 ≤ ab.cross cd) ∧
    (¬ 0 < Scalar.atan2 (ab.cross cd) (ab.dot cd) → ab.cross cd ≤ 0) := by
  rw [LawfulReal.atan2_eq]
  constructor
  · intro h
    have := (Complex.arg_nonneg_iff (z := ⟨ab.dot cd, ab.cross cd⟩)).mp h.le
    exact this
  · intro h
    by_contra hc
    have hpos : 0 < ab.cross cd := not_le.mp hc
    have h0 : 0 ≤ Complex.arg ⟨ab.dot cd, ab.cross cd⟩ :=
      (Complex.arg_nonneg_iff (z := ⟨ab.dot cd, ab.cross cd⟩)).mpr hpos.le
    have he : Complex.arg ⟨ab.dot cd, ab.cross cd⟩ = 0 := le_antisymm (not_lt.mp h) h0
    have := (Complex.arg_eq_zero_iff (z := ⟨ab.dot cd, ab.cross cd⟩)).mp he
    exact hpos.ne' this.2

theorem c04r_rotate_norm (w : ℝ) (ab cd : Vec2 ℝ) (hab : ab.x ≠ 0 ∨ ab.y ≠ 0) (hcd : cd.x ≠ 0 ∨ cd.y ≠ 0) :
    let φ := Scalar.atan2 (ab.cross cd) (ab.dot cd)
    (c04_norm w cd).x * Real.cos φ + (c04_norm w cd).y * Real.sin φ = (c04_norm w ab).x ∧
    (c04_norm w cd).y * Real.cos φ - (c04_norm w cd).x * Real.sin φ = (c04_norm w ab).y := by
  intro φ
  obtain ⟨ka, hax, hay, hka, -⟩ := c04_norm_frame w ab hab
  obtain ⟨kd, hdx, hdy, hkd, -⟩ := c04_norm_frame w cd hcd
  obtain ⟨hC, hS⟩ := c04r_turn_cos_sin ab cd
  have ha := (c04_hypot_pos ab.x ab.y hab).ne'
  have hd := (c04_hypot_pos cd.x cd.y hcd).ne'
  have ed := C04HypotLaw.hypot_mul_self cd.x cd.y
  rw [hax, hay, hdx, hdy]
  -- with `a = |ab|`, `d = |cd|`, `ka·a = kd·d = w/2`: multiply by `a·d` and use `a·d·cos φ = ab · cd`, `a·d·sin φ = ab × cd`
  generalize Scalar.hypot ab.x ab.y = a at *
  generalize Scalar.hypot cd.x cd.y = d at *
  constructor
  · apply mul_right_cancel₀ (mul_ne_zero ha hd)
    linear_combination (-cd.y * kd) * hC + (cd.x * kd) * hS + (kd * ab.y) * ed + (ab.y * d) * hka - (ab.y * d) * hkd
  · apply mul_right_cancel₀ (mul_ne_zero ha hd)
    linear_combination (cd.x * kd) * hC + (cd.y * kd) * hS - (kd * ab.x) * ed + (ab.x * d) * hkd - (ab.x * d) * hka

end real
end Kurbo
