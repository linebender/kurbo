import Proofs.Lemmas.SubPaths
import Proofs.Lemmas.KernelEqs
import Mathlib.Tactic.Ring
import Mathlib.Tactic.Linarith
/-! Signed area at chain and path level, over a lawful scalar: the affine law for one segment, areas of chains and of
    closed sub-paths under an affine map. -/
set_option linter.unusedSectionVars false
namespace Kurbo

section lawful
variable {K : Type} [Field K] [LinearOrder K] [IsStrictOrderedRing K] [FloorRing K] [Scalar K] [LawfulScalar K]

def areaSum (ss : List (PathSeg K)) : K := (ss.map PathSeg.signed_area).sum

theorem areaSum_nil : areaSum ([] : List (PathSeg K)) = 0 := rfl
theorem areaSum_cons (s : PathSeg K) (r : List (PathSeg K)) : areaSum (s :: r) = s.signed_area + areaSum r := by
  simp [areaSum]
theorem areaSum_append (a b : List (PathSeg K)) : areaSum (a ++ b) = areaSum a + areaSum b := by
  simp [areaSum]

theorem pathArea_eq_areaSum (els : List (PathEl K)) : pathArea els = (segs els).map areaSum := by
  unfold pathArea
  simp only [scalar_norm]
  push_cast
  congr 1
  funext ss
  rw [areaSum, List.sum_eq_foldl, List.foldl_map]

theorem pathArea_eq_segsFrom (els : List (PathEl K)) : pathArea els = (segsFrom none els).map areaSum := by
  rw [pathArea_eq_areaSum, segs_eq_segsFrom]

/-- `hi`: the second part starts with a `MoveTo` or is empty; the iterator's panic (`none`) propagates from either part -/
theorem pathArea_append {els₂ : List (PathEl K)} (hi : ∀ st, segsFrom st els₂ = segsFrom none els₂)
    (els₁ : List (PathEl K)) :
    pathArea (els₁ ++ els₂) = (pathArea els₁).bind fun a₁ => (pathArea els₂).map (a₁ + ·) := by
  simp only [pathArea_eq_segsFrom, segsFrom_append_bind hi]
  cases segsFrom none els₁ with
  | none => rfl
  | some ss₁ =>
    cases segsFrom none els₂ with
    | none => rfl
    | some ss₂ => simp [areaSum_append]

theorem pathArea_append_some {els₁ els₂ : List (PathEl K)} (hi : ∀ st, segsFrom st els₂ = segsFrom none els₂)
    {a₁ a₂ : K} (h1 : pathArea els₁ = some a₁) (h2 : pathArea els₂ = some a₂) :
    pathArea (els₁ ++ els₂) = some (a₁ + a₂) := by
  rw [pathArea_append hi, h1, h2]; rfl

theorem pathArea_nil : pathArea ([] : List (PathEl K)) = some 0 := by
  rw [pathArea_eq_areaSum]; rfl

theorem pathArea_closed_subpath (p : Point K) (body : List (PathEl K)) (hb : IsBody body) :
    pathArea (.MoveTo p :: body ++ [.ClosePath])
      = some (areaSum (bodySegs p body ++ closeSegs (bodyEnd p body) p)) := by
  rw [pathArea_eq_segsFrom, segsFrom_closed_subpath none p body hb]; rfl

theorem pathArea_open_subpath (p : Point K) (body : List (PathEl K)) (hb : IsBody body) :
    pathArea (.MoveTo p :: body) = some (areaSum (bodySegs p body)) := by
  rw [pathArea_eq_segsFrom, segsFrom_open_subpath none p body hb]; rfl

/-- the translation-dependent part of the area of an affinely mapped arc from `p` to `q` -/
def affCorr (A : Affine K) (p q : Point K) : K :=
  (1 / 2) * (A.c4 * ((A * q).y - (A * p).y) - A.c5 * ((A * q).x - (A * p).x))

theorem affCorr_self (A : Affine K) (p : Point K) : affCorr A p p = 0 := by
  unfold affCorr; ring
theorem affCorr_add (A : Affine K) (p m q : Point K) : affCorr A p m + affCorr A m q = affCorr A p q := by
  unfold affCorr; ring

theorem affCorr_eq (A : Affine K) (p q : Point K) :
    affCorr A p q = (1 / 2) * (A.c4 * (A.c1 * (q.x - p.x) + A.c3 * (q.y - p.y))
      - A.c5 * (A.c0 * (q.x - p.x) + A.c2 * (q.y - p.y))) := by
  simp only [affCorr, Affine.act_eq]
  ring

theorem pathSeg_signedArea_affine (A : Affine K) (s : PathSeg K) :
    (A * s).signed_area = A.determinant * s.signed_area + affCorr A s.start s.end := by
  unfold affCorr
  cases s <;>
    simp only [affine_mul_pathSeg_def, affine_mul_line_def, affine_mul_quad_def, affine_mul_cubic_def, Affine.mul_PathSeg,
      Affine.mul_Line, Affine.mul_QuadBez, Affine.mul_CubicBez, Affine.act_eq, Affine.determinant_eq, PathSeg.signed_area,
      PathSeg.start, PathSeg.end, kdefs, scalar_norm] <;>
    push_cast <;> ring

theorem segChain_map (A : Affine K) {p q : Point K} {ss : List (PathSeg K)} (h : SegChain p ss q) :
    SegChain (A * p) (ss.map (fun s : PathSeg K => A * s)) (A * q) := by
  induction ss generalizing p with
  | nil => obtain rfl : p = q := h; rfl
  | cons s r ih =>
    obtain ⟨h1, h2⟩ := h
    refine ⟨?_, ?_⟩
    · rw [affine_start, h1]
    · rw [affine_end]; exact ih h2

theorem chain_areaSum_affine (A : Affine K) {p q : Point K} {ss : List (PathSeg K)} (h : SegChain p ss q) :
    areaSum (ss.map (fun s : PathSeg K => A * s)) = A.determinant * areaSum ss + affCorr A p q := by
  induction ss generalizing p with
  | nil => obtain rfl : p = q := h; rw [List.map_nil, areaSum_nil, mul_zero, affCorr_self, add_zero]
  | cons s r ih =>
    obtain ⟨h1, h2⟩ := h
    rw [List.map_cons, areaSum_cons, areaSum_cons, ih h2, pathSeg_signedArea_affine, h1,
      ← affCorr_add A p s.end q]
    ring

theorem chain_areaSum_affine_closed (A : Affine K) {p : Point K} {ss : List (PathSeg K)} (h : SegChain p ss p) :
    areaSum (ss.map (fun s : PathSeg K => A * s)) = A.determinant * areaSum ss := by
  rw [chain_areaSum_affine A h, affCorr_self, add_zero]

/-- the closing line contributes the area of the line back to the start whether it is drawn or not: when it is
    not drawn it would run from a point to itself, with area zero.  So `ClosePath` may be read as that line also
    where an affine map collapses a closing line that was drawn in the original. -/
theorem areaSum_closeSegs (ss : List (PathSeg K)) (e p : Point K) :
    areaSum (ss ++ closeSegs e p) = areaSum (ss ++ [PathSeg.Line ⟨e, p⟩]) := by
  rw [areaSum_append, areaSum_append, areaSum_cons, areaSum_nil, add_zero, closeSegs_eq_ite]
  split_ifs with h
  · simp only [h, areaSum_nil, PathSeg.signed_area, Line.signed_area, Vec2.cross, Point.to_vec2, scalar_norm]
    ring
  · rw [areaSum_cons, areaSum_nil, add_zero]

theorem pathArea_map_closed_subpath (A : Affine K) (p : Point K) (body : List (PathEl K)) (hb : IsBody body) :
    pathArea ((PathEl.MoveTo p :: body ++ [PathEl.ClosePath]).map (fun e : PathEl K => A * e))
      = some (A.determinant * areaSum (bodySegs p body ++ closeSegs (bodyEnd p body) p)) := by
  have hc : SegChain p (bodySegs p body ++ [PathSeg.Line ⟨bodyEnd p body, p⟩]) p :=
    segChain_append (segChain_bodySegs body p hb) ⟨rfl, rfl⟩
  rw [map_subpath]
  show pathArea (PathEl.MoveTo (A * p) :: body.map (fun e : PathEl K => A * e) ++ [PathEl.ClosePath]) = _
  rw [pathArea_closed_subpath _ _ (isBody_map A hb), bodySegs_map A body p hb, bodyEnd_map A body p hb,
    areaSum_closeSegs, areaSum_closeSegs, ← chain_areaSum_affine_closed A hc, List.map_append]
  rfl

theorem pathArea_map_implicit_subpath (A : Affine K) (p : Point K) (body : List (PathEl K)) (hb : IsBody body)
    (hend : bodyEnd p body = p) :
    pathArea ((PathEl.MoveTo p :: body).map (fun e : PathEl K => A * e))
      = some (A.determinant * areaSum (bodySegs p body)) := by
  have hc : SegChain p (bodySegs p body) p := by
    have := segChain_bodySegs body p hb
    rwa [hend] at this
  rw [List.map_cons]
  show pathArea (PathEl.MoveTo (A * p) :: body.map (fun e : PathEl K => A * e)) = _
  rw [pathArea_open_subpath _ _ (isBody_map A hb), bodySegs_map A body p hb, chain_areaSum_affine_closed A hc]


end lawful

/-! ### example data for the non-vacuity examples of `Proofs/C02.lean` -/
namespace C02Examples
open PathEl

/-- unit square, turning from +x towards +y: area `+1` -/
def sq : List (PathEl Rat) := [MoveTo ⟨0, 0⟩, LineTo ⟨1, 0⟩, LineTo ⟨1, 1⟩, LineTo ⟨0, 1⟩, ClosePath]
/-- a second sub-path with a quadratic and a cubic, closed implicitly (returns to its start, no `ClosePath`) -/
def blob : List (PathEl Rat) := [MoveTo ⟨2, 0⟩, QuadTo ⟨3, 1⟩ ⟨2, 2⟩, CurveTo ⟨1, 2⟩ ⟨1, 0⟩ ⟨2, 0⟩]
def cb : CubicBez Rat := ⟨⟨0, 0⟩, ⟨1, 0⟩, ⟨1, 1⟩, ⟨0, 1⟩⟩
def aff : Affine Rat := ⟨2, 1, -1, 3, 5, -7⟩
/-- singular: projection onto the x axis -/
def proj : Affine Rat := ⟨1, 0, 0, 0, 0, 0⟩

end C02Examples

end Kurbo
