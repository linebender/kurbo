import Kurbo.Stroke
import Proofs.Lemmas.C10Struct
/-! Helper definitions and lemmas for C04R (structure; any `[Scalar K]`, core Lean only): `round_join`,
    `round_join_rev`, `round_cap` as the image of the pieces of the unit arc under the affine map of the join.
    `Ops` is opened because these are statements about the model's own arithmetic. -/
namespace Kurbo
open Ops
variable {K : Type} [Scalar K]

/-- the arc that `round_join`, `round_join_rev` (and `round_cap`: `angle = π`) outline: the unit circle about the origin
    from the angle `π − angle` through the sweep `angle` (so it always ends at the angle `π`) -/
def c04rArc (angle : K) : Arc K :=
  { center := ⟨0, 0⟩, radii := ⟨1, 1⟩, start_angle := (Scalar.pi : K) - angle, sweep_angle := angle, x_rotation := (0 : K) }

/-- the affine map of `round_join` (and of `round_cap`): `(x, y) ↦ center + x·norm + y·rot90(norm)` -/
def c04rAff (center : Point K) (norm : Vec2 K) : Affine K := Affine.new norm.x norm.y (-norm.y) norm.x center.x center.y
/-- the affine map of `round_join_rev`: `(x, y) ↦ center + x·norm − y·rot90(norm)` (a reflection composed with a similarity) -/
def c04rAffRev (center : Point K) (norm : Vec2 K) : Affine K := Affine.new norm.x norm.y norm.y (-norm.x) center.x center.y

theorem roundJoin_eq_with (T : K) (center : Point K) (norm : Vec2 K) (angle : K) :
    roundJoin T center norm angle = roundJoinWith T (c04rAff center norm) angle := rfl
theorem roundJoinRev_eq_with (T : K) (center : Point K) (norm : Vec2 K) (angle : K) :
    roundJoinRev T center norm angle = roundJoinWith T (c04rAffRev center norm) angle := rfl
theorem roundCap_eq_with (T : K) (center : Point K) (norm : Vec2 K) :
    roundCap T center norm = roundJoinWith T (c04rAff center norm) (Scalar.pi : K) := rfl

/-- number of pieces of the unit arc at tolerance `T` -/
def c04rN (T angle : K) : Nat := ((c04rArc angle).appendParams T).1
/-- arm length of its pieces -/
def c04rArm (T angle : K) : K := ((c04rArc angle).appendParams T).2.1
/-- angle step from one piece to the next -/
def c04rStep (T angle : K) : K := ((c04rArc angle).appendParams T).2.2

/-- first control point of piece `k` of the unit arc -/
def c04rC1 (T angle : K) (k : Nat) : Point K :=
  arcC1 (c04rArc angle).center (c04rArc angle).radii (c04rArc angle).x_rotation (c04rArm T angle) (c04rStep T angle)
    (c04rArc angle).start_angle k
/-- second control point of piece `k` -/
def c04rC2 (T angle : K) (k : Nat) : Point K :=
  arcC2 (c04rArc angle).center (c04rArc angle).radii (c04rArc angle).x_rotation (c04rArm T angle) (c04rStep T angle)
    (c04rArc angle).start_angle k
/-- arc point `k`, where piece `k` starts -/
def c04rPt (T angle : K) (k : Nat) : Point K :=
  arcPt (c04rArc angle).center (c04rArc angle).radii (c04rArc angle).x_rotation (c04rStep T angle) (c04rArc angle).start_angle k

/-- piece `k` of the unit arc -/
def c04rPiece (T angle : K) (k : Nat) : CubicBez K := ⟨c04rPt T angle k, c04rC1 T angle k, c04rC2 T angle k, c04rPt T angle (k + 1)⟩

theorem filterMap_curveEls (a : Affine K) (c1 c2 e : Nat → Point K) (n : Nat) :
    ((curveEls c1 c2 e n).filterMap fun
      | .CurveTo p1 p2 p3 => some (PathEl.CurveTo (a * p1) (a * p2) (a * p3))
      | _ => none)
      = curveEls (fun k => a * c1 k) (fun k => a * c2 k) (fun k => a * e k) n := by
  induction n with
  | zero => rfl
  | succ n ih => rw [curveEls_succ, curveEls_succ, List.filterMap_append, ih]; rfl

theorem roundJoinWith_unfold (T : K) (a : Affine K) (angle : K) :
    roundJoinWith T a angle = ((c04rArc angle).append_iter T).filterMap fun
      | .CurveTo p1 p2 p3 => some (PathEl.CurveTo (a * p1) (a * p2) (a * p3))
      | _ => none := rfl

theorem roundJoinWith_eq (T : K) (a : Affine K) (angle : K) :
    roundJoinWith T a angle
      = curveEls (fun k => a * c04rC1 T angle k) (fun k => a * c04rC2 T angle k) (fun k => a * c04rPt T angle (k + 1)) (c04rN T angle) := by
  rw [roundJoinWith_unfold, append_iter_eq, filterMap_curveEls]
  rfl

theorem roundJoinWith_length (T : K) (a : Affine K) (angle : K) : (roundJoinWith T a angle).length = c04rN T angle := by
  rw [roundJoinWith_eq, curveEls_length]

theorem roundJoinWith_getElem? (T : K) (a : Affine K) (angle : K) (k : Nat) (hk : k < c04rN T angle) :
    (roundJoinWith T a angle)[k]?
      = some (PathEl.CurveTo (a * c04rC1 T angle k) (a * c04rC2 T angle k) (a * c04rPt T angle (k + 1))) := by
  rw [roundJoinWith_eq]; exact curveEls_getElem? _ _ _ _ _ hk

theorem chainStart_map (a : Affine K) (p : Point K) (e : Nat → Point K) (k : Nat) :
    chainStart (a * p) (fun k => a * e k) k = a * chainStart p e k := by
  cases k <;> rfl

theorem roundJoinWith_segsT (T : K) (a : Affine K) (angle : K) (s : Point K) :
    segsT (s, a * c04rPt T angle 0) (roundJoinWith T a angle)
      = (List.range (c04rN T angle)).map fun k => PathSeg.Cubic (a * c04rPiece T angle k) := by
  rw [roundJoinWith_eq, segsT_curveEls]
  apply List.map_congr_left
  intro k _
  rw [chainStart_map, chainStart_knots]
  rfl

theorem roundJoinWith_segs (T : K) (a : Affine K) (angle : K) :
    segs (PathEl.MoveTo (a * c04rPt T angle 0) :: roundJoinWith T a angle)
      = some ((List.range (c04rN T angle)).map fun k => PathSeg.Cubic (a * c04rPiece T angle k)) := by
  rw [segs_moveTo, roundJoinWith_segsT]

theorem penAfter_roundJoinWith (T : K) (a : Affine K) (angle : K) (p : Point K) :
    penAfter p (roundJoinWith T a angle) = if c04rN T angle = 0 then p else a * c04rPt T angle (c04rN T angle) := by
  rw [roundJoinWith_eq, penAfter_curveEls]
  cases c04rN T angle <;> rfl

theorem roundJoinWith_getLast (T : K) (a : Affine K) (angle : K) (hn : c04rN T angle ≠ 0) :
    ∃ e, (roundJoinWith T a angle).getLast? = some e ∧ e.end_point = some (a * c04rPt T angle (c04rN T angle)) := by
  obtain ⟨m, hm⟩ := Nat.exists_eq_succ_of_ne_zero hn
  rw [roundJoinWith_eq, hm, curveEls_succ, List.getLast?_concat]
  exact ⟨_, rfl, rfl⟩

theorem penAfter_append_roundJoinWith (T : K) (a : Affine K) (angle : K) (p : Point K) (mid : List (PathEl K))
    (hn : c04rN T angle ≠ 0) :
    penAfter p (mid ++ roundJoinWith T a angle) = a * c04rPt T angle (c04rN T angle) := by
  obtain ⟨e, he, hp⟩ := roundJoinWith_getLast T a angle hn
  unfold penAfter
  rw [List.getLast?_append, he]
  simp only [Option.some_or, Option.bind_some, hp, Option.getD_some]

end Kurbo
