import Proofs.KDefs
import Proofs.Lemmas.RealLaws
import Kurbo.Shapes
import Proofs.Lemmas.Angle
/-! C11 helpers over ℝ: the laws of `%` and of the constant π (`LawfulRealAngle`), and the closed form of
    `CircleSegment.winding` in terms of the angle reduction `redAngle` of `Angle.lean` (the representative in `[0, 2π)`:
    `SvgArcR.fmodR · (2π)` and one `if`). -/
namespace Kurbo
open Real

/-- over ℝ: `Scalar.pi` is π and `Scalar.fmod` is Rust's `%` on floats (C `fmod`): `a − b·trunc(a/b)` -/
class LawfulRealAngle [Scalar ℝ] : Prop where
  pi_eq : (Scalar.pi : ℝ) = Real.pi
  fmod_eq : ∀ a b : ℝ, Scalar.fmod a b = a - b * (if a / b < 0 then (⌈a / b⌉ : ℝ) else (⌊a / b⌋ : ℝ))

theorem realScalar_lawfulRealAngle : @LawfulRealAngle realScalar :=
  letI := realScalar
  { pi_eq := rfl, fmod_eq := fun _ _ => rfl }

theorem ite_ite_eq_one_iff (c d : Prop) [Decidable c] [Decidable d] :
    (if c then (0 : Int) else if d then 1 else 0) = 1 ↔ ¬ c ∧ d := by
  by_cases hc : c <;> by_cases hd : d <;> simp [hc, hd]

theorem ite_ite_zero_or_one (c d : Prop) [Decidable c] [Decidable d] :
    (if c then (0 : Int) else if d then 1 else 0) = 0 ∨ (if c then (0 : Int) else if d then 1 else 0) = 1 := by
  split_ifs
  exacts [Or.inl rfl, Or.inr rfl, Or.inl rfl]

section
variable [Scalar ℝ] [LawfulScalar ℝ] [LawfulReal] [LawfulRealAngle]

theorem CircleSegment.winding_eq_one_iff_real (s : CircleSegment ℝ) (p : Point ℝ) :
    s.winding p = 1 ↔
      redAngle ((Complex.arg ⟨p.x - s.center.x, p.y - s.center.y⟩ - s.start_angle)
          * (if s.sweep_angle < 0 then -1 else 1)) ≤ |s.sweep_angle| ∧
      ((s.inner_radius ^ 2 < (p.x - s.center.x) ^ 2 + (p.y - s.center.y) ^ 2 ∧
          (p.x - s.center.x) ^ 2 + (p.y - s.center.y) ^ 2 < s.outer_radius ^ 2) ∨
        (s.outer_radius ^ 2 < (p.x - s.center.x) ^ 2 + (p.y - s.center.y) ^ 2 ∧
          (p.x - s.center.x) ^ 2 + (p.y - s.center.y) ^ 2 < s.inner_radius ^ 2)) := by
  unfold CircleSegment.winding redAngle SvgArcR.fmodR
  simp only [Vec2.hypot2, Vec2.dot, Vec2.atan2, twoPi, point_sub, scalar_norm, LawfulReal.atan2_eq,
    LawfulRealAngle.pi_eq, LawfulRealAngle.fmod_eq, Bool.or_eq_true, Bool.and_eq_true, decide_eq_true_eq, ← sq]
  push_cast
  rw [ite_ite_eq_one_iff, not_lt]
  exact and_congr Iff.rfl (or_congr and_comm and_comm)

end

end Kurbo
