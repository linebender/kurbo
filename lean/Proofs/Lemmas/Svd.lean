import Proofs.Lemmas.Angle
import Proofs.Lemmas.C10Real
import Proofs.Lemmas.C11Round
/-! `Affine::svd` over ℝ.  From `Affine.svd_spec` (what the function computes, `C11Round.lean`): the radii and the angle `φ`
    diagonalise `M·Mᵀ` (`svd_gram`), so the rows of `R(−φ)·M` are orthogonal of lengths `rx ≥ ry` and `rx·ry = |det M|`; such a
    matrix is `diag(rx, ry)` times a rotation or a reflection (`orth_rows`).  Hence, for every affine map `B`, singular or not,
    `B·(cos θ, sin θ) = B.translation + sampleEllipse B.svd (σ·(θ − ψ))` with `σ = sgnNeg (det B)`, `ψ = svdPhase B`
    (`svd_point`): the ellipse that `Ellipse::radii_and_rotation` describes is the image of the unit circle. -/
set_option linter.unusedSectionVars false
namespace Kurbo
open Real

/-- the sign that `Affine * Arc` applies to the sweep -/
noncomputable def sgnNeg (D : ℝ) : ℝ := if D < 0 then -1 else 1

theorem sgnNeg_of_neg {D : ℝ} (h : D < 0) : sgnNeg D = -1 := if_pos h
theorem sgnNeg_of_nonneg {D : ℝ} (h : ¬ D < 0) : sgnNeg D = 1 := if_neg h
theorem sgnNeg_sq (D : ℝ) : sgnNeg D * sgnNeg D = 1 := by
  unfold sgnNeg; split_ifs <;> norm_num

theorem sgnNeg_mul_abs (D : ℝ) : sgnNeg D * |D| = D := by
  unfold sgnNeg
  split_ifs with h
  · rw [abs_of_neg h]; ring
  · rw [abs_of_nonneg (not_lt.mp h), one_mul]

/-- the symmetric 2×2 eigen-decomposition in the quantities of `Affine.svd_spec`: the matrix `[[(T+D)/2, S], [S, (T−D)/2]]`
    with `D + 2S·i = h·e^{iα}` is `R(α/2)·diag(X, Y)·R(α/2)ᵀ` for `X, Y = ½(T ± h)` -/
theorem sym2_eigen {T D S h X Y α : ℝ} (hX : X = 1 / 2 * (T + h)) (hY : Y = 1 / 2 * (T - h))
    (hc : h * cos α = D) (hs : h * sin α = 2 * S) :
    X * cos (1 / 2 * α) ^ 2 + Y * sin (1 / 2 * α) ^ 2 = (T + D) / 2 ∧
    (X - Y) * (sin (1 / 2 * α) * cos (1 / 2 * α)) = S ∧
    X * sin (1 / 2 * α) ^ 2 + Y * cos (1 / 2 * α) ^ 2 = (T - D) / 2 := by
  rw [show α = 2 * (1 / 2 * α) by ring, Real.cos_two_mul] at hc
  rw [show α = 2 * (1 / 2 * α) by ring, Real.sin_two_mul] at hs
  have h1 := Real.sin_sq_add_cos_sq (1 / 2 * α)
  rw [hX, hY]
  refine ⟨?_, ?_, ?_⟩
  · linear_combination (1 / 2) * hc + (1 / 2) * (T - h) * h1
  · linear_combination (1 / 2) * hs
  · linear_combination (-1 / 2) * hc + (1 / 2) * (T + h) * h1

/-- the matrix with rows `(u1, u2)`, `(v1, v2)` is `diag(rx, ry)` times the rotation by `−ψ` (`D ≥ 0`, `D = 0` included) or
    times the reflection `θ ↦ ψ − θ` (`D < 0`), `ψ = arg (u1 + i·u2)` -/
theorem orth_rows {rx ry u1 u2 v1 v2 D : ℝ} (hrx : 0 ≤ rx) (hry : 0 ≤ ry) (hle : ry ≤ rx)
    (hu : u1 ^ 2 + u2 ^ 2 = rx ^ 2) (hv : v1 ^ 2 + v2 ^ 2 = ry ^ 2) (hdet : u1 * v2 - u2 * v1 = D)
    (horth : u1 * v1 + u2 * v2 = 0) (hprod : rx * ry = |D|) (θ : ℝ) :
    u1 * cos θ + u2 * sin θ = rx * cos (sgnNeg D * (θ - Complex.arg ⟨u1, u2⟩)) ∧
    v1 * cos θ + v2 * sin θ = ry * sin (sgnNeg D * (θ - Complex.arg ⟨u1, u2⟩)) := by
  obtain ⟨hc, hs⟩ := polar_arg hrx hu
  generalize Complex.arg ⟨u1, u2⟩ = ψ at hc hs ⊢
  have h1 := Real.cos_sq_add_sin_sq ψ
  have hσD := sgnNeg_mul_abs D
  -- `(v1, v2) = σ·ry·(−sin ψ, cos ψ)`: for `rx > 0` from the determinant and the orthogonality, for `rx = 0` all is `0`
  have hv12 : v1 = -(sgnNeg D * ry * sin ψ) ∧ v2 = sgnNeg D * ry * cos ψ := by
    rcases hrx.eq_or_lt with h0 | hpos
    · have hry0 : ry = 0 := le_antisymm (h0 ▸ hle) hry
      rw [hry0, zero_pow two_ne_zero] at hv
      obtain ⟨a, b⟩ := (add_eq_zero_iff_of_nonneg (sq_nonneg _) (sq_nonneg _)).mp hv
      rw [pow_eq_zero_iff two_ne_zero] at a b
      rw [a, b, hry0, mul_zero, zero_mul, zero_mul, neg_zero]
      exact ⟨rfl, rfl⟩
    · rw [← hc, ← hs] at hdet horth
      constructor
      · apply mul_left_cancel₀ hpos.ne'
        linear_combination (-(sin ψ)) * hdet + (cos ψ) * horth - (rx * v1) * h1 + (sin ψ) * hσD
          + (sgnNeg D * sin ψ) * hprod
      · apply mul_left_cancel₀ hpos.ne'
        linear_combination (cos ψ) * hdet + (sin ψ) * horth - (rx * v2) * h1 - (cos ψ) * hσD
          - (sgnNeg D * cos ψ) * hprod
  have hcs : cos (sgnNeg D * (θ - ψ)) = cos (θ - ψ) ∧ sin (sgnNeg D * (θ - ψ)) = sgnNeg D * sin (θ - ψ) := by
    by_cases h : D < 0
    · rw [sgnNeg_of_neg h, neg_one_mul, Real.cos_neg, Real.sin_neg]
      exact ⟨rfl, (neg_one_mul _).symm⟩
    · rw [sgnNeg_of_nonneg h, one_mul, one_mul]
      exact ⟨rfl, rfl⟩
  rw [hcs.1, hcs.2, Real.cos_sub, Real.sin_sub, hv12.1, hv12.2]
  constructor
  · rw [← hc, ← hs]; ring
  · ring

section
variable [Scalar ℝ] [LawfulScalar ℝ] [LawfulReal]

/-- the radii and the angle diagonalise the Gram matrix `M·Mᵀ` of the linear part `M = [[c0, c2], [c1, c3]]` -/
theorem svd_gram (A : Affine ℝ) :
    0 ≤ A.svd.1.x ∧ 0 ≤ A.svd.1.y ∧
    A.svd.1.x ^ 2 * Real.cos A.svd.2 ^ 2 + A.svd.1.y ^ 2 * Real.sin A.svd.2 ^ 2 = A.c0 ^ 2 + A.c2 ^ 2 ∧
    (A.svd.1.x ^ 2 - A.svd.1.y ^ 2) * (Real.sin A.svd.2 * Real.cos A.svd.2) = A.c0 * A.c1 + A.c2 * A.c3 ∧
    A.svd.1.x ^ 2 * Real.sin A.svd.2 ^ 2 + A.svd.1.y ^ 2 * Real.cos A.svd.2 ^ 2 = A.c1 ^ 2 + A.c3 ^ 2 := by
  obtain ⟨s, h0, h2, ⟨hp0, hp⟩, ⟨hm0, hm⟩, hφ⟩ := A.svd_spec sqrtExact_of_lawfulReal
  rw [LawfulReal.atan2_eq] at hφ
  -- `D + 2S·i` has modulus `s`
  obtain ⟨pc, ps⟩ := polar_arg h0 (by rw [sq s, h2]; ring :
    (A.c0 * A.c0 - A.c1 * A.c1 + A.c2 * A.c2 - A.c3 * A.c3) ^ 2 + (2 * (A.c0 * A.c1 + A.c2 * A.c3)) ^ 2 = s ^ 2)
  obtain ⟨g1, g2, g3⟩ := sym2_eigen ((sq _).trans hp) ((sq _).trans hm) pc ps
  rw [← hφ] at g1 g2 g3
  exact ⟨hp0, hm0, g1.trans (by ring), g2, g3.trans (by ring)⟩

theorem svd_radii_prod (A : Affine ℝ) : A.svd.1.x * A.svd.1.y = |A.determinant| :=
  A.svd_radii_mul sqrtExact_of_lawfulReal

theorem svd_radii_pos (A : Affine ℝ) (hdet : A.determinant ≠ 0) : 0 < A.svd.1.x ∧ 0 < A.svd.1.y := by
  obtain ⟨h1, h2, -⟩ := svd_gram A
  have hp : 0 < A.svd.1.x * A.svd.1.y := by rw [svd_radii_prod]; exact abs_pos.mpr hdet
  constructor
  · rcases h1.lt_or_eq with h | h
    · exact h
    · rw [← h, zero_mul] at hp; exact absurd hp (lt_irrefl _)
  · rcases h2.lt_or_eq with h | h
    · exact h
    · rw [← h, mul_zero] at hp; exact absurd hp (lt_irrefl _)

theorem svd_radii_le (A : Affine ℝ) : A.svd.1.y ≤ A.svd.1.x := by
  obtain ⟨s, h0, -, ⟨hp0, hp⟩, ⟨hm0, hm⟩, -⟩ := A.svd_spec sqrtExact_of_lawfulReal
  exact (mul_self_le_mul_self_iff hm0 hp0).mpr (by rw [hp, hm]; linarith)

/-- the phase of the right orthogonal factor of the SVD: `arg` of the first row of `R(−φ)·M` -/
noncomputable def svdPhase (B : Affine ℝ) : ℝ :=
  Complex.arg ⟨B.c0 * Real.cos B.svd.2 + B.c1 * Real.sin B.svd.2, B.c2 * Real.cos B.svd.2 + B.c3 * Real.sin B.svd.2⟩

/-- the rows of `R(−φ)·M` in the frame of the `svd` -/
theorem svd_rows (B : Affine ℝ) (θ : ℝ) :
    (B.c0 * cos B.svd.2 + B.c1 * sin B.svd.2) * cos θ + (B.c2 * cos B.svd.2 + B.c3 * sin B.svd.2) * sin θ
      = B.svd.1.x * cos (sgnNeg B.determinant * (θ - svdPhase B)) ∧
    (-(B.c0 * sin B.svd.2) + B.c1 * cos B.svd.2) * cos θ + (-(B.c2 * sin B.svd.2) + B.c3 * cos B.svd.2) * sin θ
      = B.svd.1.y * sin (sgnNeg B.determinant * (θ - svdPhase B)) := by
  obtain ⟨hx, hy, g1, g2, g3⟩ := svd_gram B
  have hprod := svd_radii_prod B
  have hle := svd_radii_le B
  have h1 := Real.sin_sq_add_cos_sq B.svd.2
  unfold svdPhase
  rw [Affine.determinant_eq] at hprod ⊢
  generalize B.svd.2 = φ at *
  generalize B.svd.1 = r at *
  refine orth_rows hx hy hle ?_ ?_ ?_ ?_ hprod θ
  · linear_combination (-(cos φ) ^ 2) * g1 + (-2 * sin φ * cos φ) * g2 + (-(sin φ) ^ 2) * g3
      + (r.x ^ 2 * (cos φ ^ 2 + sin φ ^ 2 + 1)) * h1
  · linear_combination (-(sin φ) ^ 2) * g1 + (2 * sin φ * cos φ) * g2 + (-(cos φ) ^ 2) * g3
      + (r.y ^ 2 * (cos φ ^ 2 + sin φ ^ 2 + 1)) * h1
  · linear_combination (B.c0 * B.c3 - B.c1 * B.c2) * h1
  · linear_combination (-(sin φ * cos φ)) * g3 + (sin φ * cos φ) * g1 - (cos φ ^ 2 - sin φ ^ 2) * g2

variable [LawfulTrig]

/-- the `svd` as a statement about points: the image of the unit-circle point at angle `θ` under any `B` is the point of the
    `svd` ellipse (centre `B.translation`, radii and rotation from `B.svd`) at angle `σ·(θ − ψ)`.  For a singular `B`, `σ = 1`
    and `ry = 0`: the ellipse is a segment or a point. -/
theorem svd_point (B : Affine ℝ) (θ : ℝ) :
    B * (⟨cos θ, sin θ⟩ : Point ℝ)
      = B.translation.to_point + sampleEllipse B.svd.1 B.svd.2 (sgnNeg B.determinant * (θ - svdPhase B)) := by
  obtain ⟨r1, r2⟩ := svd_rows B θ
  rw [sampleEllipse_real]
  have h1 := Real.sin_sq_add_cos_sq B.svd.2
  generalize sgnNeg B.determinant * (θ - svdPhase B) = θ' at *
  generalize B.svd.2 = φ at *
  generalize B.svd.1 = r at *
  simp only [kdefs, scalar_norm, Vec2.to_point, Point.mk.injEq]
  constructor
  · linear_combination (cos φ) * r1 - (sin φ) * r2 - (B.c0 * cos θ + B.c2 * sin θ) * h1
  · linear_combination (sin φ) * r1 + (cos φ) * r2 - (B.c1 * cos θ + B.c3 * sin θ) * h1

theorem svd_point_inv (B : Affine ℝ) (θ' : ℝ) :
    B.translation.to_point + sampleEllipse B.svd.1 B.svd.2 θ'
      = B * (⟨cos (sgnNeg B.determinant * θ' + svdPhase B), sin (sgnNeg B.determinant * θ' + svdPhase B)⟩ : Point ℝ) := by
  rw [svd_point B]
  congr 2
  linear_combination (-θ') * sgnNeg_sq B.determinant

theorem svd_radii_y_of_det_eq_zero (B : Affine ℝ) (hdet : B.determinant = 0) : B.svd.1.y = 0 := by
  have hp := svd_radii_prod B
  rw [hdet, abs_zero] at hp
  exact (mul_eq_zero.mp hp).elim (fun h => le_antisymm (h ▸ svd_radii_le B) (svd_gram B).2.1) id

/-- the left-hand side is the quantity `Ellipse::winding` compares with `1` -/
theorem svd_sample_on_image (A : Affine ℝ) (hdet : A.determinant ≠ 0) (θ : ℝ) :
    (A.inverse * (A.translation.to_point + sampleEllipse A.svd.1 A.svd.2 θ)).to_vec2.hypot2 = 1 := by
  rw [svd_point_inv, (Affine.inverse_act A hdet _).1]
  simp only [Point.to_vec2, Vec2.hypot2, Vec2.dot, scalar_norm]
  linear_combination Real.cos_sq_add_sin_sq (sgnNeg A.determinant * θ + svdPhase A)

end
end Kurbo
