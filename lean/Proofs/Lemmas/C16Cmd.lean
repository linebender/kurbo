import Proofs.Lemmas.C16
import Lean.Elab.Tactic
/-! C16/C14: the commands of the SVG path grammar.  The small notions one `svgCommand` call is made of (`lowerCmd`, `svgPre`,
    `SvgSt.flushed`, `knownCmd`, the reflected control points, `arcElements`); then the commands as data (`C16Cmd α`: the nine
    commands other than the arc over a type `α` of numbers, with letter and arguments) and their meaning `c16b_interp`, a state
    update that does not look at the lexer.  `Proofs/Lemmas/C16Args.lean` shows that `svgCommand` computes it.
    The tactics `lx_facts`, `lx_chain`, `svg_branch` work on the model's `svgCommand` as it is written (cascaded `match`es); no
    proof calls them, the proofs go through `svgCommand_eq_interp`. -/
set_option linter.unusedSectionVars false
namespace Kurbo

section
variable {K : Type} [Scalar K]

theorem Lx.Le_iff {l l' : Lx} : l.Le l' ↔ l'.data = l.data ∧ l.ix ≤ l'.ix ∧ (l.ix ≤ l.data.size → l'.ix ≤ l'.data.size) :=
  ⟨fun h => ⟨h.data, h.ix, h.wf⟩, fun h => ⟨h.1, h.2.1, h.2.2⟩⟩
theorem Lx.Lt_iff {l l' : Lx} : l.Lt l' ↔ l'.data = l.data ∧ l.ix < l'.ix ∧ (l.ix ≤ l.data.size → l'.ix ≤ l'.data.size) :=
  ⟨fun h => ⟨h.data, h.ix, h.wf⟩, fun h => ⟨h.1, h.2.1, h.2.2⟩⟩

open Lean Elab Tactic in
/-- add the index facts (`Lx.Lt` / `Lx.Le`) of every successful lexer call recorded in the context -/
elab "lx_facts" : tactic => withMainContext do
  for d in (← getLCtx) do
    unless d.isImplementationDetail do
      let ty ← instantiateMVars d.type
      if let some (_, lhs, _) := ty.eq? then
        let fn := lhs.getAppFn
        let e ← Term.exprToSyntax d.toExpr
        if fn.isConstOf ``getMaybeRelative then
          evalTactic (← `(tactic| try have := getMaybeRelative_ok $e))
        else if fn.isConstOf ``getNumberPair then
          evalTactic (← `(tactic| try have := getNumberPair_ok $e))
        else if fn.isConstOf ``getNumber then
          evalTactic (← `(tactic| try have := getNumber_ok $e))
        else if fn.isConstOf ``getFlag then
          evalTactic (← `(tactic| try have := getFlag_ok $e))
        else if fn.isConstOf ``optComma then
          evalTactic (← `(tactic| try have := optComma_le $e))

/-- the command letter folded to lower case, as `svgCommand` does -/
def lowerCmd (c : UInt8) : UInt8 := if isUpper c then c + 32 else c

theorem lowerCmd_def (c : UInt8) : lowerCmd c = if isUpper c then c + 32 else c := rfl

/-- the `pre` step of `svgCommand`: `none` = `UninitializedPath` -/
def svgPre (c : UInt8) (st : SvgSt K) : Option (SvgSt K) :=
  if c != 109 && c != 77 then
    if st.path.isEmpty then none
    else match st.implicit_moveto with
      | some pt => some { st with path := st.path ++ [.MoveTo pt], implicit_moveto := none }
      | none => some st
  else some st

/-- the implicit `MoveTo` a non-move command flushes into the path -/
def SvgSt.flushed (st : SvgSt K) : SvgSt K :=
  match st.implicit_moveto with
  | some pt => { st with path := st.path ++ [.MoveTo pt], implicit_moveto := none }
  | none => st

@[simp] theorem SvgSt.flushed_last_pt (st : SvgSt K) : st.flushed.last_pt = st.last_pt := by
  unfold SvgSt.flushed; split <;> rfl
@[simp] theorem SvgSt.flushed_first_pt (st : SvgSt K) : st.flushed.first_pt = st.first_pt := by
  unfold SvgSt.flushed; split <;> rfl
@[simp] theorem SvgSt.flushed_last_cmd (st : SvgSt K) : st.flushed.last_cmd = st.last_cmd := by
  unfold SvgSt.flushed; split <;> rfl
@[simp] theorem SvgSt.flushed_last_ctrl (st : SvgSt K) : st.flushed.last_ctrl = st.last_ctrl := by
  unfold SvgSt.flushed; split <;> rfl
@[simp] theorem SvgSt.flushed_implicit_moveto (st : SvgSt K) : st.flushed.implicit_moveto = none := by
  unfold SvgSt.flushed; split <;> simp_all
theorem SvgSt.flushed_path (st : SvgSt K) :
    st.flushed.path = st.path ++ (match st.implicit_moveto with | some pt => [.MoveTo pt] | none => []) := by
  unfold SvgSt.flushed; split <;> simp

omit [Scalar K] in
theorem svgPre_eq_none {c : UInt8} {st : SvgSt K} (h : svgPre c st = none) : c ≠ 109 ∧ c ≠ 77 ∧ st.path = [] := by
  unfold svgPre at h
  split at h
  · rename_i hc
    simp only [Bool.and_eq_true, bne_iff_ne, ne_eq] at hc
    split at h
    · rename_i hp
      exact ⟨hc.1, hc.2, List.isEmpty_iff.mp hp⟩
    · split at h <;> cases h
  · cases h

omit [Scalar K] in
theorem svgPre_eq_some {c : UInt8} {st st1 : SvgSt K} (h : svgPre c st = some st1) :
    ((c = 109 ∨ c = 77) ∧ st1 = st) ∨ (c ≠ 109 ∧ c ≠ 77 ∧ st.path ≠ [] ∧ st1 = st.flushed) := by
  unfold svgPre at h
  split at h
  · rename_i hc
    simp only [Bool.and_eq_true, bne_iff_ne, ne_eq] at hc
    split at h
    · cases h
    · rename_i hp
      refine .inr ⟨hc.1, hc.2, fun h' => hp (List.isEmpty_iff.mpr h'), ?_⟩
      unfold SvgSt.flushed
      split at h <;> exact (Option.some.inj h).symm
  · rename_i hc
    simp only [Bool.and_eq_true, bne_iff_ne, ne_eq] at hc
    refine .inl ⟨?_, (Option.some.inj h).symm⟩
    by_cases h1 : c = 109
    · exact .inl h1
    · exact .inr (Decidable.byContradiction fun h2 => hc ⟨h1, h2⟩)

/-- the lower-case command letters `svgCommand` knows: `m l h v q t c s a z` -/
def knownCmd (lc : UInt8) : Bool :=
  lc == 109 || lc == 108 || lc == 104 || lc == 118 || lc == 113 || lc == 116 || lc == 99 || lc == 115 || lc == 97 || lc == 122

/-- everything the no-panic / progress / error theorems need to know about one `svgCommand` call -/
def SvgCmdPost (c : UInt8) (st : SvgSt K) (l : Lx) : LR (SvgSt K) → Prop
  | .panic => False
  | .err e =>
      (e = .uninitializedPath ∧ c ≠ 109 ∧ c ≠ 77 ∧ st.path = []) ∨
      ((c = 109 ∨ c = 77 ∨ st.path ≠ []) ∧
        (((e = .wrong ∨ e = .unexpectedEof) ∧ knownCmd (lowerCmd c) = true ∧ lowerCmd c ≠ 122) ∨
         (e = .unknownCommand c ∧ knownCmd (lowerCmd c) = false)))
  | .ok st' l' =>
      l.Le l' ∧ st'.path ≠ [] ∧ knownCmd (lowerCmd c) = true ∧ (c = 109 ∨ c = 77 ∨ st.path ≠ []) ∧
      (lowerCmd c ≠ 122 → l.Lt l' ∧ (lowerCmd c = 109 → st'.last_cmd = c - 1) ∧ (lowerCmd c ≠ 109 → st'.last_cmd = c)) ∧
      (lowerCmd c = 122 → l' = l ∧ st'.last_cmd = st.last_cmd)

theorem SvgCmdPost.le {c : UInt8} {st st' : SvgSt K} {l l' : Lx} (h : SvgCmdPost c st l (.ok st' l')) : l.Le l' := h.1
theorem SvgCmdPost.path_ne {c : UInt8} {st st' : SvgSt K} {l l' : Lx} (h : SvgCmdPost c st l (.ok st' l')) :
    st'.path ≠ [] := h.2.1
theorem SvgCmdPost.known {c : UInt8} {st st' : SvgSt K} {l l' : Lx} (h : SvgCmdPost c st l (.ok st' l')) :
    knownCmd (lowerCmd c) = true := h.2.2.1
theorem SvgCmdPost.lt {c : UInt8} {st st' : SvgSt K} {l l' : Lx} (h : SvgCmdPost c st l (.ok st' l'))
    (hz : lowerCmd c ≠ 122) : l.Lt l' := (h.2.2.2.2.1 hz).1
theorem SvgCmdPost.same {c : UInt8} {st st' : SvgSt K} {l l' : Lx} (h : SvgCmdPost c st l (.ok st' l'))
    (hz : lowerCmd c = 122) : l' = l := (h.2.2.2.2.2 hz).1
theorem SvgCmdPost.last_cmd {c : UInt8} {st st' : SvgSt K} {l l' : Lx} (h : SvgCmdPost c st l (.ok st' l')) :
    st'.last_cmd = if lowerCmd c = 122 then st.last_cmd else if lowerCmd c = 109 then c - 1 else c := by
  by_cases hz : lowerCmd c = 122
  · rw [if_pos hz]; exact (h.2.2.2.2.2 hz).2
  rw [if_neg hz]
  by_cases hm : lowerCmd c = 109
  · rw [if_pos hm]; exact (h.2.2.2.2.1 hz).2.1 hm
  · rw [if_neg hm]; exact (h.2.2.2.2.1 hz).2.2 hm

macro "lx_chain" : tactic => `(tactic| (lx_facts; simp only [Lx.Le_iff, Lx.Lt_iff] at *; grind))

/-- `SvgCmdPost` from `h : arm = r` for one non-`z` arm of the model's `svgCommand` as it is written there (cascaded
    `match`es): split all matches of `h`, then handle the `panic` / `err` / `ok` leaves -/
macro "svg_branch" h:ident hk:ident hpath:ident hinit:ident : tactic => `(tactic| (
  repeat' split at $h:ident
  all_goals subst $h:ident
  all_goals first
    | exact absurd ‹getMaybeRelative _ _ _ = LR.panic› (getMaybeRelative_ne_panic _ _ _)
    | exact absurd ‹getNumberPair _ = LR.panic› (getNumberPair_ne_panic _)
    | exact absurd ‹getNumber _ = LR.panic› (getNumber_ne_panic _)
    | exact absurd ‹getFlag _ = LR.panic› (getFlag_ne_panic _)
    | exact absurd ‹optComma _ = none› (optComma_ne_panic _)
    | exact .inr ⟨$hinit, .inl ⟨getMaybeRelative_err ‹getMaybeRelative _ _ _ = LR.err _›, by rw [$hk:ident]; decide, by rw [$hk:ident]; decide⟩⟩
    | exact .inr ⟨$hinit, .inl ⟨getNumberPair_err ‹getNumberPair _ = LR.err _›, by rw [$hk:ident]; decide, by rw [$hk:ident]; decide⟩⟩
    | exact .inr ⟨$hinit, .inl ⟨getNumber_err ‹getNumber _ = LR.err _›, by rw [$hk:ident]; decide, by rw [$hk:ident]; decide⟩⟩
    | exact .inr ⟨$hinit, .inl ⟨getFlag_err ‹getFlag _ = LR.err _›, by rw [$hk:ident]; decide, by rw [$hk:ident]; decide⟩⟩
    | (refine ⟨Lx.Lt.le ?lt, ?_, by rw [$hk:ident]; decide, $hinit, fun _ => ⟨?lt, ?_⟩, fun hz => absurd hz (by rw [$hk:ident]; decide)⟩
       case lt => lx_chain
       · first | (simp; done) | (have := $hpath (by rw [$hk:ident]; decide); simp [this])
       · first
         | exact ⟨fun _ => rfl, fun h => absurd $hk h⟩
         | exact ⟨fun h => absurd (($hk).symm.trans h) (by decide), fun _ => rfl⟩)))

/-- the first control point of a smooth quadratic `T`: the reflection of the last control point if the previous command was
    `Q`/`q`/`T`/`t`, else the current point -/
def SvgSt.smoothQuadCtrl (st : SvgSt K) : Point K :=
  match st.last_ctrl with
  | some ctrl =>
    if st.last_cmd == 113 || st.last_cmd == 81 || st.last_cmd == 116 || st.last_cmd == 84 then reflectCtrl st.last_pt ctrl
    else st.last_pt
  | none => st.last_pt

/-- the first control point of a smooth cubic `S` -/
def SvgSt.smoothCubicCtrl (st : SvgSt K) : Point K :=
  match st.last_ctrl with
  | some ctrl =>
    if st.last_cmd == 99 || st.last_cmd == 67 || st.last_cmd == 115 || st.last_cmd == 83 then reflectCtrl st.last_pt ctrl
    else st.last_pt
  | none => st.last_pt

/-- the path elements an arc command appends -/
def arcElements (from_pt to_pt : Point K) (radii : Point K) (xrot : K) (large_arc sweep : Bool) : List (PathEl K) :=
  match Arc.from_svg_arc { «from» := from_pt, to := to_pt, radii := radii.to_vec2, x_rotation := toRadians xrot,
                           large_arc := large_arc, sweep := sweep } with
  | some arc => arcToCubics arc
  | none => [.LineTo to_pt]

theorem lowerCmd_eq {c x : UInt8} (h : lowerCmd c = x) : c = x ∨ c = x - 32 := by
  unfold lowerCmd at h
  split at h
  · exact .inr (by rw [← h, UInt8.add_sub_cancel])
  · exact .inl h

theorem lowerCmd_eq_122 {c : UInt8} : lowerCmd c = 122 ↔ c = 122 ∨ c = 90 :=
  ⟨lowerCmd_eq, by rintro (rfl | rfl) <;> decide⟩

theorem lowerCmd_eq_109 {c : UInt8} (h : lowerCmd c = 109) : c = 109 ∨ c = 77 :=
  lowerCmd_eq h

end

/-- an SVG path command over a type `α` of "numbers": `α = K` – the command's arguments as scalars; `α = NumChunk` – the
    command's arguments as they are spelled (`ws* number ws* ','?` each).  `rel = true` is the lower-case (relative) letter.
    Arcs are left out. -/
inductive C16Cmd (α : Type) where
  | moveTo (rel : Bool) (p : Point α)
  | lineTo (rel : Bool) (p : Point α)
  | horiz (rel : Bool) (x : α)
  | vert (rel : Bool) (y : α)
  | quadTo (rel : Bool) (p1 p2 : Point α)
  | smoothQuadTo (rel : Bool) (p : Point α)
  | curveTo (rel : Bool) (p1 p2 p3 : Point α)
  | smoothCurveTo (rel : Bool) (p2 p3 : Point α)
  | close (rel : Bool)
deriving DecidableEq

section
variable {α β : Type}

def c16b_mapPt (f : α → β) (p : Point α) : Point β := ⟨f p.x, f p.y⟩

def C16Cmd.map (f : α → β) : C16Cmd α → C16Cmd β
  | .moveTo r p => .moveTo r (c16b_mapPt f p)
  | .lineTo r p => .lineTo r (c16b_mapPt f p)
  | .horiz r x => .horiz r (f x)
  | .vert r y => .vert r (f y)
  | .quadTo r p1 p2 => .quadTo r (c16b_mapPt f p1) (c16b_mapPt f p2)
  | .smoothQuadTo r p => .smoothQuadTo r (c16b_mapPt f p)
  | .curveTo r p1 p2 p3 => .curveTo r (c16b_mapPt f p1) (c16b_mapPt f p2) (c16b_mapPt f p3)
  | .smoothCurveTo r p2 p3 => .smoothCurveTo r (c16b_mapPt f p2) (c16b_mapPt f p3)
  | .close r => .close r

def C16Cmd.scalars : C16Cmd α → List α
  | .moveTo _ p => [p.x, p.y]
  | .lineTo _ p => [p.x, p.y]
  | .horiz _ x => [x]
  | .vert _ y => [y]
  | .quadTo _ p1 p2 => [p1.x, p1.y, p2.x, p2.y]
  | .smoothQuadTo _ p => [p.x, p.y]
  | .curveTo _ p1 p2 p3 => [p1.x, p1.y, p2.x, p2.y, p3.x, p3.y]
  | .smoothCurveTo _ p2 p3 => [p2.x, p2.y, p3.x, p3.y]
  | .close _ => []

/-- the command letter: `M L H V Q T C S Z`, lower case for `rel = true` -/
def C16Cmd.letter : C16Cmd α → UInt8
  | .moveTo r _ => if r then 109 else 77
  | .lineTo r _ => if r then 108 else 76
  | .horiz r _ => if r then 104 else 72
  | .vert r _ => if r then 118 else 86
  | .quadTo r _ _ => if r then 113 else 81
  | .smoothQuadTo r _ => if r then 116 else 84
  | .curveTo r _ _ _ => if r then 99 else 67
  | .smoothCurveTo r _ _ => if r then 115 else 83
  | .close r => if r then 122 else 90

def C16Cmd.isMove : C16Cmd α → Bool
  | .moveTo _ _ => true
  | _ => false

def C16Cmd.isClose : C16Cmd α → Bool
  | .close _ => true
  | _ => false

def C16Cmd.rel : C16Cmd α → Bool
  | .moveTo r _ | .lineTo r _ | .horiz r _ | .vert r _ | .quadTo r _ _ | .smoothQuadTo r _ | .curveTo r _ _ _
  | .smoothCurveTo r _ _ | .close r => r

/-- what the parser remembers as `last_cmd` after the command: `M`/`m` leave `L`/`l`, `Z`/`z` leave it untouched -/
def c16b_nextCmd (lc : UInt8) : C16Cmd α → UInt8
  | .moveTo r _ => if r then 108 else 76
  | .close _ => lc
  | c => c.letter

def c16b_startsWithMove : List (C16Cmd α) → Prop
  | [] => True
  | c :: _ => c.isMove = true

@[simp] theorem C16Cmd.map_letter (f : α → β) (c : C16Cmd α) : (c.map f).letter = c.letter := by cases c <;> rfl
@[simp] theorem C16Cmd.map_isMove (f : α → β) (c : C16Cmd α) : (c.map f).isMove = c.isMove := by cases c <;> rfl
@[simp] theorem C16Cmd.map_isClose (f : α → β) (c : C16Cmd α) : (c.map f).isClose = c.isClose := by cases c <;> rfl
@[simp] theorem c16b_nextCmd_map (f : α → β) (lc : UInt8) (c : C16Cmd α) : c16b_nextCmd lc (c.map f) = c16b_nextCmd lc c := by
  cases c <;> rfl

theorem C16Cmd.isLower_letter (c : C16Cmd α) : isLower c.letter = c.rel := by
  cases c <;> cases ‹Bool› <;> rfl

theorem c16b_startsWithMove_map (f : α → β) (cs : List (C16Cmd α)) :
    c16b_startsWithMove (cs.map (C16Cmd.map f)) ↔ c16b_startsWithMove cs := by
  cases cs with
  | nil => exact Iff.rfl
  | cons c cs => simp [c16b_startsWithMove]

end

section
variable {K : Type} [Scalar K]

/-- `+` is the model's `Point + Vec2` -/
def c16b_pt (rel : Bool) (last p : Point K) : Point K := if rel then last + p.to_vec2 else p

/-- the state update `svgCommand` makes for the command (`svgCommand_eq_interp`): non-move commands first flush the pending
    implicit `MoveTo` (`st.flushed`); `close` does *not* touch `last_cmd`, clears `last_ctrl`, goes back to `first_pt` and leaves a
    pending implicit `MoveTo first_pt`. -/
def c16b_interp (st : SvgSt K) : C16Cmd K → SvgSt K
  | .moveTo rel p =>
    let pt := c16b_pt rel st.last_pt p
    { st with
        implicit_moveto := none, path := st.path ++ [.MoveTo pt], last_pt := pt, first_pt := pt, last_ctrl := some pt,
        last_cmd := if rel then 108 else 76 }
  | .lineTo rel p =>
    let pt := c16b_pt rel st.last_pt p
    { st.flushed with
        path := st.flushed.path ++ [.LineTo pt], last_ctrl := some pt, last_pt := pt, last_cmd := if rel then 108 else 76 }
  | .horiz rel x =>
    let pt : Point K := ⟨if rel then Scalar.add x st.last_pt.x else x, st.last_pt.y⟩
    { st.flushed with
        path := st.flushed.path ++ [.LineTo pt], last_ctrl := some pt, last_pt := pt, last_cmd := if rel then 104 else 72 }
  | .vert rel y =>
    let pt : Point K := ⟨st.last_pt.x, if rel then Scalar.add y st.last_pt.y else y⟩
    { st.flushed with
        path := st.flushed.path ++ [.LineTo pt], last_ctrl := some pt, last_pt := pt, last_cmd := if rel then 118 else 86 }
  | .quadTo rel p1 p2 =>
    let q1 := c16b_pt rel st.last_pt p1
    let q2 := c16b_pt rel st.last_pt p2
    { st.flushed with
        path := st.flushed.path ++ [.QuadTo q1 q2], last_ctrl := some q1, last_pt := q2, last_cmd := if rel then 113 else 81 }
  | .smoothQuadTo rel p =>
    let q1 := st.flushed.smoothQuadCtrl
    let q2 := c16b_pt rel st.last_pt p
    { st.flushed with
        path := st.flushed.path ++ [.QuadTo q1 q2], last_ctrl := some q1, last_pt := q2, last_cmd := if rel then 116 else 84 }
  | .curveTo rel p1 p2 p3 =>
    let q1 := c16b_pt rel st.last_pt p1
    let q2 := c16b_pt rel st.last_pt p2
    let q3 := c16b_pt rel st.last_pt p3
    { st.flushed with
        path := st.flushed.path ++ [.CurveTo q1 q2 q3], last_ctrl := some q2, last_pt := q3, last_cmd := if rel then 99 else 67 }
  | .smoothCurveTo rel p2 p3 =>
    let q1 := st.flushed.smoothCubicCtrl
    let q2 := c16b_pt rel st.last_pt p2
    let q3 := c16b_pt rel st.last_pt p3
    { st.flushed with
        path := st.flushed.path ++ [.CurveTo q1 q2 q3], last_ctrl := some q2, last_pt := q3,
        last_cmd := if rel then 115 else 83 }
  | .close _ =>
    { st.flushed with
        path := st.flushed.path ++ [.ClosePath], last_pt := st.first_pt, last_ctrl := none,
        implicit_moveto := some st.first_pt }

def c16b_run (st : SvgSt K) (cs : List (C16Cmd K)) : SvgSt K := cs.foldl c16b_interp st

@[simp] theorem c16b_run_nil (st : SvgSt K) : c16b_run st [] = st := rfl
@[simp] theorem c16b_run_cons (st : SvgSt K) (c : C16Cmd K) (cs : List (C16Cmd K)) :
    c16b_run st (c :: cs) = c16b_run (c16b_interp st c) cs := rfl

theorem c16b_run_append (st : SvgSt K) (cs ds : List (C16Cmd K)) :
    c16b_run st (cs ++ ds) = c16b_run (c16b_run st cs) ds := by
  simp [c16b_run, List.foldl_append]

theorem c16b_interp_last_cmd (st : SvgSt K) (c : C16Cmd K) : (c16b_interp st c).last_cmd = c16b_nextCmd st.last_cmd c := by
  cases c <;> simp [c16b_interp, c16b_nextCmd, C16Cmd.letter]

theorem c16b_interp_path_ne (st : SvgSt K) (c : C16Cmd K) : (c16b_interp st c).path ≠ [] := by
  cases c <;> simp [c16b_interp]

end

section
variable {α : Type}

theorem C16Cmd.lowerCmd_letter (c : C16Cmd α) : lowerCmd c.letter =
    match c with
    | .moveTo .. => 109 | .lineTo .. => 108 | .horiz .. => 104 | .vert .. => 118 | .quadTo .. => 113
    | .smoothQuadTo .. => 116 | .curveTo .. => 99 | .smoothCurveTo .. => 115 | .close .. => 122 := by
  cases c <;> cases ‹Bool› <;> rfl

theorem C16Cmd.isClose_iff (c : C16Cmd α) : c.isClose = true ↔ lowerCmd c.letter = 122 := by
  rw [c.lowerCmd_letter]; cases c <;> simp [C16Cmd.isClose]

theorem c16b_nextCmd_letter (lc : UInt8) (c : C16Cmd α) : c16b_nextCmd lc c =
    if lowerCmd c.letter = 122 then lc else if lowerCmd c.letter = 109 then c.letter - 1 else c.letter := by
  rw [c.lowerCmd_letter]; cases c <;> cases ‹Bool› <;> simp [c16b_nextCmd, C16Cmd.letter]

theorem c16b_letter_isLetter (c : C16Cmd α) : (isLower c.letter || isUpper c.letter) = true := by
  cases c <;> simp only [C16Cmd.letter] <;> split <;> decide

theorem c16b_letter_ne_zero (c : C16Cmd α) : c.letter ≠ 0 := fun h =>
  absurd (c16b_letter_isLetter c) (by rw [h]; decide)

theorem c16b_letter_lower_ne_z (c : C16Cmd α) (h : c.isClose = false) : lowerCmd c.letter ≠ 122 := by
  intro hz
  rw [c.isClose_iff.mpr hz] at h; cases h

end

end Kurbo
