import Kurbo.Flatten
import Mathlib.Data.List.Forall2
/-! Helper definitions and lemmas for C05 (flattening), structural part: no arithmetic law is used, every statement
    holds for an arbitrary `[Scalar K]` (in particular for `Float`). -/
set_option linter.unusedSectionVars false
namespace Kurbo
variable {K : Type} [Scalar K]

/-- the element kinds a flattened path may contain -/
def PathEl.isFlat : PathEl K → Bool
  | .MoveTo _ => true
  | .LineTo _ => true
  | .ClosePath => true
  | _ => false

def PathEl.isLineTo : PathEl K → Bool
  | .LineTo _ => true
  | _ => false

theorem PathEl.isFlat_of_isLineTo {e : PathEl K} (h : e.isLineTo = true) : e.isFlat = true := by
  cases e <;> simp_all [PathEl.isLineTo, PathEl.isFlat]

theorem PathEl.isLineTo_iff (e : PathEl K) : e.isLineTo = true ↔ ∃ p, e = .LineTo p := by
  cases e <;> simp [PathEl.isLineTo]

/-- the run emitted for one input element in state `st = (current point, sub-path start)` -/
def flattenRun (st : Option (Point K) × Option (Point K)) (el : PathEl K) (tol sqrt_tol : K) : List (PathEl K) :=
  match el with
  | .MoveTo p => [.MoveTo p]
  | .LineTo p => [.LineTo p]
  | .QuadTo p1 p2 =>
    match st.1 with
    | some p0 => flattenQuad ⟨p0, p1, p2⟩ sqrt_tol
    | none => []
  | .CurveTo p1 p2 p3 =>
    match st.1 with
    | some p0 => flattenCubic ⟨p0, p1, p2, p3⟩ tol sqrt_tol
    | none => []
  | .ClosePath => [.ClosePath]

section
variable (st : Option (Point K) × Option (Point K)) (s2 : Option (Point K)) (p p0 p1 p2 p3 : Point K) (tol sqrt_tol : K)
@[simp] theorem flattenRun_moveTo : flattenRun st (.MoveTo p) tol sqrt_tol = [.MoveTo p] := rfl
@[simp] theorem flattenRun_lineTo : flattenRun st (.LineTo p) tol sqrt_tol = [.LineTo p] := rfl
@[simp] theorem flattenRun_closePath : flattenRun st .ClosePath tol sqrt_tol = [.ClosePath] := rfl
@[simp] theorem flattenRun_quadTo_some :
    flattenRun (some p0, s2) (.QuadTo p1 p2) tol sqrt_tol = flattenQuad ⟨p0, p1, p2⟩ sqrt_tol := rfl
@[simp] theorem flattenRun_curveTo_some :
    flattenRun (some p0, s2) (.CurveTo p1 p2 p3) tol sqrt_tol = flattenCubic ⟨p0, p1, p2, p3⟩ tol sqrt_tol := rfl
@[simp] theorem flattenRun_quadTo_none : flattenRun (none, s2) (.QuadTo p1 p2) tol sqrt_tol = [] := rfl
@[simp] theorem flattenRun_curveTo_none : flattenRun (none, s2) (.CurveTo p1 p2 p3) tol sqrt_tol = [] := rfl
end

/-- the state `(current point, sub-path start)` after one input element -/
def flattenState (st : Option (Point K) × Option (Point K)) (el : PathEl K) : Option (Point K) × Option (Point K) :=
  match el with
  | .MoveTo p => (some p, some p)
  | .LineTo p => (some p, st.2)
  | .QuadTo _ p2 => (some p2, st.2)
  | .CurveTo _ _ p3 => (some p3, st.2)
  | .ClosePath => (st.2, st.2)

def flattenStateAfter (st : Option (Point K) × Option (Point K)) (els : List (PathEl K)) :
    Option (Point K) × Option (Point K) :=
  els.foldl flattenState st

def flattenRuns (st : Option (Point K) × Option (Point K)) (els : List (PathEl K)) (tol : K) :
    List (List (PathEl K)) :=
  match els with
  | [] => []
  | el :: rest => flattenRun st el tol (Scalar.sqrt tol) :: flattenRuns (flattenState st el) rest tol

def flattenFrom (st : Option (Point K) × Option (Point K)) (els : List (PathEl K)) (tol : K) : List (PathEl K) :=
  (flattenRuns st els tol).flatten

@[simp] theorem flattenStateAfter_nil (st : Option (Point K) × Option (Point K)) : flattenStateAfter st [] = st := rfl
@[simp] theorem flattenStateAfter_cons (st : Option (Point K) × Option (Point K)) (el : PathEl K) (els : List (PathEl K)) :
    flattenStateAfter st (el :: els) = flattenStateAfter (flattenState st el) els := rfl
theorem flattenStateAfter_append (st : Option (Point K) × Option (Point K)) (a b : List (PathEl K)) :
    flattenStateAfter st (a ++ b) = flattenStateAfter (flattenStateAfter st a) b := by
  simp [flattenStateAfter, List.foldl_append]

@[simp] theorem flattenRuns_nil (st : Option (Point K) × Option (Point K)) (tol : K) : flattenRuns st [] tol = [] := rfl
@[simp] theorem flattenRuns_cons (st : Option (Point K) × Option (Point K)) (el : PathEl K) (els : List (PathEl K)) (tol : K) :
    flattenRuns st (el :: els) tol = flattenRun st el tol (Scalar.sqrt tol) :: flattenRuns (flattenState st el) els tol := rfl

theorem flattenRuns_length (st : Option (Point K) × Option (Point K)) (els : List (PathEl K)) (tol : K) :
    (flattenRuns st els tol).length = els.length := by
  induction els generalizing st with
  | nil => rfl
  | cons el rest ih => simp [ih]

theorem flattenRuns_append (st : Option (Point K) × Option (Point K)) (a b : List (PathEl K)) (tol : K) :
    flattenRuns st (a ++ b) tol = flattenRuns st a tol ++ flattenRuns (flattenStateAfter st a) b tol := by
  induction a generalizing st with
  | nil => rfl
  | cons el rest ih => simp [ih]

theorem flattenRuns_getElem (st : Option (Point K) × Option (Point K)) (els : List (PathEl K)) (tol : K) (i : Nat)
    (hi : i < els.length) :
    (flattenRuns st els tol)[i]'(by rw [flattenRuns_length]; exact hi) =
      flattenRun (flattenStateAfter st (els.take i)) els[i] tol (Scalar.sqrt tol) := by
  induction els generalizing st i with
  | nil => simp at hi
  | cons el rest ih =>
    cases i with
    | zero => simp
    | succ j =>
      simp only [flattenRuns_cons, List.getElem_cons_succ, List.take_succ_cons, flattenStateAfter_cons]
      exact ih _ j (by simpa using hi)

/-- the fold of `flatten`, generalised over the accumulator -/
theorem flatten_fold_eq (els : List (PathEl K)) (tol : K) (l s : Option (Point K)) (out : List (PathEl K)) :
    (els.foldl (fun (acc : Option (Point K) × Option (Point K) × List (PathEl K)) el =>
      let (last_pt, start_pt, out) := acc
      match el with
      | .MoveTo p => (some p, some p, out ++ [.MoveTo p])
      | .LineTo p => (some p, start_pt, out ++ [.LineTo p])
      | .QuadTo p1 p2 =>
        match last_pt with
        | some p0 => (some p2, start_pt, out ++ flattenQuad ⟨p0, p1, p2⟩ (Scalar.sqrt tol))
        | none => (some p2, start_pt, out)
      | .CurveTo p1 p2 p3 =>
        match last_pt with
        | some p0 => (some p3, start_pt, out ++ flattenCubic ⟨p0, p1, p2, p3⟩ tol (Scalar.sqrt tol))
        | none => (some p3, start_pt, out)
      | .ClosePath => (start_pt, start_pt, out ++ [.ClosePath])) (l, s, out)).2.2
    = out ++ flattenFrom (l, s) els tol := by
  induction els generalizing l s out with
  | nil => simp [flattenFrom]
  | cons el rest ih =>
    rw [List.foldl_cons]
    -- in every case of the element (and, for a curve, of the current point) the step of the fold is the step of `flattenRuns`
    cases el <;> cases l
    all_goals
      simp only []
      rw [ih]
      simp [flattenFrom, flattenState]

theorem flatten_eq_flattenFrom (els : List (PathEl K)) (tol : K) :
    flatten els tol = flattenFrom (none, none) els tol := by
  have h := flatten_fold_eq els tol none none []
  simp only [List.nil_append] at h
  rw [← h]
  rfl

theorem flattenStateAfter_isSome (st : Option (Point K) × Option (Point K)) (els : List (PathEl K))
    (h1 : st.1.isSome = true) (h2 : st.2.isSome = true) :
    (flattenStateAfter st els).1.isSome = true ∧ (flattenStateAfter st els).2.isSome = true := by
  induction els generalizing st with
  | nil => exact ⟨h1, h2⟩
  | cons el rest ih =>
    rw [flattenStateAfter_cons]
    cases el <;> exact ih _ (by simp [flattenState, h2]) (by simp [flattenState, h2])

theorem flattenStateAfter_isSome_of_moveTo (st : Option (Point K) × Option (Point K)) (els : List (PathEl K))
    (p : Point K) (h : PathEl.MoveTo p ∈ els) :
    (flattenStateAfter st els).1.isSome = true ∧ (flattenStateAfter st els).2.isSome = true := by
  obtain ⟨a, b, rfl⟩ := List.append_of_mem h
  rw [flattenStateAfter_append, flattenStateAfter_cons]
  exact flattenStateAfter_isSome _ b rfl rfl

theorem flattenStateAfter_snd_of_no_moveTo (st : Option (Point K) × Option (Point K)) (els : List (PathEl K))
    (h : ∀ p, PathEl.MoveTo p ∉ els) : (flattenStateAfter st els).2 = st.2 := by
  induction els generalizing st with
  | nil => rfl
  | cons el rest ih =>
    rw [flattenStateAfter_cons, ih _ (fun p hp => h p (List.mem_cons_of_mem _ hp))]
    cases el with
    | MoveTo p => exact absurd List.mem_cons_self (h p)
    | _ => rfl

theorem flattenStateAfter_close (st : Option (Point K) × Option (Point K)) (pre mid : List (PathEl K)) (p : Point K)
    (h : ∀ p', PathEl.MoveTo p' ∉ mid) :
    flattenStateAfter st (pre ++ PathEl.MoveTo p :: (mid ++ [PathEl.ClosePath])) = (some p, some p) := by
  rw [flattenStateAfter_append, flattenStateAfter_cons, flattenStateAfter_append]
  have := flattenStateAfter_snd_of_no_moveTo (some p, some p) mid h
  simp only [flattenStateAfter_cons, flattenStateAfter_nil, flattenState]
  rw [this]

open Ops in
/-- the number of lines emitted for a quadratic: `max 1 (⌈½·val/sqrt_tol⌉ as usize)` -/
def flattenQuadN (q : QuadBez K) (sqrt_tol : K) : Nat :=
  let n0 := Scalar.toUSize (Scalar.ceil ((Scalar.ofRat (1/2) : K) * (q.estimate_subdiv sqrt_tol).val / sqrt_tol))
  if n0 < 1 then 1 else n0

open Ops in
/-- the curve parameter of the `i`-th emitted vertex of a quadratic -/
def flattenQuadT (q : QuadBez K) (sqrt_tol : K) (i : Nat) : K :=
  q.determine_subdiv_t (q.estimate_subdiv sqrt_tol) (natK i * ((1 : K) / natK (flattenQuadN q sqrt_tol)))

open Ops in
theorem flattenQuadN_eq (q : QuadBez K) (sqrt_tol : K) :
    flattenQuadN q sqrt_tol =
      max 1 (Scalar.toUSize (Scalar.ceil ((Scalar.ofRat (1/2) : K) * (q.estimate_subdiv sqrt_tol).val / sqrt_tol))) := by
  unfold flattenQuadN
  simp only []
  split <;> omega

theorem flattenQuadN_pos (q : QuadBez K) (sqrt_tol : K) : 1 ≤ flattenQuadN q sqrt_tol := by
  rw [flattenQuadN_eq]; exact Nat.le_max_left _ _

theorem flattenQuad_eq (q : QuadBez K) (sqrt_tol : K) :
    flattenQuad q sqrt_tol =
      ((List.range (flattenQuadN q sqrt_tol - 1)).map fun k => PathEl.LineTo (q.eval (flattenQuadT q sqrt_tol (k + 1))))
        ++ [PathEl.LineTo q.p2] := rfl

open Ops in
/-- the parabola abscissa of the start point (`x0` of `estimate_subdiv`) -/
def QuadBez.subdivX0 (q : QuadBez K) : K :=
  let d01 := q.p1 - q.p0
  let d12 := q.p2 - q.p1
  let dd := d01 - d12
  let cross := (q.p2 - q.p0).cross dd
  d01.dot dd * srecip cross

open Ops in
/-- the parabola abscissa of the end point (`x2` of `estimate_subdiv`) -/
def QuadBez.subdivX2 (q : QuadBez K) : K :=
  let d01 := q.p1 - q.p0
  let d12 := q.p2 - q.p1
  let dd := d01 - d12
  let cross := (q.p2 - q.p0).cross dd
  d12.dot dd * srecip cross

theorem estimate_subdiv_a0 (q : QuadBez K) (s : K) : (q.estimate_subdiv s).a0 = approxParabolaIntegral q.subdivX0 := rfl
theorem estimate_subdiv_a2 (q : QuadBez K) (s : K) : (q.estimate_subdiv s).a2 = approxParabolaIntegral q.subdivX2 := rfl

open Ops in
def QuadBez.subdivDD (q : QuadBez K) : Vec2 K := (q.p1 - q.p0) - (q.p2 - q.p1)

open Ops in
def QuadBez.subdivCross (q : QuadBez K) : K := (q.p2 - q.p0).cross q.subdivDD

open Ops in
def QuadBez.subdivDen (q : QuadBez K) : K := q.subdivDD.hypot * (q.subdivX2 - q.subdivX0)

open Ops in
def QuadBez.subdivScale (q : QuadBez K) : K := sabs (q.subdivCross / q.subdivDen)

open Ops in
theorem estimate_subdiv_val (q : QuadBez K) (s : K) :
    (q.estimate_subdiv s).val =
      if Scalar.finQuot q.subdivDen q.subdivScale then
        (if Scalar.signum q.subdivX0 ==. Scalar.signum q.subdivX2 then
          sabs (approxParabolaIntegral q.subdivX2 - approxParabolaIntegral q.subdivX0) * Scalar.sqrt q.subdivScale
        else
          s * sabs (approxParabolaIntegral q.subdivX2 - approxParabolaIntegral q.subdivX0) /
            approxParabolaIntegral (s / Scalar.sqrt q.subdivScale))
      else (0 : K) := rfl

open Ops in
/-- one pass of the `for (q, params) in &quad_buf` loop (bezpath.rs:630) -/
def cubicStep (step : K) (n : Nat) (acc : Nat × K × List (PathEl K)) (qp : QuadBez K × FlattenParams K) :
    Nat × K × List (PathEl K) :=
  let (i, val_sum, out) := acc
  let (q, params) := qp
  let recip_val := srecip params.val
  let (i', out') := cubicWhile q params step n val_sum recip_val (n + 2) i out
  (i', val_sum + params.val, out')

open Ops in
theorem cubicStep_eq (step : K) (n i : Nat) (vs : K) (out : List (PathEl K)) (q : QuadBez K) (p : FlattenParams K) :
    cubicStep step n (i, vs, out) (q, p) =
      ((cubicWhile q p step n vs (srecip p.val) (n + 2) i out).1, vs + p.val,
       (cubicWhile q p step n vs (srecip p.val) (n + 2) i out).2) := rfl

open Ops in
def flattenCubicBuf (c : CubicBez K) (tolerance sqrt_tol : K) : List (QuadBez K × FlattenParams K) :=
  (c.to_quads (tolerance * (Scalar.ofRat toQuadTol : K))).map fun (_, _, q) =>
    (q, q.estimate_subdiv (sqrt_tol * Scalar.sqrt ((1 : K) - (Scalar.ofRat toQuadTol : K))))

open Ops in
theorem flattenCubicBuf_eq (c : CubicBez K) (tolerance sqrt_tol : K) :
    flattenCubicBuf c tolerance sqrt_tol =
      (c.to_quads (Scalar.mul tolerance (Scalar.ofRat toQuadTol))).map fun tq =>
        (tq.2.2, tq.2.2.estimate_subdiv (sqrt_tol * Scalar.sqrt ((1 : K) - (Scalar.ofRat toQuadTol : K)))) := rfl

open Ops in
def flattenCubicSum (c : CubicBez K) (tolerance sqrt_tol : K) : K :=
  (flattenCubicBuf c tolerance sqrt_tol).foldl (fun acc qp => acc + qp.2.val) (0 : K)

open Ops in
/-- the target number of lines for a cubic: `max 1 (⌈½·Σval/sqrt_remain_tol⌉ as usize)` -/
def flattenCubicN (c : CubicBez K) (tolerance sqrt_tol : K) : Nat :=
  let n0 := Scalar.toUSize (Scalar.ceil ((Scalar.ofRat (1/2) : K) * flattenCubicSum c tolerance sqrt_tol /
    (sqrt_tol * Scalar.sqrt ((1 : K) - (Scalar.ofRat toQuadTol : K)))))
  if n0 < 1 then 1 else n0

open Ops in
theorem flattenCubic_eq (c : CubicBez K) (tolerance sqrt_tol : K) :
    flattenCubic c tolerance sqrt_tol =
      ((flattenCubicBuf c tolerance sqrt_tol).foldl
        (cubicStep (flattenCubicSum c tolerance sqrt_tol / natK (flattenCubicN c tolerance sqrt_tol))
          (flattenCubicN c tolerance sqrt_tol)) (1, (0 : K), [])).2.2 ++ [PathEl.LineTo c.p3] := rfl

theorem flattenCubicN_pos (c : CubicBez K) (tolerance sqrt_tol : K) : 1 ≤ flattenCubicN c tolerance sqrt_tol := by
  unfold flattenCubicN; simp only []; split <;> omega

theorem flattenCubicBuf_length (c : CubicBez K) (tolerance sqrt_tol : K) :
    (flattenCubicBuf c tolerance sqrt_tol).length = (c.to_quads (Scalar.mul tolerance (Scalar.ofRat toQuadTol))).length := by
  rw [flattenCubicBuf_eq, List.length_map]

def quadPt (q : QuadBez K) (params : FlattenParams K) (u : K) : PathEl K :=
  PathEl.LineTo (q.eval (q.determine_subdiv_t params u))

/-- the loop parameter `u = (target − val_sum)·recip_val` of the inner loop at index `j` -/
def cubicU (step vs rv : K) (j : Nat) : K := Scalar.mul (Scalar.sub (Scalar.mul (natK j) step) vs) rv

/-- the question the inner loop asks at index `j`, `target < val_sum + val`, as a function of the piece's `val` alone -/
def cubicAsk (step vs v : K) (j : Nat) : Bool := Scalar.lt (Scalar.mul (natK j) step) (Scalar.add vs v)

theorem cubicWhile_succ (q : QuadBez K) (params : FlattenParams K) (step : K) (n : Nat) (vs rv : K)
    (fuel i : Nat) (out : List (PathEl K)) :
    cubicWhile q params step n vs rv (fuel + 1) i out =
      if cubicAsk step vs params.val i = true then
        (if (i + 1 == n + 1) = true then (i + 1, out ++ [quadPt q params (cubicU step vs rv i)])
         else cubicWhile q params step n vs rv fuel (i + 1) (out ++ [quadPt q params (cubicU step vs rv i)]))
      else (i, out) := rfl

/-! The inner `while` asks one Boolean question per index (`cubicAsk`), so what it appends is the vertices at
    `(range' i m).map cubicU` with `m` a function of that question alone (`whileLen`, `cubicWhile_eq`). -/

/-- how many indices from `i` on the loop accepts: the run on which `go` holds, cut off by the fuel and by the
    `i' == n + 1` break -/
def whileLen (go : Nat → Bool) (n : Nat) : Nat → Nat → Nat
  | 0, _ => 0
  | fuel + 1, i => if go i = true then (if (i + 1 == n + 1) = true then 1 else whileLen go n fuel (i + 1) + 1) else 0

theorem whileLen_le (go : Nat → Bool) (n : Nat) : ∀ fuel i, whileLen go n fuel i ≤ fuel
  | 0, _ => Nat.le_refl 0
  | fuel + 1, i => by
    rw [whileLen]
    split
    · split
      · exact Nat.succ_le_succ (Nat.zero_le _)
      · exact Nat.succ_le_succ (whileLen_le go n fuel (i + 1))
    · exact Nat.zero_le _

/-- with `go` false from `n` on the break is never reached, so `whileLen` is exactly the run of `true` answers from `i` -/
theorem whileLen_run (go : Nat → Bool) (n : Nat) (hge : ∀ j, n ≤ j → go j = false) : ∀ fuel i, n ≤ i + fuel →
    (∀ j, i ≤ j → j < i + whileLen go n fuel i → go j = true) ∧ go (i + whileLen go n fuel i) = false
  | 0, i, h => ⟨fun j h1 h2 => absurd h2 (Nat.not_lt.mpr h1), hge i h⟩
  | fuel + 1, i, h => by
    rw [whileLen]
    split
    · rename_i hi
      have hin : i < n := Nat.lt_of_not_le fun hle => by rw [hge i hle] at hi; cases hi
      rw [if_neg (by simp; omega)]
      obtain ⟨h1, h2⟩ := whileLen_run go n hge fuel (i + 1) (by omega)
      refine ⟨fun j hj1 hj2 => ?_, by rw [← Nat.add_assoc, Nat.add_right_comm]; exact h2⟩
      rcases Nat.eq_or_lt_of_le hj1 with rfl | hlt
      · exact hi
      · exact h1 j hlt (by omega)
    · rename_i hi
      exact ⟨fun j h1 h2 => absurd h2 (Nat.not_lt.mpr h1), by simpa using hi⟩

theorem cubicWhile_eq (q : QuadBez K) (params : FlattenParams K) (step : K) (n : Nat) (vs rv : K) :
    ∀ (fuel i : Nat) (out : List (PathEl K)),
      cubicWhile q params step n vs rv fuel i out =
        (i + whileLen (cubicAsk step vs params.val) n fuel i,
         out ++ ((List.range' i (whileLen (cubicAsk step vs params.val) n fuel i)).map (cubicU step vs rv)).map
           (quadPt q params))
  | 0, i, out => Prod.ext rfl (List.append_nil out).symm
  | fuel + 1, i, out => by
    rw [cubicWhile_succ, whileLen]
    split
    · split
      · rfl
      · rw [cubicWhile_eq q params step n vs rv fuel (i + 1), List.range'_succ, List.map_cons, List.map_cons,
          List.append_assoc, List.singleton_append, Nat.add_assoc, Nat.add_comm 1]
    · exact Prod.ext rfl (List.append_nil out).symm

/-- The control of the emission loop of a cubic.  Both loops consult a piece only through its `val` (the question
    `cubicAsk`, the parameter `cubicU`), so which loop parameters are visited inside which piece is a function of the list
    of `val`s alone: per piece the list of its loop parameters `u`, from index `i` and `val_sum = vs` on. -/
def cubicUs (step : K) (n : Nat) : List K → Nat → K → List (List K)
  | [], _, _ => []
  | v :: vals, i, vs =>
    (List.range' i (whileLen (cubicAsk step vs v) n (n + 2) i)).map (cubicU step vs (srecip v)) ::
      cubicUs step n vals (i + whileLen (cubicAsk step vs v) n (n + 2) i) (Scalar.add vs v)

theorem cubicFold_eq (step : K) (n : Nat) : ∀ (buf : List (QuadBez K × FlattenParams K)) (i : Nat) (vs : K)
    (out : List (PathEl K)),
    (buf.foldl (cubicStep step n) (i, vs, out)).2.2 =
      out ++ (List.zipWith (fun qp us => us.map (quadPt qp.1 qp.2)) buf
        (cubicUs step n (buf.map fun qp => qp.2.val) i vs)).flatten
  | [], i, vs, out => (List.append_nil out).symm
  | (q, p) :: buf, i, vs, out => by
    rw [List.foldl_cons, cubicStep_eq, cubicWhile_eq, cubicFold_eq step n buf, List.append_assoc]
    rfl

/-- no piece gets more loop parameters than the inner loop has fuel -/
theorem cubicUs_forall₂_le (step : K) (n : Nat) : ∀ (vals : List K) (i : Nat) (vs : K),
    List.Forall₂ (fun _ us => us.length ≤ n + 2) vals (cubicUs step n vals i vs)
  | [], _, _ => List.Forall₂.nil
  | v :: vals, i, vs => List.Forall₂.cons
      (by rw [List.length_map, List.length_range']; exact whileLen_le _ n _ i) (cubicUs_forall₂_le step n vals _ _)

theorem length_flatten_le_of_forall₂ {α β : Type} (R : α → List β → Prop) (m : Nat) (as : List α) (gs : List (List β))
    (h : List.Forall₂ R as gs) (hm : ∀ a g, R a g → g.length ≤ m) : gs.flatten.length ≤ as.length * m := by
  induction h with
  | nil => simp
  | cons hab _ ih =>
    simp only [List.flatten_cons, List.length_append, List.length_cons]
    have := hm _ _ hab
    rw [Nat.succ_mul]; omega

theorem forall₂_exists_of_mem_right {α β : Type} {R : α → β → Prop} {as : List α} {bs : List β}
    (h : List.Forall₂ R as bs) {b : β} (hb : b ∈ bs) : ∃ a ∈ as, R a b := by
  induction h with
  | nil => simp at hb
  | cons hab _ ih =>
    rcases List.mem_cons.mp hb with rfl | hb
    · exact ⟨_, List.mem_cons_self, hab⟩
    · obtain ⟨a, ha, hr⟩ := ih hb
      exact ⟨a, List.mem_cons_of_mem _ ha, hr⟩

theorem forall₂_zipWith_right {α β γ : Type} {R : α → γ → Prop} {Q : α → β → Prop} {f : α → β → γ}
    {as : List α} {bs : List β} (h : List.Forall₂ Q as bs) (himp : ∀ a b, Q a b → R a (f a b)) :
    List.Forall₂ R as (List.zipWith f as bs) := by
  induction h with
  | nil => exact List.Forall₂.nil
  | cons hab _ ih => exact List.Forall₂.cons (himp _ _ hab) ih

theorem length_flatten_zipWith_map {α β γ : Type} (f : α → β → γ) :
    ∀ (as : List α) (uss : List (List β)), as.length = uss.length →
      (List.zipWith (fun a us => us.map (f a)) as uss).flatten.length = uss.flatten.length
  | [], [], _ => rfl
  | a :: as, us :: uss, h => by
    simp only [List.zipWith_cons_cons, List.flatten_cons, List.length_append, List.length_map,
      length_flatten_zipWith_map f as uss (Nat.succ.inj h)]

theorem flattenQuad_length' (q : QuadBez K) (sqrt_tol : K) : (flattenQuad q sqrt_tol).length = flattenQuadN q sqrt_tol := by
  rw [flattenQuad_eq]
  have := flattenQuadN_pos q sqrt_tol
  simp; omega

theorem flattenQuad_all_lineTo (q : QuadBez K) (sqrt_tol : K) : ∀ e ∈ flattenQuad q sqrt_tol, e.isLineTo = true := by
  intro e he
  rw [flattenQuad_eq] at he
  simp only [List.mem_append, List.mem_map, List.mem_singleton] at he
  rcases he with ⟨k, -, rfl⟩ | rfl <;> rfl

theorem flattenQuad_getLast (q : QuadBez K) (sqrt_tol : K) :
    (flattenQuad q sqrt_tol).getLast? = some (PathEl.LineTo q.p2) := by
  rw [flattenQuad_eq]; simp

open Ops in
/-- the loop parameters of a cubic's run, one list per piece of `to_quads` -/
def flattenCubicUs (c : CubicBez K) (tolerance sqrt_tol : K) : List (List K) :=
  cubicUs (flattenCubicSum c tolerance sqrt_tol / natK (flattenCubicN c tolerance sqrt_tol))
    (flattenCubicN c tolerance sqrt_tol) ((flattenCubicBuf c tolerance sqrt_tol).map fun qp => qp.2.val) 1 (0 : K)

/-- the vertices of a cubic's run before the stored end point, one group per piece of `to_quads` -/
def flattenCubicGroups (c : CubicBez K) (tolerance sqrt_tol : K) : List (List (PathEl K)) :=
  List.zipWith (fun qp us => us.map (quadPt qp.1 qp.2)) (flattenCubicBuf c tolerance sqrt_tol)
    (flattenCubicUs c tolerance sqrt_tol)

theorem flattenCubic_eq_groups (c : CubicBez K) (tolerance sqrt_tol : K) :
    flattenCubic c tolerance sqrt_tol = (flattenCubicGroups c tolerance sqrt_tol).flatten ++ [PathEl.LineTo c.p3] := by
  rw [flattenCubic_eq, cubicFold_eq, List.nil_append]; rfl

theorem flattenCubic_groups (c : CubicBez K) (tolerance sqrt_tol : K) :
    ∃ groups : List (List (PathEl K)),
      flattenCubic c tolerance sqrt_tol = groups.flatten ++ [PathEl.LineTo c.p3] ∧
      List.Forall₂ (fun (tq : K × K × QuadBez K) g =>
        g.length ≤ flattenCubicN c tolerance sqrt_tol + 2 ∧ ∀ e ∈ g, ∃ t, e = PathEl.LineTo (tq.2.2.eval t))
        (c.to_quads (Scalar.mul tolerance (Scalar.ofRat toQuadTol))) groups := by
  refine ⟨_, flattenCubic_eq_groups c tolerance sqrt_tol, ?_⟩
  have h : List.Forall₂ (fun (qp : QuadBez K × FlattenParams K) g =>
      g.length ≤ flattenCubicN c tolerance sqrt_tol + 2 ∧ ∀ e ∈ g, ∃ t, e = PathEl.LineTo (qp.1.eval t))
      (flattenCubicBuf c tolerance sqrt_tol) (flattenCubicGroups c tolerance sqrt_tol) :=
    forall₂_zipWith_right (List.forall₂_map_left_iff.mp (cubicUs_forall₂_le _ _ _ _ _)) fun qp us hle =>
      ⟨by rw [List.length_map]; exact hle, fun e he => by
        obtain ⟨u, -, rfl⟩ := List.mem_map.mp he; exact ⟨_, rfl⟩⟩
  rw [flattenCubicBuf_eq, List.forall₂_map_left_iff] at h
  exact h

theorem flattenCubic_all_lineTo (c : CubicBez K) (tolerance sqrt_tol : K) :
    ∀ e ∈ flattenCubic c tolerance sqrt_tol, e.isLineTo = true := by
  obtain ⟨groups, he, hf⟩ := flattenCubic_groups c tolerance sqrt_tol
  rw [he]
  intro e hmem
  simp only [List.mem_append, List.mem_flatten, List.mem_singleton] at hmem
  rcases hmem with ⟨g, hg, heg⟩ | rfl
  · obtain ⟨tq, -, -, hall⟩ := forall₂_exists_of_mem_right hf hg
    obtain ⟨t, rfl⟩ := hall e heg
    rfl
  · rfl

theorem flattenCubic_getLast (c : CubicBez K) (tolerance sqrt_tol : K) :
    (flattenCubic c tolerance sqrt_tol).getLast? = some (PathEl.LineTo c.p3) := by
  rw [flattenCubic_eq]; simp

theorem flattenCubic_length_le' (c : CubicBez K) (tolerance sqrt_tol : K) :
    (flattenCubic c tolerance sqrt_tol).length ≤
      (c.to_quads (Scalar.mul tolerance (Scalar.ofRat toQuadTol))).length * (flattenCubicN c tolerance sqrt_tol + 2) + 1 := by
  obtain ⟨groups, he, hf⟩ := flattenCubic_groups c tolerance sqrt_tol
  rw [he]
  have := length_flatten_le_of_forall₂ _ (flattenCubicN c tolerance sqrt_tol + 2) _ _ hf (fun _ _ h => h.1)
  simp only [List.length_append, List.length_singleton]; omega

theorem flattenRun_isFlat (st : Option (Point K) × Option (Point K)) (el : PathEl K) (tol sqrt_tol : K) :
    ∀ e ∈ flattenRun st el tol sqrt_tol, e.isFlat = true := by
  obtain ⟨l, s2⟩ := st
  intro e he
  cases el with
  | MoveTo p => rw [flattenRun_moveTo, List.mem_singleton] at he; rw [he]; rfl
  | LineTo p => rw [flattenRun_lineTo, List.mem_singleton] at he; rw [he]; rfl
  | ClosePath => rw [flattenRun_closePath, List.mem_singleton] at he; rw [he]; rfl
  | QuadTo p1 p2 =>
    cases l with
    | none => exact absurd he List.not_mem_nil
    | some p0 => exact PathEl.isFlat_of_isLineTo (flattenQuad_all_lineTo _ _ e he)
  | CurveTo p1 p2 p3 =>
    cases l with
    | none => exact absurd he List.not_mem_nil
    | some p0 => exact PathEl.isFlat_of_isLineTo (flattenCubic_all_lineTo _ _ _ e he)

theorem flattenRuns_isFlat (st : Option (Point K) × Option (Point K)) (els : List (PathEl K)) (tol : K) :
    ∀ e ∈ (flattenRuns st els tol).flatten, e.isFlat = true := by
  induction els generalizing st with
  | nil => simp
  | cons el rest ih =>
    intro e he
    rw [flattenRuns_cons, List.flatten_cons, List.mem_append] at he
    rcases he with he | he
    · exact flattenRun_isFlat _ _ _ _ e he
    · exact ih _ e he

end Kurbo
