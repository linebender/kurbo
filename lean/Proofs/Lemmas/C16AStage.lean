import Proofs.KDefs
import Proofs.Lemmas.RealLaws
import Proofs.Lemmas.C11Real
import Proofs.Lemmas.C10Real
import Proofs.Lemmas.C16AGeom
import Kurbo.Shapes
/-! C16A helpers: `Arc.from_svg_arc` of the model, cut into stages (definitionally equal to the model, `rfl`), and its
    form over ℝ in terms of the real functions of `C16AGeom`. -/
set_option linter.unusedSectionVars false
namespace Kurbo
open Real

section generic
variable {K : Type} [Scalar K]
open Ops

/-- the `p` of F.6.5.1 as the code computes it -/
def svgP (arc : SvgArc K) : Vec2 K :=
  let xr := Scalar.fmod arc.x_rotation twoPi
  let sin_phi := Scalar.sin xr
  let cos_phi := Scalar.cos xr
  let hd_x := (arc.from.x - arc.to.x) * (Scalar.ofRat (1/2) : K)
  let hd_y := (arc.from.y - arc.to.y) * (Scalar.ofRat (1/2) : K)
  Vec2.new (cos_phi * hd_x + sin_phi * hd_y) (-sin_phi * hd_x + cos_phi * hd_y)

/-- `rf` of F.6.6.2 -/
def svgRf (arc : SvgArc K) : K :=
  let rx := sabs arc.radii.x
  let ry := sabs arc.radii.y
  let p := svgP arc
  p.x * p.x / (rx * rx) + p.y * p.y / (ry * ry)

/-- the sanitized radii -/
def svgRadii (arc : SvgArc K) : K × K :=
  let rx := sabs arc.radii.x
  let ry := sabs arc.radii.y
  let rf := svgRf arc
  if (1 : K) <. rf then (let scale := Scalar.sqrt rf; (rx * scale, ry * scale)) else (rx, ry)

/-- everything after the radii are fixed -/
def svgTail (arc : SvgArc K) (rx ry : K) : Arc K :=
  let xr := Scalar.fmod arc.x_rotation twoPi
  let sin_phi := Scalar.sin xr
  let cos_phi := Scalar.cos xr
  let hs_x := (arc.from.x + arc.to.x) * (Scalar.ofRat (1/2) : K)
  let hs_y := (arc.from.y + arc.to.y) * (Scalar.ofRat (1/2) : K)
  let p := svgP arc
  let rxry := rx * ry
  let rxpy := rx * p.y
  let rypx := ry * p.x
  let sum_of_sq := rxpy * rxpy + rypx * rypx
  let sign_coe : K := if arc.large_arc == arc.sweep then (-(1 : K)) else (1 : K)
  let coe := sign_coe * Scalar.sqrt (sabs ((rxry * rxry - sum_of_sq) / sum_of_sq))
  let transformed_cx := coe * rxpy / ry
  let transformed_cy := -coe * rypx / rx
  let center : Point K := Point.new (cos_phi * transformed_cx - sin_phi * transformed_cy + hs_x) (sin_phi * transformed_cx + cos_phi * transformed_cy + hs_y)
  let start_v : Vec2 K := Vec2.new ((p.x - transformed_cx) / rx) ((p.y - transformed_cy) / ry)
  let end_v : Vec2 K := Vec2.new ((-p.x - transformed_cx) / rx) ((-p.y - transformed_cy) / ry)
  let start_angle := start_v.atan2
  let sweep_angle := Scalar.fmod (end_v.atan2 - start_angle) twoPi
  let sweep_angle := if arc.sweep && sweep_angle <. (0 : K) then sweep_angle + twoPi
    else if !arc.sweep && (0 : K) <. sweep_angle then sweep_angle - twoPi else sweep_angle
  { center := center, radii := Vec2.new rx ry, start_angle := start_angle, sweep_angle := sweep_angle, x_rotation := arc.x_rotation }

theorem from_svg_arc_stages (arc : SvgArc K) :
    Arc.from_svg_arc arc
      = if arc.is_straight_line then none else some (svgTail arc (svgRadii arc).1 (svgRadii arc).2) := rfl

end generic
end Kurbo

namespace Kurbo
open Real SvgArcR

section real
variable [Scalar ℝ] [LawfulScalar ℝ] [LawfulReal] [LawfulRealAngle]

theorem fmod_eq_fmodR (a b : ℝ) : Scalar.fmod a b = fmodR a b := by
  rw [LawfulRealAngle.fmod_eq]; rfl

/-- `p`: half the chord `from − to`, turned by `−x_rotation` -/
noncomputable def pX (arc : SvgArc ℝ) : ℝ :=
  cos arc.x_rotation * ((arc.from.x - arc.to.x) * (1/2)) + sin arc.x_rotation * ((arc.from.y - arc.to.y) * (1/2))
noncomputable def pY (arc : SvgArc ℝ) : ℝ :=
  -sin arc.x_rotation * ((arc.from.x - arc.to.x) * (1/2)) + cos arc.x_rotation * ((arc.from.y - arc.to.y) * (1/2))

theorem svgP_eq (arc : SvgArc ℝ) : svgP arc = ⟨pX arc, pY arc⟩ := by
  simp only [svgP, pX, pY, kdefs, scalar_norm, twoPi_eq, LawfulRealAngle.pi_eq, fmod_eq_fmodR, LawfulReal.sin_eq,
    LawfulReal.cos_eq, sin_fmodR, cos_fmodR]
  push_cast
  rfl

/-- `rf`: `> 1` iff the radii are too small for the chord -/
noncomputable def rfR (arc : SvgArc ℝ) : ℝ :=
  pX arc * pX arc / (|arc.radii.x| * |arc.radii.x|) + pY arc * pY arc / (|arc.radii.y| * |arc.radii.y|)

theorem svgRf_eq (arc : SvgArc ℝ) : svgRf arc = rfR arc := by
  simp only [svgRf, rfR, svgP_eq, scalar_norm]

/-- `svgTail` over ℝ, in the functions of `C16AGeom` -/
noncomputable def tailR (arc : SvgArc ℝ) (rx ry : ℝ) : Arc ℝ :=
  { center := ⟨cos arc.x_rotation * tcx arc.large_arc arc.sweep (pX arc) (pY arc) rx ry
                - sin arc.x_rotation * tcy arc.large_arc arc.sweep (pX arc) (pY arc) rx ry + (arc.from.x + arc.to.x) * (1/2),
               sin arc.x_rotation * tcx arc.large_arc arc.sweep (pX arc) (pY arc) rx ry
                + cos arc.x_rotation * tcy arc.large_arc arc.sweep (pX arc) (pY arc) rx ry + (arc.from.y + arc.to.y) * (1/2)⟩,
    radii := ⟨rx, ry⟩,
    start_angle := Complex.arg (startV arc.large_arc arc.sweep (pX arc) (pY arc) rx ry),
    sweep_angle := sweepAngle arc.large_arc arc.sweep (pX arc) (pY arc) rx ry,
    x_rotation := arc.x_rotation }

theorem svgTail_eq (arc : SvgArc ℝ) (rx ry : ℝ) : svgTail arc rx ry = tailR arc rx ry := by
  simp only [svgTail, tailR, svgP_eq, kdefs, scalar_norm, twoPi_eq, LawfulRealAngle.pi_eq, fmod_eq_fmodR, LawfulReal.sin_eq,
    LawfulReal.cos_eq, sin_fmodR, cos_fmodR, LawfulReal.sqrt_eq, Vec2.atan2, LawfulReal.atan2_eq,
    sweepAngle, svgSweep, startV, endV, tcx, tcy, coe, sumSq, fixSweep]
  push_cast
  rfl

end real
end Kurbo
