import Proofs.Lemmas.C07Rev
/-! For C07: an element list is cut into sub-paths (`Subpath`: start point, run of drawing elements, closed flag);
    `reverse_subpaths` is "reverse every sub-path", `segments` the concatenation of the sub-paths' segments.
    Core Lean only. -/
set_option linter.unusedSectionVars false
namespace Kurbo
variable {K : Type} [Scalar K]

/-- a sub-path: start point, run of drawing elements, closed or not -/
structure Subpath (K : Type) where
  start : Point K
  body : List (PathEl K)
  closed : Bool

def closer (closed : Bool) : List (PathEl K) := if closed then [.ClosePath] else []

def Subpath.render (b : Subpath K) : List (PathEl K) := .MoveTo b.start :: (b.body ++ closer b.closed)

def Subpath.rev (b : Subpath K) : Subpath K := ⟨runEnd b.start b.body, revBody b.start b.body, b.closed⟩

/-- the segments of a sub-path (= `segs b.render`) -/
def Subpath.segs (b : Subpath K) : List (PathSeg K) := segsT (b.start, b.start) (b.body ++ closer b.closed)

/-- an open sub-path ends at a `MoveTo` or at the end of the list: it is recorded if it has a body or if it is a
    lone `MoveTo` (`pending`); the empty continuation after a `ClosePath` is not a sub-path -/
def flush (start : Point K) (pending : Bool) (body : List (PathEl K)) : List (Subpath K) :=
  if pending || !body.isEmpty then [⟨start, body, false⟩] else []

/-- decomposition of an element list into sub-paths; state: start point of the current sub-path, whether it
    is so far a lone `MoveTo`, the drawing elements collected so far -/
def subpathsAux (start : Point K) (pending : Bool) (body : List (PathEl K)) :
    List (PathEl K) → List (Subpath K)
  | [] => flush start pending body
  | el :: rest =>
    match el with
    | .MoveTo q => flush start pending body ++ subpathsAux q true [] rest
    | .ClosePath => ⟨start, body, true⟩ :: subpathsAux start false [] rest
    | _ => subpathsAux start false (body ++ [el]) rest

/-- the sub-paths of an element list that starts with `MoveTo` (or is empty) -/
def subpaths : List (PathEl K) → List (Subpath K)
  | .MoveTo p :: rest => subpathsAux p true [] rest
  | _ => []

/-- loop body of `reverseSubpaths` (verbatim copy of the local `step`) -/
def revStep (elements : List (PathEl K)) (acc : Option (RevSt K)) (ixel : Nat × PathEl K) : Option (RevSt K) :=
  let slice (a b : Nat) : List (PathEl K) := (elements.drop a).take (b - a)
  match acc with
  | none => none
  | some st =>
    let (ix, el) := ixel
    match el with
    | .MoveTo pt =>
      let r1 := if st.pending_move then st.reversed ++ [.MoveTo st.start_pt] else st.reversed
      let r2 : Option (List (PathEl K)) :=
        if st.start_ix < ix then (reverseSubpath st.start_pt (slice st.start_ix ix)).map (r1 ++ ·) else some r1
      r2.map fun r => { start_ix := ix + 1, start_pt := pt, reversed := r, pending_move := true }
    | .ClosePath =>
      let r2 : Option (List (PathEl K)) :=
        if st.start_ix ≤ ix then (reverseSubpath st.start_pt (slice st.start_ix ix)).map (st.reversed ++ ·) else some st.reversed
      r2.map fun r => { st with start_ix := ix + 1, reversed := r ++ [.ClosePath], pending_move := false }
    | _ => some { st with pending_move := false }

/-- what `reverseSubpaths` does after the loop (verbatim copy) -/
def revFinish (elements : List (PathEl K)) : Option (RevSt K) → Option (List (PathEl K))
  | none => none
  | some st =>
    if st.start_ix < elements.length then
      (reverseSubpath st.start_pt (elements.drop st.start_ix)).map (st.reversed ++ ·)
    else if st.pending_move then some (st.reversed ++ [.MoveTo st.start_pt])
    else some st.reversed

theorem reverseSubpaths_moveTo (p0 : Point K) (tl : List (PathEl K)) :
    reverseSubpaths (.MoveTo p0 :: tl) = revFinish (.MoveTo p0 :: tl)
      (((tl.zipIdx 1).map fun (el, ix) => (ix, el)).foldl (revStep (.MoveTo p0 :: tl))
        (some { start_ix := 1, start_pt := p0, reversed := [], pending_move := true })) := by
  rfl

theorem slice_eq (pre post : List (PathEl K)) (a : Nat) (h : a ≤ pre.length) :
    ((pre ++ post).drop a).take (pre.length - a) = pre.drop a := by
  rw [List.drop_append_of_le_length h, List.take_left' (by rw [List.length_drop])]

theorem render_rev (start : Point K) (body : List (PathEl K)) (c : Bool) :
    (Subpath.rev ⟨start, body, c⟩).render = .MoveTo (runEnd start body) :: (revBody start body ++ closer c) := rfl

theorem flush_nil_true (start : Point K) : flush start true [] = [⟨start, [], false⟩] := rfl
theorem flush_nil_false (start : Point K) : flush start false [] = ([] : List (Subpath K)) := rfl
theorem flush_ne (start : Point K) (pending : Bool) (body : List (PathEl K)) (h : body ≠ []) :
    flush start pending body = [⟨start, body, false⟩] := by
  cases body with
  | nil => exact absurd rfl h
  | cons e es => simp [flush]

def revOut (bs : List (Subpath K)) : List (PathEl K) := (bs.map Subpath.rev).flatMap Subpath.render

theorem revOut_append (a b : List (Subpath K)) : revOut (a ++ b) = revOut a ++ revOut b := by
  simp only [revOut, List.map_append, List.flatMap_append]
theorem revOut_cons (a : Subpath K) (b : List (Subpath K)) : revOut (a :: b) = a.rev.render ++ revOut b := by
  simp only [revOut, List.map_cons, List.flatMap_cons]
theorem revOut_nil : revOut ([] : List (Subpath K)) = [] := rfl

/-- the loop of `reverse_subpaths`, started in the middle, computes the reversal of the sub-path decomposition.
    `pre` are the elements consumed so far.  Invariant of the loop state: `start_ix ≤ pre.length`, the elements of `pre` from
    `start_ix` on are the drawing elements collected for the current sub-path (`subpathsAux`'s `body`), and `pending_move`
    is set only directly after a `MoveTo` (then that body is empty). -/
theorem fold_spec (elements : List (PathEl K)) (rest pre : List (PathEl K)) (st : RevSt K)
    (hel : elements = pre ++ rest) (hix : st.start_ix ≤ pre.length)
    (hpend : st.pending_move = true → st.start_ix = pre.length)
    (hdraw : AllDraw (pre.drop st.start_ix)) :
    revFinish elements
        (((rest.zipIdx pre.length).map fun (el, ix) => (ix, el)).foldl (revStep elements) (some st))
      = some (st.reversed ++ revOut (subpathsAux st.start_pt st.pending_move (pre.drop st.start_ix) rest)) := by
  induction rest generalizing pre st with
  | nil =>
    obtain ⟨six, spt, srev, spend⟩ := st
    simp only [List.append_nil] at hel
    subst hel
    simp only at hix hpend hdraw
    simp only [List.zipIdx_nil, List.map_nil, List.foldl_nil, revFinish, subpathsAux]
    by_cases h : six < elements.length
    · have hne : elements.drop six ≠ [] := mt List.drop_eq_nil_iff.1 (Nat.not_le.2 h)
      rw [if_pos h, reverseSubpath_eq _ _ hdraw, flush_ne _ _ _ hne]
      simp [revOut, render_rev, closer]
    · have he : elements.drop six = [] := List.drop_eq_nil_of_le (by omega)
      rw [if_neg h, he]
      cases spend
      · simp [flush_nil_false, revOut_nil]
      · simp [flush_nil_true, revOut, render_rev, closer, runEnd, revBody]
  | cons el rest ih =>
    obtain ⟨six, spt, srev, spend⟩ := st
    simp only at hix hpend hdraw
    have hslice : ((elements.drop six).take (pre.length - six)) = pre.drop six := by
      rw [hel]; exact slice_eq _ _ _ hix
    have hel' : elements = (pre ++ [el]) ++ rest := by rw [hel]; simp
    have hlen' : (pre ++ [el]).length = pre.length + 1 := by simp
    simp only [List.zipIdx_cons, List.map_cons, List.foldl_cons]
    -- a drawing element only clears `pending_move`; it joins the body of the current sub-path
    have hD : ∀ e : PathEl K, e.isDraw = true → el = e →
        revStep elements (some ⟨six, spt, srev, spend⟩) (pre.length, e) = some ⟨six, spt, srev, false⟩ →
        subpathsAux spt spend (pre.drop six) (e :: rest) = subpathsAux spt false (pre.drop six ++ [e]) rest →
        revFinish elements (((rest.zipIdx (pre.length + 1)).map fun (el, ix) => (ix, el)).foldl (revStep elements)
          (revStep elements (some ⟨six, spt, srev, spend⟩) (pre.length, e)))
          = some (srev ++ revOut (subpathsAux spt spend (pre.drop six) (e :: rest))) := by
      intro e he hel hstep hsub
      subst hel
      rw [hstep, hsub]
      have := ih (pre ++ [el]) ⟨six, spt, srev, false⟩ hel' (by simp; omega) (by intro h; cases h)
        (by rw [List.drop_append_of_le_length hix]; exact hdraw.append (AllDraw.single he))
      rw [hlen'] at this
      rw [this]
      simp only [List.drop_append_of_le_length hix]
    cases el with
    | MoveTo pt =>
      have hstep : revStep elements (some ⟨six, spt, srev, spend⟩) (pre.length, .MoveTo pt)
          = some ⟨pre.length + 1, pt, srev ++ revOut (flush spt spend (pre.drop six)), true⟩ := by
        simp only [revStep, hslice]
        cases spend
        · by_cases h : six < pre.length
          · have hne : pre.drop six ≠ [] := mt List.drop_eq_nil_iff.1 (Nat.not_le.2 h)
            rw [if_pos h, reverseSubpath_eq _ _ hdraw, flush_ne _ _ _ hne]
            simp [revOut, render_rev, closer]
          · have he : pre.drop six = [] := List.drop_eq_nil_of_le (by omega)
            rw [if_neg h, he]
            simp [flush_nil_false, revOut_nil]
        · have h6 : six = pre.length := hpend rfl
          have he : pre.drop six = [] := List.drop_eq_nil_of_le (by omega)
          rw [if_neg (by omega), he]
          simp [flush_nil_true, revOut, render_rev, closer, runEnd, revBody]
      rw [hstep]
      have := ih (pre ++ [.MoveTo pt]) ⟨pre.length + 1, pt, srev ++ revOut (flush spt spend (pre.drop six)), true⟩
        hel' (by simp) (by intro _; simp) (by simp [AllDraw.nil])
      rw [hlen'] at this
      rw [this]
      simp [subpathsAux, revOut_append]
    | ClosePath =>
      have hstep : revStep elements (some ⟨six, spt, srev, spend⟩) (pre.length, .ClosePath)
          = some ⟨pre.length + 1, spt, srev ++ (Subpath.rev ⟨spt, pre.drop six, true⟩).render, false⟩ := by
        simp only [revStep, hslice]
        rw [if_pos hix, reverseSubpath_eq _ _ hdraw]
        simp [render_rev, closer]
      rw [hstep]
      have := ih (pre ++ [.ClosePath]) ⟨pre.length + 1, spt, srev ++ (Subpath.rev ⟨spt, pre.drop six, true⟩).render, false⟩
        hel' (by simp) (by intro h; cases h) (by simp [AllDraw.nil])
      rw [hlen'] at this
      rw [this]
      simp [subpathsAux, revOut_cons]
    | _ => exact hD _ rfl rfl rfl rfl

theorem reverseSubpaths_eq_revOut (p0 : Point K) (tl : List (PathEl K)) :
    reverseSubpaths (.MoveTo p0 :: tl) = some (revOut (subpaths (.MoveTo p0 :: tl))) := by
  rw [reverseSubpaths_moveTo]
  have := fold_spec (.MoveTo p0 :: tl) tl [.MoveTo p0] ⟨1, p0, [], true⟩ rfl (by simp) (by intro _; rfl)
    (by simp [AllDraw.nil])
  simp only [List.length_singleton] at this
  rw [this]
  simp [subpaths]

theorem flush_segs (start : Point K) (pending : Bool) (body : List (PathEl K)) :
    (flush start pending body).flatMap Subpath.segs = segsT (start, start) body := by
  cases body with
  | nil => cases pending <;> rfl
  | cons e es =>
    rw [flush_ne _ _ _ (List.cons_ne_nil _ _)]
    simp [Subpath.segs, closer]

theorem stAfterT_close [LawfulPeq K] (start : Point K) (body : List (PathEl K)) (h : AllDraw body) :
    stAfterT (start, start) (body ++ [.ClosePath]) = (start, start) := by
  rw [stAfterT_snoc, stAfterT_draw _ _ _ h]
  have h1 := stepT_start (start, runEnd start body) PathEl.ClosePath
  have h2 := stepT_last (start, runEnd start body) PathEl.ClosePath
  simp only [mvPt, PathEl.end_point, Option.getD] at h1 h2
  exact Prod.ext h1 h2

theorem segsT_subpathsAux [LawfulPeq K] (rest : List (PathEl K)) (start : Point K) (pending : Bool)
    (body : List (PathEl K)) (h : AllDraw body) :
    segsT (start, start) (body ++ rest) = (subpathsAux start pending body rest).flatMap Subpath.segs := by
  induction rest generalizing start pending body with
  | nil => simp only [List.append_nil, subpathsAux, flush_segs]
  | cons el rest ih =>
    cases el with
    | MoveTo q =>
      simp only [subpathsAux, List.flatMap_append, flush_segs, ← ih q true [] AllDraw.nil, List.nil_append]
      rw [segsT_append, stAfterT_draw _ _ _ h]
      rfl
    | ClosePath =>
      simp only [subpathsAux, List.flatMap_cons, ← ih start false [] AllDraw.nil, List.nil_append]
      rw [List.append_cons, segsT_append, stAfterT_close _ _ h]
      rfl
    | _ => rw [List.append_cons, ih start false _ (h.append (AllDraw.single rfl))]; rfl

theorem segs_eq_subpaths [LawfulPeq K] (p0 : Point K) (tl : List (PathEl K)) :
    segs (.MoveTo p0 :: tl) = some ((subpaths (.MoveTo p0 :: tl)).flatMap Subpath.segs) := by
  rw [segs_moveTo]
  have := segsT_subpathsAux tl p0 true [] AllDraw.nil
  rw [List.nil_append] at this
  rw [this]; rfl

theorem subpathsAux_allDraw (rest : List (PathEl K)) (start : Point K) (pending : Bool)
    (body : List (PathEl K)) (h : AllDraw body) :
    ∀ b ∈ subpathsAux start pending body rest, AllDraw b.body := by
  induction rest generalizing start pending body with
  | nil =>
    intro b hb
    simp only [subpathsAux, flush] at hb
    split at hb
    · rw [List.mem_singleton] at hb; subst hb; exact h
    · cases hb
  | cons el rest ih =>
    intro b hb
    cases el with
    | MoveTo q =>
      simp only [subpathsAux, List.mem_append, flush] at hb
      rcases hb with hb | hb
      · split at hb
        · rw [List.mem_singleton] at hb; subst hb; exact h
        · cases hb
      · exact ih q true [] AllDraw.nil b hb
    | ClosePath =>
      simp only [subpathsAux, List.mem_cons] at hb
      rcases hb with hb | hb
      · subst hb; exact h
      · exact ih start false [] AllDraw.nil b hb
    | _ => exact ih start false _ (h.append (AllDraw.single rfl)) b hb

theorem subpaths_allDraw (els : List (PathEl K)) : ∀ b ∈ subpaths els, AllDraw b.body := by
  cases els with
  | nil => intro b hb; cases hb
  | cons el rest =>
    cases el with
    | MoveTo p => exact subpathsAux_allDraw rest p true [] AllDraw.nil
    | _ => intro b hb; cases hb

theorem subpathsAux_draw_append (body : List (PathEl K)) (h : AllDraw body) (start : Point K) (pending : Bool)
    (acc rest : List (PathEl K)) :
    subpathsAux start pending acc (body ++ rest)
      = subpathsAux start (pending && body.isEmpty) (acc ++ body) rest := by
  induction body generalizing pending acc with
  | nil => simp
  | cons e es ih =>
    refine PathEl.cases_of_isDraw h.head ?_ ?_ ?_ <;> intros <;> simp [subpathsAux, ih h.tail false]

def MoveFirst (els : List (PathEl K)) : Prop := els = [] ∨ ∃ p t, els = .MoveTo p :: t

theorem subpathsAux_moveFirst (start : Point K) (rest : List (PathEl K)) (h : MoveFirst rest) :
    subpathsAux start false [] rest = subpaths rest := by
  rcases h with h | ⟨p, t, h⟩ <;> subst h <;> rfl

theorem moveFirst_flatMap_render (bs : List (Subpath K)) : MoveFirst (bs.flatMap Subpath.render) := by
  cases bs with
  | nil => exact Or.inl rfl
  | cons b bs => exact Or.inr ⟨b.start, _, rfl⟩

theorem subpaths_flatMap_render (bs : List (Subpath K)) (h : ∀ b ∈ bs, AllDraw b.body) :
    subpaths (bs.flatMap Subpath.render) = bs := by
  induction bs with
  | nil => rfl
  | cons b bs ih =>
    have ihb := ih (fun b' hb' => h b' (List.mem_cons_of_mem _ hb'))
    have hb := h b (List.mem_cons_self ..)
    obtain ⟨start, body, closed⟩ := b
    simp only [List.flatMap_cons, Subpath.render, List.cons_append, subpaths, List.append_assoc]
    rw [subpathsAux_draw_append _ hb]
    have hmf := moveFirst_flatMap_render bs
    cases closed with
    | true =>
      simp only [closer, if_true, List.cons_append, List.nil_append, subpathsAux]
      rw [subpathsAux_moveFirst _ _ hmf, ihb]
    | false =>
      simp only [closer, Bool.false_eq_true, if_false, List.nil_append]
      have hfl : flush start (true && body.isEmpty) body = [⟨start, body, false⟩] := by
        cases body <;> rfl
      rcases hmf with hmf | ⟨p, t, hmf⟩ <;>
      · rw [hmf] at ihb ⊢
        simp only [subpathsAux, hfl]
        rw [← ihb]; rfl

theorem Subpath.rev_allDraw (b : Subpath K) (h : AllDraw b.body) : AllDraw b.rev.body :=
  revBody_isDraw _ _ h

theorem Subpath.rev_rev (b : Subpath K) (h : AllDraw b.body) : b.rev.rev = b := by
  obtain ⟨s, body, c⟩ := b
  simp only [Subpath.rev, runEnd_revBody _ _ h, revBody_revBody _ _ h]

/-- the segment contributed by `ClosePath` when the sub-path started at `start` and the current point is `last` -/
def closingSeg (start last : Point K) : List (PathSeg K) := segsT (start, last) [.ClosePath]

/-- the closing line of `ClosePath` in closed form: drawn from the current point `e` to the sub-path start `p` only when
    they differ -/
def closeSegs (e p : Point K) : List (PathSeg K) := if e.peq p then [] else [.Line ⟨e, p⟩]

theorem closingSeg_eq_closeSegs (start last : Point K) : closingSeg start last = closeSegs last start := by
  simp only [closingSeg, segsT, stepT, closeSegs]
  cases last.peq start <;> rfl

theorem closeSegs_cases (e p : Point K) : closeSegs e p = [] ∨ closeSegs e p = [.Line ⟨e, p⟩] := by
  unfold closeSegs
  split
  · exact Or.inl rfl
  · exact Or.inr rfl

theorem closeSegs_self [LawfulPeq K] (p : Point K) : closeSegs p p = [] := by
  rw [closeSegs, if_pos (peq_self p)]

theorem closeSegs_of_ne [LawfulPeq K] {e p : Point K} (h : e ≠ p) : closeSegs e p = [.Line ⟨e, p⟩] := by
  rw [closeSegs, if_neg fun hp => h ((peq_iff e p).1 hp)]

theorem closeSegs_length_le (e p : Point K) : (closeSegs e p).length ≤ 1 := by
  rcases closeSegs_cases e p with h | h <;> rw [h]
  · exact Nat.zero_le 1
  · exact Nat.le_refl 1

theorem closeSegs_eq_ite [LawfulPeq K] [DecidableEq K] (e p : Point K) :
    closeSegs e p = if e = p then [] else [PathSeg.Line ⟨e, p⟩] := by
  simp only [closeSegs, peq_iff]

theorem closeSegs_swap [LawfulPeq K] (e p : Point K) : closeSegs p e = (closeSegs e p).map PathSeg.reverse := by
  simp only [closeSegs, peq_comm p e]
  cases e.peq p <;> rfl

theorem Subpath.segs_eq (b : Subpath K) (h : AllDraw b.body) :
    b.segs = segsT (b.start, b.start) b.body
      ++ (if b.closed then closingSeg b.start (runEnd b.start b.body) else []) := by
  obtain ⟨s, body, c⟩ := b
  simp only [Subpath.segs, segsT_append, stAfterT_draw _ _ _ h]
  cases c <;> simp [closer, closingSeg, segsT]

theorem Subpath.segs_rev [LawfulPeq K] (b : Subpath K) (h : AllDraw b.body) :
    b.rev.segs = (segsT (b.start, b.start) b.body).reverse.map PathSeg.reverse
      ++ (if b.closed then (closingSeg b.start (runEnd b.start b.body)).map PathSeg.reverse else []) := by
  rw [Subpath.segs_eq _ (b.rev_allDraw h)]
  obtain ⟨s, body, c⟩ := b
  simp only [Subpath.rev, segsT_revBody s _ s body h, runEnd_revBody _ _ h, closingSeg_eq_closeSegs, ← closeSegs_swap]

theorem rotateLeft_singleton_append {α : Type} (c : α) (D : List α) : ([c] ++ D).rotateLeft 1 = D ++ [c] := by
  cases D with
  | nil => rfl
  | cons d D => simp [List.rotateLeft]

theorem reverseSubpaths_moveFirst (els : List (PathEl K)) (h : MoveFirst els) :
    reverseSubpaths els = some (revOut (subpaths els)) := by
  rcases h with h | ⟨p, t, h⟩ <;> subst h
  · rfl
  · exact reverseSubpaths_eq_revOut p t

theorem moveFirst_revOut (bs : List (Subpath K)) : MoveFirst (revOut bs) :=
  moveFirst_flatMap_render _

theorem subpaths_revOut (bs : List (Subpath K)) (h : ∀ b ∈ bs, AllDraw b.body) :
    subpaths (revOut bs) = bs.map Subpath.rev := by
  apply subpaths_flatMap_render
  intro b hb
  obtain ⟨b', hb', e⟩ := List.mem_map.1 hb
  subst e
  exact b'.rev_allDraw (h b' hb')

theorem map_rev_rev (bs : List (Subpath K)) (h : ∀ b ∈ bs, AllDraw b.body) :
    (bs.map Subpath.rev).map Subpath.rev = bs := by
  induction bs with
  | nil => rfl
  | cons b bs ih =>
    simp only [List.map_cons, b.rev_rev (h b (List.mem_cons_self ..)),
      ih (fun b' hb' => h b' (List.mem_cons_of_mem _ hb'))]

theorem reverse_reverse_els_aux (els : List (PathEl K)) (h : MoveFirst els) :
    (reverseSubpaths els).bind reverseSubpaths = some ((subpaths els).flatMap Subpath.render) := by
  rw [reverseSubpaths_moveFirst els h, Option.bind_some, reverseSubpaths_moveFirst _ (moveFirst_revOut _),
    subpaths_revOut _ (subpaths_allDraw els)]
  simp only [revOut, map_rev_rev _ (subpaths_allDraw els)]

theorem segs_moveFirst [LawfulPeq K] (els : List (PathEl K)) (h : MoveFirst els) :
    segs els = some ((subpaths els).flatMap Subpath.segs) := by
  rcases h with h | ⟨p, t, h⟩ <;> subst h
  · rfl
  · exact segs_eq_subpaths p t

theorem segs_flatMap_render [LawfulPeq K] (bs : List (Subpath K)) (h : ∀ b ∈ bs, AllDraw b.body) :
    segs (bs.flatMap Subpath.render) = some (bs.flatMap Subpath.segs) := by
  rw [segs_moveFirst _ (moveFirst_flatMap_render bs), subpaths_flatMap_render bs h]

/-- the normal form of a path (its sub-paths written out, each with its own `MoveTo`) has the same segments -/
theorem segs_normalForm [LawfulPeq K] (els : List (PathEl K)) (h : MoveFirst els) :
    segs ((subpaths els).flatMap Subpath.render) = segs els := by
  rw [segs_flatMap_render _ (subpaths_allDraw els), segs_moveFirst els h]

theorem reverse_reverse_segs_aux [LawfulPeq K] (els : List (PathEl K)) (h : MoveFirst els) :
    ((reverseSubpaths els).bind reverseSubpaths).bind segs = segs els := by
  rw [reverse_reverse_els_aux els h, Option.bind_some, segs_normalForm els h]

theorem reverse_segs_aux [LawfulPeq K] (els : List (PathEl K)) (h : MoveFirst els) :
    (reverseSubpaths els).bind segs = some ((subpaths els).flatMap fun b => b.rev.segs) := by
  rw [reverseSubpaths_moveFirst els h, Option.bind_some, segs_moveFirst _ (moveFirst_revOut _),
    subpaths_revOut _ (subpaths_allDraw els), List.flatMap_map]

theorem subpaths_single (b : Subpath K) (h : AllDraw b.body) : subpaths b.render = [b] := by
  have := subpaths_flatMap_render [b] (by intro b' hb'; rw [List.mem_singleton] at hb'; subst hb'; exact h)
  simpa using this

theorem render_open (p : Point K) (body : List (PathEl K)) : (Subpath.mk p body false).render = .MoveTo p :: body :=
  congrArg (List.cons _) (List.append_nil body)

theorem render_closed (p : Point K) (body : List (PathEl K)) :
    (Subpath.mk p body true).render = .MoveTo p :: body ++ [.ClosePath] := rfl

theorem flush_render (start : Point K) (pending : Bool) (body : List (PathEl K)) (h : pending = true ∨ body ≠ []) :
    (flush start pending body).flatMap Subpath.render = .MoveTo start :: body := by
  have hf : flush start pending body = [⟨start, body, false⟩] := by
    rcases h with rfl | h
    · rfl
    · exact flush_ne _ _ _ h
  rw [hf, List.flatMap_cons, List.flatMap_nil, List.append_nil, render_open]

theorem segs_render (b : Subpath K) : segs b.render = some b.segs := by
  simp only [Subpath.render, segs_moveTo, Subpath.segs]

theorem reverseSubpaths_render (b : Subpath K) (h : AllDraw b.body) :
    reverseSubpaths b.render = some b.rev.render := by
  rw [reverseSubpaths_moveFirst b.render (Or.inr ⟨_, _, rfl⟩), subpaths_single b h, revOut_cons, revOut_nil,
    List.append_nil]

end Kurbo
