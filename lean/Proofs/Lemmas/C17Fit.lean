import Proofs.Lemmas.C17
import Mathlib.Analysis.SpecialFunctions.Pow.Real
/-! Helper lemmas for C17: `CubicBez.fit_inside` (cu2qu's farthest-fit-inside test). -/
set_option linter.unusedSectionVars false
namespace Kurbo

section structural
open Ops
variable {K : Type} [Scalar K]

/-- one level of `fit_inside`: a leaf (both inner control points inside) or an inner node (the midpoint of the curve
    is not outside and both halves fit) -/
theorem fit_inside_succ (c : CubicBez K) (d : K) (fuel : Nat) :
    c.fit_inside d (fuel + 1) = true ↔
      (c.p2.to_vec2.hypot <=. d && c.p1.to_vec2.hypot <=. d) = true ∨
      (d <. ((c.p0.to_vec2 + (3 : K) * (c.p1.to_vec2 + c.p2.to_vec2) + c.p3.to_vec2)
          * (Scalar.ofRat (1/8) : K)).hypot) = false ∧
        c.subdivide.1.fit_inside d fuel = true ∧ c.subdivide.2.fit_inside d fuel = true := by
  rw [CubicBez.fit_inside]
  simp only []
  cases (c.p2.to_vec2.hypot <=. d && c.p1.to_vec2.hypot <=. d) <;>
    cases (d <. ((c.p0.to_vec2 + (3 : K) * (c.p1.to_vec2 + c.p2.to_vec2) + c.p3.to_vec2)
      * (Scalar.ofRat (1/8) : K)).hypot) <;>
    simp

theorem fit_inside_succ_of_true (d : K) : ∀ (fuel : Nat) (c : CubicBez K),
    c.fit_inside d fuel = true → c.fit_inside d (fuel + 1) = true
  | 0, c, h => by simp [CubicBez.fit_inside] at h
  | fuel + 1, c, h => by
    rw [fit_inside_succ] at h ⊢
    exact h.imp id (And.imp_right (And.imp (fit_inside_succ_of_true d fuel _) (fit_inside_succ_of_true d fuel _)))

end structural

variable {K : Type} [Field K] [LinearOrder K] [IsStrictOrderedRing K] [FloorRing K] [Scalar K] [LawfulScalar K]

/-- The one fact about `Scalar.hypot` the containment proofs need: comparing `hypot x y` with a non-negative bound
    is comparing the squared length with the squared bound.  It holds for `ℝ` when `hypot x y = √(x²+y²)`
    (`lawfulHypot_of_sqrt`).  (`Rat`'s executable `hypot` is a 2⁻¹⁰⁰-approximation of the square root and is *not*
    an instance.) -/
class LawfulHypot (K : Type) [Field K] [LinearOrder K] [Scalar K] : Prop where
  hypot_le_iff : ∀ x y d : K, 0 ≤ d → (Scalar.hypot x y ≤ d ↔ x ^ 2 + y ^ 2 ≤ d ^ 2)

theorem lawfulHypot_of_sqrt [Scalar ℝ] (h : ∀ x y : ℝ, Scalar.hypot x y = Real.sqrt (x ^ 2 + y ^ 2)) :
    LawfulHypot ℝ where
  hypot_le_iff x y d hd := by
    rw [h, Real.sqrt_le_left hd]

def Point.nsq (p : Point K) : K := p.x ^ 2 + p.y ^ 2

theorem point_zero_eq : (Point.ZERO : Point K) = ⟨0, 0⟩ := by kring
theorem vec2_zero_eq : (Vec2.ZERO : Vec2 K) = ⟨0, 0⟩ := by kring

theorem vec2_hypot_le_iff [LawfulHypot K] (v : Vec2 K) (d : K) (hd : 0 ≤ d) :
    v.hypot ≤ d ↔ v.x ^ 2 + v.y ^ 2 ≤ d ^ 2 := LawfulHypot.hypot_le_iff v.x v.y d hd

/-- a disc about the origin is closed under `lerp`:
    `d² − |(1−t)p + tq|² = (1−t)(d² − |p|²) + t(d² − |q|²) + t(1−t)|p − q|²` -/
theorem lerp_nsq_le {d t : K} (ht0 : 0 ≤ t) (ht1 : t ≤ 1) (p q : Point K)
    (hp : p.nsq ≤ d ^ 2) (hq : q.nsq ≤ d ^ 2) : (p.lerp q t).nsq ≤ d ^ 2 := by
  rw [Point.lerp_eq]
  unfold Point.nsq at *
  have h1 := mul_nonneg (sub_nonneg.mpr ht1) (sub_nonneg.mpr hp)
  have h2 := mul_nonneg ht0 (sub_nonneg.mpr hq)
  have h3 : 0 ≤ t * (1 - t) * ((p.x - q.x) ^ 2 + (p.y - q.y) ^ 2) :=
    mul_nonneg (mul_nonneg ht0 (sub_nonneg.mpr ht1)) (add_nonneg (sq_nonneg _) (sq_nonneg _))
  linear_combination h1 + h2 + h3

theorem cubic_eval_nsq_le (c : CubicBez K) (d : K) (h0 : c.p0.nsq ≤ d ^ 2) (h1 : c.p1.nsq ≤ d ^ 2)
    (h2 : c.p2.nsq ≤ d ^ 2) (h3 : c.p3.nsq ≤ d ^ 2) (t : K) (ht0 : 0 ≤ t) (ht1 : t ≤ 1) :
    (c.eval t).nsq ≤ d ^ 2 :=
  cubic_eval_closed (lerp_nsq_le ht0 ht1) c h0 h1 h2 h3

theorem cubic_left_eval (c : CubicBez K) (t : K) : (c.subsegment ⟨0, 1 / 2⟩).eval (2 * t) = c.eval t := by
  rw [CubicBez.subsegment_eval]; congr 1; ring
theorem cubic_right_eval (c : CubicBez K) (t : K) : (c.subsegment ⟨1 / 2, 1⟩).eval (2 * t - 1) = c.eval t := by
  rw [CubicBez.subsegment_eval]; congr 1; ring

/-- the point `fit_inside` looks at before it subdivides is the midpoint of the curve -/
theorem cubic_mid_eq (c : CubicBez K) :
    (open Ops in (c.p0.to_vec2 + (3 : K) * (c.p1.to_vec2 + c.p2.to_vec2) + c.p3.to_vec2) * (Scalar.ofRat (1/8) : K))
      = (c.eval (1 / 2)).to_vec2 := by
  kring

theorem fit_inside_sound [LawfulHypot K] (d : K) (hd : 0 ≤ d) : ∀ (fuel : Nat) (c : CubicBez K),
    c.p0.nsq ≤ d ^ 2 → c.p3.nsq ≤ d ^ 2 → c.fit_inside d fuel = true →
    ∀ t : K, 0 ≤ t → t ≤ 1 → (c.eval t).nsq ≤ d ^ 2
  | 0, c, _, _, h => by simp [CubicBez.fit_inside] at h
  | fuel + 1, c, h0, h3, h => by
    intro t ht0 ht1
    rcases (fit_inside_succ c d fuel).mp h with h1 | ⟨hmid, hl, hr⟩
    · simp only [sn_le, Bool.and_eq_true, decide_eq_true_eq] at h1
      rw [vec2_hypot_le_iff _ _ hd, vec2_hypot_le_iff _ _ hd] at h1
      exact cubic_eval_nsq_le c d h0 h1.2 h1.1 h3 t ht0 ht1
    · simp only [sn_lt, decide_eq_false_iff_not, not_lt] at hmid
      rw [cubic_mid_eq, vec2_hypot_le_iff _ _ hd] at hmid
      replace hmid : (c.eval (1 / 2)).nsq ≤ d ^ 2 := hmid
      rw [cubic_subdivide] at hl hr
      -- both halves have their end points inside: `p0`/`p3` and the midpoint
      rcases le_total t (1 / 2) with hh | hh
      · rw [← cubic_left_eval]
        exact fit_inside_sound d hd fuel (c.subsegment ⟨0, 1 / 2⟩)
          (by rw [cubic_subsegment_p0, (cubic_eval_zero_one c).1]; exact h0) (by rw [cubic_subsegment_p3]; exact hmid)
          hl (2 * t) (mul_nonneg zero_le_two ht0) ((le_div_iff₀' two_pos).mp hh)
      · rw [← cubic_right_eval]
        exact fit_inside_sound d hd fuel (c.subsegment ⟨1 / 2, 1⟩)
          (by rw [cubic_subsegment_p0]; exact hmid) (by rw [cubic_subsegment_p3, (cubic_eval_zero_one c).2]; exact h3)
          hr (2 * t - 1) (sub_nonneg.mpr ((div_le_iff₀' two_pos).mp hh)) (by linarith)

end Kurbo
