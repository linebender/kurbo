import Proofs.KDefs
import Kurbo.EllipsePerimeter
import Mathlib.Algebra.BigOperators.Group.Finset.Basic
import Mathlib.Algebra.Order.BigOperators.Group.Finset
import Mathlib.Analysis.Real.Pi.Bounds
/-! Helper lemmas for C11E: the truncated Kummer series `kummer_elliptic_perimeter` and its remainder bound
    `kummer_elliptic_perimeter_range` as polynomials in `h = ((x−y)/(x+y))²`; the coefficients `binom(1/2, n)²`. -/
set_option linter.unusedSectionVars false
namespace Kurbo

section field
variable {K : Type} [Field K] [LinearOrder K] [IsStrictOrderedRing K] [FloorRing K] [Scalar K] [LawfulScalar K]

theorem powi7_eq (h : K) : powi7 h = h ^ 7 := by
  simp only [powi7, scalar_norm]; ring

/-- `h` of both Kummer functions -/
def kummerH (x y : K) : K := ((x - y) / (x + y)) ^ 2

theorem kummerH_symm (x y : K) : kummerH x y = kummerH y x := by
  unfold kummerH
  have : (x - y) / (x + y) = -((y - x) / (y + x)) := by rw [← neg_div, neg_sub, add_comm]
  rw [this, neg_sq]

theorem kummerH_nonneg (x y : K) : 0 ≤ kummerH x y := sq_nonneg _

theorem kummerH_self (r : K) : kummerH r r = 0 := by simp [kummerH]

theorem kummerH_scale (t x y : K) (ht : t ≠ 0) : kummerH (t * x) (t * y) = kummerH x y := by
  unfold kummerH
  rw [← mul_sub, ← mul_add, mul_div_mul_left _ _ ht]

theorem kummerH_le_one {x y : K} (hx : 0 ≤ x) (hy : 0 ≤ y) : kummerH x y ≤ 1 := by
  rw [kummerH, sq_le_one_iff_abs_le_one, abs_div, abs_of_nonneg (add_nonneg hx hy)]
  exact div_le_one_of_le₀ (abs_sub_le_iff.2 ⟨(sub_le_self x hy).trans (le_add_of_nonneg_right hy),
    (sub_le_self y hx).trans (le_add_of_nonneg_left hx)⟩) (add_nonneg hx hy)

theorem kummer_eq (x y : K) :
    kummerEllipticPerimeter (⟨x, y⟩ : Vec2 K) =
      (x + y) * ((Scalar.pi : K) * (1 + kummerH x y / 4 + kummerH x y ^ 2 / 64 + kummerH x y ^ 3 / 256
        + kummerH x y ^ 4 * (25 / 16384) + kummerH x y ^ 5 * (49 / 65536) + kummerH x y ^ 6 * (441 / 1048576))) := by
  simp only [kummerEllipticPerimeter, scalar_norm]
  rw [show ((x - y) / (x + y)) ^ 2 = kummerH x y from rfl]
  generalize kummerH x y = h
  push_cast
  ring

theorem kummerRange_eq (x y : K) :
    kummerEllipticPerimeterRange (⟨x, y⟩ : Vec2 K) =
      (Scalar.pi : K) * (101416479131503 / 100000000000000000) * kummerH x y ^ 7 * (x + y) := by
  simp only [kummerEllipticPerimeterRange, binomSquaredRemainder, powi7_eq, scalar_norm]
  push_cast
  rfl

end field

/-- `binom(1/2, n)` -/
def halfChoose : ℕ → ℚ
  | 0 => 1
  | n + 1 => halfChoose n * ((1 / 2 - n) / (n + 1))

def kummerCoeff (n : ℕ) : ℚ := halfChoose n ^ 2

theorem kummerCoeff_nonneg (n : ℕ) : 0 ≤ kummerCoeff n := sq_nonneg _

theorem kummerCoeff_first :
    kummerCoeff 0 = 1 ∧ kummerCoeff 1 = 1 / 4 ∧ kummerCoeff 2 = 1 / 64 ∧ kummerCoeff 3 = 1 / 256 ∧
      kummerCoeff 4 = 25 / 16384 ∧ kummerCoeff 5 = 49 / 65536 ∧ kummerCoeff 6 = 441 / 1048576 := by
  simp only [kummerCoeff, halfChoose]
  norm_num

noncomputable def kummerPartial (h : ℝ) (m : ℕ) : ℝ := ∑ n ∈ Finset.range m, (kummerCoeff n : ℝ) * h ^ n

theorem kummerPartial_succ (h : ℝ) (m : ℕ) :
    kummerPartial h (m + 1) = kummerPartial h m + (kummerCoeff m : ℝ) * h ^ m := Finset.sum_range_succ _ _

theorem kummerPartial_seven (h : ℝ) :
    kummerPartial h 7 = 1 + h / 4 + h ^ 2 / 64 + h ^ 3 / 256 + h ^ 4 * (25 / 16384) + h ^ 5 * (49 / 65536)
      + h ^ 6 * (441 / 1048576) := by
  obtain ⟨c0, c1, c2, c3, c4, c5, c6⟩ := kummerCoeff_first
  simp only [kummerPartial, Finset.sum_range_succ, Finset.sum_range_zero, c0, c1, c2, c3, c4, c5, c6]
  push_cast
  ring

/-- for `0 ≤ h ≤ 1` the terms from the 8th on are at most `h⁷` times their value at `h = 1` (this is where the factor
    `h.powi(7)` of the remainder bound comes from) -/
theorem kummerPartial_tail_le {h : ℝ} (h0 : 0 ≤ h) (h1 : h ≤ 1) (m : ℕ) :
    kummerPartial h (7 + m) - kummerPartial h 7 ≤ h ^ 7 * (kummerPartial 1 (7 + m) - kummerPartial 1 7) := by
  induction m with
  | zero => simp
  | succ m ih =>
    rw [show 7 + (m + 1) = (7 + m) + 1 by omega, kummerPartial_succ h (7 + m), kummerPartial_succ 1 (7 + m)]
    have hc : (0 : ℝ) ≤ (kummerCoeff (7 + m) : ℝ) := by exact_mod_cast kummerCoeff_nonneg _
    have hp : h ^ (7 + m) ≤ h ^ 7 := by
      rw [pow_add]
      exact mul_le_of_le_one_right (pow_nonneg h0 7) (pow_le_one₀ h0 h1)
    have : (kummerCoeff (7 + m) : ℝ) * h ^ (7 + m) ≤ h ^ 7 * ((kummerCoeff (7 + m) : ℝ) * 1 ^ (7 + m)) := by
      rw [one_pow, mul_one, mul_comm (h ^ 7)]
      exact mul_le_mul_of_nonneg_left hp hc
    linarith

/-- the constant `BINOM_SQUARED_REMAINDER = 0.00101416479131503` is (just) above `4/π − Σ_{n<7} binom(1/2,n)²`
    (`= 0.00101416479131502990…`; needs `π` to 20 digits) -/
theorem binomSquaredRemainder_ge :
    4 / Real.pi - kummerPartial 1 7 ≤ 101416479131503 / 100000000000000000 := by
  rw [kummerPartial_seven]
  have hpi := Real.pi_gt_d20
  have hpos : 0 < Real.pi := Real.pi_pos
  rw [sub_le_iff_le_add, div_le_iff₀ hpos]
  norm_num at hpi ⊢
  linarith

end Kurbo
