import Proofs.Lemmas.C12
import Kurbo.Shapes
/-! C11 helpers, ellipse part: a linear form on the unit disc (Cauchy–Schwarz and the unit vector where it is
    attained), the affine action and `Ellipse::bounding_box` in coordinates, and what `Affine::svd` computes (`Affine.svd_spec`;
    the product of the two radii is `|det|`).  The real theory of the `svd` is in `Svd.lean`. -/
set_option linter.unusedSectionVars false
namespace Kurbo
variable {K : Type} [Field K] [LinearOrder K] [IsStrictOrderedRing K] [FloorRing K] [Scalar K] [LawfulScalar K]

/-- Cauchy–Schwarz on the closed unit disc, `R` the length of `(a, b)` -/
theorem linear_form_unit_disc {a b R x y : K} (hR : 0 ≤ R) (hRR : R * R = a * a + b * b) (hq : x ^ 2 + y ^ 2 ≤ 1) :
    -R ≤ a * x + b * y ∧ a * x + b * y ≤ R := by
  apply abs_le_of_sq_le_sq' _ hR
  rw [sq R, hRR]
  -- `(a x + b y)² + (a y − b x)² = (a² + b²)(x² + y²)`
  linarith [sq_nonneg (a * y - b * x),
    mul_le_mul_of_nonneg_left hq (add_nonneg (mul_self_nonneg a) (mul_self_nonneg b))]

/-- … and the bound is attained at the unit vector `(a, b) / R`; `R` may be either square root of `a² + b²` -/
theorem exists_unit_linear_form_eq {a b R : K} (hRR : R * R = a * a + b * b) :
    ∃ u v : K, u ^ 2 + v ^ 2 = 1 ∧ a * u + b * v = R := by
  by_cases hR : R = 0
  · have h0 : a * a + b * b = 0 := by rw [← hRR, hR, mul_zero]
    obtain ⟨ha, hb⟩ := (mul_self_add_mul_self_eq_zero.mp h0)
    exact ⟨1, 0, by norm_num, by rw [ha, hb, hR]; ring⟩
  · exact ⟨a / R, b / R, by field_simp; linear_combination -hRR, by field_simp; linear_combination -hRR⟩

theorem Ellipse.bounding_box_eq (e : Ellipse K) :
    e.bounding_box =
      ⟨e.inner.c4 - Scalar.sqrt (e.inner.c0 * e.inner.c0 + e.inner.c2 * e.inner.c2),
        e.inner.c5 - Scalar.sqrt (e.inner.c1 * e.inner.c1 + e.inner.c3 * e.inner.c3),
        e.inner.c4 + Scalar.sqrt (e.inner.c0 * e.inner.c0 + e.inner.c2 * e.inner.c2),
        e.inner.c5 + Scalar.sqrt (e.inner.c1 * e.inner.c1 + e.inner.c3 * e.inner.c3)⟩ := by
  simp only [Ellipse.bounding_box, scalar_norm]

/-- `Rx`, `Ry` are the lengths of the two rows of the linear part -/
theorem affine_act_unit_disc (A : Affine K) {Rx Ry : K} (hRx : 0 ≤ Rx) (hRRx : Rx * Rx = A.c0 * A.c0 + A.c2 * A.c2)
    (hRy : 0 ≤ Ry) (hRRy : Ry * Ry = A.c1 * A.c1 + A.c3 * A.c3) {q : Point K} (hq : q.x ^ 2 + q.y ^ 2 ≤ 1) :
    (⟨A.c4 - Rx, A.c5 - Ry, A.c4 + Rx, A.c5 + Ry⟩ : Rect K).ContainsClosed (A * q) := by
  obtain ⟨h1, h2⟩ := linear_form_unit_disc hRx hRRx hq
  obtain ⟨h3, h4⟩ := linear_form_unit_disc hRy hRRy hq
  simp only [Rect.ContainsClosed, Affine.act_eq]
  exact ⟨by linarith, by linarith, by linarith, by linarith⟩

theorem affine_act_unit_circle_x (A : Affine K) {R : K} (hRR : R * R = A.c0 * A.c0 + A.c2 * A.c2) :
    ∃ q : Point K, q.x ^ 2 + q.y ^ 2 = 1 ∧ (A * q).x = A.c4 + R := by
  obtain ⟨u, v, h, e⟩ := exists_unit_linear_form_eq hRR
  exact ⟨⟨u, v⟩, h, by simp only [Affine.act_eq]; rw [e, add_comm]⟩

theorem affine_act_unit_circle_y (A : Affine K) {R : K} (hRR : R * R = A.c1 * A.c1 + A.c3 * A.c3) :
    ∃ q : Point K, q.x ^ 2 + q.y ^ 2 = 1 ∧ (A * q).y = A.c5 + R := by
  obtain ⟨u, v, h, e⟩ := exists_unit_linear_form_eq hRR
  exact ⟨⟨u, v⟩, h, by simp only [Affine.act_eq]; rw [e, add_comm]⟩

/-- the two values `√(½(S ± s))` with `S = a² + b² + c² + d²`, `s² = (a² − b² + c² − d²)² + 4(ab + cd)²` multiply to
    `|ad − bc|`, because `S² − s² = 4(ad − bc)²` -/
theorem sqrt_half_sum_mul {a b c d s rp rm : K}
    (hs : s * s = (a * a - b * b + c * c - d * d) ^ 2 + 4 * (a * b + c * d) ^ 2)
    (hp0 : 0 ≤ rp) (hp : rp * rp = 1 / 2 * (a * a + b * b + c * c + d * d + s))
    (hm0 : 0 ≤ rm) (hm : rm * rm = 1 / 2 * (a * a + b * b + c * c + d * d - s)) : rp * rm = |a * d - b * c| := by
  rw [← abs_of_nonneg (mul_nonneg hp0 hm0)]
  refine abs_eq_abs.mpr (mul_self_eq_mul_self_iff.mp ?_)
  linear_combination (rm * rm) * hp + (1 / 2 * (a * a + b * b + c * c + d * d + s)) * hm - (1 / 4 : K) * hs

/-- what `Affine::svd` computes, given the exact square root: with `T`, `D`, `S` the trace, the difference of the diagonal
    entries and the off-diagonal entry of `M·Mᵀ` (`M = [[c0, c2], [c1, c3]]`) and `s ≥ 0`, `s² = D² + 4S²`:
    `rx² = ½(T + s)`, `ry² = ½(T − s)`, `angle = ½·atan2(2S, D)` -/
theorem Affine.svd_spec (A : Affine K) (hs : ∀ x : K, 0 ≤ x → SqrtExact x) :
    ∃ s : K, 0 ≤ s ∧
      s * s = (A.c0 * A.c0 - A.c1 * A.c1 + A.c2 * A.c2 - A.c3 * A.c3) ^ 2 + 4 * (A.c0 * A.c1 + A.c2 * A.c3) ^ 2 ∧
      (0 ≤ A.svd.1.x ∧ A.svd.1.x * A.svd.1.x = 1 / 2 * (A.c0 * A.c0 + A.c1 * A.c1 + A.c2 * A.c2 + A.c3 * A.c3 + s)) ∧
      (0 ≤ A.svd.1.y ∧ A.svd.1.y * A.svd.1.y = 1 / 2 * (A.c0 * A.c0 + A.c1 * A.c1 + A.c2 * A.c2 + A.c3 * A.c3 - s)) ∧
      A.svd.2
        = 1 / 2 * Scalar.atan2 (2 * (A.c0 * A.c1 + A.c2 * A.c3)) (A.c0 * A.c0 - A.c1 * A.c1 + A.c2 * A.c2 - A.c3 * A.c3) := by
  simp only [Affine.svd, scalar_norm]
  push_cast
  obtain ⟨h0, h2⟩ := hs ((A.c0 * A.c0 - A.c1 * A.c1 + A.c2 * A.c2 - A.c3 * A.c3) ^ 2 + 4 * (A.c0 * A.c1 + A.c2 * A.c3) ^ 2)
    (by positivity)
  generalize Scalar.sqrt ((A.c0 * A.c0 - A.c1 * A.c1 + A.c2 * A.c2 - A.c3 * A.c3) ^ 2
    + 4 * (A.c0 * A.c1 + A.c2 * A.c3) ^ 2) = s at h0 h2 ⊢
  have hS : 0 ≤ A.c0 * A.c0 + A.c1 * A.c1 + A.c2 * A.c2 + A.c3 * A.c3 :=
    add_nonneg (add_nonneg (add_nonneg (mul_self_nonneg _) (mul_self_nonneg _)) (mul_self_nonneg _)) (mul_self_nonneg _)
  -- `s ≤ T`, because `T² − s² = 4·det²`
  have hle := (mul_self_le_mul_self_iff h0 hS).mpr (by rw [h2]; linarith [mul_self_nonneg (A.c0 * A.c3 - A.c1 * A.c2)])
  exact ⟨s, h0, h2, hs _ (by linarith), hs _ (by linarith), rfl⟩

theorem Affine.svd_radii_mul (A : Affine K) (hs : ∀ x : K, 0 ≤ x → SqrtExact x) :
    A.svd.1.x * A.svd.1.y = |A.determinant| := by
  obtain ⟨s, -, h2, ⟨hp0, hp⟩, ⟨hm0, hm⟩, -⟩ := A.svd_spec hs
  rw [Affine.determinant_eq]
  exact sqrt_half_sum_mul h2 hp0 hp hm0 hm

end Kurbo
