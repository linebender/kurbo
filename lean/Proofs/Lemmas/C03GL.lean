import Kurbo.GLTables
/-! C03 helper definitions: moments of a quadrature table over exact rationals (core Lean only). -/
namespace Kurbo.GL

def absR (r : Rat) : Rat := if r < 0 then -r else r
def moment (t : List (Rat × Rat)) (k : Nat) : Rat := (t.map fun wx => wx.1 * wx.2 ^ k).foldl (· + ·) 0
/-- ∫₋₁¹ xᵏ dx -/
def exactMoment (k : Nat) : Rat := if k % 2 = 0 then 2 / (k + 1 : Nat) else 0

/-- a full table with n nodes integrates xᵏ exactly for all k < 2n (degree 2n − 1), to 1e-13 -/
def fullOk (t : List (Rat × Rat)) : Bool :=
  (List.range (2 * t.length)).all fun k => absR (moment t k - exactMoment k) ≤ 1 / 10 ^ 13
/-- a half table (the positive nodes of a symmetric rule with 2m nodes): the even moments, doubled; the odd ones vanish by symmetry -/
def halfOk (t : List (Rat × Rat)) : Bool :=
  (List.range (2 * t.length)).all fun j => absR (2 * moment t (2 * j) - exactMoment (2 * j)) ≤ 1 / 10 ^ 13
def nodesOk (t : List (Rat × Rat)) : Bool := t.all fun wx => 0 < wx.1 && -1 ≤ wx.2 && wx.2 ≤ 1

end Kurbo.GL
