import Proofs.Lemmas.C04Loop
/-! C04, structure (any `[Scalar K]`, core Lean only): the context invariant `C04Inv`, the contours emitted by `finish` /
    `finish_closed`. -/
namespace Kurbo
variable {K : Type} [Scalar K]

theorem c04_do_join_fields (c : StrokeCtx K) (style : StrokeStyle K) (t : Vec2 K) :
    (c.do_join style t).start_pt = c.start_pt ∧ (c.do_join style t).last_pt = c.last_pt ∧
    (c.do_join style t).output = c.output ∧ (c.do_join style t).join_thresh = c.join_thresh ∧
    (c.do_join style t).last_tan = c.last_tan := by
  by_cases he : c.forward_path = []
  · rw [c04_do_join_empty c style t he]; exact ⟨rfl, rfl, rfl, rfl, rfl⟩
  · rw [c04_do_join_nonempty c style t he]; exact ⟨rfl, rfl, rfl, rfl, rfl⟩

theorem c04_do_join_start_pt (c : StrokeCtx K) (style : StrokeStyle K) (t : Vec2 K) : (c.do_join style t).start_pt = c.start_pt :=
  (c04_do_join_fields c style t).1
theorem c04_do_join_last_pt (c : StrokeCtx K) (style : StrokeStyle K) (t : Vec2 K) : (c.do_join style t).last_pt = c.last_pt :=
  (c04_do_join_fields c style t).2.1
theorem c04_do_join_output (c : StrokeCtx K) (style : StrokeStyle K) (t : Vec2 K) : (c.do_join style t).output = c.output :=
  (c04_do_join_fields c style t).2.2.1

theorem c04_stepLine_empty (style : StrokeStyle K) (c : StrokeCtx K) (p1 : Point K) (he : c.forward_path = []) :
    c04_stepLine style c p1 = { c with
      forward_path := [.MoveTo (c.last_pt - c04_norm style.width (p1 - c.last_pt)), .LineTo (p1 - c04_norm style.width (p1 - c.last_pt))],
      backward_path := c.backward_path ++
        [.MoveTo (c.last_pt + c04_norm style.width (p1 - c.last_pt)), .LineTo (p1 + c04_norm style.width (p1 - c.last_pt))],
      start_tan := p1 - c.last_pt, start_norm := c04_norm style.width (p1 - c.last_pt),
      last_tan := p1 - c.last_pt, last_pt := p1 } := by
  unfold c04_stepLine
  simp only [c04_do_join_empty c style _ he, c04_do_line_eq, c04_ext, List.cons_append, List.nil_append, List.append_assoc]

theorem c04_stepLine_nonempty (style : StrokeStyle K) (c : StrokeCtx K) (p1 : Point K) (hne : c.forward_path ≠ []) :
    c04_stepLine style c p1 = { c04_ext c
        ((c04_joinApp c style (p1 - c.last_pt)).1 ++ [.LineTo (p1 - c04_norm style.width (p1 - c.last_pt))])
        ((c04_joinApp c style (p1 - c.last_pt)).2 ++ [.LineTo (p1 + c04_norm style.width (p1 - c.last_pt))]) with
      last_tan := p1 - c.last_pt, last_pt := p1 } := by
  show ({ c.do_join style (p1 - c.last_pt) with last_tan := p1 - c.last_pt }).do_line style (p1 - c.last_pt) p1 = _
  rw [c04_do_join_nonempty c style _ hne, c04_do_line_eq, ← c04_ext_ext]
  rfl

theorem c04_closePrep_eq (style : StrokeStyle K) (c : StrokeCtx K) :
    c04_closePrep style c = if !(c.last_pt.peq c.start_pt) then c04_stepLine style c c.start_pt else c := by
  unfold c04_closePrep c04_stepLine
  simp only []
  split
  · have h : ({ c.do_join style (c.start_pt - c.last_pt) with last_tan := c.start_pt - c.last_pt } : StrokeCtx K).start_pt
        = c.start_pt := c04_do_join_start_pt c style _
    rw [h]
  · rfl

theorem c04_stepLine_fields (style : StrokeStyle K) (c : StrokeCtx K) (p1 : Point K) :
    (c04_stepLine style c p1).forward_path ≠ [] ∧ (c04_stepLine style c p1).output = c.output ∧
    (c04_stepLine style c p1).start_pt = c.start_pt ∧ (c04_stepLine style c p1).last_pt = p1 := by
  by_cases he : c.forward_path = []
  · rw [c04_stepLine_empty style c p1 he]
    exact ⟨List.cons_ne_nil _ _, rfl, rfl, rfl⟩
  · rw [c04_stepLine_nonempty style c p1 he]
    exact ⟨fun h0 => he (List.append_eq_nil_iff.1 h0).1, rfl, rfl, rfl⟩

theorem c04_finish_closed_fields (style : StrokeStyle K) (c c' : StrokeCtx K) (h : c.finish_closed style = some c') :
    c'.start_pt = c.start_pt ∧ c'.last_pt = c.last_pt := by
  by_cases he : c.forward_path = []
  · rw [c04_finish_closed_empty c style he] at h
    injection h with h
    subst h
    exact ⟨rfl, rfl⟩
  · unfold StrokeCtx.finish_closed at h
    simp only [c04_isEmpty_false he, Bool.false_eq_true, if_false] at h
    split at h
    · injection h with h
      subst h
      exact ⟨c04_do_join_start_pt c style c.start_tan, c04_do_join_last_pt c style c.start_tan⟩
    · cases h

/-- `Point` equality test is sound (true of every lawful scalar; false of `Float`: `0.0 == -0.0`) -/
def c04_PeqSound (K : Type) [Scalar K] : Prop := ∀ a b : Point K, a.peq b = true → a = b

/-- invariant of the stroker context between two elements of a polyline source -/
structure C04Inv (c : StrokeCtx K) : Prop where
  shape : (c.forward_path = [] ∧ c.backward_path = []) ∨ (c04_PathOK c.forward_path ∧ c04_PathOK c.backward_path)
  start_eq : c04_PeqSound K → c.forward_path = [] → c.last_pt = c.start_pt
  head_f : c04_PeqSound K → ∀ q t, c.forward_path = PathEl.MoveTo q :: t → q = c.start_pt - c.start_norm
  head_b : c04_PeqSound K → ∀ q t, c.backward_path = PathEl.MoveTo q :: t → q = c.start_pt + c.start_norm

theorem C04Inv.of_empty {c : StrokeCtx K} (hf : c.forward_path = []) (hb : c.backward_path = [])
    (hl : c04_PeqSound K → c.last_pt = c.start_pt) : C04Inv c :=
  ⟨Or.inl ⟨hf, hb⟩, fun hs _ => hl hs, fun _ _ _ h => (nomatch hf.symm.trans h), fun _ _ _ h => (nomatch hb.symm.trans h)⟩

theorem C04Inv.backward_empty {c : StrokeCtx K} (h : C04Inv c) : c.forward_path = [] → c.backward_path = [] := by
  intro he
  rcases h.shape with ⟨_, hb⟩ | ⟨hf, _⟩
  · exact hb
  · exact absurd he (c04_PathOK_ne_nil hf)

theorem C04Inv.ok_of_ne {c : StrokeCtx K} (h : C04Inv c) (hne : c.forward_path ≠ []) :
    c04_PathOK c.forward_path ∧ c04_PathOK c.backward_path := by
  rcases h.shape with ⟨hf, _⟩ | h2
  · exact absurd hf hne
  · exact h2

theorem c04_stepLine_inv (style : StrokeStyle K) (c : StrokeCtx K) (p1 : Point K) (h : C04Inv c) :
    C04Inv (c04_stepLine style c p1) := by
  by_cases he : c.forward_path = []
  · have hb := h.backward_empty he
    rw [c04_stepLine_empty style c p1 he]
    refine ⟨?_, ?_, ?_, ?_⟩
    · right
      simp only [hb, List.nil_append]
      exact ⟨⟨_, _, rfl, c04_Segs_line _⟩, ⟨_, _, rfl, c04_Segs_line _⟩⟩
    · intro _ h0; cases h0
    · intro hs q t hq
      simp only [List.cons.injEq, PathEl.MoveTo.injEq] at hq
      rw [← hq.1, h.start_eq hs he]
    · intro hs q t hq
      simp only [hb, List.nil_append, List.cons.injEq, PathEl.MoveTo.injEq] at hq
      rw [← hq.1, h.start_eq hs he]
  · obtain ⟨hf, hb⟩ := h.ok_of_ne he
    have hs := c04_joinApp_segs c style (p1 - c.last_pt)
    rw [c04_stepLine_nonempty style c p1 he]
    refine ⟨?_, ?_, ?_, ?_⟩
    · right
      exact ⟨c04_PathOK_append hf (c04_Segs_append hs.1 (c04_Segs_line _)),
        c04_PathOK_append hb (c04_Segs_append hs.2 (c04_Segs_line _))⟩
    · intro _ h0
      exact absurd (List.append_eq_nil_iff.1 h0).1 he
    · intro hps q t hq
      obtain ⟨q0, t0, e0, _⟩ := hf
      have := h.head_f hps q0 t0 e0
      simp only [c04_ext_forward, e0, List.cons_append, List.cons.injEq, PathEl.MoveTo.injEq] at hq
      rw [← hq.1]; exact this
    · intro hps q t hq
      obtain ⟨q0, t0, e0, _⟩ := hb
      have := h.head_b hps q0 t0 e0
      simp only [c04_ext_backward, e0, List.cons_append, List.cons.injEq, PathEl.MoveTo.injEq] at hq
      rw [← hq.1]; exact this

/-- `MoveTo`, drawing elements, `ClosePath` -/
def c04_ClosedContour (l : List (PathEl K)) : Prop :=
  ∃ p mid, l = PathEl.MoveTo p :: (mid ++ [PathEl.ClosePath]) ∧ c04_Segs mid

/-- what the stroker emits: closed contours, and with a round start cap also contours that end with the cap instead of
    `ClosePath` (the crate emits none there), the cap `round_cap tol s n` ending where the contour began -/
def c04_Good (style : StrokeStyle K) (x : List (PathEl K)) : Prop :=
  c04_ClosedContour x ∨
    (style.start_cap = 2 ∧
      ∃ q tol s n mid, x = PathEl.MoveTo q :: (mid ++ roundCap tol s n) ∧ c04_Segs mid ∧ (c04_PeqSound K → q = s - n))

theorem c04_squareCap_false_lines (s : Point K) (n : Vec2 K) : ∀ e ∈ squareCap false s n, c04_isLine e = true := by
  intro e he
  simp only [squareCap, Bool.false_eq_true, if_false, List.cons_append, List.nil_append, List.mem_cons,
    List.not_mem_nil, or_false] at he
  rcases he with rfl | rfl | rfl <;> rfl

theorem c04_endCap_segs (tol : K) (style : StrokeStyle K) (lp rp : Point K) : c04_Segs (c04_endCap tol style lp rp) := by
  unfold c04_endCap
  split
  · exact c04_Segs_line _
  · exact c04_Segs_of_curves (c04_roundCap_curves _ _ _)
  · exact c04_Segs_of_lines (c04_squareCap_false_lines _ _)

open Ops in
theorem c04_startCap_closed (tol : K) (style : StrokeStyle K) (s : Point K) (n : Vec2 K) (h : style.start_cap ≠ 2) :
    ∃ m, c04_Segs m ∧ c04_startCap tol style s n = m ++ [PathEl.ClosePath] := by
  unfold c04_startCap
  split
  · exact ⟨[], c04_Segs_nil, rfl⟩
  · rename_i h2; exact absurd h2 h
  · refine ⟨[.LineTo (Affine.new n.x n.y (-n.y) n.x s.x s.y * (⟨1, 1⟩ : Point K)),
        .LineTo (Affine.new n.x n.y (-n.y) n.x s.x s.y * (⟨-(1 : K), 1⟩ : Point K))], ?_,
        by simp only [squareCap, if_true]⟩
    intro e he
    simp only [List.mem_cons, List.not_mem_nil, or_false] at he
    rcases he with rfl | rfl <;> rfl

theorem c04_finish_contour (style : StrokeStyle K) (c : StrokeCtx K) (h : C04Inv c) (hne : c.forward_path ≠ []) :
    ∃ x, c.finish style = some { c with output := c.output ++ x, forward_path := [], backward_path := [] } ∧
      (style.start_cap ≠ 2 → c04_ClosedContour x) ∧
      (style.start_cap = 2 → ∃ q mid, x = .MoveTo q :: (mid ++ roundCap c.join_thresh c.start_pt c.start_norm) ∧
        (∀ e ∈ mid, c04_isSeg e = true) ∧ (c04_PeqSound K → q = c.start_pt - c.start_norm)) := by
  obtain ⟨hf, hb⟩ := h.ok_of_ne hne
  obtain ⟨rp, hrp⟩ := c04_lastEndPoint_PathOK hb
  obtain ⟨rev, hrev, hsegs⟩ := c04_extendReversed_segs hb
  obtain ⟨q, t, e0, ht⟩ := hf
  have hmid : c04_Segs (t ++ c04_endCap c.join_thresh style c.last_pt rp ++ rev) :=
    c04_Segs_append (c04_Segs_append ht (c04_endCap_segs _ _ _ _)) hsegs
  refine ⟨c.forward_path ++ c04_endCap c.join_thresh style c.last_pt rp ++ rev ++ c04_startCap c.join_thresh style c.start_pt c.start_norm, ?_, ?_, ?_⟩
  · rw [c04_finish_eq c style hne hrp hrev]
    simp only [List.append_assoc]
  · intro h2
    obtain ⟨m, hm, em⟩ := c04_startCap_closed c.join_thresh style c.start_pt c.start_norm h2
    refine ⟨q, (t ++ c04_endCap c.join_thresh style c.last_pt rp ++ rev) ++ m, ?_, c04_Segs_append hmid hm⟩
    rw [em, e0]
    simp only [List.cons_append, List.append_assoc]
  · intro h2
    refine ⟨q, _, ?_, hmid, fun hs => h.head_f hs q t e0⟩
    rw [c04_startCap_round _ style _ _ h2, e0]
    simp only [List.cons_append, List.append_assoc]

theorem c04_finish_spec (style : StrokeStyle K) (c : StrokeCtx K) (h : C04Inv c) :
    ∃ cs : List (List (PathEl K)), (∀ x ∈ cs, c04_Good style x) ∧ (c.forward_path ≠ [] → cs.length = 1) ∧
      (c.forward_path = [] → cs = []) ∧
      c.finish style = some { c with output := c.output ++ cs.flatten, forward_path := [], backward_path := [] } := by
  by_cases he : c.forward_path = []
  · have hb := h.backward_empty he
    refine ⟨[], fun _ hx => (nomatch hx), fun hne => absurd he hne, fun _ => rfl, ?_⟩
    rw [c04_finish_empty_eq c style he hb, List.flatten_nil, List.append_nil]
  · obtain ⟨x, hx, hcl, hrd⟩ := c04_finish_contour style c h he
    refine ⟨[x], fun y hy => ?_, fun _ => rfl, fun h0 => absurd h0 he, ?_⟩
    · rw [List.mem_singleton.1 hy]
      by_cases h2 : style.start_cap = 2
      · obtain ⟨q, mid, e, hm, hq⟩ := hrd h2
        exact Or.inr ⟨h2, q, _, _, _, mid, e, hm, hq⟩
      · exact Or.inl (hcl h2)
    · rw [hx, List.flatten_cons, List.flatten_nil, List.append_nil]

theorem c04_finish_closed_spec (style : StrokeStyle K) (c : StrokeCtx K) (h : C04Inv c) (hne : c.forward_path ≠ []) :
    ∃ x1 x2 c', c04_ClosedContour x1 ∧ c04_ClosedContour x2 ∧ c.finish_closed style = some c' ∧
      c'.output = c.output ++ (x1 ++ x2) ∧ c'.forward_path = [] ∧ c'.backward_path = [] := by
  obtain ⟨hf, hb⟩ := h.ok_of_ne hne
  have hs := c04_joinApp_segs c style c.start_tan
  have hj := c04_do_join_nonempty c style c.start_tan hne
  have hf' : c04_PathOK (c.do_join style c.start_tan).forward_path := by
    rw [hj]; exact c04_PathOK_append hf hs.1
  have hb' : c04_PathOK (c.do_join style c.start_tan).backward_path := by
    rw [hj]; exact c04_PathOK_append hb hs.2
  obtain ⟨rp, hrp⟩ := c04_lastEndPoint_PathOK hb'
  obtain ⟨rev, hrev, hsegs⟩ := c04_extendReversed_segs hb'
  obtain ⟨q, t, e0, ht⟩ := hf'
  refine ⟨(c.do_join style c.start_tan).forward_path ++ [.ClosePath], PathEl.MoveTo rp :: (rev ++ [.ClosePath]), _,
    ⟨q, t, ?_, ht⟩, ⟨rp, rev, rfl, hsegs⟩, c04_finish_closed_eq c style hne hrp hrev, ?_, rfl, rfl⟩
  · rw [e0]; rfl
  · simp only [c04_do_join_output, List.append_assoc, List.cons_append, List.nil_append]

end Kurbo
