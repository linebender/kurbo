import Proofs.Lemmas.C17
/-! Helper lemmas for C17, for `splitIntoN_spec` (`CubicBez.split_into_n`): sub-segments of sub-segments, the thirds, the power basis.
    A cubic is determined by the curve it traces (`cubic_ext_eval` in
    `Proofs/Lemmas/CurveExt.lean`), so sub-segments are compared through `CubicBez.subsegment_eval` and not control
    point by control point. -/
namespace Kurbo
variable {K : Type} [Field K] [LinearOrder K] [IsStrictOrderedRing K] [FloorRing K] [Scalar K] [LawfulScalar K]

theorem cubic_subsegment_subsegment (c : CubicBez K) (a b u v : K) :
    (c.subsegment ⟨a, b⟩).subsegment ⟨u, v⟩ = c.subsegment ⟨a + u * (b - a), a + v * (b - a)⟩ := by
  refine cubic_ext_eval fun t => ?_
  rw [CubicBez.subsegment_eval, CubicBez.subsegment_eval, CubicBez.subsegment_eval]
  congr 1
  ring

theorem cubic_subsegment_full (c : CubicBez K) : c.subsegment ⟨0, 1⟩ = c := by
  refine cubic_ext_eval fun t => ?_
  rw [CubicBez.subsegment_eval]
  congr 1
  ring

theorem cubic_subdivide_3 (c : CubicBez K) :
    c.subdivide_3 = (c.subsegment ⟨0, 1 / 3⟩, c.subsegment ⟨1 / 3, 2 / 3⟩, c.subsegment ⟨2 / 3, 1⟩) := by
  simp only [CubicBez.subdivide_3, Prod.mk.injEq]
  refine ⟨cubic_ext_eval fun t => ?_, cubic_ext_eval fun t => ?_, cubic_ext_eval fun t => ?_⟩
  all_goals
    rw [CubicBez.subsegment_eval, cubic_eval_bern, cubic_eval_bern c]
    simp only [kdefs, Vec2.div_exact, scalar_norm, Point.mk.injEq]
    push_cast
    constructor <;> ring

theorem cubic_from_parameters_eval (a b c d : Vec2 K) (t : K) :
    (CubicBez.from_parameters a b c d).eval t
      = ⟨a.x * t ^ 3 + b.x * t ^ 2 + c.x * t + d.x, a.y * t ^ 3 + b.y * t ^ 2 + c.y * t + d.y⟩ := by
  simp only [CubicBez.from_parameters, Vec2.div_exact, kdefs, scalar_norm, Point.mk.injEq]
  push_cast
  constructor <;> ring

/-- `parameters` are the power-basis coefficients -/
theorem cubic_eval_parameters (c : CubicBez K) (t : K) :
    c.eval t = ⟨c.parameters.1.x * t ^ 3 + c.parameters.2.1.x * t ^ 2 + c.parameters.2.2.1.x * t + c.parameters.2.2.2.x,
      c.parameters.1.y * t ^ 3 + c.parameters.2.1.y * t ^ 2 + c.parameters.2.2.1.y * t + c.parameters.2.2.2.y⟩ := by
  simp only [CubicBez.parameters, kdefs, scalar_norm, Point.mk.injEq]
  push_cast
  constructor <;> ring

end Kurbo
