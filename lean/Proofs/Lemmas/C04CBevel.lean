import Proofs.Lemmas.C04CGeom
/-! Helper lemmas for C04C: two segments with a bevel join and butt caps – the nine-vertex outline (left and right
    turn), its crossing sum split into the two swept rectangles and the bevel triangle (`= R1 + R2 + T` at EVERY query point, by
    inserting the join point on the two inner rectangle edges), and the lower bound `≥ 1` on either open rectangle. -/
namespace Kurbo
open PathEl
variable {K : Type} [Field K] [LinearOrder K] [IsStrictOrderedRing K] [FloorRing K] [Scalar K] [LawfulScalar K]

/-- outline of `[MoveTo p0, LineTo p1, LineTo p2]`, bevel join, butt caps, LEFT turn: right side `p0 − n1, p1 − n1`, bevel edge to
    `p1 − n2`, `p2 − n2`, end cap to `p2 + n2`, left side back `p1 + n2`, the JOIN POINT `p1` (inner-join pivot), `p1 + n1`,
    `p0 + n1`, `ClosePath` -/
def c04c_bevelL (p0 p1 p2 : Point K) (n1 n2 : Vec2 K) : List (PathEl K) :=
  [MoveTo (p0 - n1), LineTo (p1 - n1), LineTo (p1 - n2), LineTo (p2 - n2), LineTo (p2 + n2), LineTo (p1 + n2), LineTo p1,
   LineTo (p1 + n1), LineTo (p0 + n1), ClosePath]

/-- the same for a RIGHT turn: the pivot `p1` is on the right (forward) side, the bevel edge `p1 + n2 → p1 + n1` on the left -/
def c04c_bevelR (p0 p1 p2 : Point K) (n1 n2 : Vec2 K) : List (PathEl K) :=
  [MoveTo (p0 - n1), LineTo (p1 - n1), LineTo p1, LineTo (p1 - n2), LineTo (p2 - n2), LineTo (p2 + n2), LineTo (p1 + n2),
   LineTo (p1 + n1), LineTo (p0 + n1), ClosePath]

/-- the join point `p` on the edge from `p − n` to `p + n`, and on the edge back -/
theorem c04c_kcr_through (px py nx ny qx qy : K) :
    kcr (px - nx - qx) (py - ny - qy) (px - qx) (py - qy) + kcr (px - qx) (py - qy) (px + nx - qx) (py + ny - qy)
        = kcr (px - nx - qx) (py - ny - qy) (px + nx - qx) (py + ny - qy) ∧
      kcr (px + nx - qx) (py + ny - qy) (px - qx) (py - qy) + kcr (px - qx) (py - qy) (px - nx - qx) (py - ny - qy)
        = kcr (px + nx - qx) (py + ny - qy) (px - nx - qx) (py - ny - qy) := by
  have h := c04c_kcr_insert (px - nx - qx) (py - ny - qy) (px - qx) (py - qy) (px + nx - qx) (py + ny - qy) nx ny 1 1
    zero_le_one zero_le_one (by ring) (by ring) (by ring) (by ring)
  have s1 := kcr_swap (px - nx - qx) (py - ny - qy) (px - qx) (py - qy)
  have s2 := kcr_swap (px - qx) (py - qy) (px + nx - qx) (py + ny - qy)
  have s3 := kcr_swap (px - nx - qx) (py - ny - qy) (px + nx - qx) (py + ny - qy)
  exact ⟨h, by omega⟩

theorem c04c_bevelL_winding (p0 p1 p2 q : Point K) (n1 n2 : Vec2 K) :
    pathWinding (c04c_bevelL p0 p1 p2 n1 n2) q
      = some (c04c_rectSum p0 p1 q n1 + c04c_rectSum p1 p2 q n2 +
          (kcr (p1.x - n1.x - q.x) (p1.y - n1.y - q.y) (p1.x - n2.x - q.x) (p1.y - n2.y - q.y)
            + kcr (p1.x - n2.x - q.x) (p1.y - n2.y - q.y) (p1.x - q.x) (p1.y - q.y)
            + kcr (p1.x - q.x) (p1.y - q.y) (p1.x - n1.x - q.x) (p1.y - n1.y - q.y))) := by
  show pathWinding (polygon (p0 - n1) [p1 - n1, p1 - n2, p2 - n2, p2 + n2, p1 + n2, p1, p1 + n1, p0 + n1]) q = _
  rw [pathWinding_polygon]
  simp only [lineChain, crossSum_cons, crossSum_nil, List.getLast_cons_cons, List.getLast_singleton, kc, vsub_x, vsub_y,
    PathSeg.start, PathSeg.end, Line.start, Line.end, point_sub_vec, point_add_vec, scalar_norm, add_zero]
  -- `i1` splits the edge `p1 − n1 → p1 + n1` of rectangle 1 at `p1`, `i2` the edge `p1 + n2 → p1 − n2` of rectangle 2; the halves
  -- `p1 → p1 + n1`, `p1 + n2 → p1` are outline edges, the other two cancel against the triangle edges `p1 → p1 − n1`,
  -- `p1 − n2 → p1` (`s1`, `s2`)
  have i1 := (c04c_kcr_through p1.x p1.y n1.x n1.y q.x q.y).1
  have i2 := (c04c_kcr_through p1.x p1.y n2.x n2.y q.x q.y).2
  have s1 := kcr_swap (p1.x - n1.x - q.x) (p1.y - n1.y - q.y) (p1.x - q.x) (p1.y - q.y)
  have s2 := kcr_swap (p1.x - q.x) (p1.y - q.y) (p1.x - n2.x - q.x) (p1.y - n2.y - q.y)
  unfold c04c_rectSum C04C.quadSum
  congr 1
  omega

theorem c04c_bevelR_winding (p0 p1 p2 q : Point K) (n1 n2 : Vec2 K) :
    pathWinding (c04c_bevelR p0 p1 p2 n1 n2) q
      = some (c04c_rectSum p0 p1 q n1 + c04c_rectSum p1 p2 q n2 +
          (kcr (p1.x + n2.x - q.x) (p1.y + n2.y - q.y) (p1.x + n1.x - q.x) (p1.y + n1.y - q.y)
            + kcr (p1.x + n1.x - q.x) (p1.y + n1.y - q.y) (p1.x - q.x) (p1.y - q.y)
            + kcr (p1.x - q.x) (p1.y - q.y) (p1.x + n2.x - q.x) (p1.y + n2.y - q.y))) := by
  show pathWinding (polygon (p0 - n1) [p1 - n1, p1, p1 - n2, p2 - n2, p2 + n2, p1 + n2, p1 + n1, p0 + n1]) q = _
  rw [pathWinding_polygon]
  simp only [lineChain, crossSum_cons, crossSum_nil, List.getLast_cons_cons, List.getLast_singleton, kc, vsub_x, vsub_y,
    PathSeg.start, PathSeg.end, Line.start, Line.end, point_sub_vec, point_add_vec, scalar_norm, add_zero]
  -- the same splits; here the halves `p1 − n1 → p1`, `p1 → p1 − n2` are outline edges and the other two cancel against the
  -- triangle `p1 + n2, p1 + n1, p1`
  have i1 := (c04c_kcr_through p1.x p1.y n1.x n1.y q.x q.y).1
  have i2 := (c04c_kcr_through p1.x p1.y n2.x n2.y q.x q.y).2
  have s1 := kcr_swap (p1.x + n1.x - q.x) (p1.y + n1.y - q.y) (p1.x - q.x) (p1.y - q.y)
  have s2 := kcr_swap (p1.x - q.x) (p1.y - q.y) (p1.x + n2.x - q.x) (p1.y + n2.y - q.y)
  unfold c04c_rectSum C04C.quadSum
  congr 1
  omega

section model
variable [C04HypotLaw K]

/-- `n1 × n2 = c·(t1 × t2)` with `c = k1·k2 > 0`: the offset vectors turn the way the tangents do, so the bevel triangle
    (`p1 − n1, p1 − n2, p1` for a left turn, `p1 + n2, p1 + n1, p1` for a right turn) is positively oriented -/
theorem c04c_norm_cross_norm (w : K) (p0 p1 p2 : Point K) (hw : 0 < w) (h01 : p0 ≠ p1) (h12 : p1 ≠ p2) :
    ∃ c : K, 0 < c ∧
      (c04_norm w (p1 - p0)).x * (c04_norm w (p2 - p1)).y - (c04_norm w (p1 - p0)).y * (c04_norm w (p2 - p1)).x
        = c * ((p1 - p0).cross (p2 - p1)) := by
  obtain ⟨k1, F1⟩ := c04_seg_frame w p0 p1 hw h01
  obtain ⟨k2, F2⟩ := c04_seg_frame w p1 p2 hw h12
  refine ⟨k1 * k2, mul_pos F1.k_pos F2.k_pos, ?_⟩
  rw [F1.nx, F1.ny, F2.nx, F2.ny]
  simp only [Vec2.cross, scalar_norm, vsub_x, vsub_y]
  ring

theorem c04c_bevelL_bounds (w : K) (p0 p1 p2 q : Point K) (hw : 0 < w) (h01 : p0 ≠ p1) (h12 : p1 ≠ p2)
    (hc : 0 < (p1 - p0).cross (p2 - p1)) :
    ∃ wn : Int, pathWinding (c04c_bevelL p0 p1 p2 (c04_norm w (p1 - p0)) (c04_norm w (p2 - p1))) q = some wn ∧ 0 ≤ wn ∧
      (c04c_InRect p0 p1 w q ∨ c04c_InRect p1 p2 w q → 1 ≤ wn) := by
  obtain ⟨c, hc0, e⟩ := c04c_norm_cross_norm w p0 p1 p2 hw h01 h12
  have hpos := mul_pos hc0 hc
  rw [← e] at hpos
  exact ⟨_, c04c_bevelL_winding p0 p1 p2 q _ _, (c04c_rectSum_counts w p0 p1 q hw h01).add_bounds
    (c04c_rectSum_counts w p1 p2 q hw h12) (C04C.tri_nonneg _ _ _ _ _ _ (by linear_combination hpos))⟩

theorem c04c_bevelR_bounds (w : K) (p0 p1 p2 q : Point K) (hw : 0 < w) (h01 : p0 ≠ p1) (h12 : p1 ≠ p2)
    (hc : (p1 - p0).cross (p2 - p1) < 0) :
    ∃ wn : Int, pathWinding (c04c_bevelR p0 p1 p2 (c04_norm w (p1 - p0)) (c04_norm w (p2 - p1))) q = some wn ∧ 0 ≤ wn ∧
      (c04c_InRect p0 p1 w q ∨ c04c_InRect p1 p2 w q → 1 ≤ wn) := by
  obtain ⟨c, hc0, e⟩ := c04c_norm_cross_norm w p0 p1 p2 hw h01 h12
  have hneg := mul_neg_of_pos_of_neg hc0 hc
  rw [← e] at hneg
  exact ⟨_, c04c_bevelR_winding p0 p1 p2 q _ _, (c04c_rectSum_counts w p0 p1 q hw h01).add_bounds
    (c04c_rectSum_counts w p1 p2 q hw h12) (C04C.tri_nonneg _ _ _ _ _ _ (by linear_combination neg_pos.mpr hneg))⟩

end model
end Kurbo
