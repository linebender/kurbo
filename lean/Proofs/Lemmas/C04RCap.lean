import Proofs.Lemmas.C04RReal
import Proofs.Lemmas.C04Field
import Proofs.Lemmas.KernelEqs
/-! Helper lemmas for C04R: the round cap (`n ≥ 2` pieces of at most a quarter turn) stays beyond the end of the segment; the
    segments of an outline of the shape `MoveTo a :: LineTo … ++ roundJoinWith …` (`c04r_outline_segs`), and the plane geometry
    of the band around a segment. -/
set_option linter.unusedSectionVars false
namespace Kurbo

section anyScalar
variable {K : Type} [Scalar K]

/-- `join_thresh = 2·tolerance / width` (the model's arithmetic): the tolerance `finish` / `do_join` pass for the unit arc -/
def c04rJt (w tol : K) : K := open Ops in (2 : K) * tol / w

theorem stAfterT_roundJoinWith (T : K) (a : Affine K) (angle : K) (s p : Point K) :
    stAfterT (s, p) (roundJoinWith T a angle) = (s, penAfter p (roundJoinWith T a angle)) := by
  rw [roundJoinWith_eq, stAfterT_curveEls, penAfter_curveEls]

theorem c04r_outline_segs (T : K) (a : Point K) (A1 A2 : Affine K) (g : K) :
    segs (PathEl.MoveTo a :: PathEl.LineTo (A1 * c04rPt T g 0) ::
        (roundJoinWith T A1 g ++ PathEl.LineTo (A2 * c04rPt T g 0) :: roundJoinWith T A2 g))
      = some (PathSeg.Line ⟨a, A1 * c04rPt T g 0⟩ ::
          (((List.range (c04rN T g)).map fun k => PathSeg.Cubic (A1 * c04rPiece T g k)) ++
            PathSeg.Line ⟨penAfter (A1 * c04rPt T g 0) (roundJoinWith T A1 g), A2 * c04rPt T g 0⟩ ::
              ((List.range (c04rN T g)).map fun k => PathSeg.Cubic (A2 * c04rPiece T g k)))) := by
  rw [segs_moveTo, segsT_lineTo, segsT_append, roundJoinWith_segsT, stAfterT_roundJoinWith, segsT_lineTo, roundJoinWith_segsT]

end anyScalar

section lawful
variable {K : Type} [Field K] [LinearOrder K] [IsStrictOrderedRing K] [FloorRing K] [Scalar K] [LawfulScalar K]

theorem c04rAff_rot_dot (c : Point K) (n : Vec2 K) (p : Point K) :
    -((c04rAff c n * p).x - c.x) * n.y + ((c04rAff c n * p).y - c.y) * n.x = p.y * (n.x ^ 2 + n.y ^ 2) := by
  rw [c04rAff_act]; ring

theorem c04rJt_eq (w tol : K) : c04rJt w tol = 2 * tol / w := by
  simp only [c04rJt, scalar_norm]; push_cast; rfl

theorem c04r_line_eval (a b : Point K) (t : K) :
    (PathSeg.Line ⟨a, b⟩).eval t = ⟨a.x + (b.x - a.x) * t, a.y + (b.y - a.y) * t⟩ :=
  Point.ext_iff.2 (Line.eval_xy ⟨a, b⟩ t)

end lawful

section plane

/-- `X = Y(s₀) + D`, where `Y(s) = p0 + s·(p1 − p0)`, `s₀ ∈ [0, 1]`, and `D` does not lean towards the rest of the segment:
    `(s₀ − s)·(D · (p1 − p0)) ≥ 0` for `s ∈ [0, 1]` (`D ⟂ p1 − p0`, or `Y(s₀)` an end of the segment and `D` pointing
    outwards).  Then `Y(s₀)` is a point of the segment nearest to `X` (`seg_foot_le`). -/
theorem c04r_band_foot (p0 p1 X : Point ℝ) (s₀ Dx Dy R U : ℝ) (h0 : 0 ≤ s₀) (h1 : s₀ ≤ 1)
    (hx : X.x = p0.x + s₀ * (p1.x - p0.x) + Dx) (hy : X.y = p0.y + s₀ * (p1.y - p0.y) + Dy)
    (hR : R ≤ Dx ^ 2 + Dy ^ 2) (hU : Dx ^ 2 + Dy ^ 2 ≤ U)
    (hdot : ∀ s : ℝ, 0 ≤ s → s ≤ 1 → 0 ≤ (s₀ - s) * (Dx * (p1.x - p0.x) + Dy * (p1.y - p0.y))) :
    (∃ s : ℝ, 0 ≤ s ∧ s ≤ 1 ∧ (X.x - (p0.x + s * (p1.x - p0.x))) ^ 2 + (X.y - (p0.y + s * (p1.y - p0.y))) ^ 2 ≤ U) ∧
    (∀ s : ℝ, 0 ≤ s → s ≤ 1 → R ≤ (X.x - (p0.x + s * (p1.x - p0.x))) ^ 2 + (X.y - (p0.y + s * (p1.y - p0.y))) ^ 2) := by
  rw [hx, hy]
  refine ⟨⟨s₀, h0, h1, ?_⟩, fun s hs0 hs1 => ?_⟩
  · rw [add_sub_cancel_left, add_sub_cancel_left]
    exact hU
  · linear_combination hR + seg_foot_le (p1.x - p0.x) (p1.y - p0.y) (s₀ * (p1.x - p0.x) + Dx) (s₀ * (p1.y - p0.y) + Dy)
      s₀ s (by linear_combination hdot s hs0 hs1)

theorem c04r_bernstein_nonneg (y0 y1 y2 y3 t : ℝ) (h0 : 0 ≤ y0) (h1 : 0 ≤ y1) (h2 : 0 ≤ y2) (h3 : 0 ≤ y3) (ht0 : 0 ≤ t)
    (ht1 : t ≤ 1) :
    0 ≤ y0 * (1 - t) ^ 3 + 3 * y1 * ((1 - t) ^ 2 * t) + 3 * y2 * ((1 - t) * t ^ 2) + y3 * t ^ 3 := by
  have hu : 0 ≤ 1 - t := sub_nonneg.2 ht1
  have h3' : (0 : ℝ) ≤ 3 := by norm_num
  exact add_nonneg (add_nonneg (add_nonneg (mul_nonneg h0 (pow_nonneg hu 3))
    (mul_nonneg (mul_nonneg h3' h1) (mul_nonneg (pow_nonneg hu 2) ht0)))
    (mul_nonneg (mul_nonneg h3' h2) (mul_nonneg hu (pow_nonneg ht0 2)))) (mul_nonneg h3 (pow_nonneg ht0 3))

end plane

theorem c04r_quarter_step (s : ℝ) (hs0 : 0 < s) (hs : s ≤ Real.pi / 2) : 0 < s / 4 ∧ s / 4 < Real.pi / 2 :=
  ⟨div_pos hs0 four_pos, (div_lt_self hs0 (by norm_num)).trans_le hs⟩

theorem c04r_tan_arm_le (s φ : ℝ) (hs0 : 0 < s) (hs : s ≤ Real.pi / 2) (h1 : s ≤ φ) (h2 : φ ≤ Real.pi / 2) :
    4 / 3 * Real.tan (s / 4) * Real.cos φ ≤ Real.sin φ := by
  have hpi2 := Real.pi_div_two_pos
  have hle : Real.pi / 2 ≤ Real.pi := half_le_self Real.pi_pos.le
  obtain ⟨hu0, hu2⟩ := c04r_quarter_step s hs0 hs
  have hcu : 0 < Real.cos (s / 4) := Real.cos_pos_of_mem_Ioo ⟨(neg_neg_of_pos hpi2).trans hu0, hu2⟩
  have hsu : 0 ≤ Real.sin (s / 4) := Real.sin_nonneg_of_nonneg_of_le_pi hu0.le (hu2.le.trans hle)
  -- `sin (s/4) ≤ sin (3·s/4)`, written with the angles `s` and `s/4`
  have h3 : Real.sin (s / 4) ≤ Real.sin s * Real.cos (s / 4) - Real.cos s * Real.sin (s / 4) := by
    rw [← Real.sin_sub]
    exact Real.sin_le_sin_of_le_of_le_pi_div_two ((neg_neg_of_pos hpi2).trans hu0).le ((sub_le_self s hu0.le).trans hs)
      (by linarith)
  have hc1 : 0 ≤ Real.sin (s / 4) * (1 - Real.cos s) := mul_nonneg hsu (sub_nonneg.2 (Real.cos_le_one s))
  rw [Real.tan_eq_sin_div_cos, mul_div_assoc', div_mul_eq_mul_div, div_le_iff₀ hcu]
  calc 4 / 3 * Real.sin (s / 4) * Real.cos φ
      ≤ 4 / 3 * Real.sin (s / 4) * Real.cos s :=
        mul_le_mul_of_nonneg_left (Real.cos_le_cos_of_nonneg_of_le_pi hs0.le (h2.trans hle) h1)
          (mul_nonneg (by norm_num) hsu)
    _ ≤ Real.sin s * Real.cos (s / 4) := by linarith
    _ ≤ Real.sin φ * Real.cos (s / 4) :=
        mul_le_mul_of_nonneg_right
          (Real.sin_le_sin_of_le_of_le_pi_div_two ((neg_neg_of_pos hpi2).trans hs0).le h2 h1) hcu.le

section count
variable [Scalar ℝ] [LawfulScalar ℝ] [LawfulTrig] [LawfulCount]
open LawfulTrig LawfulCount

/-- a standard arc piece from `α ≥ 0` to `α + s ≤ π`, `0 < s ≤ π/2`, of the unit circle about the origin stays in the upper
    half plane (its control points do) -/
theorem c04r_arc_piece_y_nonneg (α s t : ℝ) (hα : 0 ≤ α) (hβ : α + s ≤ Real.pi) (hs0 : 0 < s) (hs : s ≤ Real.pi / 2)
    (h0 : 0 ≤ t) (h1 : t ≤ 1) :
    0 ≤ ((circleArcCubic ⟨0, 0⟩ 1 (4 / 3 * Real.tan (s / 2 / 2)) α (α + s)).eval t).y := by
  have hpi2 := Real.pi_div_two_pos
  obtain ⟨hu0, hu2⟩ := c04r_quarter_step s hs0 hs
  have ha : 0 ≤ 4 / 3 * Real.tan (s / 4) :=
    mul_nonneg (by norm_num) (Real.tan_pos_of_pos_of_lt_pi_div_two hu0 hu2).le
  have y0 : 0 ≤ Real.sin α := Real.sin_nonneg_of_nonneg_of_le_pi hα ((le_add_of_nonneg_right hs0.le).trans hβ)
  have y3 : 0 ≤ Real.sin (α + s) := Real.sin_nonneg_of_nonneg_of_le_pi (add_nonneg hα hs0.le) hβ
  rw [div_div, show (2 : ℝ) * 2 = 4 by norm_num, cubic_eval_bern]
  simp only [circleArcCubic, circlePt, zero_add, one_mul]
  refine c04r_bernstein_nonneg _ _ _ _ t y0 ?_ ?_ y3 h0 h1
  · rcases le_total α (Real.pi / 2) with hh | hh
    · exact add_nonneg y0 (mul_nonneg ha (Real.cos_nonneg_of_mem_Icc ⟨(neg_nonpos.2 hpi2.le).trans hα, hh⟩))
    · have := c04r_tan_arm_le s (Real.pi - α) hs0 hs (le_sub_iff_add_le'.2 hβ) (by linarith)
      rw [Real.cos_pi_sub, Real.sin_pi_sub, mul_neg] at this
      exact neg_le_iff_add_nonneg.1 this
  · rcases le_total (α + s) (Real.pi / 2) with hh | hh
    · exact sub_nonneg.2 (c04r_tan_arm_le s (α + s) hs0 hs (le_add_of_nonneg_left hα) hh)
    · exact sub_nonneg.2 (le_trans (mul_nonpos_of_nonneg_of_nonpos ha
        (Real.cos_nonpos_of_pi_div_two_le_of_le hh (hβ.trans (le_add_of_nonneg_right hpi2.le)))) y3)

/-- `n ≥ 2` because `n_err ≥ 3.999999` in `Arc::append_iter` and the sweep is `π` -/
theorem c04r_cap_params (T : ℝ) :
    2 ≤ c04rN T (Scalar.pi : ℝ) ∧ c04rStep T (Scalar.pi : ℝ) = Real.pi / (c04rN T (Scalar.pi : ℝ) : ℝ) ∧
    0 < c04rStep T (Scalar.pi : ℝ) ∧ c04rStep T (Scalar.pi : ℝ) ≤ Real.pi / 2 := by
  have h1 := appendParams_step (c04rArc (Scalar.pi : ℝ)) T
  have h4 := appendParams_sweep_le (c04rArc (Scalar.pi : ℝ)) T
  have hpi := Real.pi_pos
  have hsw : (c04rArc (Scalar.pi : ℝ)).sweep_angle = Real.pi := pi_eq
  rw [hsw] at h1 h4
  rw [abs_of_pos hpi] at h4
  have hstep : c04rStep T (Scalar.pi : ℝ) = Real.pi / (c04rN T (Scalar.pi : ℝ) : ℝ) := h1
  have hn2 : 2 ≤ c04rN T (Scalar.pi : ℝ) := by
    by_contra hlt
    have hc : (c04rN T (Scalar.pi : ℝ) : ℝ) ≤ 1 := by exact_mod_cast Nat.lt_succ_iff.1 (not_le.1 hlt)
    have : 2 * Real.pi * (c04rN T (Scalar.pi : ℝ) : ℝ) ≤ 2 * Real.pi * 1 :=
      mul_le_mul_of_nonneg_left hc (mul_nonneg two_pos.le hpi.le)
    have : 3999999 / 1000000 * Real.pi ≤ 2 * Real.pi * (c04rN T (Scalar.pi : ℝ) : ℝ) := h4
    linarith
  have hnr : (2 : ℝ) ≤ (c04rN T (Scalar.pi : ℝ) : ℝ) := by exact_mod_cast hn2
  refine ⟨hn2, hstep, ?_, ?_⟩
  · rw [hstep]; exact div_pos hpi (two_pos.trans_le hnr)
  · rw [hstep]; exact div_le_div_of_nonneg_left hpi.le (by norm_num) hnr

theorem c04rPiece_pi_y_nonneg (T : ℝ) (k : Nat) (hk : k < c04rN T (Scalar.pi : ℝ)) (t : ℝ) (h0 : 0 ≤ t) (h1 : t ≤ 1) :
    0 ≤ ((c04rPiece T (Scalar.pi : ℝ) k).eval t).y := by
  obtain ⟨hn2, hstep, hs0, hs⟩ := c04r_cap_params T
  have harm : c04rArm T (Scalar.pi : ℝ) = 4 / 3 * Real.tan (c04rStep T (Scalar.pi : ℝ) / 2 / 2) :=
    arc_arm_eq_tan (c04rArc (Scalar.pi : ℝ)) T
  have hnr : (0 : ℝ) < (c04rN T (Scalar.pi : ℝ) : ℝ) := by exact_mod_cast (Nat.lt_of_lt_of_le Nat.zero_lt_two hn2)
  have hns : (c04rN T (Scalar.pi : ℝ) : ℝ) * c04rStep T (Scalar.pi : ℝ) = Real.pi := by
    rw [hstep]; exact mul_div_cancel₀ _ hnr.ne'
  have hkr : ((k : ℝ) + 1) ≤ (c04rN T (Scalar.pi : ℝ) : ℝ) := by exact_mod_cast hk
  have hp : Real.pi - (Scalar.pi : ℝ) = 0 := by rw [pi_eq, sub_self]
  rw [c04rPiece_eq, harm, accAngle_eq, accAngle_eq, hp, zero_add, zero_add, Nat.cast_succ, add_one_mul]
  refine c04r_arc_piece_y_nonneg _ _ t (mul_nonneg (Nat.cast_nonneg k) hs0.le) ?_ hs0 hs h0 h1
  rw [← add_one_mul, ← hns]
  exact mul_le_mul_of_nonneg_right hkr hs0.le

theorem c04rPiece_band_sq (T : ℝ) (hT : 0 < T) (angle : ℝ) (k : Nat) (t : ℝ) (h0 : 0 ≤ t) (h1 : t ≤ 1) :
    1 ≤ ((c04rPiece T angle k).eval t).x ^ 2 + ((c04rPiece T angle k).eval t).y ^ 2 ∧
    ((c04rPiece T angle k).eval t).x ^ 2 + ((c04rPiece T angle k).eval t).y ^ 2 ≤ (1 + T) ^ 2 := by
  obtain ⟨b1, b2⟩ := c04rPiece_band T hT angle k t h0 h1
  exact ⟨by simpa only [one_pow] using (Real.le_sqrt' one_pos).1 b1, (Real.sqrt_le_left (add_pos one_pos hT).le).1 b2⟩

theorem c04r_cap_point (T : ℝ) (hT : 0 < T) (c : Point ℝ) (n : Vec2 ℝ) (k : Nat) (hk : k < c04rN T (Scalar.pi : ℝ)) (t : ℝ)
    (h0 : 0 ≤ t) (h1 : t ≤ 1) :
    let X := (c04rAff c n * c04rPiece T (Scalar.pi : ℝ) k).eval t
    (n.x ^ 2 + n.y ^ 2 ≤ (X.x - c.x) ^ 2 + (X.y - c.y) ^ 2 ∧
      (X.x - c.x) ^ 2 + (X.y - c.y) ^ 2 ≤ (n.x ^ 2 + n.y ^ 2) * (1 + T) ^ 2) ∧
    0 ≤ -(X.x - c.x) * n.y + (X.y - c.y) * n.x := by
  intro X
  have hX : X = c04rAff c n * (c04rPiece T (Scalar.pi : ℝ) k).eval t := cubic_eval_commutes _ _ _
  obtain ⟨b1, b2⟩ := c04rPiece_band_sq T hT (Scalar.pi : ℝ) k t h0 h1
  have hN : 0 ≤ n.x ^ 2 + n.y ^ 2 := add_nonneg (sq_nonneg _) (sq_nonneg _)
  rw [hX, c04rAff_dist_sq, c04rAff_rot_dot]
  exact ⟨⟨le_mul_of_one_le_right hN b1, mul_le_mul_of_nonneg_left b2 hN⟩,
    mul_nonneg (c04rPiece_pi_y_nonneg T k hk t h0 h1) hN⟩

end count
end Kurbo
