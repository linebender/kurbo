import Proofs.KDefs
/-! Coordinate equations of the kernel over a lawful scalar: an `Affine` in coordinates (its action on a point, the
    product, the determinant and its multiplicativity, `translate`), `eval` of the three segment kinds and `deriv.eval`
    of the quadratic and the cubic (`Line` has no `deriv`) as polynomials in the power basis (the coefficient of `tᵏ` is
    `binom(n,k)` times the `k`-th forward difference of the control values), `eval` in Bernstein and in de Casteljau
    form, and the control points of `subsegment` in Hermite form (end points and end velocities of the restricted
    curve).  With these a proof can rewrite the coordinates of a curve point without unfolding the vector arithmetic of
    the model.  The hull principle: a predicate closed under `lerp · · t` that holds of the control points holds of
    `eval t` (`quad_eval_closed`, `cubic_eval_closed`).  Each pair of equations is one `∧`-statement, which `simp only` and `rw [(… ).1]` accept as it is. -/
set_option linter.unusedSectionVars false
namespace Kurbo

theorem Point.ext_iff {K : Type} {p q : Point K} : p = q ↔ p.x = q.x ∧ p.y = q.y := by
  cases p; cases q; simp only [Point.mk.injEq]

section affine_ops
variable {K : Type} [Scalar K]
theorem affine_mul_def (A B : Affine K) : A * B = Affine.mul_Affine A B := rfl
theorem affine_mul_point_def (A : Affine K) (p : Point K) : A * p = Affine.mul_Point A p := rfl
theorem affine_mul_line_def (A : Affine K) (l : Line K) : A * l = Affine.mul_Line A l := rfl
theorem affine_mul_quad_def (A : Affine K) (q : QuadBez K) : A * q = Affine.mul_QuadBez A q := rfl
theorem affine_mul_cubic_def (A : Affine K) (c : CubicBez K) : A * c = Affine.mul_CubicBez A c := rfl
theorem affine_mul_pathSeg_def (A : Affine K) (s : PathSeg K) : A * s = Affine.mul_PathSeg A s := rfl
theorem affine_mul_pathEl_def (A : Affine K) (e : PathEl K) : A * e = Affine.mul_PathEl A e := rfl
theorem affine_start (A : Affine K) (s : PathSeg K) : (A * s).start = A * s.start := by cases s <;> rfl
theorem affine_end (A : Affine K) (s : PathSeg K) : (A * s).end = A * s.end := by cases s <;> rfl
end affine_ops

variable {K : Type} [Field K] [LinearOrder K] [IsStrictOrderedRing K] [FloorRing K] [Scalar K] [LawfulScalar K]

theorem Affine.act_eq (A : Affine K) (p : Point K) :
    A * p = ⟨A.c0 * p.x + A.c2 * p.y + A.c4, A.c1 * p.x + A.c3 * p.y + A.c5⟩ := by
  simp only [affine_mul_point_def, Affine.mul_Point, Point.new, scalar_norm]

theorem Affine.mul_eq (A B : Affine K) :
    A * B = ⟨A.c0 * B.c0 + A.c2 * B.c1, A.c1 * B.c0 + A.c3 * B.c1, A.c0 * B.c2 + A.c2 * B.c3, A.c1 * B.c2 + A.c3 * B.c3,
      A.c0 * B.c4 + A.c2 * B.c5 + A.c4, A.c1 * B.c4 + A.c3 * B.c5 + A.c5⟩ := by
  simp only [affine_mul_def, Affine.mul_Affine, scalar_norm]

theorem Affine.determinant_eq (A : Affine K) : A.determinant = A.c0 * A.c3 - A.c1 * A.c2 := by
  simp only [Affine.determinant, scalar_norm]

theorem Affine.det_mul (A B : Affine K) : (A * B).determinant = A.determinant * B.determinant := by
  simp only [Affine.mul_eq, Affine.determinant_eq]
  ring

theorem Affine.translate_eq (v : Vec2 K) : Affine.translate v = ⟨1, 0, 0, 1, v.x, v.y⟩ := by
  simp only [Affine.translate, scalar_norm, Nat.cast_zero, Nat.cast_one]

theorem Affine.det_translate (v : Vec2 K) : (Affine.translate v).determinant = 1 := by
  simp only [Affine.translate_eq, Affine.determinant_eq, mul_one, mul_zero, sub_zero]

theorem Line.eval_xy (l : Line K) (t : K) :
    (l.eval t).x = l.p0.x + (l.p1.x - l.p0.x) * t ∧ (l.eval t).y = l.p0.y + (l.p1.y - l.p0.y) * t := by
  simp only [kdefs, scalar_norm, and_self]

theorem QuadBez.eval_xy (q : QuadBez K) (t : K) :
    (q.eval t).x = q.p0.x + 2 * (q.p1.x - q.p0.x) * t + (q.p2.x - 2 * q.p1.x + q.p0.x) * t ^ 2 ∧
    (q.eval t).y = q.p0.y + 2 * (q.p1.y - q.p0.y) * t + (q.p2.y - 2 * q.p1.y + q.p0.y) * t ^ 2 := by kring

theorem CubicBez.eval_xy (c : CubicBez K) (t : K) :
    (c.eval t).x = c.p0.x + 3 * (c.p1.x - c.p0.x) * t + 3 * (c.p2.x - 2 * c.p1.x + c.p0.x) * t ^ 2
      + (c.p3.x - 3 * c.p2.x + 3 * c.p1.x - c.p0.x) * t ^ 3 ∧
    (c.eval t).y = c.p0.y + 3 * (c.p1.y - c.p0.y) * t + 3 * (c.p2.y - 2 * c.p1.y + c.p0.y) * t ^ 2
      + (c.p3.y - 3 * c.p2.y + 3 * c.p1.y - c.p0.y) * t ^ 3 := by kring

theorem QuadBez.deriv_eval_xy (q : QuadBez K) (t : K) :
    (q.deriv.eval t).x = 2 * (q.p1.x - q.p0.x) + (q.p2.x - 2 * q.p1.x + q.p0.x) * (2 * t) ∧
    (q.deriv.eval t).y = 2 * (q.p1.y - q.p0.y) + (q.p2.y - 2 * q.p1.y + q.p0.y) * (2 * t) := by kring

theorem CubicBez.deriv_eval_xy (c : CubicBez K) (t : K) :
    (c.deriv.eval t).x = 3 * (c.p1.x - c.p0.x) + 3 * (c.p2.x - 2 * c.p1.x + c.p0.x) * (2 * t)
      + (c.p3.x - 3 * c.p2.x + 3 * c.p1.x - c.p0.x) * (3 * t ^ 2) ∧
    (c.deriv.eval t).y = 3 * (c.p1.y - c.p0.y) + 3 * (c.p2.y - 2 * c.p1.y + c.p0.y) * (2 * t)
      + (c.p3.y - 3 * c.p2.y + 3 * c.p1.y - c.p0.y) * (3 * t ^ 2) := by kring

/-! `l.eval t` is `l.p0.lerp l.p1 t` by definition -/

theorem Point.lerp_eq (p q : Point K) (t : K) :
    p.lerp q t = ⟨p.x * (1 - t) + q.x * t, p.y * (1 - t) + q.y * t⟩ := by kring

theorem quad_eval_bern (q : QuadBez K) (t : K) :
    q.eval t = ⟨q.p0.x * (1 - t) ^ 2 + 2 * q.p1.x * ((1 - t) * t) + q.p2.x * t ^ 2,
      q.p0.y * (1 - t) ^ 2 + 2 * q.p1.y * ((1 - t) * t) + q.p2.y * t ^ 2⟩ := by kring

theorem cubic_eval_bern (c : CubicBez K) (t : K) :
    c.eval t = ⟨c.p0.x * (1 - t) ^ 3 + 3 * c.p1.x * ((1 - t) ^ 2 * t) + 3 * c.p2.x * ((1 - t) * t ^ 2)
        + c.p3.x * t ^ 3,
      c.p0.y * (1 - t) ^ 3 + 3 * c.p1.y * ((1 - t) ^ 2 * t) + 3 * c.p2.y * ((1 - t) * t ^ 2)
        + c.p3.y * t ^ 3⟩ := by kring

theorem quad_eval_lerp (q : QuadBez K) (t : K) :
    q.eval t = (q.p0.lerp q.p1 t).lerp (q.p1.lerp q.p2 t) t := by
  simp only [quad_eval_bern, Point.lerp_eq, Point.mk.injEq]
  constructor <;> ring

theorem cubic_eval_lerp (c : CubicBez K) (t : K) :
    c.eval t = ((c.p0.lerp c.p1 t).lerp (c.p1.lerp c.p2 t) t).lerp ((c.p1.lerp c.p2 t).lerp (c.p2.lerp c.p3 t) t) t := by
  simp only [cubic_eval_bern, Point.lerp_eq, Point.mk.injEq]
  constructor <;> ring

/-- the hull principle: a set of points that is closed under `lerp · · t` and holds the control points holds `eval t`
    (boxes, discs and coordinate intervals are closed for `0 ≤ t ≤ 1`) -/
theorem quad_eval_closed {P : Point K → Prop} {t : K} (hP : ∀ p q, P p → P q → P (p.lerp q t))
    (q : QuadBez K) (h0 : P q.p0) (h1 : P q.p1) (h2 : P q.p2) : P (q.eval t) := by
  rw [quad_eval_lerp]
  exact hP _ _ (hP _ _ h0 h1) (hP _ _ h1 h2)

theorem cubic_eval_closed {P : Point K → Prop} {t : K} (hP : ∀ p q, P p → P q → P (p.lerp q t))
    (c : CubicBez K) (h0 : P c.p0) (h1 : P c.p1) (h2 : P c.p2) (h3 : P c.p3) : P (c.eval t) := by
  rw [cubic_eval_lerp]
  have h12 := hP _ _ h1 h2
  exact hP _ _ (hP _ _ (hP _ _ h0 h1) h12) (hP _ _ h12 (hP _ _ h2 h3))

theorem Line.subsegment_eq (l : Line K) (t0 t1 : K) : l.subsegment ⟨t0, t1⟩ = ⟨l.eval t0, l.eval t1⟩ := rfl

theorem QuadBez.subsegment_eq (q : QuadBez K) (t0 t1 : K) :
    q.subsegment ⟨t0, t1⟩ = ⟨q.eval t0,
      ⟨(q.eval t0).x + (t1 - t0) / 2 * (q.deriv.eval t0).x, (q.eval t0).y + (t1 - t0) / 2 * (q.deriv.eval t0).y⟩,
      q.eval t1⟩ := by
  simp only [QuadBez.subsegment, QuadBez.mk.injEq, true_and, and_true, Point.ext_iff, QuadBez.deriv_eval_xy,
    point_add_vec, point_sub, vec2_mul, Vec2.lerp, vec2_add, vec2_sub, vec2_smul, scalar_norm]
  constructor <;> ring

theorem CubicBez.subsegment_eq (c : CubicBez K) (t0 t1 : K) :
    c.subsegment ⟨t0, t1⟩ = ⟨c.eval t0,
      ⟨(c.eval t0).x + (t1 - t0) / 3 * (c.deriv.eval t0).x, (c.eval t0).y + (t1 - t0) / 3 * (c.deriv.eval t0).y⟩,
      ⟨(c.eval t1).x - (t1 - t0) / 3 * (c.deriv.eval t1).x, (c.eval t1).y - (t1 - t0) / 3 * (c.deriv.eval t1).y⟩,
      c.eval t1⟩ := by
  simp only [CubicBez.subsegment, CubicBez.mk.injEq, true_and, and_true, Point.ext_iff, point_add_vec, point_sub_vec,
    vec2_smul, Point.to_vec2, scalar_norm]
  refine ⟨⟨?_, ?_⟩, ?_, ?_⟩ <;> ring

end Kurbo
