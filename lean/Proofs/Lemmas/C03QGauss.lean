import Proofs.Lemmas.C03Q
import Proofs.Lemmas.Calc
/-! Helper lemmas for `Proofs/C03Q.lean`, branch (1) on a straight, uniformly parametrised quadratic (`p1` the midpoint):
    the three `hypot`s of the 3-point rule reduce to `|β p2 − α p0| + γ |p2 − p0| + |α p2 − β p0|`. -/
namespace Kurbo

noncomputable def c03q_hyp (x y : ℝ) : ℝ := √(x ^ 2 + y ^ 2)

theorem c03q_hyp_nonneg (x y : ℝ) : 0 ≤ c03q_hyp x y := Real.sqrt_nonneg _

theorem c03q_hyp_scale {k : ℝ} (hk : 0 ≤ k) (x y : ℝ) : c03q_hyp (k * x) (k * y) = k * c03q_hyp x y :=
  sqrt_sq_add_sq_scale hk x y

theorem c03q_hyp_neg (x y : ℝ) : c03q_hyp (-x) (-y) = c03q_hyp x y := by
  unfold c03q_hyp; rw [neg_sq, neg_sq]

theorem c03q_hyp_add_le (a b c d : ℝ) : c03q_hyp (a + c) (b + d) ≤ c03q_hyp a b + c03q_hyp c d :=
  sqrt_sq_add_sq_add_le a b c d

theorem c03q_hyp_perturb (a b c d : ℝ) : |c03q_hyp (a + c) (b + d) - c03q_hyp a b| ≤ c03q_hyp c d := by
  have h1 := c03q_hyp_add_le a b c d
  have h2 := c03q_hyp_add_le (a + c) (b + d) (-c) (-d)
  rw [c03q_hyp_neg, add_neg_cancel_right, add_neg_cancel_right] at h2
  exact abs_sub_le_iff.2 ⟨by linarith, by linarith⟩

theorem c03q_gauss_midpoint (q : QuadBez ℝ)
    (hx : q.p0.x - 2 * q.p1.x + q.p2.x = 0) (hy : q.p0.y - 2 * q.p1.y + q.p2.y = 0) :
    c03q_gauss q =
      c03q_hyp (2777777777777777 / 10000000000000000 * q.p2.x - 2777777777777775 / 10000000000000000 * q.p0.x)
               (2777777777777777 / 10000000000000000 * q.p2.y - 2777777777777775 / 10000000000000000 * q.p0.y)
      + 4444444444444444 / 10000000000000000 * c03q_hyp (q.p2.x - q.p0.x) (q.p2.y - q.p0.y)
      + c03q_hyp (2777777777777775 / 10000000000000000 * q.p2.x - 2777777777777777 / 10000000000000000 * q.p0.x)
                 (2777777777777775 / 10000000000000000 * q.p2.y - 2777777777777777 / 10000000000000000 * q.p0.y) := by
  have h1x : q.p1.x = (q.p0.x + q.p2.x) / 2 := by linear_combination (-1 / 2) * hx
  have h1y : q.p1.y = (q.p0.y + q.p2.y) / 2 := by linear_combination (-1 / 2) * hy
  rw [← c03q_hyp_scale (by norm_num)]
  unfold c03q_gauss c03q_hyp
  rw [h1x, h1y]
  congr 1
  · congr 1
    · congr 1; ring
    · congr 1; ring
  · congr 1; ring

/-- a rule `|β p2 − α p0| + γ |p2 − p0| + |α p2 − β p0|` against `|p2 − p0|`: write `β p2 − α p0 = α (p2 − p0) + (β − α) p2` and
    `α p2 − β p0 = α (p2 − p0) − (β − α) p0` -/
theorem c03q_gauss_defect {α β : ℝ} (hα : 0 ≤ α) (hαβ : α ≤ β) (γ x0 y0 x2 y2 : ℝ) :
    |(c03q_hyp (β * x2 - α * x0) (β * y2 - α * y0) + γ * c03q_hyp (x2 - x0) (y2 - y0)
      + c03q_hyp (α * x2 - β * x0) (α * y2 - β * y0)) - c03q_hyp (x2 - x0) (y2 - y0)|
    ≤ |2 * α + γ - 1| * c03q_hyp (x2 - x0) (y2 - y0) + (β - α) * (c03q_hyp x0 y0 + c03q_hyp x2 y2) := by
  have hδ : 0 ≤ β - α := sub_nonneg.2 hαβ
  have p1 := c03q_hyp_perturb (α * (x2 - x0)) (α * (y2 - y0)) ((β - α) * x2) ((β - α) * y2)
  have p3 := c03q_hyp_perturb (α * (x2 - x0)) (α * (y2 - y0)) (-((β - α) * x0)) (-((β - α) * y0))
  rw [c03q_hyp_neg] at p3
  rw [c03q_hyp_scale hα, c03q_hyp_scale hδ] at p1 p3
  rw [show β * x2 - α * x0 = α * (x2 - x0) + (β - α) * x2 by ring,
    show β * y2 - α * y0 = α * (y2 - y0) + (β - α) * y2 by ring,
    show α * x2 - β * x0 = α * (x2 - x0) + -((β - α) * x0) by ring,
    show α * y2 - β * y0 = α * (y2 - y0) + -((β - α) * y0) by ring]
  generalize c03q_hyp (α * (x2 - x0) + (β - α) * x2) (α * (y2 - y0) + (β - α) * y2) = t1 at p1 ⊢
  generalize c03q_hyp (α * (x2 - x0) + -((β - α) * x0)) (α * (y2 - y0) + -((β - α) * y0)) = t3 at p3 ⊢
  have ha := c03q_hyp_nonneg (x2 - x0) (y2 - y0)
  generalize c03q_hyp (x2 - x0) (y2 - y0) = a at p1 p3 ha ⊢
  calc |t1 + γ * a + t3 - a| = |(t1 - α * a) + (t3 - α * a) + (2 * α + γ - 1) * a| := by congr 1; ring
    _ ≤ |t1 - α * a| + |t3 - α * a| + |(2 * α + γ - 1) * a| := abs_add_three _ _ _
    _ = |t1 - α * a| + |t3 - α * a| + |2 * α + γ - 1| * a := by rw [abs_mul, abs_of_nonneg ha]
    _ ≤ _ := by linarith

end Kurbo
