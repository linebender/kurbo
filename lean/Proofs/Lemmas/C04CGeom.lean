import Proofs.Lemmas.C04Geom
import Proofs.Lemmas.C04CConvex
/-! Helper lemmas for C04C (lawful ordered field + the law of `hypot`): the rectangle swept by one segment, in the
    coordinates of the model (`c04_norm`), tied to the crossing-sum lemmas of `C04CConvex`: its crossing sum counts
    (`C04C.Counts`) the open rectangle `c04c_InRect` inside the points within `w/2` of the segment (`c04c_Near`). -/
set_option linter.unusedSectionVars false
namespace Kurbo
open PathEl
variable {K : Type} [Field K] [LinearOrder K] [IsStrictOrderedRing K] [FloorRing K] [Scalar K] [LawfulScalar K]

/-- `q` is in the OPEN rectangle swept by the segment `p0 p1` with half-width `w/2`: its orthogonal projection on the
    supporting line is interior to the segment (`0 < (q − p0)·t < t·t`, `t = p1 − p0`) and its distance from the line is
    `< w/2` (`(t × (q − p0))² < (w/2)²·t·t`) -/
def c04c_InRect (p0 p1 : Point K) (w : K) (q : Point K) : Prop :=
  0 < (q - p0).dot (p1 - p0) ∧ (q - p0).dot (p1 - p0) < (p1 - p0).hypot2 ∧
    ((p1 - p0).cross (q - p0)) ^ 2 < (w / 2) ^ 2 * (p1 - p0).hypot2

instance (p0 p1 : Point K) (w : K) (q : Point K) : Decidable (c04c_InRect p0 p1 w q) := by
  unfold c04c_InRect; infer_instance

theorem c04c_pathWinding_quad (A B C D q : Point K) :
    pathWinding [MoveTo A, LineTo B, LineTo C, LineTo D, ClosePath] q
      = some (C04C.quadSum (A.x - q.x) (A.y - q.y) (B.x - q.x) (B.y - q.y) (C.x - q.x) (C.y - q.y)
          (D.x - q.x) (D.y - q.y)) := by
  rw [pathWinding_quadrilateral]
  simp only [kc, vsub_x, vsub_y, C04C.quadSum]

section field
variable (p0x p0y p1x p1y qx qy k nx ny : K)

theorem c04c_rect_isRect (hnx : nx = -(p1y - p0y) * k) (hny : ny = (p1x - p0x) * k) :
    C04C.IsRect (p0x - nx - qx) (p0y - ny - qy) (p1x - nx - qx) (p1y - ny - qy) (p1x + nx - qx) (p1y + ny - qy)
      (p0x + nx - qx) (p0y + ny - qy) (p1x - p0x) (p1y - p0y) 1 (2 * k)
      ((qx - p0x) * (p1x - p0x) + (qy - p0y) * (p1y - p0y))
      ((p1x - p0x) * (qy - p0y) - (p1y - p0y) * (qx - p0x)
        + k * ((p1x - p0x) * (p1x - p0x) + (p1y - p0y) * (p1y - p0y))) := by
  subst hnx hny
  constructor <;> ring

end field

/-- In the closed rectangle of half-width `k·|t|` around the segment `0, t` extended by `α·|t|` at both ends (`u`, `v`: the
    coordinates of `r` along and across, from the first corner, scaled by `|t|²`) some point `s·t` of the segment is within
    `√(k² + α²)·|t|` of `r`: the foot of the perpendicular, or the nearer end point if that is beyond the segment. -/
theorem c04c_near (tx ty rx ry k α σ u v : K) (hT : 0 < tx * tx + ty * ty) (hσ : σ = 1 + 2 * α)
    (hu : u = rx * tx + ry * ty + α * (tx * tx + ty * ty)) (hv : v = tx * ry - ty * rx + k * (tx * tx + ty * ty))
    (h0 : 0 ≤ u) (h1 : u ≤ σ * (tx * tx + ty * ty)) (h2 : 0 ≤ v) (h3 : v ≤ 2 * k * (tx * tx + ty * ty)) :
    ∃ s : K, 0 ≤ s ∧ s ≤ 1 ∧
      (s * tx - rx) * (s * tx - rx) + (s * ty - ry) * (s * ty - ry)
        ≤ k * k * (tx * tx + ty * ty) + α * α * (tx * tx + ty * ty) := by
  subst hσ hu hv
  obtain ⟨m0, m1⟩ := clampProj_mem (P := rx * tx + ry * ty) hT.le
  refine ⟨_, m0, m1, le_of_mul_le_mul_right ?_ hT⟩
  -- `|s·t − r|²·|t|² = (s·|t|² − r·t)² + (t × r)²`; along by `clampProj_excess`, across by `h2`, `h3`
  have t1 := clampProj_excess (N := tx * tx + ty * ty) (P := rx * tx + ry * ty) (β := α * (tx * tx + ty * ty))
    (neg_le_iff_add_nonneg.mpr h0) (by linear_combination h1)
  have t2 : (tx * ry - ty * rx) ^ 2 ≤ (k * (tx * tx + ty * ty)) ^ 2 :=
    sq_le_sq' (by linear_combination h2) (by linear_combination h3)
  linear_combination t1 + t2

theorem c04c_halfWidth_sq {w k N : K} (hkk : k * k * N = w / 2 * (w / 2)) : (w / 2) ^ 2 * N = (k * N) ^ 2 := by
  rw [sq, ← hkk]
  ring

theorem c04c_sq_lt_sq_iff {x c : K} (hc : 0 ≤ c) : x ^ 2 < c ^ 2 ↔ 0 < x + c ∧ x + c < 2 * c := by
  rw [sq_lt_sq, abs_of_nonneg hc, abs_lt, neg_lt_iff_pos_add, two_mul, add_lt_add_iff_right]

theorem c04c_lerp_dist (p0 p1 q : Point K) (s : K) :
    (p0.lerp p1 s).distance_squared q
      = (s * (p1.x - p0.x) - (q.x - p0.x)) * (s * (p1.x - p0.x) - (q.x - p0.x))
        + (s * (p1.y - p0.y) - (q.y - p0.y)) * (s * (p1.y - p0.y) - (q.y - p0.y)) := by
  simp only [kdefs, scalar_norm]
  ring

/-- `c04c_InRect` in the coordinates `u`, `v` of `c04c_rect_isRect` -/
theorem c04c_inRect_iff {w k : K} {p0 p1 : Point K} (F : C04SegFrame w p0 p1 k) (q : Point K) :
    c04c_InRect p0 p1 w q ↔
      (0 < (q.x - p0.x) * (p1.x - p0.x) + (q.y - p0.y) * (p1.y - p0.y) ∧
       (q.x - p0.x) * (p1.x - p0.x) + (q.y - p0.y) * (p1.y - p0.y)
          < (p1.x - p0.x) * (p1.x - p0.x) + (p1.y - p0.y) * (p1.y - p0.y) ∧
       0 < (p1.x - p0.x) * (q.y - p0.y) - (p1.y - p0.y) * (q.x - p0.x)
          + k * ((p1.x - p0.x) * (p1.x - p0.x) + (p1.y - p0.y) * (p1.y - p0.y)) ∧
       (p1.x - p0.x) * (q.y - p0.y) - (p1.y - p0.y) * (q.x - p0.x)
          + k * ((p1.x - p0.x) * (p1.x - p0.x) + (p1.y - p0.y) * (p1.y - p0.y))
          < 2 * k * ((p1.x - p0.x) * (p1.x - p0.x) + (p1.y - p0.y) * (p1.y - p0.y))) := by
  unfold c04c_InRect
  simp only [Vec2.dot, Vec2.cross, Vec2.hypot2, scalar_norm, vsub_x, vsub_y]
  rw [c04c_halfWidth_sq F.sq, c04c_sq_lt_sq_iff (mul_pos F.k_pos F.len_pos).le, mul_assoc]

/-- the four corners in the order the stroker emits them (one segment, butt caps) -/
def c04c_rectPath (p0 p1 : Point K) (n : Vec2 K) : List (PathEl K) :=
  [MoveTo (p0 - n), LineTo (p1 - n), LineTo (p1 + n), LineTo (p0 + n), ClosePath]

/-- the crossing sum of `c04c_rectPath a b n` about `q` (`c04c_rectPath_winding`) -/
def c04c_rectSum (a b q : Point K) (n : Vec2 K) : Int :=
  C04C.quadSum (a.x - n.x - q.x) (a.y - n.y - q.y) (b.x - n.x - q.x) (b.y - n.y - q.y)
    (b.x + n.x - q.x) (b.y + n.y - q.y) (a.x + n.x - q.x) (a.y + n.y - q.y)

theorem c04c_rectPath_winding (p0 p1 q : Point K) (n : Vec2 K) :
    pathWinding (c04c_rectPath p0 p1 n) q = some (c04c_rectSum p0 p1 q n) := by
  unfold c04c_rectPath c04c_rectSum
  rw [c04c_pathWinding_quad]
  simp only [point_sub_vec, point_add_vec, scalar_norm]

/-- some point of the segment `p0 p1` is within squared distance `ρ2` of `q` -/
def c04c_Near (p0 p1 : Point K) (ρ2 : K) (q : Point K) : Prop :=
  ∃ s : K, 0 ≤ s ∧ s ≤ 1 ∧ (p0.lerp p1 s).distance_squared q ≤ ρ2

section model
variable [C04HypotLaw K]

theorem c04c_rectSum_counts (w : K) (a b q : Point K) (hw : 0 < w) (hne : a ≠ b) :
    C04C.Counts (c04c_rectSum a b q (c04_norm w (b - a))) (c04c_InRect a b w q) (c04c_Near a b ((w / 2) ^ 2) q) := by
  obtain ⟨k, F⟩ := c04_seg_frame w a b hw hne
  refine ((c04c_rect_isRect a.x a.y b.x b.y q.x q.y k _ _ F.nx F.ny).counts one_pos (mul_pos two_pos F.k_pos) F.len_pos).mono
    (by rw [one_mul]; exact (c04c_inRect_iff F q).mp) ?_
  -- the closed rectangle is within `w/2` of the segment
  rintro ⟨c1, c2, c3, c4⟩
  obtain ⟨s, hs0, hs1, hs⟩ := c04c_near (b.x - a.x) (b.y - a.y) (q.x - a.x) (q.y - a.y) k 0 _ _ _
    F.len_pos (by rw [mul_zero, add_zero]) (by rw [zero_mul, add_zero]) rfl c1 c2 c3 c4
  refine ⟨s, hs0, hs1, ?_⟩
  rw [c04c_lerp_dist, sq, ← F.sq]
  rwa [mul_zero, zero_mul, add_zero] at hs

theorem c04c_rect_winding (w : K) (p0 p1 q : Point K) (hw : 0 < w) (hne : p0 ≠ p1) (n : Vec2 K)
    (hn : n = c04_norm w (p1 - p0)) (h1 : ¬ OnSeg (.Line ⟨p0 - n, p1 - n⟩) q) (h2 : ¬ OnSeg (.Line ⟨p1 - n, p1 + n⟩) q)
    (h3 : ¬ OnSeg (.Line ⟨p1 + n, p0 + n⟩) q) (h4 : ¬ OnSeg (.Line ⟨p0 + n, p0 - n⟩) q) :
    pathWinding (c04c_rectPath p0 p1 n) q = some (if c04c_InRect p0 p1 w q then 1 else 0) := by
  obtain ⟨k, F⟩ := c04_seg_frame w p0 p1 hw hne
  subst hn
  have o1 := c11_offEdge_of_not_onSeg _ _ _ h1
  have o2 := c11_offEdge_of_not_onSeg _ _ _ h2
  have o3 := c11_offEdge_of_not_onSeg _ _ _ h3
  have o4 := c11_offEdge_of_not_onSeg _ _ _ h4
  simp only [point_sub_vec, point_add_vec, scalar_norm] at o1 o2 o3 o4
  rw [c04c_rectPath_winding, c04c_rectSum,
    (c04c_rect_isRect p0.x p0.y p1.x p1.y q.x q.y k _ _ F.nx F.ny).quadSum_eq_ite one_pos (mul_pos two_pos F.k_pos) F.len_pos o1 o2 o3
      o4, one_mul]
  exact congrArg some (if_congr (c04c_inRect_iff F q).symm rfl rfl)

end model
end Kurbo
