import Proofs.Lemmas.C04Inv
/-! Helper lemmas for C04C (structure; any `[Scalar K]`, core Lean only): what `strokeUndashed` returns, written out
    element by element, on a source with one segment and on a source with two segments and a bevel join. The only tests the
    model performs on these inputs are the point (in)equalities of the element loop, the join-skip test and the sign tests of the
    inner-join pivot; they are hypotheses here (stated as the model's `Bool` expressions). -/
namespace Kurbo
open PathEl
variable {K : Type} [Scalar K]

/-- the outline if the model answered `.ok` (for `decide`-checked examples: `StrokeRes` has no decidable equality) -/
def c04c_okOut : StrokeRes K → Option (List (PathEl K))
  | .ok l => some l
  | _ => none

/-- `join_thresh = 2·tolerance / width`, the tolerance `finish` / `do_join` pass to round caps and joins -/
def c04c_jt (w tol : K) : K := open Ops in (2 : K) * tol / w

/-- the state of the stroker after the first segment `MoveTo p0, LineTo p1` of a source -/
def c04c_ctxOne (p0 p1 : Point K) (w tol : K) : StrokeCtx K :=
  { start_pt := p0, start_norm := c04_norm w (p1 - p0), start_tan := p1 - p0, last_pt := p1, last_tan := p1 - p0,
    join_thresh := c04c_jt w tol,
    forward_path := [MoveTo (p0 - c04_norm w (p1 - p0)), LineTo (p1 - c04_norm w (p1 - p0))],
    backward_path := [MoveTo (p0 + c04_norm w (p1 - p0)), LineTo (p1 + c04_norm w (p1 - p0))] }

theorem c04c_strokeFirst (p0 p1 : Point K) (rest : List (PathEl K)) (style : StrokeStyle K) (tol : K)
    (h : p1.peq p0 = false) :
    strokeUndashed (MoveTo p0 :: LineTo p1 :: rest) style tol = strokeLoop style rest (c04c_ctxOne p0 p1 style.width tol) := by
  unfold strokeUndashed
  rw [c04_loop_moveTo style p0 _ _ rfl, c04_loop_lineTo style _ p1 rest h, c04_stepLine_empty style _ p1 rfl]
  rfl

theorem c04c_strokeOne (p0 p1 : Point K) (style : StrokeStyle K) (tol : K) (h : p1.peq p0 = false) :
    strokeUndashed [MoveTo p0, LineTo p1] style tol =
      .ok (MoveTo (p0 - c04_norm style.width (p1 - p0)) :: LineTo (p1 - c04_norm style.width (p1 - p0)) ::
        (c04_endCap (c04c_jt style.width tol) style p1 (p1 + c04_norm style.width (p1 - p0)) ++ [LineTo (p0 + c04_norm style.width (p1 - p0))]
          ++ c04_startCap (c04c_jt style.width tol) style p0 (c04_norm style.width (p1 - p0)))) := by
  rw [c04c_strokeFirst p0 p1 [] style tol h,
    c04_loop_end style _ (List.cons_ne_nil _ _) (rp := p1 + c04_norm style.width (p1 - p0))
      (rev := [LineTo (p0 + c04_norm style.width (p1 - p0))]) rfl rfl]
  rfl

/-- the join-skip test of `do_join` at the second segment of `[MoveTo p0, LineTo p1, LineTo p2]` (`true`: a join is made);
    `join_thresh = 2·tolerance / width` -/
def c04c_joinTest2 (p0 p1 p2 : Point K) (w tol : K) : Bool :=
  open Ops in
  let cross := (p1 - p0).cross (p2 - p1)
  let dot := (p1 - p0).dot (p2 - p1)
  let hypot := Scalar.hypot cross dot
  (dot <=. (0 : K)) || (hypot * ((2 : K) * tol / w) <=. sabs cross)

theorem c04c_joinTest2_eq (p0 p1 p2 : Point K) (w tol : K) :
    c04c_joinTest2 p0 p1 p2 w tol = c04_joinTest (c04c_ctxOne p0 p1 w tol) (p2 - p1) := rfl

theorem c04c_strokeTwo (p0 p1 p2 : Point K) (style : StrokeStyle K) (tol : K) (h1 : p1.peq p0 = false)
    (h2 : p2.peq p1 = false) {jf jb rev : List (PathEl K)}
    (hjoin : c04_joinApp (c04c_ctxOne p0 p1 style.width tol) style (p2 - p1) = (jf, jb))
    (hrev : extendReversed (MoveTo (p0 + c04_norm style.width (p1 - p0)) :: LineTo (p1 + c04_norm style.width (p1 - p0)) ::
      (jb ++ [LineTo (p2 + c04_norm style.width (p2 - p1))])) = some rev) :
    strokeUndashed [MoveTo p0, LineTo p1, LineTo p2] style tol =
      .ok (MoveTo (p0 - c04_norm style.width (p1 - p0)) :: LineTo (p1 - c04_norm style.width (p1 - p0)) ::
        (jf ++ LineTo (p2 - c04_norm style.width (p2 - p1)) ::
          (c04_endCap (c04c_jt style.width tol) style p2 (p2 + c04_norm style.width (p2 - p1)) ++ rev
            ++ c04_startCap (c04c_jt style.width tol) style p0 (c04_norm style.width (p1 - p0))))) := by
  have hstep : c04_stepLine style (c04c_ctxOne p0 p1 style.width tol) p2 =
      { c04c_ctxOne p0 p1 style.width tol with
        forward_path := MoveTo (p0 - c04_norm style.width (p1 - p0)) :: LineTo (p1 - c04_norm style.width (p1 - p0)) ::
          (jf ++ [LineTo (p2 - c04_norm style.width (p2 - p1))]),
        backward_path := MoveTo (p0 + c04_norm style.width (p1 - p0)) :: LineTo (p1 + c04_norm style.width (p1 - p0)) ::
          (jb ++ [LineTo (p2 + c04_norm style.width (p2 - p1))]),
        last_tan := p2 - p1, last_pt := p2 } :=
    (c04_stepLine_nonempty style _ p2 (List.cons_ne_nil _ _)).trans
      (by rw [show c04_joinApp _ style (p2 - (c04c_ctxOne p0 p1 style.width tol).last_pt) = (jf, jb) from hjoin]; rfl)
  rw [c04c_strokeFirst p0 p1 _ style tol h1, c04_loop_lineTo style _ p2 [] h2, hstep,
    c04_loop_end style _ (List.cons_ne_nil _ _) (c04_lastEndPoint_snoc (_ :: _ :: jb) (LineTo _)) hrev]
  simp only [c04c_ctxOne, List.nil_append, List.cons_append, List.append_assoc]

theorem c04c_joinTwo_bevel (p0 p1 p2 : Point K) (style : StrokeStyle K) (tol : K) (hj : style.join = 0)
    (ht : c04c_joinTest2 p0 p1 p2 style.width tol = true) :
    c04_joinApp (c04c_ctxOne p0 p1 style.width tol) style (p2 - p1) =
      (c04_pivotF p1 ((p1 - p0).cross (p2 - p1)) ++ [LineTo (p1 - c04_norm style.width (p2 - p1))],
       c04_pivotB p1 ((p1 - p0).cross (p2 - p1)) ++ [LineTo (p1 + c04_norm style.width (p2 - p1))]) :=
  c04_joinApp_bevel _ style _ hj (c04c_joinTest2_eq p0 p1 p2 style.width tol ▸ ht)

theorem c04c_strokeTwo_left (p0 p1 p2 : Point K) (style : StrokeStyle K) (tol : K) (h1 : p1.peq p0 = false)
    (h2 : p2.peq p1 = false) (hj : style.join = 0) (ht : c04c_joinTest2 p0 p1 p2 style.width tol = true)
    (hc : (open Ops in ((0 : K) <. (p1 - p0).cross (p2 - p1))) = true) :
    strokeUndashed [MoveTo p0, LineTo p1, LineTo p2] style tol =
      .ok (MoveTo (p0 - c04_norm style.width (p1 - p0)) :: LineTo (p1 - c04_norm style.width (p1 - p0)) ::
        LineTo (p1 - c04_norm style.width (p2 - p1)) :: LineTo (p2 - c04_norm style.width (p2 - p1)) ::
        (c04_endCap (c04c_jt style.width tol) style p2 (p2 + c04_norm style.width (p2 - p1)) ++
          [LineTo (p1 + c04_norm style.width (p2 - p1)), LineTo p1, LineTo (p1 + c04_norm style.width (p1 - p0)),
           LineTo (p0 + c04_norm style.width (p1 - p0))]
          ++ c04_startCap (c04c_jt style.width tol) style p0 (c04_norm style.width (p1 - p0)))) := by
  have hjoin := c04c_joinTwo_bevel p0 p1 p2 style tol hj ht
  simp only [c04_pivotF, c04_pivotB, hc, if_true] at hjoin
  exact c04c_strokeTwo p0 p1 p2 style tol h1 h2 hjoin rfl

theorem c04c_strokeTwo_right (p0 p1 p2 : Point K) (style : StrokeStyle K) (tol : K) (h1 : p1.peq p0 = false)
    (h2 : p2.peq p1 = false) (hj : style.join = 0) (ht : c04c_joinTest2 p0 p1 p2 style.width tol = true)
    (hc0 : (open Ops in ((0 : K) <. (p1 - p0).cross (p2 - p1))) = false)
    (hc : (open Ops in ((p1 - p0).cross (p2 - p1) <. (0 : K))) = true) :
    strokeUndashed [MoveTo p0, LineTo p1, LineTo p2] style tol =
      .ok (MoveTo (p0 - c04_norm style.width (p1 - p0)) :: LineTo (p1 - c04_norm style.width (p1 - p0)) :: LineTo p1 ::
        LineTo (p1 - c04_norm style.width (p2 - p1)) :: LineTo (p2 - c04_norm style.width (p2 - p1)) ::
        (c04_endCap (c04c_jt style.width tol) style p2 (p2 + c04_norm style.width (p2 - p1)) ++
          [LineTo (p1 + c04_norm style.width (p2 - p1)), LineTo (p1 + c04_norm style.width (p1 - p0)),
           LineTo (p0 + c04_norm style.width (p1 - p0))]
          ++ c04_startCap (c04c_jt style.width tol) style p0 (c04_norm style.width (p1 - p0)))) := by
  have hjoin := c04c_joinTwo_bevel p0 p1 p2 style tol hj ht
  simp only [c04_pivotF, c04_pivotB, hc0, hc, if_true, if_false, Bool.false_eq_true] at hjoin
  exact c04c_strokeTwo p0 p1 p2 style tol h1 h2 hjoin rfl

theorem c04c_strokeTwo_skipped (p0 p1 p2 : Point K) (style : StrokeStyle K) (tol : K) (h1 : p1.peq p0 = false)
    (h2 : p2.peq p1 = false) (ht : c04c_joinTest2 p0 p1 p2 style.width tol = false) :
    strokeUndashed [MoveTo p0, LineTo p1, LineTo p2] style tol =
      .ok (MoveTo (p0 - c04_norm style.width (p1 - p0)) :: LineTo (p1 - c04_norm style.width (p1 - p0)) ::
        LineTo (p2 - c04_norm style.width (p2 - p1)) ::
        (c04_endCap (c04c_jt style.width tol) style p2 (p2 + c04_norm style.width (p2 - p1)) ++
          [LineTo (p1 + c04_norm style.width (p1 - p0)), LineTo (p0 + c04_norm style.width (p1 - p0))]
          ++ c04_startCap (c04c_jt style.width tol) style p0 (c04_norm style.width (p1 - p0)))) :=
  c04c_strokeTwo p0 p1 p2 style tol h1 h2 (c04_joinApp_skip (c04c_ctxOne p0 p1 style.width tol) style (p2 - p1)
    (c04c_joinTest2_eq p0 p1 p2 style.width tol ▸ ht)) rfl

end Kurbo
