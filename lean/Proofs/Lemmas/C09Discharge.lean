import Proofs.Lemmas.Discharge
import Proofs.Lemmas.C09
/-! Discharge of the solver hypothesis of C09 from the C15 theorems: over ℝ with the real `sqrt`, `cbrt`, `sin`, `cos`,
    `atan2` (`LawfulReal`) the cubic solver returns exactly the real roots of every polynomial that is not identically
    zero (`solveCubic_roots_real`, `Lemmas/Discharge.lean`). -/
namespace Kurbo.C09

theorem cubicSolverSpec_real [Scalar ℝ] [LawfulScalar ℝ] [LawfulReal] : CubicSolverSpec ℝ where
  roots_iff := solveCubic_roots_real

end Kurbo.C09
