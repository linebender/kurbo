import Proofs.Lemmas.C16Spelled
/-! C16B: facts about the meaning `c16b_run` that do not involve the parser.  A command is a path element plus a remembered letter:
    `c16b_interp st c` appends the element `c16b_elem st c` (computed from `last_pt`, `last_ctrl` and the kind of `last_cmd`), and
    apart from `last_cmd` the new state depends on that element only (`SvgSt.push`, `c16b_interp_eq_push`).  So states that agree
    up to the kind of `last_cmd` (`c16b_StEq`) still do after two commands that append the same element, and absolute forms and
    normal forms (absolute `M L Q C Z` only) have the same path; the path of a run is its elements with the implicit `MoveTo`s
    that `reparse` inserts. -/
set_option linter.unusedSectionVars false
namespace Kurbo

section
variable {K : Type}

def PathEl.isMove : PathEl K → Bool
  | .MoveTo _ => true
  | _ => false

def PathEl.isClose : PathEl K → Bool
  | .ClosePath => true
  | _ => false

end

/-- the command `write_to` writes for a path element -/
def c16b_ofEl {α : Type} : PathEl α → C16Cmd α
  | .MoveTo p => .moveTo false p
  | .LineTo p => .lineTo false p
  | .QuadTo p1 p2 => .quadTo false p1 p2
  | .CurveTo p1 p2 p3 => .curveTo false p1 p2 p3
  | .ClosePath => .close false

/-- number of path elements a command list produces: one per command, plus the implicit `MoveTo` that every non-move command
    directly after a `Z` flushes (`pending` = such a `MoveTo` is pending at the start) -/
def c16b_elemCount {α : Type} (pending : Bool) : List (C16Cmd α) → Nat
  | [] => 0
  | c :: cs => (if pending && !c.isMove then 2 else 1) + c16b_elemCount c.isClose cs

theorem c16b_elemCount_bounds {α : Type} (pending : Bool) (cs : List (C16Cmd α)) :
    cs.length ≤ c16b_elemCount pending cs ∧ c16b_elemCount pending cs ≤ 2 * cs.length := by
  induction cs generalizing pending with
  | nil => simp [c16b_elemCount]
  | cons c cs ih =>
    have := ih c.isClose
    simp only [c16b_elemCount, List.length_cons]
    split <;> omega

theorem c16b_elemCount_map {α β : Type} (f : α → β) (pending : Bool) (cs : List (C16Cmd α)) :
    c16b_elemCount pending (cs.map (C16Cmd.map f)) = c16b_elemCount pending cs := by
  induction cs generalizing pending with
  | nil => rfl
  | cons c cs ih => simp only [List.map_cons, c16b_elemCount, C16Cmd.map_isMove, C16Cmd.map_isClose, ih]

def c16b_closeThenMove {α : Type} : List (C16Cmd α) → Prop
  | [] => True
  | [_] => True
  | c :: d :: cs => (c.isClose = true → d.isMove = true) ∧ c16b_closeThenMove (d :: cs)

theorem c16b_elemCount_of_closeThenMove {α : Type} (pending : Bool) (cs : List (C16Cmd α)) (h : c16b_closeThenMove cs)
    (hp : pending = true → c16b_startsWithMove cs) : c16b_elemCount pending cs = cs.length := by
  induction cs generalizing pending with
  | nil => rfl
  | cons c cs ih =>
    have h1 : (pending && !c.isMove) = false := by
      cases pending with
      | false => rfl
      | true => have : c.isMove = true := hp rfl; simp [this]
    simp only [c16b_elemCount, h1, List.length_cons]
    cases cs with
    | nil => simp [c16b_elemCount]
    | cons d cs =>
      rw [ih c.isClose h.2 (fun hc => h.1 hc)]
      simp only [List.length_cons, Bool.false_eq_true, if_false]; omega

section
variable {K : Type} [Scalar K]

theorem c16b_flushed_path_length (st : SvgSt K) :
    st.flushed.path.length = st.path.length + (if st.implicit_moveto.isSome then 1 else 0) := by
  rw [SvgSt.flushed_path]
  cases st.implicit_moveto <;> simp

/-- the path element the command appends in the state `st` -/
def c16b_elem (st : SvgSt K) : C16Cmd K → PathEl K
  | .moveTo rel p => .MoveTo (c16b_pt rel st.last_pt p)
  | .lineTo rel p => .LineTo (c16b_pt rel st.last_pt p)
  | .horiz rel x => .LineTo ⟨if rel then Scalar.add x st.last_pt.x else x, st.last_pt.y⟩
  | .vert rel y => .LineTo ⟨st.last_pt.x, if rel then Scalar.add y st.last_pt.y else y⟩
  | .quadTo rel p1 p2 => .QuadTo (c16b_pt rel st.last_pt p1) (c16b_pt rel st.last_pt p2)
  | .smoothQuadTo rel p => .QuadTo st.flushed.smoothQuadCtrl (c16b_pt rel st.last_pt p)
  | .curveTo rel p1 p2 p3 => .CurveTo (c16b_pt rel st.last_pt p1) (c16b_pt rel st.last_pt p2) (c16b_pt rel st.last_pt p3)
  | .smoothCurveTo rel p2 p3 => .CurveTo st.flushed.smoothCubicCtrl (c16b_pt rel st.last_pt p2) (c16b_pt rel st.last_pt p3)
  | .close _ => .ClosePath

/-- the state after the element has been appended by a command that leaves `lc` in `last_cmd` (`ClosePath` leaves `last_cmd` as
    it is) -/
def SvgSt.push (st : SvgSt K) (lc : UInt8) : PathEl K → SvgSt K
  | .MoveTo p =>
    { st with
        implicit_moveto := none, path := st.path ++ [.MoveTo p], last_pt := p, first_pt := p, last_ctrl := some p,
        last_cmd := lc }
  | .LineTo p => { st.flushed with path := st.flushed.path ++ [.LineTo p], last_ctrl := some p, last_pt := p, last_cmd := lc }
  | .QuadTo p1 p2 =>
    { st.flushed with path := st.flushed.path ++ [.QuadTo p1 p2], last_ctrl := some p1, last_pt := p2, last_cmd := lc }
  | .CurveTo p1 p2 p3 =>
    { st.flushed with path := st.flushed.path ++ [.CurveTo p1 p2 p3], last_ctrl := some p2, last_pt := p3, last_cmd := lc }
  | .ClosePath =>
    { st.flushed with
        path := st.flushed.path ++ [.ClosePath], last_pt := st.first_pt, last_ctrl := none,
        implicit_moveto := some st.first_pt }

theorem c16b_interp_eq_push (st : SvgSt K) (c : C16Cmd K) :
    c16b_interp st c = st.push (c16b_nextCmd st.last_cmd c) (c16b_elem st c) := by
  cases c <;> rfl

theorem c16b_elem_ofEl (st : SvgSt K) (e : PathEl K) : c16b_elem st (c16b_ofEl e) = e := by
  cases e <;> rfl

theorem c16b_elem_isMove (st : SvgSt K) (c : C16Cmd K) : (c16b_elem st c).isMove = c.isMove := by cases c <;> rfl
theorem c16b_elem_isClose (st : SvgSt K) (c : C16Cmd K) : (c16b_elem st c).isClose = c.isClose := by cases c <;> rfl

theorem SvgSt.push_path (st : SvgSt K) (lc : UInt8) (e : PathEl K) :
    (st.push lc e).path = (if e.isMove then st.path else st.flushed.path) ++ [e] := by
  cases e <;> rfl

theorem SvgSt.push_implicit_moveto (st : SvgSt K) (lc : UInt8) (e : PathEl K) :
    (st.push lc e).implicit_moveto = if e.isClose then some st.first_pt else none := by
  cases e <;> simp [SvgSt.push, PathEl.isClose]

theorem SvgSt.push_first_pt (st : SvgSt K) (lc : UInt8) (e : PathEl K) :
    (st.push lc e).first_pt = match e with | .MoveTo p => p | _ => st.first_pt := by
  cases e <;> simp [SvgSt.push]

theorem c16b_interp_length (st : SvgSt K) (c : C16Cmd K) :
    (c16b_interp st c).path.length =
      st.path.length + (if st.implicit_moveto.isSome && !c.isMove then 2 else 1) ∧
    (c16b_interp st c).implicit_moveto.isSome = c.isClose := by
  rw [c16b_interp_eq_push, SvgSt.push_path, SvgSt.push_implicit_moveto, c16b_elem_isMove, c16b_elem_isClose]
  cases c.isMove <;> cases c.isClose <;> cases h : st.implicit_moveto <;> simp [c16b_flushed_path_length, h]

theorem c16b_run_length (st : SvgSt K) (cs : List (C16Cmd K)) :
    (c16b_run st cs).path.length = st.path.length + c16b_elemCount st.implicit_moveto.isSome cs := by
  induction cs generalizing st with
  | nil => simp [c16b_elemCount]
  | cons c cs ih =>
    rw [c16b_run_cons, ih, (c16b_interp_length st c).1, (c16b_interp_length st c).2]
    simp only [c16b_elemCount]; omega

theorem c16b_run_init_length (cs : List (C16Cmd K)) :
    (c16b_run (svgInit (K := K)) cs).path.length = c16b_elemCount false cs :=
  (c16b_run_length svgInit cs).trans (Nat.zero_add _)

/-- `last_cmd` is one of `Q q T t` (the test of the `t` arm) -/
def c16b_quadish (c : UInt8) : Bool := c == 113 || c == 81 || c == 116 || c == 84
/-- `last_cmd` is one of `C c S s` (the test of the `s` arm) -/
def c16b_cubicish (c : UInt8) : Bool := c == 99 || c == 67 || c == 115 || c == 83

/-- the two states agree on everything the later commands and the result depend on: all fields but `last_cmd`, and of
    `last_cmd` whether it is a quadratic / a cubic command -/
structure c16b_StEq (a b : SvgSt K) : Prop where
  path : a.path = b.path
  last_ctrl : a.last_ctrl = b.last_ctrl
  first_pt : a.first_pt = b.first_pt
  implicit_moveto : a.implicit_moveto = b.implicit_moveto
  last_pt : a.last_pt = b.last_pt
  quadish : c16b_quadish a.last_cmd = c16b_quadish b.last_cmd
  cubicish : c16b_cubicish a.last_cmd = c16b_cubicish b.last_cmd

theorem c16b_StEq.refl (a : SvgSt K) : c16b_StEq a a := ⟨rfl, rfl, rfl, rfl, rfl, rfl, rfl⟩
theorem c16b_StEq.symm {a b : SvgSt K} (h : c16b_StEq a b) : c16b_StEq b a :=
  ⟨h.path.symm, h.last_ctrl.symm, h.first_pt.symm, h.implicit_moveto.symm, h.last_pt.symm, h.quadish.symm, h.cubicish.symm⟩
theorem c16b_StEq.trans {a b c : SvgSt K} (h : c16b_StEq a b) (h' : c16b_StEq b c) : c16b_StEq a c :=
  ⟨h.path.trans h'.path, h.last_ctrl.trans h'.last_ctrl, h.first_pt.trans h'.first_pt,
    h.implicit_moveto.trans h'.implicit_moveto, h.last_pt.trans h'.last_pt, h.quadish.trans h'.quadish,
    h.cubicish.trans h'.cubicish⟩

theorem c16b_StEq.flushed_path {a b : SvgSt K} (h : c16b_StEq a b) : a.flushed.path = b.flushed.path := by
  rw [SvgSt.flushed_path, SvgSt.flushed_path, h.path, h.implicit_moveto]

theorem c16b_smoothQuadCtrl_eq (st : SvgSt K) : st.flushed.smoothQuadCtrl =
    match st.last_ctrl with
    | some ctrl => if c16b_quadish st.last_cmd then reflectCtrl st.last_pt ctrl else st.last_pt
    | none => st.last_pt := by
  unfold SvgSt.smoothQuadCtrl
  simp only [SvgSt.flushed_last_ctrl, SvgSt.flushed_last_cmd, SvgSt.flushed_last_pt]
  rfl

theorem c16b_smoothCubicCtrl_eq (st : SvgSt K) : st.flushed.smoothCubicCtrl =
    match st.last_ctrl with
    | some ctrl => if c16b_cubicish st.last_cmd then reflectCtrl st.last_pt ctrl else st.last_pt
    | none => st.last_pt := by
  unfold SvgSt.smoothCubicCtrl
  simp only [SvgSt.flushed_last_ctrl, SvgSt.flushed_last_cmd, SvgSt.flushed_last_pt]
  rfl

theorem c16b_StEq.smoothQuadCtrl {a b : SvgSt K} (h : c16b_StEq a b) :
    a.flushed.smoothQuadCtrl = b.flushed.smoothQuadCtrl := by
  rw [c16b_smoothQuadCtrl_eq, c16b_smoothQuadCtrl_eq, h.last_ctrl, h.quadish, h.last_pt]

theorem c16b_StEq.smoothCubicCtrl {a b : SvgSt K} (h : c16b_StEq a b) :
    a.flushed.smoothCubicCtrl = b.flushed.smoothCubicCtrl := by
  rw [c16b_smoothCubicCtrl_eq, c16b_smoothCubicCtrl_eq, h.last_ctrl, h.cubicish, h.last_pt]

theorem c16b_StEq.elem {a b : SvgSt K} (h : c16b_StEq a b) (c : C16Cmd K) : c16b_elem a c = c16b_elem b c := by
  cases c <;> simp only [c16b_elem, h.last_pt, h.smoothQuadCtrl, h.smoothCubicCtrl]

theorem c16b_StEq.push {a b : SvgSt K} (h : c16b_StEq a b) {lc lc' : UInt8} (hq : c16b_quadish lc = c16b_quadish lc')
    (hc : c16b_cubicish lc = c16b_cubicish lc') (e : PathEl K) : c16b_StEq (a.push lc e) (b.push lc' e) := by
  have hf := h.flushed_path
  have hff : a.flushed.first_pt = b.flushed.first_pt := by rw [SvgSt.flushed_first_pt, SvgSt.flushed_first_pt, h.first_pt]
  have hfi : a.flushed.implicit_moveto = b.flushed.implicit_moveto := by
    rw [SvgSt.flushed_implicit_moveto, SvgSt.flushed_implicit_moveto]
  cases e with
  | MoveTo p => exact ⟨by simp only [SvgSt.push, h.path], rfl, rfl, rfl, rfl, hq, hc⟩
  | LineTo p => exact ⟨by simp only [SvgSt.push, hf], rfl, hff, hfi, rfl, hq, hc⟩
  | QuadTo p1 p2 => exact ⟨by simp only [SvgSt.push, hf], rfl, hff, hfi, rfl, hq, hc⟩
  | CurveTo p1 p2 p3 => exact ⟨by simp only [SvgSt.push, hf], rfl, hff, hfi, rfl, hq, hc⟩
  | ClosePath => exact ⟨by simp only [SvgSt.push, hf], rfl, hff, by simp only [SvgSt.push, h.first_pt],
      by simp only [SvgSt.push, h.first_pt], by simp only [SvgSt.push, SvgSt.flushed_last_cmd, h.quadish],
      by simp only [SvgSt.push, SvgSt.flushed_last_cmd, h.cubicish]⟩

/-- the same command with an upper-case letter and absolute coordinates, in the state `st` -/
def c16b_absCmd (st : SvgSt K) : C16Cmd K → C16Cmd K
  | .moveTo rel p => .moveTo false (c16b_pt rel st.last_pt p)
  | .lineTo rel p => .lineTo false (c16b_pt rel st.last_pt p)
  | .horiz rel x => .horiz false (if rel then Scalar.add x st.last_pt.x else x)
  | .vert rel y => .vert false (if rel then Scalar.add y st.last_pt.y else y)
  | .quadTo rel p1 p2 => .quadTo false (c16b_pt rel st.last_pt p1) (c16b_pt rel st.last_pt p2)
  | .smoothQuadTo rel p => .smoothQuadTo false (c16b_pt rel st.last_pt p)
  | .curveTo rel p1 p2 p3 => .curveTo false (c16b_pt rel st.last_pt p1) (c16b_pt rel st.last_pt p2) (c16b_pt rel st.last_pt p3)
  | .smoothCurveTo rel p2 p3 => .smoothCurveTo false (c16b_pt rel st.last_pt p2) (c16b_pt rel st.last_pt p3)
  | .close _ => .close false

/-- the normal form of a command in the state `st`: one of the absolute `M L Q C Z` – `H`/`V` become `L`, `T` becomes `Q` and
    `S` becomes `C` with the control point the parser computes -/
def c16b_normCmd (st : SvgSt K) : C16Cmd K → C16Cmd K
  | .moveTo rel p => .moveTo false (c16b_pt rel st.last_pt p)
  | .lineTo rel p => .lineTo false (c16b_pt rel st.last_pt p)
  | .horiz rel x => .lineTo false ⟨if rel then Scalar.add x st.last_pt.x else x, st.last_pt.y⟩
  | .vert rel y => .lineTo false ⟨st.last_pt.x, if rel then Scalar.add y st.last_pt.y else y⟩
  | .quadTo rel p1 p2 => .quadTo false (c16b_pt rel st.last_pt p1) (c16b_pt rel st.last_pt p2)
  | .smoothQuadTo rel p => .quadTo false st.flushed.smoothQuadCtrl (c16b_pt rel st.last_pt p)
  | .curveTo rel p1 p2 p3 => .curveTo false (c16b_pt rel st.last_pt p1) (c16b_pt rel st.last_pt p2) (c16b_pt rel st.last_pt p3)
  | .smoothCurveTo rel p2 p3 =>
    .curveTo false st.flushed.smoothCubicCtrl (c16b_pt rel st.last_pt p2) (c16b_pt rel st.last_pt p3)
  | .close _ => .close false

theorem c16b_normCmd_eq (st : SvgSt K) (c : C16Cmd K) : c16b_normCmd st c = c16b_ofEl (c16b_elem st c) := by
  cases c <;> rfl

theorem c16b_elem_absCmd (st : SvgSt K) (c : C16Cmd K) : c16b_elem st (c16b_absCmd st c) = c16b_elem st c := by
  cases c <;> rfl

def c16b_absolutize (st : SvgSt K) : List (C16Cmd K) → List (C16Cmd K)
  | [] => []
  | c :: cs => c16b_absCmd st c :: c16b_absolutize (c16b_interp st c) cs

def c16b_normalize (st : SvgSt K) : List (C16Cmd K) → List (C16Cmd K)
  | [] => []
  | c :: cs => c16b_normCmd st c :: c16b_normalize (c16b_interp st c) cs

@[simp] theorem c16b_pt_false (last p : Point K) : c16b_pt false last p = p := rfl

theorem c16b_quadish_nextCmd (st : SvgSt K) (lc : UInt8) (c : C16Cmd K) : c16b_quadish (c16b_nextCmd lc c) =
    match c16b_elem st c with
    | .QuadTo _ _ => true
    | .ClosePath => c16b_quadish lc
    | _ => false := by
  cases c <;> first | rfl | (cases ‹Bool› <;> rfl)

theorem c16b_cubicish_nextCmd (st : SvgSt K) (lc : UInt8) (c : C16Cmd K) : c16b_cubicish (c16b_nextCmd lc c) =
    match c16b_elem st c with
    | .CurveTo _ _ _ => true
    | .ClosePath => c16b_cubicish lc
    | _ => false := by
  cases c <;> first | rfl | (cases ‹Bool› <;> rfl)

theorem c16b_StEq.interp {a b : SvgSt K} (h : c16b_StEq a b) {c c' : C16Cmd K} (he : c16b_elem a c' = c16b_elem a c) :
    c16b_StEq (c16b_interp a c) (c16b_interp b c') := by
  have he' : c16b_elem b c' = c16b_elem a c := by rw [← h.elem, he]
  rw [c16b_interp_eq_push, c16b_interp_eq_push, he']
  refine h.push ?_ ?_ _
  · rw [c16b_quadish_nextCmd a, c16b_quadish_nextCmd b, he', h.quadish]
  · rw [c16b_cubicish_nextCmd a, c16b_cubicish_nextCmd b, he', h.cubicish]

theorem c16b_interp_absCmd {a b : SvgSt K} (h : c16b_StEq a b) (c : C16Cmd K) :
    c16b_StEq (c16b_interp a c) (c16b_interp b (c16b_absCmd a c)) :=
  h.interp (c16b_elem_absCmd a c)

theorem c16b_interp_normCmd {a b : SvgSt K} (h : c16b_StEq a b) (c : C16Cmd K) :
    c16b_StEq (c16b_interp a c) (c16b_interp b (c16b_normCmd a c)) :=
  h.interp (by rw [c16b_normCmd_eq, c16b_elem_ofEl])

theorem c16b_run_absolutize {a b : SvgSt K} (h : c16b_StEq a b) (cs : List (C16Cmd K)) :
    c16b_StEq (c16b_run a cs) (c16b_run b (c16b_absolutize a cs)) := by
  induction cs generalizing a b with
  | nil => exact h
  | cons c cs ih => exact ih (c16b_interp_absCmd h c)

theorem c16b_run_normalize {a b : SvgSt K} (h : c16b_StEq a b) (cs : List (C16Cmd K)) :
    c16b_StEq (c16b_run a cs) (c16b_run b (c16b_normalize a cs)) := by
  induction cs generalizing a b with
  | nil => exact h
  | cons c cs ih => exact ih (c16b_interp_normCmd h c)

theorem c16b_absolutize_startsWithMove (st : SvgSt K) (cs : List (C16Cmd K)) (h : c16b_startsWithMove cs) :
    c16b_startsWithMove (c16b_absolutize st cs) := by
  cases cs with
  | nil => trivial
  | cons c cs => cases c <;> first | trivial | cases h

theorem c16b_normalize_startsWithMove (st : SvgSt K) (cs : List (C16Cmd K)) (h : c16b_startsWithMove cs) :
    c16b_startsWithMove (c16b_normalize st cs) := by
  cases cs with
  | nil => trivial
  | cons c cs => cases c <;> first | trivial | cases h

def C16Cmd.isNormal {α : Type} : C16Cmd α → Bool
  | .moveTo false _ | .lineTo false _ | .quadTo false _ _ | .curveTo false _ _ _ | .close false => true
  | _ => false

/-- the elements the commands append, one per command (the implicit `MoveTo`s are not among them) -/
def c16b_elems (st : SvgSt K) : List (C16Cmd K) → List (PathEl K)
  | [] => []
  | c :: cs => c16b_elem st c :: c16b_elems (c16b_interp st c) cs

theorem c16b_normalize_eq (st : SvgSt K) (cs : List (C16Cmd K)) :
    c16b_normalize st cs = (c16b_elems st cs).map c16b_ofEl := by
  induction cs generalizing st with
  | nil => rfl
  | cons c cs ih => simp only [c16b_normalize, c16b_elems, List.map_cons, c16b_normCmd_eq, ih]

theorem c16b_normalize_isNormal (st : SvgSt K) (cs : List (C16Cmd K)) : ∀ c ∈ c16b_normalize st cs, c.isNormal = true := by
  rw [c16b_normalize_eq]
  intro c hc
  obtain ⟨e, -, rfl⟩ := List.mem_map.mp hc
  cases e <;> rfl

/-- the element list the parser produces for the commands `M L Q C Z` of `els`: `first` = the parser's `first_pt` (the last
    `MoveTo` point), `pending` = the previous element was a `ClosePath` (`implicit_moveto = Some(first_pt)`) -/
def reparse (first : Point K) (pending : Bool) : List (PathEl K) → List (PathEl K)
  | [] => []
  | .MoveTo p :: es => .MoveTo p :: reparse p false es
  | .ClosePath :: es => (if pending then [.MoveTo first] else []) ++ .ClosePath :: reparse first true es
  | .LineTo p :: es => (if pending then [.MoveTo first] else []) ++ .LineTo p :: reparse first false es
  | .QuadTo p1 p2 :: es => (if pending then [.MoveTo first] else []) ++ .QuadTo p1 p2 :: reparse first false es
  | .CurveTo p1 p2 p3 :: es => (if pending then [.MoveTo first] else []) ++ .CurveTo p1 p2 p3 :: reparse first false es

/-- the hypothesis (a pending `MoveTo` goes to `first_pt`) holds of `svgInit` and after every command -/
theorem c16b_run_path (cs : List (C16Cmd K)) (st : SvgSt K) (pending : Bool)
    (hi : st.implicit_moveto = if pending then some st.first_pt else none) :
    (c16b_run st cs).path = st.path ++ reparse st.first_pt pending (c16b_elems st cs) := by
  induction cs generalizing st pending with
  | nil => simp [reparse, c16b_elems]
  | cons c cs ih =>
    simp only [c16b_run_cons, c16b_elems]
    rw [ih _ (c16b_elem st c).isClose (by
      rw [c16b_interp_eq_push, SvgSt.push_implicit_moveto, SvgSt.push_first_pt]
      cases c16b_elem st c <;> rfl)]
    have hf : st.flushed.path = st.path ++ (if pending then [.MoveTo st.first_pt] else []) := by
      rw [SvgSt.flushed_path, hi]
      cases pending <;> rfl
    rw [c16b_interp_eq_push, SvgSt.push_path, SvgSt.push_first_pt]
    cases c16b_elem st c <;> simp [reparse, PathEl.isMove, PathEl.isClose, hf]

end
end Kurbo
