import Proofs.C01
import Proofs.Lemmas.C08Mono
import Proofs.Lemmas.Discharge
import Proofs.C06
import Proofs.Lemmas.C01PSpec
/-! C01P helpers: the model's `winding_inner` / `winding` against the specification `Ray.rayCross`
    (`Proofs/Lemmas/C01PSpec.lean`). -/
namespace Kurbo
open Set Ray

section real
variable [Scalar ℝ] [LawfulScalar ℝ]

theorem seg_y_continuous (s : PathSeg ℝ) : Continuous fun t => (s.eval t).y :=
  continuous_iff_continuousAt.mpr fun t => (seg_hasDerivAt s t).2.continuousAt

/-- the pieces `PathSeg::winding` sums over are y-monotone, as `winding_inner` assumes -/
theorem seg_ranges_strict [LawfulReal] (s : PathSeg ℝ) :
    ∀ r ∈ s.extrema_ranges, r.start ≤ r.«end» ∧
      (StrictMonoOn (fun t => (s.eval t).y) (Icc r.start r.«end») ∨
       StrictAntiOn (fun t => (s.eval t).y) (Icc r.start r.«end») ∨
       ∀ t ∈ Icc r.start r.«end», (s.eval t).y = (s.eval r.start).y) :=
  fun r hr => let h := seg_ranges_strict_xy s (fun _ => quadSolverSpec_real) r hr; ⟨h.1, h.2.2⟩

/-- the solver hypothesis of C01's curved branches comes from C15; the polynomial handed to the solver is not the zero
    polynomial because `y` is injective -/
theorem seg_hon [LawfulReal] (s : PathSeg ℝ) (p : Point ℝ) (tS : ℝ)
    (hinj : InjOn (fun t => (s.eval t).y) (Icc 0 1)) (h0 : 0 ≤ tS) (h1 : tS ≤ 1) (hy : (s.eval tS).y = p.y) :
    s.winding_inner p = rowSign s.start.y s.end.y p.y * (if (s.eval tS).x ≤ p.x then 1 else 0) := by
  cases s with
  | Line l =>
    cases l
    exact windingInner_line_rule _ p tS hy
  | Quad q =>
    exact windingInner_quad_monotone q p tS
      (fun x => (solveQuadratic_spec_real _ _ _ (quad_row_poly_nonzero_of_injOn q p hinj)).1 x) hinj h0 h1 hy
  | Cubic c =>
    exact windingInner_cubic_monotone c p tS
      (solveCubic_roots_real _ _ _ _ (cubic_row_poly_nonzero_of_injOn c p hinj)) hinj h0 h1 hy

/-- off the row both sides are `0`; on it the intermediate value theorem gives the crossing parameter -/
theorem windingInner_eq_pieceCross [LawfulReal] (s : PathSeg ℝ) (p : Point ℝ)
    (hinj : rowSign s.start.y s.end.y p.y ≠ 0 → InjOn (fun t => (s.eval t).y) (Icc 0 1)) :
    s.winding_inner p = pieceCross (fun t => s.eval t) p 0 1 := by
  have e0 := (seg_eval_zero_one s).1
  have e1 := (seg_eval_zero_one s).2
  by_cases hr : rowSign s.start.y s.end.y p.y = 0
  · rw [windingInner_of_rowSign_zero s p hr, pieceCross_offRow (by rwa [e0, e1])]
  · obtain ⟨tS, h0, h1, hy⟩ := row_root_exists (y := p.y) (seg_y_continuous s) (by
        simp only [e0, e1]
        rcases rowSign_cases s.start.y s.end.y p.y with ⟨-, h⟩ | ⟨-, h⟩ | ⟨h, -⟩
        exacts [Or.inl ⟨h.1, h.2.le⟩, Or.inr ⟨h.1, h.2.le⟩, (hr h).elim])
    rw [seg_hon s p tS (hinj hr) h0 h1 hy, pieceCross_at (hinj hr) h0 h1 hy, e0, e1]

theorem windingInner_trace [LawfulReal] (s s' : PathSeg ℝ) (p : Point ℝ) (a b : ℝ)
    (hg : ∀ u, s'.eval u = s.eval (a + u * (b - a))) (hab : a ≤ b)
    (hm : StrictMonoOn (fun t => (s.eval t).y) (Icc a b) ∨ StrictAntiOn (fun t => (s.eval t).y) (Icc a b) ∨
      ∀ t ∈ Icc a b, (s.eval t).y = (s.eval a).y) :
    s'.winding_inner p = pieceCross (fun t => s.eval t) p a b := by
  rw [windingInner_eq_pieceCross s' p, funext hg, pieceCross_comp_affine hab]
  intro hr
  -- the row test passes, so the end ordinates differ: `a < b` and `y` is not constant on `[a,b]`
  have hne : (s.eval a).y ≠ (s.eval b).y := fun h => hr (by
    rw [← (seg_eval_zero_one s').1, ← (seg_eval_zero_one s').2, hg, hg, zero_mul, add_zero, one_mul, add_sub_cancel, h,
      rowSign_self])
  have hba : 0 < b - a := sub_pos.mpr (hab.lt_of_ne fun h => hne (h ▸ rfl))
  have hinjf : InjOn (fun t => (s.eval t).y) (Icc a b) := by
    rcases hm with h | h | h
    exacts [h.injOn, h.injOn, (hne (h b ⟨hab, le_rfl⟩).symm).elim]
  have hmem : ∀ u ∈ Icc (0 : ℝ) 1, a + u * (b - a) ∈ Icc a b := fun u hu =>
    ⟨le_add_of_nonneg_right (mul_nonneg hu.1 hba.le), by linarith [mul_le_of_le_one_left hba.le hu.2]⟩
  intro u hu v hv huv
  simp only [hg] at huv
  exact mul_right_cancel₀ hba.ne' (add_left_cancel (hinjf (hmem u hu) (hmem v hv) huv))

theorem windingInner_sub_eq_pieceCross [LawfulReal] (s : PathSeg ℝ) (p : Point ℝ) (a b : ℝ) (hab : a ≤ b)
    (hm : StrictMonoOn (fun t => (s.eval t).y) (Icc a b) ∨ StrictAntiOn (fun t => (s.eval t).y) (Icc a b) ∨
      ∀ t ∈ Icc a b, (s.eval t).y = (s.eval a).y) :
    (s.subsegment ⟨a, b⟩).winding_inner p = pieceCross (fun t => s.eval t) p a b :=
  windingInner_trace s _ p a b (fun u => pathSeg_subsegment_eval s a b u) hab hm

theorem sum_ranges (F : Range ℝ → ℤ) (f : ℝ → Point ℝ) (p : Point ℝ) (t0 : ℝ) (ts : List ℝ)
    (h0 : ∀ t ∈ ts, t0 ≤ t) (hs : ts.Pairwise (· ≤ ·)) (h1 : ∀ t ∈ ts, t ≤ 1)
    (hF : ∀ r ∈ extremaRangesFrom t0 ts, FinCross f p r.start r.«end» ∧ F r = rayCross f p r.start r.«end») :
    FinCross f p t0 1 ∧ ((extremaRangesFrom t0 ts).map F).sum = rayCross f p t0 1 := by
  induction ts generalizing t0 with
  | nil =>
    have e : extremaRangesFrom t0 ([] : List ℝ) = [⟨t0, 1⟩] := by
      simp only [extremaRangesFrom, scalar_norm]; push_cast; rfl
    rw [e] at hF ⊢
    have := hF ⟨t0, 1⟩ (by simp)
    simp only [List.map_cons, List.map_nil, List.sum_cons, List.sum_nil, add_zero]
    exact this
  | cons t ts ih =>
    rw [List.pairwise_cons] at hs
    have e : extremaRangesFrom t0 (t :: ts) = ⟨t0, t⟩ :: extremaRangesFrom t ts := rfl
    rw [e] at hF ⊢
    have ht1 : t ≤ 1 := h1 t (by simp)
    obtain ⟨f2, s2⟩ := ih t hs.1 hs.2 (fun u hu => h1 u (by simp [hu]))
      (fun r hr => hF r (List.mem_cons_of_mem _ hr))
    obtain ⟨f1, s1⟩ := hF ⟨t0, t⟩ (by simp)
    obtain ⟨f3, s3⟩ := rayCross_add (h0 t (by simp)) ht1 f1 f2
    refine ⟨f3, ?_⟩
    rw [List.map_cons, List.sum_cons, s2, s1, s3]

theorem winding_eq_rayCross_aux [LawfulReal] (s : PathSeg ℝ) (p : Point ℝ) :
    FinCross (fun t => s.eval t) p 0 1 ∧ s.winding p = rayCross (fun t => s.eval t) p 0 1 := by
  have hpieces : ∀ r ∈ extremaRangesFrom 0 s.extrema,
      FinCross (fun t => s.eval t) p r.start r.«end» ∧
      (s.subsegment r).winding_inner p = rayCross (fun t => s.eval t) p r.start r.«end» := by
    intro r hr
    rw [← seg_extrema_ranges_eq] at hr
    obtain ⟨hord, hm⟩ := seg_ranges_strict s r hr
    obtain ⟨hfin, hray⟩ := rayCross_piece (f := fun t => s.eval t) (p := p) hord (seg_y_continuous s).continuousOn hm
    refine ⟨hfin, ?_⟩
    rw [hray]
    exact windingInner_sub_eq_pieceCross s p r.start r.«end» hord hm
  obtain ⟨hfin, hsum⟩ := sum_ranges (fun r => (s.subsegment r).winding_inner p) (fun t => s.eval t) p 0 s.extrema
    (fun t ht => (seg_extrema_unit s t ht).1.le) (seg_extrema_sorted s)
    (fun t ht => (seg_extrema_unit s t ht).2.le) hpieces
  refine ⟨hfin, ?_⟩
  cases s with
  | Line l =>
    -- the model (like the crate) applies `winding_inner` to a line itself, without `subsegment`: `[0,1]` is its one range,
    -- on which `winding_inner` is `pieceCross`, which is `rayCross`
    have hm := (seg_ranges_strict (.Line l) ⟨0, 1⟩ (by
      rw [seg_extrema_ranges_eq]; simp only [PathSeg.extrema, extremaRangesFrom, scalar_norm]; push_cast; simp)).2
    rw [(rayCross_piece zero_le_one (seg_y_continuous _).continuousOn hm).2]
    exact windingInner_trace (.Line l) (.Line l) p 0 1 (fun u => by congr 1; ring) zero_le_one hm
  | Quad q => rw [← hsum, winding_eq_sum_pieces _ _ (by intro h; exact h), seg_extrema_ranges_eq]
  | Cubic c => rw [← hsum, winding_eq_sum_pieces _ _ (by intro h; exact h), seg_extrema_ranges_eq]

end real
end Kurbo
