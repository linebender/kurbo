import Proofs.Lawful
/-! The laws of `LawfulScalar` fix every first-order field of a `Scalar` structure: `canonScalar S` has the ordered-field
    operations in those fields and the remaining (transcendental, `as usize`, `fmod`, `pi`) fields of `S`, and it is lawful.
    A structure that is written with the field operations is `canonScalar` of itself by unfolding, so its lawfulness is
    `canonScalar_lawful`. -/
namespace Kurbo
variable {K : Type} [Field K] [LinearOrder K] [IsStrictOrderedRing K] [FloorRing K]

@[instance_reducible] def canonScalar (S : Scalar K) : Scalar K :=
  { S with
    add := fun a b => a + b, sub := fun a b => a - b, mul := fun a b => a * b, div := fun a b => a / b,
    neg := fun a => -a, abs := fun a => |a|,
    lt := fun a b => decide (a < b), le := fun a b => decide (a ≤ b), beq := fun a b => decide (a = b),
    ofRat := fun r => (r : K), min := fun a b => min a b, max := fun a b => max a b,
    floor := fun a => (⌊a⌋ : K), ceil := fun a => (⌈a⌉ : K),
    trunc := fun a => if a < 0 then (⌈a⌉ : K) else (⌊a⌋ : K),
    round := fun a => if a < 0 then (⌈a - 1/2⌉ : K) else (⌊a + 1/2⌋ : K),
    copysign := fun a b => if b < 0 then -|a| else |a|, signum := fun a => if a < 0 then -1 else 1,
    fin := fun _ => true, finQuot := fun d _ => decide (d ≠ 0), isNan := fun _ => false,
    fma := fun a b c => a * b + c }

theorem canonScalar_lawful (S : Scalar K) : @LawfulScalar K _ _ _ _ (canonScalar S) :=
  letI := canonScalar S
  { add_eq := fun _ _ => rfl, sub_eq := fun _ _ => rfl, mul_eq := fun _ _ => rfl, div_eq := fun _ _ => rfl,
    neg_eq := fun _ => rfl, abs_eq := fun _ => rfl, lt_eq := fun _ _ => rfl, le_eq := fun _ _ => rfl,
    beq_eq := fun _ _ => rfl, ofRat_eq := fun _ => rfl, min_eq := fun _ _ => rfl, max_eq := fun _ _ => rfl,
    floor_eq := fun _ => rfl, ceil_eq := fun _ => rfl, trunc_eq := fun _ => rfl, round_eq := fun _ => rfl,
    copysign_eq := fun _ _ => rfl, signum_eq := fun _ => rfl, fin_eq := fun _ => rfl, finQuot_eq := fun _ _ => rfl,
    isNan_eq := fun _ => rfl, fma_eq := fun _ _ _ => rfl }

end Kurbo
