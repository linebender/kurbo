import Mathlib.Analysis.SpecialFunctions.Complex.Arg
import Mathlib.Analysis.SpecialFunctions.Trigonometric.Angle
import Mathlib.Tactic.LinearCombination
import Mathlib.Tactic.Positivity
/-! Angle arithmetic over ℝ, independent of the model: Rust's `%` (`fmodR`), the representative in `[0, 2π)` (`redAngle`, Mathlib's
    `toIcoMod _ 0`, hence unique), `arg` of a vector given in polar form, and the directed turn between two directions:
    `redAngle ((β − α)·σ)` (σ = ±1) is the angle in `[0, 2π)` by which one turns in the sense `σ` from the direction `α` to the
    direction `β`.  `CircleSegment::winding` (C11) compares it with `|sweep|`; `Arc::from_svg_arc` (C16A) returns it, with the sign
    of the sweep flag, as the sweep angle (`svgSweep_spec`). -/
namespace Kurbo.SvgArcR
open Real

/-- Rust's `%` on reals -/
noncomputable def fmodR (a b : ℝ) : ℝ := a - b * (if a / b < 0 then (⌈a / b⌉ : ℝ) else (⌊a / b⌋ : ℝ))

/-- the two `if`s of `from_svg_arc` after the `%` -/
noncomputable def fixSweep (sw : Bool) (s0 : ℝ) : ℝ :=
  if (sw && decide (s0 < 0)) = true then s0 + 2 * π else if (!sw && decide (0 < s0)) = true then s0 - 2 * π else s0

theorem fmodR_int (a b : ℝ) : ∃ k : ℤ, fmodR a b = a - b * k := by
  unfold fmodR
  split_ifs
  exacts [⟨⌈a / b⌉, rfl⟩, ⟨⌊a / b⌋, rfl⟩]

theorem sin_fmodR (a : ℝ) : sin (fmodR a (2 * π)) = sin a := by
  obtain ⟨k, hk⟩ := fmodR_int a (2 * π)
  rw [hk, mul_comm]; exact Real.sin_sub_int_mul_two_pi a k

theorem cos_fmodR (a : ℝ) : cos (fmodR a (2 * π)) = cos a := by
  obtain ⟨k, hk⟩ := fmodR_int a (2 * π)
  rw [hk, mul_comm]; exact Real.cos_sub_int_mul_two_pi a k

theorem fmodR_eq_mul {a b : ℝ} (hb : b ≠ 0) :
    fmodR a b = b * (a / b - (if a / b < 0 then (⌈a / b⌉ : ℝ) else (⌊a / b⌋ : ℝ))) := by
  rw [fmodR, mul_sub, mul_div_cancel₀ a hb]

theorem fmodR_spec {b : ℝ} (hb : 0 < b) (a : ℝ) :
    |fmodR a b| < b ∧ (0 ≤ a → 0 ≤ fmodR a b) ∧ (a ≤ 0 → fmodR a b ≤ 0) := by
  rw [fmodR_eq_mul hb.ne', abs_mul, abs_of_pos hb]
  by_cases hneg : a / b < 0
  · have ha : a < 0 := lt_of_not_ge fun h => absurd (div_nonneg h hb.le) (not_le.mpr hneg)
    have h1 : a / b - ⌈a / b⌉ ≤ 0 := sub_nonpos.mpr (Int.le_ceil _)
    have h2 : -1 < a / b - ⌈a / b⌉ := neg_lt_sub_iff_lt_add'.mpr (Int.ceil_lt_add_one _)
    rw [if_pos hneg]
    exact ⟨mul_lt_of_lt_one_right hb (abs_lt.mpr ⟨h2, h1.trans_lt one_pos⟩), fun h => absurd h (not_le.mpr ha),
      fun _ => mul_nonpos_of_nonneg_of_nonpos hb.le h1⟩
  · have ha : 0 ≤ a := le_of_not_gt fun h => hneg (div_neg_of_neg_of_pos h hb)
    have h1 : 0 ≤ a / b - ⌊a / b⌋ := sub_nonneg.mpr (Int.floor_le _)
    have h2 : a / b - ⌊a / b⌋ < 1 := sub_lt_iff_lt_add'.mpr (Int.lt_floor_add_one _)
    rw [if_neg hneg]
    refine ⟨mul_lt_of_lt_one_right hb (abs_lt.mpr ⟨neg_one_lt_zero.trans_le h1, h2⟩), fun _ => mul_nonneg hb.le h1,
      fun h => ?_⟩
    rw [le_antisymm h ha, zero_div, Int.floor_zero, Int.cast_zero, sub_zero, mul_zero]

theorem fmodR_of_abs_lt {a b : ℝ} (hb : 0 < b) (h : |a| < b) : fmodR a b = a := by
  have hq : |a / b| < 1 := by rw [abs_div, abs_of_pos hb, div_lt_one hb]; exact h
  obtain ⟨h1, h2⟩ := abs_lt.mp hq
  have h0 : (if a / b < 0 then (⌈a / b⌉ : ℝ) else (⌊a / b⌋ : ℝ)) = 0 := by
    split_ifs with hneg
    · rw [Int.ceil_eq_zero_iff.mpr ⟨h1, hneg.le⟩, Int.cast_zero]
    · rw [Int.floor_eq_zero_iff.mpr ⟨not_lt.mp hneg, h2⟩, Int.cast_zero]
  rw [fmodR, h0, mul_zero, sub_zero]

theorem fmodR_two_pi_spec (a : ℝ) :
    (∃ k : ℤ, fmodR a (2 * π) = a - 2 * π * k) ∧ |fmodR a (2 * π)| < 2 * π ∧
    (0 ≤ a → 0 ≤ fmodR a (2 * π)) ∧ (a ≤ 0 → fmodR a (2 * π) ≤ 0) :=
  ⟨fmodR_int a _, fmodR_spec Real.two_pi_pos a⟩

theorem fixSweep_true {s0 : ℝ} : fixSweep true s0 = if s0 < 0 then s0 + 2 * π else s0 := by
  unfold fixSweep; by_cases h : s0 < 0 <;> simp [h]

theorem fixSweep_false {s0 : ℝ} : fixSweep false s0 = if 0 < s0 then s0 - 2 * π else s0 := by
  unfold fixSweep; by_cases h : 0 < s0 <;> simp [h]

end Kurbo.SvgArcR

namespace Kurbo
open Real

/-- `atan2` is the polar angle (`r = 0` included) -/
theorem polar_arg {x y r : ℝ} (hr : 0 ≤ r) (h : x ^ 2 + y ^ 2 = r ^ 2) :
    r * cos (Complex.arg ⟨x, y⟩) = x ∧ r * sin (Complex.arg ⟨x, y⟩) = y := by
  have hn : ‖(⟨x, y⟩ : ℂ)‖ = r :=
    (Complex.norm_eq_sqrt_sq_add_sq _).trans ((congrArg Real.sqrt h).trans (Real.sqrt_sq hr))
  exact ⟨hn ▸ Complex.norm_mul_cos_arg ⟨x, y⟩, hn ▸ Complex.norm_mul_sin_arg ⟨x, y⟩⟩

theorem norm_eq_one_of_sq {z : ℂ} (h : z.re ^ 2 + z.im ^ 2 = 1) : ‖z‖ = 1 := by
  rw [Complex.norm_def, Complex.normSq_apply, ← sq, ← sq, h, Real.sqrt_one]

theorem cos_arg_unit {z : ℂ} (h : ‖z‖ = 1) : cos (Complex.arg z) = z.re := by
  rw [Complex.cos_arg (norm_ne_zero_iff.mp (h ▸ one_ne_zero)), h, div_one]

theorem sin_arg_unit {z : ℂ} (h : ‖z‖ = 1) : sin (Complex.arg z) = z.im := by
  rw [Complex.sin_arg, h, div_one]

/-- `x % 2π`, then `+ 2π` if negative -/
noncomputable def redAngle (a : ℝ) : ℝ :=
  if SvgArcR.fmodR a (2 * π) < 0 then SvgArcR.fmodR a (2 * π) + 2 * π else SvgArcR.fmodR a (2 * π)

theorem redAngle_spec (a : ℝ) : 0 ≤ redAngle a ∧ redAngle a < 2 * π ∧ ∃ k : ℤ, redAngle a = a - 2 * π * k := by
  obtain ⟨⟨k, hk⟩, habs, -, -⟩ := SvgArcR.fmodR_two_pi_spec a
  obtain ⟨hlo, hhi⟩ := abs_lt.mp habs
  rw [redAngle]
  split_ifs with h
  · exact ⟨by linarith, by linarith, k - 1, by rw [hk]; push_cast; ring⟩
  · exact ⟨not_lt.mp h, hhi, k, hk⟩

theorem red_le_of_nonneg {θ r : ℝ} {n : ℤ} (hθ : 0 ≤ θ) (hr : r < 2 * π) (h : r = θ - 2 * π * n) : r ≤ θ := by
  rcases le_or_gt 0 n with hn | hn
  · rw [h]
    exact sub_le_self _ (mul_nonneg (by positivity) (Int.cast_nonneg hn))
  · -- `n ≤ -1` would put `r` at or beyond `2π`
    have hn' : (n : ℝ) ≤ -1 := by exact_mod_cast Int.le_sub_one_of_lt hn
    have := mul_le_mul_of_nonneg_left hn' (by positivity : 0 ≤ 2 * π)
    exact absurd hr (not_lt.2 (by linear_combination hθ + this - h))

theorem cos_sin_arg_of_polar {z : ℂ} {ρ α : ℝ} (hρ : 0 < ρ) (hre : z.re = ρ * cos α) (him : z.im = ρ * sin α) :
    cos (Complex.arg z) = cos α ∧ sin (Complex.arg z) = sin α := by
  obtain ⟨hc, hs⟩ := polar_arg (x := z.re) (y := z.im) hρ.le
    (by rw [hre, him]; linear_combination ρ ^ 2 * Real.cos_sq_add_sin_sq α)
  exact ⟨mul_left_cancel₀ hρ.ne' (hc.trans hre), mul_left_cancel₀ hρ.ne' (hs.trans him)⟩

/-- going from `start` by `σ·redAngle` (σ = ±1 the sweep direction) one looks along `z` -/
theorem redAngle_direction (z : ℂ) (start : ℝ) (σ : ℤ) (hσ : σ = 1 ∨ σ = -1) :
    ‖z‖ * Real.cos (start + σ * redAngle ((Complex.arg z - start) * σ)) = z.re ∧
    ‖z‖ * Real.sin (start + σ * redAngle ((Complex.arg z - start) * σ)) = z.im := by
  obtain ⟨_, _, k, hk⟩ := redAngle_spec ((Complex.arg z - start) * σ)
  have hσ2 : (σ : ℝ) * σ = 1 := by rcases hσ with h | h <;> rw [h] <;> norm_num
  have e : start + σ * redAngle ((Complex.arg z - start) * σ) = Complex.arg z - ((σ * k : ℤ) : ℝ) * (2 * π) := by
    rw [hk]; push_cast
    linear_combination (Complex.arg z - start) * hσ2
  rw [e, Real.cos_sub_int_mul_two_pi, Real.sin_sub_int_mul_two_pi]
  exact ⟨Complex.norm_mul_cos_arg z, Complex.norm_mul_sin_arg z⟩

theorem redAngle_le_of_direction (z : ℂ) (hz : z ≠ 0) (start θ : ℝ) (σ : ℤ) (hσ : σ = 1 ∨ σ = -1) (hθ : 0 ≤ θ)
    (hre : z.re = ‖z‖ * Real.cos (start + σ * θ)) (him : z.im = ‖z‖ * Real.sin (start + σ * θ)) :
    redAngle ((Complex.arg z - start) * σ) ≤ θ := by
  obtain ⟨hcos, hsin⟩ := cos_sin_arg_of_polar (norm_pos_iff.mpr hz) hre him
  obtain ⟨m, hm⟩ := Real.Angle.angle_eq_iff_two_pi_dvd_sub.mp (Real.Angle.cos_sin_inj hcos hsin)
  obtain ⟨_, hlt, k, hk⟩ := redAngle_spec ((Complex.arg z - start) * σ)
  have hσ2 : (σ : ℝ) * σ = 1 := by rcases hσ with h | h <;> rw [h] <;> norm_num
  refine red_le_of_nonneg (n := k - m * σ) hθ hlt ?_
  rw [hk]; push_cast
  have : Complex.arg z - start = σ * θ + 2 * π * m := by linear_combination hm
  rw [this]
  linear_combination θ * hσ2

theorem eq_of_abs_sub_lt_two_pi {x y : ℝ} (n : ℤ) (h : x - y = 2 * π * n) (hlt : |x - y| < 2 * π) : x = y := by
  rw [h, abs_mul, abs_of_pos Real.two_pi_pos, mul_lt_iff_lt_one_right Real.two_pi_pos] at hlt
  have hn : n = 0 := Int.abs_lt_one_iff.mp (by exact_mod_cast hlt)
  rw [hn, Int.cast_zero, mul_zero] at h
  exact sub_eq_zero.mp h

theorem redAngle_eq_toIcoMod (x : ℝ) : redAngle x = toIcoMod Real.two_pi_pos 0 x := by
  obtain ⟨h0, h1, k, hk⟩ := redAngle_spec x
  refine ((toIcoMod_eq_iff Real.two_pi_pos).mpr ⟨⟨h0, by rwa [zero_add]⟩, k, ?_⟩).symm
  rw [hk, zsmul_eq_mul]; ring

theorem redAngle_eq_iff {x c : ℝ} : redAngle x = c ↔ (0 ≤ c ∧ c < 2 * π) ∧ ∃ k : ℤ, x = c + k * (2 * π) := by
  rw [redAngle_eq_toIcoMod, toIcoMod_eq_iff, Set.mem_Ico, zero_add]
  simp only [zsmul_eq_mul]

theorem sin_redAngle (x : ℝ) : sin (redAngle x) = sin x := by
  obtain ⟨-, -, k, hk⟩ := redAngle_spec x
  rw [hk, mul_comm]; exact Real.sin_sub_int_mul_two_pi x k

theorem redAngle_pos {x : ℝ} (h : |x| < 2 * π) (h0 : x ≠ 0) : 0 < redAngle x := by
  obtain ⟨hr, -, k, hk⟩ := redAngle_spec x
  refine hr.lt_of_ne fun e => h0 ?_
  rw [← e] at hk
  exact eq_of_abs_sub_lt_two_pi k (by linear_combination -hk) (by rwa [sub_zero])

theorem cmp_pi_of_sin {r : ℝ} (h0 : 0 < r) (h1 : r < 2 * π) :
    (0 < sin r → r < π) ∧ (sin r < 0 → π < r) ∧ (sin r = 0 → r = π) := by
  refine ⟨fun hs => ?_, fun hs => ?_, fun hs => ?_⟩
  · by_contra hc
    have : sin (r - 2 * π) ≤ 0 := Real.sin_nonpos_of_nonpos_of_neg_pi_le (by linarith) (by linarith)
    rw [Real.sin_sub_two_pi] at this
    exact absurd hs (not_lt.mpr this)
  · by_contra hc
    exact absurd hs (not_lt.mpr (Real.sin_nonneg_of_nonneg_of_le_pi h0.le (not_lt.mp hc)))
  · have : sin (r - π) = 0 := by rw [Real.sin_sub_pi, hs, neg_zero]
    have := (Real.sin_eq_zero_iff_of_lt_of_lt (by linarith) (by linarith)).mp this
    linarith

/-- the sense of a sweep flag -/
def swSign (sw : Bool) : ℤ := if sw then 1 else -1

theorem swSign_cases (sw : Bool) : swSign sw = 1 ∨ swSign sw = -1 := by cases sw <;> simp [swSign]

theorem swSign_true : ((swSign true : ℤ) : ℝ) = 1 := by norm_num [swSign]
theorem swSign_false : ((swSign false : ℤ) : ℝ) = -1 := by norm_num [swSign]

theorem abs_swSign (sw : Bool) : |((swSign sw : ℤ) : ℝ)| = 1 := by
  rcases swSign_cases sw with h | h <;> rw [h] <;> norm_num

/-- of the angles congruent to the difference `d` of two `atan2` values the two `if`s pick the turn in the sense of the
    flag, with that sense as its sign -/
theorem fixSweep_eq_turn {d : ℝ} (h : |d| < 2 * π) (sw : Bool) :
    SvgArcR.fixSweep sw d = swSign sw * redAngle (d * swSign sw) := by
  obtain ⟨h1, h2⟩ := abs_lt.mp h
  have red : ∀ {x c : ℝ} (k : ℤ), 0 ≤ c → c < 2 * π → x = c + k * (2 * π) → redAngle x = c :=
    fun k c0 c1 hk => redAngle_eq_iff.mpr ⟨⟨c0, c1⟩, k, hk⟩
  cases sw
  · rw [SvgArcR.fixSweep_false, swSign_false]
    split_ifs with hd
    · rw [red (c := 2 * π - d) (-1) (by linarith) (by linarith) (by push_cast; ring)]; ring
    · rw [red (c := -d) 0 (by linarith) (by linarith) (by push_cast; ring)]; ring
  · rw [SvgArcR.fixSweep_true, swSign_true]
    split_ifs with hd
    · rw [red (c := d + 2 * π) (-1) (by linarith) (by linarith) (by push_cast; ring)]; ring
    · rw [red (c := d) 0 (by linarith) (by linarith) (by push_cast; ring)]; ring

/-- the difference of two `atan2`s lies in `(−2π, 2π)`, so the `%` of `from_svg_arc` does nothing -/
theorem arg_sub_arg_abs_lt (z w : ℂ) : |Complex.arg w - Complex.arg z| < 2 * π := by
  have h1 := Complex.neg_pi_lt_arg z
  have h2 := Complex.arg_le_pi z
  have h3 := Complex.neg_pi_lt_arg w
  have h4 := Complex.arg_le_pi w
  rw [abs_lt]; constructor <;> linarith

/-- the sweep angle `from_svg_arc` computes from the start direction `u` and the end direction `v` -/
noncomputable def svgSweep (sw : Bool) (u v : ℂ) : ℝ :=
  SvgArcR.fixSweep sw (SvgArcR.fmodR (Complex.arg v - Complex.arg u) (2 * π))

theorem svgSweep_eq (sw : Bool) (u v : ℂ) :
    svgSweep sw u v = swSign sw * redAngle ((Complex.arg v - Complex.arg u) * swSign sw) := by
  rw [svgSweep, SvgArcR.fmodR_of_abs_lt Real.two_pi_pos (arg_sub_arg_abs_lt _ _), fixSweep_eq_turn (arg_sub_arg_abs_lt _ _)]

theorem svgSweep_spec {u v : ℂ} (hu : ‖u‖ = 1) (hv : ‖v‖ = 1) (huv : u ≠ v) (sw : Bool) :
    (cos (Complex.arg u + svgSweep sw u v) = v.re ∧ sin (Complex.arg u + svgSweep sw u v) = v.im) ∧
    ∃ r, (0 < r ∧ r < 2 * π) ∧ svgSweep sw u v = swSign sw * r ∧ sin r = swSign sw * (u.re * v.im - u.im * v.re) := by
  have hd : Complex.arg v - Complex.arg u ≠ 0 := fun e => huv (Complex.ext_norm_arg (hu.trans hv.symm) (sub_eq_zero.mp e).symm)
  have hσ := abs_swSign sw
  refine ⟨?_, _, ⟨redAngle_pos ?_ ?_, (redAngle_spec _).2.1⟩, svgSweep_eq sw u v, ?_⟩
  · have := redAngle_direction v (Complex.arg u) _ (swSign_cases sw)
    rwa [hv, one_mul, one_mul, ← svgSweep_eq] at this
  · rw [abs_mul, hσ, mul_one]; exact arg_sub_arg_abs_lt _ _
  · exact mul_ne_zero hd fun e => by rw [e, abs_zero] at hσ; exact zero_ne_one hσ
  · have hs : ∀ x : ℝ, sin (x * swSign sw) = swSign sw * sin x := fun x => by
      rcases swSign_cases sw with e | e <;> rw [e] <;> push_cast
      · rw [mul_one, one_mul]
      · rw [mul_neg_one, Real.sin_neg, neg_one_mul]
    rw [sin_redAngle, hs, Real.sin_sub, sin_arg_unit hv, cos_arg_unit hv, sin_arg_unit hu,
      cos_arg_unit hu]
    ring

end Kurbo
