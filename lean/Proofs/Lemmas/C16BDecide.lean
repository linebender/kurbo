import Proofs.Lemmas.C16Spelled
/-! C16B: the well-formedness predicates (`SepOk`, `NumChunk.Ok`, `PtChunk.Ok`, `C16Cmd.ArgsOk`, `C16Spelled.Ok`,
    `c16b_SpelledOk`) are decidable, so the hypotheses of `parse_spelled` can be checked by `decide` on a concrete spelling. -/
namespace Kurbo

theorem c16b_sepOk_iff (s r : List UInt8) :
    SepOk s r ↔ (s.getLast? = some 44 ∧ ∀ c ∈ s.dropLast, isWs c = true) ∨
      ((∀ c ∈ s, isWs c = true) ∧ StopsAt (fun c => isWs c || c == 44) r) := by
  constructor
  · rintro ⟨ws, hws, rfl | ⟨rfl, hr⟩⟩
    · left; simpa using hws
    · right; exact ⟨hws, hr⟩
  · rintro (⟨h1, h2⟩ | ⟨h1, h2⟩)
    · obtain ⟨ys, rfl⟩ := List.getLast?_eq_some_iff.mp h1
      exact ⟨ys, by simpa using h2, .inl rfl⟩
    · exact ⟨s, h1, .inr ⟨rfl, h2⟩⟩

instance (s r : List UInt8) : Decidable (SepOk s r) := decidable_of_iff _ (c16b_sepOk_iff s r).symm

instance (k : NumChunk) (r : List UInt8) : Decidable (k.Ok r) :=
  decidable_of_iff ((∀ c ∈ k.ws, isWs c = true) ∧ k.p.Valid ∧ k.p.Stops (k.sep ++ r) ∧ SepOk k.sep r)
    ⟨fun ⟨a, b, c, d⟩ => ⟨a, b, c, d⟩, fun h => ⟨h.ws, h.valid, h.stops, h.sep⟩⟩

instance (q : PtChunk) (r : List UInt8) : Decidable (q.Ok r) := by unfold PtChunk.Ok; infer_instance

instance (c : C16Cmd NumChunk) (r : List UInt8) : Decidable (c.ArgsOk r) := by
  cases c <;> unfold C16Cmd.ArgsOk <;> infer_instance

instance (s : C16Spelled) (lc : UInt8) (r : List UInt8) : Decidable (s.Ok lc r) :=
  decidable_of_iff ((∀ b ∈ s.ws, isWs b = true) ∧ s.cmd.ArgsOk r ∧
      (s.explicit = false → s.ws = [] ∧ s.cmd.letter = lc ∧ s.cmd.isMove = false ∧ s.cmd.isClose = false))
    ⟨fun ⟨a, b, c⟩ => ⟨a, b, c⟩, fun h => ⟨h.ws, h.args, h.implicit⟩⟩

instance c16b_decSpelledOk : (lc : UInt8) → (ss : List C16Spelled) → (tail : List UInt8) → Decidable (c16b_SpelledOk lc ss tail)
  | _, [], tail => inferInstanceAs (Decidable (∀ b ∈ tail, isWs b = true))
  | lc, s :: ss, tail =>
    have := c16b_decSpelledOk (c16b_nextCmd lc s.cmd) ss tail
    inferInstanceAs (Decidable (s.Ok lc (c16b_spell ss tail) ∧ c16b_SpelledOk (c16b_nextCmd lc s.cmd) ss tail))

instance {α : Type} (cs : List (C16Cmd α)) : Decidable (c16b_startsWithMove cs) := by
  cases cs <;> unfold c16b_startsWithMove <;> infer_instance

end Kurbo
