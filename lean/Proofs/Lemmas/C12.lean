import Proofs.Lemmas.KernelEqs
import Proofs.Lemmas.C20
import Mathlib.Tactic.LinearCombination
/-! The affine kernel in field arithmetic, for C12.  A map is determined by its action (`Affine.ext_act`), so identities
    between maps are proved pointwise; an affine map commutes with interpolation (`affine_lerp`), hence with de Casteljau
    evaluation.  `reflect` is `Affine.mirror` of the normalised normal; a bilinear form on a box lies between its values
    at the corners (`c12_bilin_between`), which is `transform_rect_bbox`.  The file also puts the definitions of
    `affine.rs` / `translate_scale.rs` into the simp set `kdefs` (for every file that imports it) and defines `kaff`. -/
namespace Kurbo
section unfold
variable {K : Type} [Scalar K]

@[kdefs] theorem ts_mul_point_def (T : TranslateScale K) (p : Point K) : T * p = TranslateScale.mul_Point T p := rfl
@[kdefs] theorem ts_mul_ts_def (S T : TranslateScale K) : S * T = TranslateScale.mul_TranslateScale S T := rfl
@[kdefs] theorem rect_mabs_def (r : Rect K) : MAbs.abs r = Rect.abs r := rfl
@[kdefs] theorem rect_coe_def (p q : Point K) : ((↑(p, q) : Rect K)) = Rect.from_points p q := rfl

attribute [kdefs] affine_mul_def affine_mul_point_def affine_mul_line_def affine_mul_quad_def affine_mul_cubic_def
  Affine.mul_Affine Affine.mul_Point Affine.scale Affine.scale_non_uniform Affine.translate Affine.skew
  Affine.rotate Affine.then_translate Affine.then_rotate Affine.then_scale Affine.then_scale_non_uniform
  Affine.scale_about Affine.rotate_about Affine.then_rotate_about Affine.then_scale_about
  Affine.pre_rotate Affine.pre_rotate_about Affine.pre_scale Affine.pre_scale_non_uniform Affine.pre_translate
  Affine.determinant Affine.inverse Affine.translation Affine.with_translation
  Affine.mul_Line Affine.mul_QuadBez Affine.mul_CubicBez Affine.map_unit_square
  TranslateScale.translate TranslateScale.from_scale_about TranslateScale.inverse TranslateScale.to_affine
  TranslateScale.mul_Point TranslateScale.mul_TranslateScale TranslateScale.add_Vec2 TranslateScale.sub_Vec2
  TranslateScale.mul_Line TranslateScale.mul_QuadBez TranslateScale.mul_CubicBez

end unfold
end Kurbo

/-- `kring` with the structure-equality lemma of `TranslateScale` added; `kdefs` and `scalar_norm` go into one ordinary
    `simp only` (no separate single pass for the `Scalar` operations as in `kring`) -/
macro "kaff" : tactic => `(tactic| (
  simp only [kdefs, scalar_norm, Kurbo.Point.mk.injEq, Kurbo.Vec2.mk.injEq, Kurbo.Line.mk.injEq,
    Kurbo.QuadBez.mk.injEq, Kurbo.CubicBez.mk.injEq, Kurbo.Affine.mk.injEq, Kurbo.Rect.mk.injEq,
    Kurbo.TranslateScale.mk.injEq, Prod.mk.injEq]
  <;> (try push_cast) <;> (repeat' (refine And.intro ?_ ?_)) <;> (first | exact True.intro | ring)))

namespace Kurbo
section field
variable {K : Type} [Field K] [LinearOrder K] [IsStrictOrderedRing K] [FloorRing K] [Scalar K] [LawfulScalar K]

theorem Affine.inverse_eq (A : Affine K) :
    A.inverse = ⟨1 / A.determinant * A.c3, -(1 / A.determinant) * A.c1, -(1 / A.determinant) * A.c2,
      1 / A.determinant * A.c0, 1 / A.determinant * (A.c2 * A.c5 - A.c3 * A.c4),
      1 / A.determinant * (A.c1 * A.c4 - A.c0 * A.c5)⟩ := by
  simp only [Affine.inverse, scalar_norm]

theorem Affine.scale_non_uniform_eq (sx sy : K) : Affine.scale_non_uniform sx sy = ⟨sx, 0, 0, sy, 0, 0⟩ := by
  simp only [Affine.scale_non_uniform, scalar_norm, Nat.cast_zero]
theorem Affine.scale_eq (s : K) : Affine.scale s = ⟨s, 0, 0, s, 0, 0⟩ := Affine.scale_non_uniform_eq s s
theorem Affine.skew_eq (kx ky : K) : Affine.skew kx ky = ⟨1, ky, kx, 1, 0, 0⟩ := by
  simp only [Affine.skew, scalar_norm, Nat.cast_zero, Nat.cast_one]
theorem Affine.rotate_eq (th : K) :
    Affine.rotate th = ⟨Scalar.cos th, Scalar.sin th, -Scalar.sin th, Scalar.cos th, 0, 0⟩ := by
  simp only [Affine.rotate, scalar_norm, Nat.cast_zero]
theorem Affine.then_translate_eq (A : Affine K) (v : Vec2 K) :
    A.then_translate v = ⟨A.c0, A.c1, A.c2, A.c3, A.c4 + v.x, A.c5 + v.y⟩ := by
  simp only [Affine.then_translate, scalar_norm]

/-- the shape of `scale_about`/`rotate_about`: `X` conjugated by the translation to `c`, `p ↦ c + X (p − c)` -/
theorem Affine.about_eq (X : Affine K) (c : Point K) :
    (X * Affine.translate (-c.to_vec2)).then_translate c.to_vec2
      = ⟨X.c0, X.c1, X.c2, X.c3, c.x + X.c4 - (X.c0 * c.x + X.c2 * c.y), c.y + X.c5 - (X.c1 * c.x + X.c3 * c.y)⟩ := by
  simp only [Affine.then_translate_eq, Affine.mul_eq, Affine.translate_eq, Point.to_vec2, vec2_neg, sn_neg, mul_one,
    mul_zero, add_zero, zero_add, Affine.mk.injEq, true_and]
  constructor <;> ring

theorem Affine.translate_mul (v : Vec2 K) (A : Affine K) : Affine.translate v * A = A.then_translate v := by
  simp only [Affine.translate_eq, Affine.mul_eq, Affine.then_translate_eq, one_mul, zero_mul, add_zero, zero_add]

theorem Affine.ext_act {A B : Affine K} (h : ∀ p : Point K, A * p = B * p) : A = B := by
  have h0 := h ⟨0, 0⟩
  have h1 := h ⟨1, 0⟩
  have h2 := h ⟨0, 1⟩
  simp only [Affine.act_eq, Point.mk.injEq, mul_zero, mul_one, zero_add, add_zero] at h0 h1 h2
  simp only [h0.1, h0.2, add_left_inj] at h1 h2
  cases A; cases B
  simp only [Affine.mk.injEq]
  exact ⟨h1.1, h1.2, h2.1, h2.2, h0.1, h0.2⟩

theorem Affine.mul_act (A B : Affine K) (p : Point K) : (A * B) * p = A * (B * p) := by
  simp only [Affine.mul_eq, Affine.act_eq, Point.mk.injEq]
  constructor <;> ring

theorem Affine.one_act (p : Point K) : Affine.scale (1 : K) * p = p := by
  rw [Affine.scale_eq, Affine.act_eq]
  simp only [one_mul, zero_mul, add_zero, zero_add]

theorem Affine.inverse_act (A : Affine K) (h : A.determinant ≠ 0) (p : Point K) :
    A.inverse * (A * p) = p ∧ A * (A.inverse * p) = p := by
  have hr : 1 / A.determinant * (A.c0 * A.c3 - A.c1 * A.c2) = 1 := by
    rw [← Affine.determinant_eq, one_div_mul_cancel h]
  obtain ⟨x, y⟩ := p
  simp only [Affine.inverse_eq, Affine.act_eq, Point.mk.injEq]
  generalize 1 / A.determinant = r at hr
  refine ⟨⟨?_, ?_⟩, ?_, ?_⟩
  · linear_combination x * hr
  · linear_combination y * hr
  · linear_combination (x - A.c4) * hr
  · linear_combination (y - A.c5) * hr

theorem Affine.inverse_unique {A B : Affine K} (h : A.determinant ≠ 0) (hB : B * A = Affine.scale 1) : B = A.inverse :=
  Affine.ext_act fun p => by
    have e := Affine.mul_act B A (A.inverse * p)
    rw [hB, Affine.one_act, (Affine.inverse_act A h p).2] at e
    exact e.symm

theorem TranslateScale.to_affine_eq (T : TranslateScale K) :
    T.to_affine = ⟨T.scale, 0, 0, T.scale, T.translation.x, T.translation.y⟩ := by
  simp only [TranslateScale.to_affine, scalar_norm, Nat.cast_zero]

/-- `q ↦ q − 2 (n·(q − p)) n`; for a unit vector `n` the reflection in the line through `p` with normal `n` -/
def Affine.mirror (p : Point K) (n : Vec2 K) : Affine K :=
  ⟨1 - 2 * (n.x * n.x), -2 * (n.x * n.y), -2 * (n.x * n.y), 1 - 2 * (n.y * n.y),
    2 * (n.x * p.x + n.y * p.y) * n.x, 2 * (n.x * p.x + n.y * p.y) * n.y⟩

theorem Affine.reflect_eq (p : Point K) (d : Vec2 K) :
    Affine.reflect p d = Affine.mirror p (⟨d.y, -d.x⟩ : Vec2 K).normalize := by
  simp only [Affine.reflect, Affine.pre_translate, Affine.mirror, Affine.mul_eq, Affine.translate_eq, Point.to_vec2,
    vec2_neg, scalar_norm, Nat.cast_ofNat, Nat.cast_one, mul_one, mul_zero, add_zero, zero_add, Affine.mk.injEq, true_and]
  constructor <;> ring

theorem Affine.mirror_act (p q : Point K) (n : Vec2 K) :
    Affine.mirror p n * q = ⟨q.x - 2 * (n.x * (q.x - p.x) + n.y * (q.y - p.y)) * n.x,
      q.y - 2 * (n.x * (q.x - p.x) + n.y * (q.y - p.y)) * n.y⟩ := by
  simp only [Affine.mirror, Affine.act_eq, Point.mk.injEq]
  constructor <;> ring

theorem Affine.mirror_involution (p : Point K) (n : Vec2 K) (hn : n.x * n.x + n.y * n.y = 1) :
    Affine.mirror p n * Affine.mirror p n = Affine.scale 1 ∧ (Affine.mirror p n).determinant = -1 := by
  refine ⟨Affine.ext_act fun q => ?_, ?_⟩
  · rw [Affine.mul_act, Affine.mirror_act, Affine.mirror_act, Affine.one_act]
    congr 1
    · linear_combination (4 * (n.x * (q.x - p.x) + n.y * (q.y - p.y)) * n.x) * hn
    · linear_combination (4 * (n.x * (q.x - p.x) + n.y * (q.y - p.y)) * n.y) * hn
  · rw [Affine.determinant_eq, Affine.mirror]
    linear_combination (-2 : K) * hn

theorem c12_normal_unit (d : Vec2 K) (hh : Scalar.hypot d.y (-d.x) ^ 2 = d.x ^ 2 + d.y ^ 2) (hd : d.x ^ 2 + d.y ^ 2 ≠ 0) :
    (⟨d.y, -d.x⟩ : Vec2 K).normalize = ⟨d.y * (1 / Scalar.hypot d.y (-d.x)), -d.x * (1 / Scalar.hypot d.y (-d.x))⟩ ∧
    (1 / Scalar.hypot d.y (-d.x)) ^ 2 * (d.x ^ 2 + d.y ^ 2) = 1 := by
  refine ⟨by simp only [Vec2.normalize, Vec2.hypot, vec2_div, scalar_norm], ?_⟩
  rw [← hh] at hd ⊢
  rw [one_div, inv_pow, inv_mul_cancel₀ hd]

theorem affine_lerp (A : Affine K) (p q : Point K) (t : K) : A * p.lerp q t = (A * p).lerp (A * q) t := by
  simp only [Point.lerp_eq, Affine.act_eq, Point.mk.injEq]
  constructor <;> ring

end field

section order
variable {K : Type} [Field K] [LinearOrder K] [IsStrictOrderedRing K]

theorem c12_between_map {α β : Type} [LinearOrder α] [LinearOrder β] {f : α → β} (hf : Monotone f ∨ Antitone f)
    {x x0 x1 : α} (h0 : min x0 x1 ≤ x) (h1 : x ≤ max x0 x1) : min (f x0) (f x1) ≤ f x ∧ f x ≤ max (f x0) (f x1) := by
  rcases hf with hf | hf
  · rw [← hf.map_min, ← hf.map_max]
    exact ⟨hf h0, hf h1⟩
  · rw [← hf.map_max, ← hf.map_min]
    exact ⟨hf h1, hf h0⟩

theorem c12_mul_mono_or_anti (k : K) : Monotone (fun w : K => k * w) ∨ Antitone (fun w : K => k * w) :=
  (le_total 0 k).imp monotone_mul_left_of_nonneg antitone_mul_left

/-- `c12_between_map` in `x` for the given `y`, then in `y` at both ends -/
theorem c12_bilin_between (a b c : K) {x y x0 x1 y0 y1 : K}
    (hx0 : min x0 x1 ≤ x) (hx1 : x ≤ max x0 x1) (hy0 : min y0 y1 ≤ y) (hy1 : y ≤ max y0 y1) :
    min (min (a * x0 + b * y0 + c) (a * x0 + b * y1 + c)) (min (a * x1 + b * y0 + c) (a * x1 + b * y1 + c))
      ≤ a * x + b * y + c ∧
    a * x + b * y + c
      ≤ max (max (a * x0 + b * y0 + c) (a * x0 + b * y1 + c)) (max (a * x1 + b * y0 + c) (a * x1 + b * y1 + c)) := by
  have hx := c12_between_map ((c12_mul_mono_or_anti a).imp (fun h => (h.add_const (b * y)).add_const c)
    (fun h => (h.add_const (b * y)).add_const c)) hx0 hx1
  have hy := fun z : K => c12_between_map ((c12_mul_mono_or_anti b).imp (fun h => (h.const_add (a * z)).add_const c)
    (fun h => (h.const_add (a * z)).add_const c)) hy0 hy1
  exact ⟨(min_le_min (hy x0).1 (hy x1).1).trans hx.1, hx.2.trans (max_le_max (hy x0).2 (hy x1).2)⟩

theorem c12_between_of_scaled (s t x x0 x1 : K) (hs : s ≠ 0) (h0 : min (s * x0 + t) (s * x1 + t) ≤ s * x + t)
    (h1 : s * x + t ≤ max (s * x0 + t) (s * x1 + t)) : min x0 x1 ≤ x ∧ x ≤ max x0 x1 := by
  rcases lt_or_gt_of_ne hs with hneg | hpos
  · have hf : StrictAnti fun w : K => s * w + t := (strictAnti_mul_left hneg).add_const t
    rw [← hf.antitone.map_max, hf.le_iff_ge] at h0
    rw [← hf.antitone.map_min, hf.le_iff_ge] at h1
    exact ⟨h1, h0⟩
  · have hf : StrictMono fun w : K => s * w + t := (strictMono_mul_left_of_pos hpos).add_const t
    rw [← hf.monotone.map_min, hf.le_iff_le] at h0
    rw [← hf.monotone.map_max, hf.le_iff_le] at h1
    exact ⟨h0, h1⟩

end order

section box
variable {K : Type} [Field K] [LinearOrder K] [IsStrictOrderedRing K] [FloorRing K] [Scalar K] [LawfulScalar K]

/-- `transform_rect_bbox` is the union of two `from_points` boxes of corner images -/
theorem Affine.transform_rect_bbox_touches (A : Affine K) (r : Rect K) :
    (A.transform_rect_bbox r).Touches
      (fun z => ∃ p, p ∈ ([⟨r.x0, r.y0⟩, ⟨r.x0, r.y1⟩, ⟨r.x1, r.y0⟩, ⟨r.x1, r.y1⟩] : List (Point K)) ∧ A * p = z) :=
  (Rect.touches_from_points ⟨⟨r.x0, r.y0⟩, by simp, rfl⟩ ⟨⟨r.x0, r.y1⟩, by simp, rfl⟩).union
    (Rect.touches_from_points ⟨⟨r.x1, r.y0⟩, by simp, rfl⟩ ⟨⟨r.x1, r.y1⟩, by simp, rfl⟩)

end box
end Kurbo
