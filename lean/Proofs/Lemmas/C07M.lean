import Kurbo.PathMut
/-! Vocabulary and helper lemmas for `Proofs/C07M.lean`: the list semantics of the `BezPath` mutators. -/
set_option linter.unusedSectionVars false
namespace Kurbo
variable {K : Type} [Scalar K]

/-- the "obvious list function" of a builder step -/
def mutSpec (s : List (PathEl K)) : MutOp K → List (PathEl K)
  | .new => []
  | .with_capacity _ => []
  | .from_vec v => v
  | .push el => s ++ [el]
  | .pop => s.dropLast
  | .truncate n => s.take n
  | .extend els => s ++ els
  | .move_to p => s ++ [.MoveTo p]
  | .line_to p => s ++ [.LineTo p]
  | .quad_to p1 p2 => s ++ [.QuadTo p1 p2]
  | .curve_to p1 p2 p3 => s ++ [.CurveTo p1 p2 p3]
  | .close_path => s ++ [.ClosePath]
  | .apply_affine a => s.map (fun el => a * el)

/-- the values returned by the `pop`s of a history run on `s` under the list semantics -/
def popValues (s : List (PathEl K)) : List (MutOp K) → List (Option (PathEl K))
  | [] => []
  | .pop :: ops => s.getLast? :: popValues s.dropLast ops
  | op :: ops => popValues (mutSpec s op) ops

/-- the invariant asserted by `from_vec` and `push`: empty, or the first element is a `MoveTo` -/
def PathInv (s : List (PathEl K)) : Prop := s = [] ∨ BezPath.firstIsMoveTo s = true

instance (s : List (PathEl K)) : Decidable (PathInv s) := inferInstanceAs (Decidable (_ ∨ _))

/-- the element a drawing method (`move_to`, `line_to`, `quad_to`, `curve_to`, `close_path`) or `push` appends -/
def MutOp.appended : MutOp K → Option (PathEl K)
  | .push el => some el
  | .move_to p => some (.MoveTo p)
  | .line_to p => some (.LineTo p)
  | .quad_to p1 p2 => some (.QuadTo p1 p2)
  | .curve_to p1 p2 p3 => some (.CurveTo p1 p2 p3)
  | .close_path => some .ClosePath
  | _ => none

def MutOp.isDrawing : MutOp K → Bool
  | .move_to _ | .line_to _ | .quad_to _ _ | .curve_to _ _ _ | .close_path => true
  | _ => false

/-- steps that keep a non-empty path non-empty: the drawing methods, `push`, `extend`, `apply_affine` -/
def MutOp.isGrowing : MutOp K → Bool
  | .move_to _ | .line_to _ | .quad_to _ _ | .curve_to _ _ _ | .close_path | .push _ | .extend _ | .apply_affine _ => true
  | _ => false

/-- the steps that assert `!self.0.is_empty()` before pushing -/
def MutOp.needsNonEmpty : MutOp K → Bool
  | .line_to _ | .quad_to _ _ | .curve_to _ _ _ | .close_path => true
  | _ => false

theorem firstIsMoveTo_ne_nil {s : List (PathEl K)} (h : BezPath.firstIsMoveTo s = true) : s ≠ [] := by
  intro hs; rw [hs] at h; cases h

theorem firstIsMoveTo_singleton (el : PathEl K) : BezPath.firstIsMoveTo [el] = (match el with | .MoveTo _ => true | _ => false) := by
  cases el <;> rfl

theorem firstIsMoveTo_append_of_ne_nil {s : List (PathEl K)} (h : s ≠ []) (t : List (PathEl K)) :
    BezPath.firstIsMoveTo (s ++ t) = BezPath.firstIsMoveTo s := by
  cases s with
  | nil => exact absurd rfl h
  | cons e r => cases e <;> rfl

theorem firstIsMoveTo_append {s : List (PathEl K)} (h : BezPath.firstIsMoveTo s = true) (t : List (PathEl K)) :
    BezPath.firstIsMoveTo (s ++ t) = true := by
  rw [firstIsMoveTo_append_of_ne_nil (firstIsMoveTo_ne_nil h), h]

theorem firstIsMoveTo_map (a : Affine K) (s : List (PathEl K)) :
    BezPath.firstIsMoveTo (s.map (fun el => a * el)) = BezPath.firstIsMoveTo s := by
  cases s with
  | nil => rfl
  | cons e r => cases e <;> rfl

theorem PathInv.take {s : List (PathEl K)} (h : PathInv s) (n : Nat) : PathInv (s.take n) := by
  cases n with
  | zero => exact .inl rfl
  | succ n =>
    cases s with
    | nil => exact .inl rfl
    | cons e r => exact h.imp (fun h => nomatch h) fun h => by cases e <;> first | rfl | cases h

theorem push_eq (s : BezPath K) (el : PathEl K) :
    s.push el = if BezPath.firstIsMoveTo (s ++ [el]) then .ok (s ++ [el]) else .panic .mustBeginWithMoveTo := rfl

theorem push_ok_of_first {s : BezPath K} (h : BezPath.firstIsMoveTo s = true) (el : PathEl K) : s.push el = .ok (s ++ [el]) := by
  rw [push_eq, firstIsMoveTo_append h]; rfl

/-- the value a step contributes to the list of popped values -/
def popOut (out : Option (Option (PathEl K))) : List (Option (PathEl K)) :=
  match out with
  | some r => [r]
  | none => []

theorem mutRun_cons_ok {s p : BezPath K} {op : MutOp K} {out : Option (Option (PathEl K))} (ops : List (MutOp K))
    (h : mutStep s op = .ok (p, out)) :
    mutRun s (op :: ops) = (match mutRun p ops with
      | .panic m => .panic m
      | .ok (q, outs) => .ok (q, popOut out ++ outs)) := by
  cases out <;> simp only [mutRun, h, popOut] <;> cases mutRun p ops <;> rfl

theorem mutRun_cons_panic {s : BezPath K} {op : MutOp K} {m : PanicMsg} (ops : List (MutOp K)) (h : mutStep s op = .panic m) :
    mutRun s (op :: ops) = .panic m := by
  simp only [mutRun, h]

theorem push_ok {s q : BezPath K} {el : PathEl K} (h : s.push el = .ok q) :
    BezPath.firstIsMoveTo q = true ∧ q = s ++ [el] := by
  rw [push_eq] at h
  split at h
  · rename_i hf; injection h with h; subst h; exact ⟨hf, rfl⟩
  · cases h

theorem mutStep_appended {s s' : BezPath K} {op : MutOp K} {out : Option (Option (PathEl K))} {el : PathEl K}
    (ha : op.appended = some el) (h : mutStep s op = .ok (s', out)) : s.push el = .ok s' ∧ out = none := by
  have hmatch : ∀ X : MutRes (BezPath K),
      (match X with | .ok p => MutRes.ok (p, (none : Option (Option (PathEl K)))) | .panic m => .panic m) = .ok (s', out) →
      X = .ok s' ∧ out = none := by
    intro X hX
    cases X with
    | ok p => injection hX with hX; injection hX with h1 h2; exact ⟨by rw [h1], h2.symm⟩
    | panic m => cases hX
  have hguard : ∀ e : PathEl K,
      (if s.isEmpty then MutRes.panic .uninitializedSubpath else s.push e) = .ok s' → s.push e = .ok s' := by
    intro e hq
    split at hq
    · cases hq
    · exact hq
  cases op with
  | push e | move_to p => cases ha; exact hmatch _ h
  | line_to p | quad_to p1 p2 | curve_to p1 p2 p3 | close_path =>
    cases ha; obtain ⟨hx, ho⟩ := hmatch _ h; exact ⟨hguard _ hx, ho⟩
  | _ => cases ha

theorem mutStep_growing {s : BezPath K} (hs : BezPath.firstIsMoveTo s = true) (op : MutOp K) (hop : op.isGrowing = true) :
    mutStep s op = .ok (mutSpec s op, none) ∧ BezPath.firstIsMoveTo (mutSpec s op) = true := by
  have hne : s.isEmpty = false := by
    cases s with
    | nil => cases hs
    | cons e r => rfl
  cases op <;> first
    | (simp only [MutOp.isGrowing, Bool.false_eq_true] at hop; done)
    | (refine ⟨?_, ?_⟩
       · simp only [mutStep, BezPath.move_to, BezPath.line_to, BezPath.quad_to, BezPath.curve_to, BezPath.close_path, hne,
           Bool.false_eq_true, if_false, push_ok_of_first hs, mutSpec, BezPath.extend, BezPath.apply_affine]
       · simp only [mutSpec, firstIsMoveTo_append hs, firstIsMoveTo_map, hs])

end Kurbo
