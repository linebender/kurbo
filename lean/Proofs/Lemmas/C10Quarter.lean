import Proofs.Lemmas.C10Real
import Mathlib.Analysis.SpecialFunctions.Sqrt
/-! The radial error of one circular-arc cubic: the polynomial identity for `|B(t) − c|² − r²` of the cubic between the
    angles `μ − φ` and `μ + φ`, and the quarter-circle cubic with the fixed arm `0.551915024494`, which stays within
    `1.9608e-4·|r|` of the circle. -/
namespace Kurbo

/-- x-coordinate of the cubic with control points `(1,0), (1,a), (a,1), (0,1)` -/
def qX (a t : ℝ) : ℝ := (1 - t) ^ 3 + 3 * (1 - t) ^ 2 * t + 3 * a * (1 - t) * t ^ 2
def qY (a t : ℝ) : ℝ := 3 * a * (1 - t) ^ 2 * t + 3 * (1 - t) * t ^ 2 + t ^ 3

/-- `|B(t)|² − 1` is a cubic in `σ = t(1 − t)` without constant and linear term -/
theorem quarter_identity (a t : ℝ) :
    qX a t ^ 2 + qY a t ^ 2
      = 1 + ((t * (1 - t)) ^ 2 * (9 * a ^ 2 + 6 * a - 6) - (t * (1 - t)) ^ 3 * (2 * (2 - 3 * a) ^ 2)) := by
  unfold qX qY; ring

/-- the arm constant of the fixed branch of `Circle::path_elements` -/
noncomputable def armFixed : ℝ := 551915024494 / 1000000000000
/-- the `1.9608e-4` of its branch test -/
noncomputable def epsFixed : ℝ := 19608 / 100000000

theorem sigma_range {t : ℝ} (h0 : 0 ≤ t) (h1 : t ≤ 1) : 0 ≤ t * (1 - t) ∧ t * (1 - t) ≤ 1 / 4 :=
  ⟨mul_nonneg h0 (sub_nonneg.mpr h1), by linear_combination sq_nonneg (t - 1 / 2)⟩

/-- range of `c₂σ² − c₃σ³` on `[0, 1/4]` (`c₂ ≥ 0`, `c₃ > 0`).  Above: the maximum `4c₂³/(27c₃²)` is taken at `σ = 2c₂/(3c₃)`,
    `27c₃²·(hi − c₂σ² + c₃σ³) = (3c₃σ − 2c₂)²(3c₃σ + c₂) + (27c₃²·hi − 4c₂³)`.  Below: `c₂ − c₃σ ≥ c₂ − c₃/4` and `σ² ≤ 1/16`. -/
theorem cubic_sigma_bounds {c2 c3 σ lo hi : ℝ} (hc2 : 0 ≤ c2) (hc3 : 0 < c3) (h0 : 0 ≤ σ) (h1 : σ ≤ 1 / 4)
    (hlo0 : lo ≤ 0) (hlo : lo ≤ 1 / 16 * (c2 - c3 / 4)) (hhi : 4 * c2 ^ 3 ≤ 27 * c3 ^ 2 * hi) :
    lo ≤ σ ^ 2 * c2 - σ ^ 3 * c3 ∧ σ ^ 2 * c2 - σ ^ 3 * c3 ≤ hi := by
  constructor
  · have hσ2 : σ ^ 2 ≤ 1 / 16 := (pow_le_pow_left₀ h0 h1 2).trans_eq (by norm_num)
    have h4 : c2 - c3 / 4 ≤ c2 - c3 * σ := by linear_combination mul_le_mul_of_nonneg_left h1 hc3.le
    rw [show σ ^ 2 * c2 - σ ^ 3 * c3 = σ ^ 2 * (c2 - c3 * σ) by ring]
    refine le_trans ?_ (mul_le_mul_of_nonneg_left h4 (sq_nonneg σ))
    rcases le_or_gt 0 (c2 - c3 / 4) with h | h
    · exact hlo0.trans (mul_nonneg (sq_nonneg σ) h)
    · exact hlo.trans (mul_le_mul_of_nonpos_right hσ2 h.le)
  · have key : 27 * c3 ^ 2 * (hi - (σ ^ 2 * c2 - σ ^ 3 * c3))
        = (3 * c3 * σ - 2 * c2) ^ 2 * (3 * c3 * σ + c2) + (27 * c3 ^ 2 * hi - 4 * c2 ^ 3) := by ring
    have hpos : 0 ≤ 27 * c3 ^ 2 * (hi - (σ ^ 2 * c2 - σ ^ 3 * c3)) := by
      rw [key]
      exact add_nonneg (mul_nonneg (sq_nonneg _) (add_nonneg (mul_nonneg (mul_nonneg (by norm_num) hc3.le) h0) hc2))
        (sub_nonneg.mpr hhi)
    exact sub_nonneg.mp ((mul_nonneg_iff_of_pos_left (by positivity)).mp hpos)

/-- both bounds hold with a margin of ≈ 7e-9 -/
theorem quarter_sq_bounds {t : ℝ} (h0 : 0 ≤ t) (h1 : t ≤ 1) :
    (1 - epsFixed) ^ 2 ≤ qX armFixed t ^ 2 + qY armFixed t ^ 2 ∧ qX armFixed t ^ 2 + qY armFixed t ^ 2 ≤ (1 + epsFixed) ^ 2 := by
  obtain ⟨hs0, hs1⟩ := sigma_range h0 h1
  rw [quarter_identity, ← sub_le_iff_le_add', ← le_sub_iff_add_le']
  exact cubic_sigma_bounds (by unfold armFixed; norm_num) (by unfold armFixed; norm_num) hs0 hs1
    (by unfold epsFixed; norm_num) (by unfold armFixed epsFixed; norm_num) (by unfold armFixed epsFixed; norm_num)

theorem quarter_radial_bound {t : ℝ} (h0 : 0 ≤ t) (h1 : t ≤ 1) :
    |Real.sqrt (qX armFixed t ^ 2 + qY armFixed t ^ 2) - 1| ≤ epsFixed := by
  obtain ⟨hl, hu⟩ := quarter_sq_bounds h0 h1
  have he : (0 : ℝ) ≤ 1 - epsFixed := by unfold epsFixed; norm_num
  have he' : (0 : ℝ) ≤ 1 + epsFixed := by unfold epsFixed; norm_num
  rw [abs_le]
  constructor
  · have := Real.sqrt_le_sqrt hl
    rw [Real.sqrt_sq he] at this
    linarith
  · have := Real.sqrt_le_sqrt hu
    rw [Real.sqrt_sq he'] at this
    linarith

theorem rot_norm_sq {c s : ℝ} (h : c ^ 2 + s ^ 2 = 1) (r X Y : ℝ) :
    (r * (c * X - s * Y)) ^ 2 + (r * (s * X + c * Y)) ^ 2 = r ^ 2 * (X ^ 2 + Y ^ 2) := by
  linear_combination r ^ 2 * (X ^ 2 + Y ^ 2) * h

theorem circleArcCubic_eval [Scalar ℝ] [LawfulScalar ℝ] (ctr : Point ℝ) (r a α β t : ℝ) :
    ((circleArcCubic ctr r a α β).eval t).x - ctr.x
      = r * ((1 - t) ^ 3 * Real.cos α + 3 * (1 - t) ^ 2 * t * (Real.cos α - a * Real.sin α)
          + 3 * (1 - t) * t ^ 2 * (Real.cos β + a * Real.sin β) + t ^ 3 * Real.cos β) ∧
    ((circleArcCubic ctr r a α β).eval t).y - ctr.y
      = r * ((1 - t) ^ 3 * Real.sin α + 3 * (1 - t) ^ 2 * t * (Real.sin α + a * Real.cos α)
          + 3 * (1 - t) * t ^ 2 * (Real.sin β - a * Real.cos β) + t ^ 3 * Real.sin β) := by
  simp only [circleArcCubic, circlePt, kdefs, scalar_norm]
  push_cast
  constructor <;> ring

theorem circleArcCubic_quarter_eval [Scalar ℝ] [LawfulScalar ℝ] (ctr : Point ℝ) (r a α t : ℝ) :
    ((circleArcCubic ctr r a α (α + Real.pi / 2)).eval t).x - ctr.x = r * (Real.cos α * qX a t - Real.sin α * qY a t) ∧
    ((circleArcCubic ctr r a α (α + Real.pi / 2)).eval t).y - ctr.y = r * (Real.sin α * qX a t + Real.cos α * qY a t) := by
  obtain ⟨hx, hy⟩ := circleArcCubic_eval ctr r a α (α + Real.pi / 2) t
  rw [hx, hy, Real.cos_add_pi_div_two, Real.sin_add_pi_div_two, qX, qY]
  constructor <;> ring

theorem circleArcCubic_quarter_dist_sq [Scalar ℝ] [LawfulScalar ℝ] (ctr : Point ℝ) (r a α t : ℝ) :
    (((circleArcCubic ctr r a α (α + Real.pi / 2)).eval t).x - ctr.x) ^ 2
      + (((circleArcCubic ctr r a α (α + Real.pi / 2)).eval t).y - ctr.y) ^ 2
      = r ^ 2 * (qX a t ^ 2 + qY a t ^ 2) := by
  obtain ⟨hx, hy⟩ := circleArcCubic_quarter_eval ctr r a α t
  rw [hx, hy, rot_norm_sq (Real.cos_sq_add_sin_sq α)]

theorem circleArcCubic_quarter_radial [Scalar ℝ] [LawfulScalar ℝ] (ctr : Point ℝ) (r α : ℝ) {t : ℝ} (h0 : 0 ≤ t) (h1 : t ≤ 1) :
    abs (Real.sqrt ((((circleArcCubic ctr r armFixed α (α + Real.pi / 2)).eval t).x - ctr.x) ^ 2
      + (((circleArcCubic ctr r armFixed α (α + Real.pi / 2)).eval t).y - ctr.y) ^ 2) - abs r) ≤ epsFixed * abs r := by
  rw [circleArcCubic_quarter_dist_sq, Real.sqrt_mul (sq_nonneg r), Real.sqrt_sq_eq_abs]
  have := quarter_radial_bound h0 h1
  have hr : 0 ≤ |r| := abs_nonneg r
  set R := abs r with hR
  set q := Real.sqrt (qX armFixed t ^ 2 + qY armFixed t ^ 2) with hq
  calc abs (R * q - R) = R * abs (q - 1) := by
        rw [show R * q - R = R * (q - 1) by ring, abs_mul, abs_of_nonneg hr]
    _ ≤ R * epsFixed := mul_le_mul_of_nonneg_left this hr
    _ = epsFixed * R := mul_comm _ _

theorem circleArcCubic_radial_identity [Scalar ℝ] [LawfulScalar ℝ] (ctr : Point ℝ) (r a μ φ t : ℝ) :
    (((circleArcCubic ctr r a (μ - φ) (μ + φ)).eval t).x - ctr.x) ^ 2
      + (((circleArcCubic ctr r a (μ - φ) (μ + φ)).eval t).y - ctr.y) ^ 2 - r ^ 2
      = r ^ 2 * ((t * (1 - t)) ^ 2 * (9 * a ^ 2 - 12 * Real.sin φ ^ 2 + 12 * a * Real.cos φ * Real.sin φ)
          - 4 * (t * (1 - t)) ^ 3 * (2 * Real.sin φ - 3 * a * Real.cos φ) ^ 2) := by
  obtain ⟨hx, hy⟩ := circleArcCubic_eval ctr r a (μ - φ) (μ + φ) t
  -- in the frame turned by `−μ` the cubic is `X = c + 3asσ`, `Y = (2t−1)(s(1+2σ) − 3acσ)`
  have hx' : ((circleArcCubic ctr r a (μ - φ) (μ + φ)).eval t).x - ctr.x
      = r * (Real.cos μ * (Real.cos φ + 3 * a * Real.sin φ * (t * (1 - t)))
          - Real.sin μ * ((2 * t - 1) * (Real.sin φ * (1 + 2 * (t * (1 - t))) - 3 * a * Real.cos φ * (t * (1 - t))))) := by
    rw [hx, Real.cos_add, Real.sin_add, Real.cos_sub, Real.sin_sub]; ring
  have hy' : ((circleArcCubic ctr r a (μ - φ) (μ + φ)).eval t).y - ctr.y
      = r * (Real.sin μ * (Real.cos φ + 3 * a * Real.sin φ * (t * (1 - t)))
          + Real.cos μ * ((2 * t - 1) * (Real.sin φ * (1 + 2 * (t * (1 - t))) - 3 * a * Real.cos φ * (t * (1 - t))))) := by
    rw [hy, Real.cos_add, Real.sin_add, Real.cos_sub, Real.sin_sub]; ring
  rw [hx', hy', rot_norm_sq (Real.cos_sq_add_sin_sq μ)]
  linear_combination r ^ 2 * (1 + 9 * a ^ 2 * (t * (1 - t)) ^ 2) * Real.cos_sq_add_sin_sq φ

theorem circleAngle_four_succ (k : Nat) : circleAngle 4 (k + 1) = circleAngle 4 k + Real.pi / 2 := by
  rw [circleAngle_succ]; push_cast; ring

theorem eps_radius_lt_tol {r tol : ℝ} (htol : 0 < tol) (hb : |r| / tol < 100000000 / 19608) : epsFixed * |r| < tol := by
  rw [div_lt_iff₀ htol] at hb
  unfold epsFixed
  linarith

end Kurbo
