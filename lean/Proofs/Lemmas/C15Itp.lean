import Kurbo.Solve
import Proofs.Lawful
import Proofs.Lemmas.C15Quad
import Mathlib.Tactic.LinearCombination
import Mathlib.Order.Monotone.Basic
import Mathlib.Order.Interval.Set.Basic
/-! helper lemmas for C15, the ITP bracketing solver (any lawful scalar) -/
set_option linter.unusedSectionVars false
namespace Kurbo
section ordered
variable {K : Type} [Field K] [LinearOrder K] [IsStrictOrderedRing K]

theorem abs_sub_mid_le_iff {a b x : K} : |x - 1 / 2 * (a + b)| ≤ 1 / 2 * (b - a) ↔ a ≤ x ∧ x ≤ b := by
  rw [abs_le]
  constructor <;> rintro ⟨h1, h2⟩ <;> exact ⟨by linear_combination h1, by linear_combination h2⟩

theorem midpoint_mem {a b : K} (hab : a ≤ b) : a ≤ 1 / 2 * (a + b) ∧ 1 / 2 * (a + b) ≤ b :=
  ⟨by linear_combination (1 / 2 : K) * hab, by linear_combination (1 / 2 : K) * hab⟩

theorem falsi_mem {a b ya yb : K} (hab : a ≤ b) (hya : ya < 0) (hyb : 0 < yb) :
    a ≤ (yb * a - ya * b) / (yb - ya) ∧ (yb * a - ya * b) / (yb - ya) ≤ b := by
  have hD : 0 < yb - ya := sub_pos.mpr (hya.trans hyb)
  constructor
  · rw [le_div_iff₀ hD]
    linear_combination mul_nonneg (neg_nonneg.mpr hya.le) (sub_nonneg.mpr hab)
  · rw [div_le_iff₀ hD]
    linear_combination mul_nonneg hyb.le (sub_nonneg.mpr hab)

theorem step_toward_mem {a b x m δ : K} (h1 : a ≤ x) (h2 : x ≤ b) (h3 : a ≤ m) (h4 : m ≤ b) (hδ : 0 ≤ δ) (hc : δ ≤ |m - x|) :
    a ≤ x + (if m - x < 0 then -|δ| else |δ|) ∧ x + (if m - x < 0 then -|δ| else |δ|) ≤ b := by
  rw [abs_of_nonneg hδ]
  split_ifs with hs
  · rw [abs_of_neg hs] at hc
    exact ⟨by linear_combination hc + h3, by linear_combination hδ + h2⟩
  · rw [abs_of_nonneg (not_lt.mp hs)] at hc
    exact ⟨by linear_combination hδ + h1, by linear_combination hc + h4⟩

/-- the projection of `solve_itp`, with `m` the midpoint and `h` half the width of the bracket -/
theorem itpProj_spec {m h r x σ : K} (hx : |x - m| ≤ h) (hr : -h ≤ r) :
    |(if |x - m| ≤ r then x else m - (if σ < 0 then -|r| else |r|)) - m| ≤ h ∧
    (0 ≤ r → |(if |x - m| ≤ r then x else m - (if σ < 0 then -|r| else |r|)) - m| ≤ r) := by
  by_cases hc : |x - m| ≤ r
  · rw [if_pos hc]; exact ⟨hx, fun _ => hc⟩
  · rw [if_neg hc, sub_sub_cancel_left, abs_neg, abs_copysign]
    exact ⟨abs_le.mpr ⟨hr, (not_le.mp hc).le.trans hx⟩, fun h0 => (abs_of_nonneg h0).le⟩

end ordered

variable {K : Type} [Field K] [LinearOrder K] [IsStrictOrderedRing K] [FloorRing K] [Scalar K] [LawfulScalar K]

/-- the truncated point `xt` of one iteration of `solve_itp`: a step of length `δ = k1·(b − a)²` from the regula-falsi point
    towards the midpoint, or the midpoint itself if that is closer (field operations of `K`) -/
def itpXt (k1 : K) (st : ItpSt K) : K :=
  let xf := (st.yb * st.a - st.ya * st.b) / (st.yb - st.ya)
  if k1 * (st.b - st.a) ^ 2 ≤ |1 / 2 * (st.a + st.b) - xf| then
    xf + (if 1 / 2 * (st.a + st.b) - xf < 0 then -|k1 * (st.b - st.a) ^ 2| else |k1 * (st.b - st.a) ^ 2|)
  else 1 / 2 * (st.a + st.b)

/-- the point `xitp` at which one iteration evaluates `f`: `xt` projected to within `r = scaled_epsilon − (b − a)/2` of the
    midpoint -/
def itpX (k1 : K) (st : ItpSt K) : K :=
  if |itpXt k1 st - 1 / 2 * (st.a + st.b)| ≤ st.scaled_epsilon - 1 / 2 * (st.b - st.a) then itpXt k1 st
  else 1 / 2 * (st.a + st.b) -
    (if 1 / 2 * (st.a + st.b) - (st.yb * st.a - st.ya * st.b) / (st.yb - st.ya) < 0
      then -|st.scaled_epsilon - 1 / 2 * (st.b - st.a)| else |st.scaled_epsilon - 1 / 2 * (st.b - st.a)|)

theorem itpStep_eq (f : K → K) (ε k1 : K) (st : ItpSt K) :
    itpStep f ε k1 st =
      if 0 < f (itpX k1 st) then
        .inr { st with b := itpX k1 st, yb := f (itpX k1 st), scaled_epsilon := st.scaled_epsilon * (1 / 2) }
      else if f (itpX k1 st) < 0 then
        .inr { st with a := itpX k1 st, ya := f (itpX k1 st), scaled_epsilon := st.scaled_epsilon * (1 / 2) }
      else .inl (itpX k1 st) := by
  unfold itpStep itpX itpXt
  simp only [scalar_norm]
  push_cast
  simp only [decide_eq_true_eq]

theorem itpXt_mem (k1 : K) (st : ItpSt K) (hab : st.a ≤ st.b) (hya : st.ya < 0) (hyb : 0 < st.yb) (hk : 0 ≤ k1) :
    st.a ≤ itpXt k1 st ∧ itpXt k1 st ≤ st.b := by
  unfold itpXt
  dsimp only
  obtain ⟨hf1, hf2⟩ := falsi_mem hab hya hyb
  have hm := midpoint_mem hab
  by_cases hc : k1 * (st.b - st.a) ^ 2 ≤ |1 / 2 * (st.a + st.b) - (st.yb * st.a - st.ya * st.b) / (st.yb - st.ya)|
  · rw [if_pos hc]; exact step_toward_mem hf1 hf2 hm.1 hm.2 (mul_nonneg hk (sq_nonneg _)) hc
  · rw [if_neg hc]; exact hm

/-- the projection moves `xt` no further than `max r (−r) ≤ (b − a)/2` from the midpoint -/
theorem itpX_spec (k1 : K) (st : ItpSt K) (hab : st.a ≤ st.b) (hya : st.ya < 0) (hyb : 0 < st.yb)
    (hk : 0 ≤ k1) (hse : 0 ≤ st.scaled_epsilon) :
    (st.a ≤ itpX k1 st ∧ itpX k1 st ≤ st.b) ∧
    (0 ≤ st.scaled_epsilon - 1 / 2 * (st.b - st.a) →
      |itpX k1 st - 1 / 2 * (st.a + st.b)| ≤ st.scaled_epsilon - 1 / 2 * (st.b - st.a)) := by
  unfold itpX
  obtain ⟨h1, h2⟩ := itpProj_spec (σ := 1 / 2 * (st.a + st.b) - (st.yb * st.a - st.ya * st.b) / (st.yb - st.ya))
    (abs_sub_mid_le_iff.mpr (itpXt_mem k1 st hab hya hyb hk))
    (show -(1 / 2 * (st.b - st.a)) ≤ st.scaled_epsilon - 1 / 2 * (st.b - st.a) by linear_combination hse)
  exact ⟨abs_sub_mid_le_iff.mp h1, h2⟩

structure ItpInv (f : K → K) (st : ItpSt K) : Prop where
  hab : st.a ≤ st.b
  hya : st.ya = f st.a
  hyb : st.yb = f st.b
  neg : st.ya < 0
  pos : 0 < st.yb
  hse : 0 ≤ st.scaled_epsilon

/-- what `solve_itp` promises about its result `x` on the start bracket `[a, b]` -/
def ItpResult (f : K → K) (ε a b x : K) : Prop :=
  ∃ a' b', a ≤ a' ∧ a' ≤ x ∧ x ≤ b' ∧ b' ≤ b ∧ f a' < 0 ∧ 0 < f b' ∧
    (f x = 0 ∨ (b' - a' ≤ 2 * ε ∧ x = 1 / 2 * (a' + b')))

theorem ItpResult.mono {f : K → K} {ε a b a1 b1 x : K} (h : ItpResult f ε a1 b1 x) (ha : a ≤ a1) (hb : b1 ≤ b) :
    ItpResult f ε a b x := by
  obtain ⟨a', b', h1, h2, h3, h4, h5⟩ := h
  exact ⟨a', b', ha.trans h1, h2, h3, h4.trans hb, h5⟩

theorem itpStep_spec (f : K → K) (ε k1 : K) (st : ItpSt K) (hk : 0 ≤ k1) (hI : ItpInv f st) :
    match itpStep f ε k1 st with
    | .inl x => st.a ≤ x ∧ x ≤ st.b ∧ f x = 0
    | .inr st' => ItpInv f st' ∧ st.a ≤ st'.a ∧ st'.b ≤ st.b ∧ st'.scaled_epsilon = st.scaled_epsilon * (1 / 2) ∧
        (st.b - st.a ≤ 2 * st.scaled_epsilon → st'.b - st'.a ≤ 2 * st'.scaled_epsilon) := by
  obtain ⟨⟨hx1, hx2⟩, hxr⟩ := itpX_spec k1 st hI.hab hI.neg hI.pos hk hI.hse
  rw [itpStep_eq]
  have hse' : 0 ≤ st.scaled_epsilon * (1 / 2) := mul_nonneg hI.hse one_half_pos.le
  by_cases h1 : 0 < f (itpX k1 st)
  · rw [if_pos h1]
    refine ⟨⟨hx1, hI.hya, rfl, hI.neg, h1, hse'⟩, le_refl _, hx2, rfl, fun hw => ?_⟩
    have := (abs_le.mp (hxr (by linear_combination (1 / 2 : K) * hw))).2
    show itpX k1 st - st.a ≤ 2 * (st.scaled_epsilon * (1 / 2))
    linear_combination this
  · rw [if_neg h1]
    by_cases h2 : f (itpX k1 st) < 0
    · rw [if_pos h2]
      refine ⟨⟨hx2, rfl, hI.hyb, h2, hI.pos, hse'⟩, hx1, le_refl _, rfl, fun hw => ?_⟩
      have := (abs_le.mp (hxr (by linear_combination (1 / 2 : K) * hw))).1
      show st.b - itpX k1 st ≤ 2 * (st.scaled_epsilon * (1 / 2))
      linear_combination this
    · rw [if_neg h2]
      exact ⟨hx1, hx2, le_antisymm (not_lt.mp h1) (not_lt.mp h2)⟩

theorem itpLoop_zero (f : K → K) (ε k1 : K) (st : ItpSt K) :
    itpLoop f ε k1 0 st = 1 / 2 * (st.a + st.b) := by
  unfold itpLoop; simp only [scalar_norm]; push_cast; rfl

theorem itpLoop_succ (f : K → K) (ε k1 : K) (fuel : Nat) (st : ItpSt K) :
    itpLoop f ε k1 (fuel + 1) st =
      if 2 * ε < st.b - st.a then
        match itpStep f ε k1 st with
        | .inl x => x
        | .inr st' => itpLoop f ε k1 fuel st'
      else 1 / 2 * (st.a + st.b) := by
  rw [itpLoop]; simp only [scalar_norm]; push_cast; simp only [decide_eq_true_eq]
  split_ifs <;> rfl

theorem itpLoop_induction {f : K → K} {ε k1 : K} {P : Nat → ItpSt K → K → Prop}
    (mid : ∀ fuel st, fuel = 0 ∨ st.b - st.a ≤ 2 * ε → P fuel st (1 / 2 * (st.a + st.b)))
    (ret : ∀ fuel st x, 2 * ε < st.b - st.a → itpStep f ε k1 st = .inl x → P (fuel + 1) st x)
    (step : ∀ fuel st st', 2 * ε < st.b - st.a → itpStep f ε k1 st = .inr st' →
      P fuel st' (itpLoop f ε k1 fuel st') → P (fuel + 1) st (itpLoop f ε k1 fuel st'))
    (fuel : Nat) (st : ItpSt K) : P fuel st (itpLoop f ε k1 fuel st) := by
  induction fuel generalizing st with
  | zero => rw [itpLoop_zero]; exact mid 0 st (Or.inl rfl)
  | succ n ih =>
    rw [itpLoop_succ]
    by_cases hc : 2 * ε < st.b - st.a
    · rw [if_pos hc]
      cases hstep : itpStep f ε k1 st with
      | inl x => exact ret n st x hc hstep
      | inr st' => exact step n st st' hc hstep (ih st')
    · rw [if_neg hc]; exact mid _ st (Or.inr (not_lt.mp hc))

theorem itpStep_budget {f : K → K} {ε k1 : K} {n : Nat} {st st' : ItpSt K} (hk : 0 ≤ k1) (hI : ItpInv f st)
    (hse : st.scaled_epsilon = ε * 2 ^ n) (hw : st.b - st.a ≤ 2 * st.scaled_epsilon) (hc : 2 * ε < st.b - st.a)
    (hstep : itpStep f ε k1 st = .inr st') :
    ∃ n', n = n' + 1 ∧ ItpInv f st' ∧ st'.scaled_epsilon = ε * 2 ^ n' ∧ st'.b - st'.a ≤ 2 * st'.scaled_epsilon ∧
      st.a ≤ st'.a ∧ st'.b ≤ st.b := by
  have hs := itpStep_spec f ε k1 st hk hI
  rw [hstep] at hs
  obtain ⟨hI', h1, h2, hse', hw'⟩ := hs
  cases n with
  | zero => rw [hse, pow_zero, mul_one] at hw; exact absurd hw (not_le.mpr hc)
  | succ n' => exact ⟨n', rfl, hI', by rw [hse', hse, pow_succ]; ring, hw' hw, h1, h2⟩

/-- for a monotone `f` every zero lies in the final sub-bracket, hence within `ε` of the result -/
theorem ItpResult.near_zero {f : K → K} {ε a b x z : K} (h : ItpResult f ε a b x)
    (hf : MonotoneOn f (Set.Icc a b)) (hz : z ∈ Set.Icc a b) (hfz : f z = 0) : f x = 0 ∨ |x - z| ≤ ε := by
  obtain ⟨a', b', h1, h2, h3, h4, h5, h6, h7⟩ := h
  refine h7.imp_right fun ⟨hw, hx⟩ => ?_
  have ha' : a' ∈ Set.Icc a b := ⟨h1, (h2.trans h3).trans h4⟩
  have hb' : b' ∈ Set.Icc a b := ⟨h1.trans (h2.trans h3), h4⟩
  have hz1 : a' ≤ z := le_of_not_ge fun hcon => not_le.mpr h5 (hfz ▸ hf hz ha' hcon)
  have hz2 : z ≤ b' := le_of_not_ge fun hcon => not_le.mpr h6 (hfz ▸ hf hb' hz hcon)
  rw [hx, abs_sub_comm]
  exact (abs_sub_mid_le_iff.mpr ⟨hz1, hz2⟩).trans (by linear_combination (1 / 2 : K) * hw)

theorem ItpResult.near_zero_strict {f : K → K} {ε a b x z : K} (h : ItpResult f ε a b x) (hε : 0 ≤ ε)
    (hf : StrictMonoOn f (Set.Icc a b)) (hz : z ∈ Set.Icc a b) (hfz : f z = 0) : |x - z| ≤ ε := by
  rcases h.near_zero hf.monotoneOn hz hfz with h0 | h0
  · obtain ⟨a', b', h1, h2, h3, h4, -⟩ := h
    have hx : x ∈ Set.Icc a b := ⟨h1.trans h2, h3.trans h4⟩
    have : x = z := hf.injOn hx hz (h0.trans hfz.symm)
    rw [this, sub_self, abs_zero]; exact hε
  · exact h0

/-- the iteration budget `nmax` that `solve_itp` computes -/
def itpNmax (a b ε : K) (n0 : Nat) : Nat :=
  n0 + Scalar.toUSize (max ((⌈Scalar.log2 ((b - a) / ε)⌉ : K) - 1) 0)

theorem solveItp_eq (f : K → K) (a b ε : K) (n0 : Nat) (k1 ya yb : K) :
    solveItp f a b ε n0 k1 ya yb =
      itpLoop f ε k1 (itpNmax a b ε n0 + 64)
        { a := a, b := b, ya := ya, yb := yb, scaled_epsilon := ε * 2 ^ itpNmax a b ε n0 } := by
  unfold solveItp itpNmax
  simp only [scalar_norm]
  push_cast
  rfl

end Kurbo
