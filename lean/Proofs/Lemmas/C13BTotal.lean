import Proofs.Lemmas.C13BClose
/-! C13B: one closed polyline sub-path `M p0 L q L q₁ … Z`, end to end: a run (`Run`, `Proofs/Lemmas/C13Open.lean`) from a
    state in which the iterator is ready to fetch a sub-path (`Ready`) to the state in which it is ready to fetch the next one. -/
set_option linter.unusedSectionVars false
namespace Kurbo
open DashSpec
variable {K : Type} [Field K] [LinearOrder K] [IsStrictOrderedRing K] [FloorRing K] [Scalar K] [LawfulScalar K]

variable [LawfulHypotSq K]

/-- what the closed sub-path `M p0 L q L q₁ … Z` contributes to the output (`act0`, `rem0` = the pattern position at its
    start, `o`, `ph'` = the specification's on-length and position at the closing point): the strokes of `O` have total
    length `o`; `O` is built from the stashed first dash `MoveTo p0 :: N` and what was emitted after it, `E`, as the three
    cases say -/
structure c13b_ClosedOut (p0 q : Point K) (pts : List (Point K)) (o : K) (ph' : Ph K) (act0 : Bool) (rem0 : K)
    (O : List (PathEl K)) : Prop where
  len : ∀ pen, drawnLen pen O = o
  /-- pattern off at the start of the sub-path -/
  off : act0 = false → ph'.act = true → ∃ E', O = E' ++ [.LineTo p0]
  /-- pattern on at the start of the sub-path: the first dash ends before the closing point, or the whole sub-path lies in it -/
  on : act0 = true → ∃ N E, (∀ pen, drawnLen p0 N + drawnLen pen E = o) ∧
    (rem0 < (polyLens p0 (q :: (pts ++ [p0]))).sum →
      (∀ el ∈ N, ∃ p, el = PathEl.LineTo p) ∧
      (ph'.act = true → O = E ++ N ∧ (∀ pen, c13_penAfter pen E = p0) ∧ ∃ E', E = E' ++ [.LineTo p0]) ∧
      (ph'.act = false → O = E ++ .MoveTo p0 :: N) ∧ drawnLen p0 N = rem0) ∧
    (¬ rem0 < (polyLens p0 (q :: (pts ++ [p0]))).sum → E = [] ∧ N = c13b_wholeN p0 q pts ∧ O = .MoveTo p0 :: N)

/-- the iterator after a closed sub-path followed from `s0`: ready for the next sub-path, with `rest` as input, the `init_*`
    fields of `s0` and the phase reset -/
structure c13b_Next (s0 sE : DashIt K) (rest : List (PathEl K)) : Prop where
  ready : Ready sE
  inner : sE.inner = rest
  init : s0.SameInit sE
  phase : sE.PhaseInit

/-- **One closed polyline sub-path.**  `s0` ready, input `M p0 L q L q₁ … L qₖ Z` followed by `rest`; the specification
    walks the perimeter `|p0 q| + … + |qₖ p0|` (the closing line has length 0 if `qₖ = p0`) from the initial pattern
    position, covering the on-length `o` and ending at `ph'`.  A run leads to a state `sE` that is again ready, with `rest`
    as input and the same `init_*` fields, and returns `O` on the way; `O` is as `c13b_ClosedOut` says. -/
theorem c13b_closed_subpath (p0 q : Point K) (pts : List (Point K)) (rest : List (PathEl K)) (s0 : DashIt K)
    (hr : Ready s0) (hin : s0.inner = .MoveTo p0 :: .LineTo q :: (pts.map .LineTo ++ .ClosePath :: rest))
    (hpat : ∀ i, 0 ≤ cyc s0.dashes i) (f : Nat) (o : K) (ph' : Ph K)
    (hw : walkList s0.dashes.size (cyc s0.dashes) f s0.initPh (polyLens p0 (q :: (pts ++ [p0]))) = some (o, ph')) :
    ∃ sE O, Run s0 O sE ∧ c13b_Next s0 sE rest ∧
      c13b_ClosedOut p0 q pts o ph' s0.init_is_active s0.init_dash_remaining O := by
  obtain ⟨hon, hoff⟩ := hr.run_start p0 q _ hin
  -- after `handle_closepath` and the playback of the stash the iterator is ready again
  have hready : ∀ sF : DashIt K, s0.SameInit sF → sF.input_done = false → Ready sF.drained.c13b_afterClose :=
    fun sF hi hd => ⟨rfl, hd, rfl, rfl, rfl, by show sF.init_dash_ix < sF.dashes.size; rw [hi.1, hi.2.1]; exact hr.ix,
      by show 0 ≤ sF.init_dash_remaining; rw [hi.2.2.1]; exact hr.rem⟩
  cases hact : s0.init_is_active
  · -- the pattern is off at the offset: straight to `Working`; the stash stays empty
    obtain ⟨E, sF, g1, g2, g3, g4, g5⟩ := c13b_working_closeA pts rest ⟨p0, q⟩ _ f (s0.startOff p0 q _) o ph' hpat
      (hr.onLine_startOff p0 q _) hr.cp rfl hw
    have hdF : sF.input_done = false := g2.done.trans hr.done
    have hrun := ((hoff hact).trans (Run.steps g1)).trans (RunN.replay_cp g2.state hdF g2.cp rfl).run
    rw [g3.trans hr.stash] at hrun
    have hinitF : s0.SameInit sF := g2.init
    have hpen : ∀ pen, (s0.startOff p0 q (pts.map .LineTo ++ .ClosePath :: rest)).is_active = true →
        pen = (Line.mk p0 q).eval (s0.startOff p0 q (pts.map .LineTo ++ .ClosePath :: rest)).t := fun pen h => by
      rw [startOff_is_active, hact] at h
      cases h
    exact ⟨sF.drained.c13b_afterClose, E, by simpa using hrun, ⟨hready sF hinitF hdF, g2.inner, hinitF, g2.phase⟩,
      fun pen => (g5 pen (hpen pen)).1, fun _ ha => ((g5 p0 (hpen p0)).2 ha).2, fun h => by cases h⟩
  · -- the pattern is on at the offset: the opening `MoveTo` is stashed, then the first dash
    obtain ⟨sF, N, E, b1, b2, b3, b4, b5, b6⟩ := c13b_stash_closeA pts rest ⟨p0, q⟩ _ f (s0.startOn p0 q _)
      o ph' hpat (hr.onLineS_startOn p0 q _ hact) hr.cp hr.stash_ix rfl hw
    have hstF : sF.stash.toList = .MoveTo p0 :: N := by
      rw [b3, startOn_stash, hr.stash]; rfl
    have hdF : sF.input_done = false := b2.done.trans hr.done
    have hrun := ((hon hact).trans b1).trans (RunN.replay_cp b2.state hdF b2.cp rfl).run
    rw [hstF] at hrun
    have hinitF : s0.SameInit sF := b2.init
    rw [show (Line.mk p0 q).eval (s0.startOn p0 q (pts.map .LineTo ++ .ClosePath :: rest)).t = p0 from
      (line_eval_zero_one _).1] at b4 b5
    refine ⟨sF.drained.c13b_afterClose, E ++ List.drop sF.stash_ix (.MoveTo p0 :: N), by simpa using hrun,
      ⟨hready sF hinitF hdF, b2.inner, hinitF, b2.phase⟩, fun pen => ?_, (fun h => by cases h),
      fun _ => ⟨N, E, b4, fun hlt => ?_, fun hlt => ?_⟩⟩
    · -- total length
      rw [drawnLen_append]
      by_cases hlt : s0.init_dash_remaining < (polyLens p0 (q :: (pts ++ [p0]))).sum
      · obtain ⟨d1, -, d3, -⟩ := b5 hlt
        rw [d1, add_comm]
        cases ha : ph'.act
        · exact b4 pen
        · show drawnLen (c13_penAfter pen E) N + drawnLen pen E = o
          rw [(d3 ha).1 pen]
          exact b4 pen
      · obtain ⟨d1, d2, -⟩ := b6 hlt
        rw [d1, add_comm]
        exact b4 _
    · obtain ⟨d1, d2, d3, d4⟩ := b5 hlt
      rw [d1]
      exact ⟨d2, fun ha => by rw [ha]; exact ⟨rfl, d3 ha⟩, fun ha => by rw [ha]; rfl, d4⟩
    · obtain ⟨d1, d2, d3⟩ := b6 hlt
      rw [d1, d2]
      exact ⟨rfl, d3, rfl⟩

/-- the same started by `dash`: `it` = what `dash_impl` builds -/
theorem c13b_dash_closed_reach (p0 q : Point K) (pts : List (Point K)) (rest : List (PathEl K)) (off : K)
    (dashes : Array K) (budget : Nat) (it : DashIt K)
    (hit : dashImpl (.MoveTo p0 :: .LineTo q :: (pts.map .LineTo ++ .ClosePath :: rest)) off dashes = some it)
    (hn : 0 < dashes.size) (h0 : 0 ≤ it.dash_remaining) (hpat : ∀ i, 0 ≤ cyc dashes i)
    (f : Nat) (o : K) (ph' : Ph K)
    (hw : walkList dashes.size (cyc dashes) f it.ph (polyLens p0 (q :: (pts ++ [p0]))) = some (o, ph'))
    (out : List (PathEl K))
    (hout : dash (.MoveTo p0 :: .LineTo q :: (pts.map .LineTo ++ .ClosePath :: rest)) off dashes budget = .ok out) :
    ∃ n' fuel' sE O, collectFrom n' fuel' sE O.reverse = .ok out ∧ c13b_Next it sE rest ∧
      c13b_ClosedOut p0 q pts o ph' it.is_active it.dash_remaining O := by
  obtain ⟨r1, r2, r3, r4, r5⟩ := dashImpl_ready _ off dashes it hit hn h0
  obtain ⟨n, hc⟩ := dash_ok_collectFrom hit hout
  obtain ⟨sE, O, hrun, hnext, hO⟩ := c13b_closed_subpath p0 q pts rest it r1 r2
    (by rw [r3]; exact hpat) f o ph' (by rw [r3, r4]; exact hw)
  obtain ⟨n', fuel', hc'⟩ := hrun.passes hc
  rw [← r5.2.2, ← r5.2.1] at hO
  exact ⟨n', fuel', sE, O, by simpa using hc', hnext, hO⟩

/-- … and when the input ends after the `ClosePath`, `out` is exactly what was collected -/
theorem c13b_dash_closed_out (p0 q : Point K) (pts : List (Point K)) (off : K)
    (dashes : Array K) (budget : Nat) (it : DashIt K)
    (hit : dashImpl (.MoveTo p0 :: .LineTo q :: (pts.map .LineTo ++ [.ClosePath])) off dashes = some it)
    (hn : 0 < dashes.size) (h0 : 0 ≤ it.dash_remaining) (hpat : ∀ i, 0 ≤ cyc dashes i)
    (f : Nat) (o : K) (ph' : Ph K)
    (hw : walkList dashes.size (cyc dashes) f it.ph (polyLens p0 (q :: (pts ++ [p0]))) = some (o, ph'))
    (out : List (PathEl K))
    (hout : dash (.MoveTo p0 :: .LineTo q :: (pts.map .LineTo ++ [.ClosePath])) off dashes budget = .ok out) :
    c13b_ClosedOut p0 q pts o ph' it.is_active it.dash_remaining out := by
  obtain ⟨n', fuel', sE, O, hc, hnext, hO⟩ :=
    c13b_dash_closed_reach p0 q pts [] off dashes budget it hit hn h0 hpat f o ph' hw out hout
  have := Finishes.out
    ⟨sE, Run.refl sE, c13b_stops_end sE hnext.ready.state hnext.ready.done hnext.ready.cp hnext.inner⟩ hc
  rw [List.reverse_reverse, List.append_nil] at this
  subst this
  exact hO

section
omit [LawfulHypotSq K]
theorem c13b_lastPt_eq_getLast (q : Point K) (pts : List (Point K)) :
    c13b_lastPt q pts = (q :: pts).getLast (List.cons_ne_nil q pts) := by
  induction pts generalizing q with
  | nil => rfl
  | cons r pts ih => rw [c13b_lastPt, ih, List.getLast_cons_cons]

theorem c13b_wholeN_eq (start p : Point K) (pts : List (Point K)) :
    c13b_wholeN start p pts = (p :: pts).map .LineTo ++
      if (c13b_lastPt p pts).peq start then [.ClosePath] else [.LineTo start, .ClosePath] := by
  induction pts generalizing p with
  | nil =>
    unfold c13b_wholeN c13b_lastPt
    cases p.peq start <;> rfl
  | cons r pts ih =>
    rw [c13b_wholeN, ih r]
    rfl
end

end Kurbo
