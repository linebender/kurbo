import Kurbo.Stroke
/-! C04, structure (any `[Scalar K]`, no arithmetic law, core Lean only): `do_join` / `do_line` / `inner_join_pivot` read as
    "append these two lists to the forward and the backward path" (`c04_ext`, `c04_joinApp`). -/
set_option linter.unusedSectionVars false
namespace Kurbo
variable {K : Type} [Scalar K]

/-- the elements a source polyline is made of -/
def c04_isPoly : PathEl K → Bool
  | .MoveTo _ => true
  | .LineTo _ => true
  | .ClosePath => true
  | _ => false

/-- the drawing elements the stroker puts after the `MoveTo` of a forward/backward path -/
def c04_isSeg : PathEl K → Bool
  | .LineTo _ => true
  | .CurveTo _ _ _ => true
  | _ => false

def c04_isLine : PathEl K → Bool
  | .LineTo _ => true
  | _ => false

def c04_isCurve : PathEl K → Bool
  | .CurveTo _ _ _ => true
  | _ => false

def c04_Segs (l : List (PathEl K)) : Prop := ∀ e ∈ l, c04_isSeg e = true

theorem c04_Segs_nil : c04_Segs ([] : List (PathEl K)) := fun _ h => by cases h
theorem c04_Segs_append {a b : List (PathEl K)} (ha : c04_Segs a) (hb : c04_Segs b) : c04_Segs (a ++ b) :=
  List.forall_mem_append.2 ⟨ha, hb⟩
theorem c04_Segs_line (p : Point K) : c04_Segs [PathEl.LineTo p] :=
  List.forall_mem_singleton.2 rfl
theorem c04_isSeg_of_isCurve {e : PathEl K} (h : c04_isCurve e = true) : c04_isSeg e = true := by
  cases e <;> first | rfl | cases h
theorem c04_isSeg_of_isLine {e : PathEl K} (h : c04_isLine e = true) : c04_isSeg e = true := by
  cases e <;> first | rfl | cases h
theorem c04_Segs_of_curves {l : List (PathEl K)} (h : ∀ e ∈ l, c04_isCurve e = true) : c04_Segs l :=
  fun e he => c04_isSeg_of_isCurve (h e he)
theorem c04_Segs_of_lines {l : List (PathEl K)} (h : ∀ e ∈ l, c04_isLine e = true) : c04_Segs l :=
  fun e he => c04_isSeg_of_isLine (h e he)
theorem c04_Segs_append_left {a b : List (PathEl K)} (h : c04_Segs (a ++ b)) : c04_Segs a :=
  fun e he => h e (List.mem_append_left _ he)
theorem c04_Segs_append_right {a b : List (PathEl K)} (h : c04_Segs (a ++ b)) : c04_Segs b :=
  fun e he => h e (List.mem_append_right _ he)

/-- a forward/backward path in progress: `MoveTo` followed by drawing elements -/
def c04_PathOK (l : List (PathEl K)) : Prop := ∃ p t, l = PathEl.MoveTo p :: t ∧ c04_Segs t

theorem c04_PathOK_append {l a : List (PathEl K)} (hl : c04_PathOK l) (ha : c04_Segs a) : c04_PathOK (l ++ a) := by
  obtain ⟨p, t, rfl, ht⟩ := hl
  exact ⟨p, t ++ a, rfl, c04_Segs_append ht ha⟩

theorem c04_PathOK_ne_nil {l : List (PathEl K)} (hl : c04_PathOK l) : l ≠ [] := by
  obtain ⟨p, t, rfl, _⟩ := hl
  exact List.cons_ne_nil _ _

theorem c04_roundJoinWith_curves (tol : K) (a : Affine K) (angle : K) : ∀ e ∈ roundJoinWith tol a angle, c04_isCurve e = true := by
  intro e he
  unfold roundJoinWith at he
  rw [List.mem_filterMap] at he
  obtain ⟨x, _, hx⟩ := he
  cases x <;> cases hx <;> rfl

theorem c04_roundJoin_curves (tol : K) (c : Point K) (n : Vec2 K) (angle : K) : ∀ e ∈ roundJoin tol c n angle, c04_isCurve e = true :=
  c04_roundJoinWith_curves _ _ _
theorem c04_roundJoinRev_curves (tol : K) (c : Point K) (n : Vec2 K) (angle : K) : ∀ e ∈ roundJoinRev tol c n angle, c04_isCurve e = true :=
  c04_roundJoinWith_curves _ _ _
theorem c04_roundCap_curves (tol : K) (c : Point K) (n : Vec2 K) : ∀ e ∈ roundCap tol c n, c04_isCurve e = true :=
  c04_roundJoinWith_curves _ _ _

theorem c04_isEmpty_false {α : Type} {l : List α} (h : l ≠ []) : l.isEmpty = false := by
  cases l with
  | nil => exact absurd rfl h
  | cons a l => rfl

/-- `c` with `f` appended to the forward and `b` to the backward path: the form in which `do_join`, `do_line` and
    `inner_join_pivot` are read (`c04_do_join_nonempty`, `c04_do_line_eq`, `c04_inner_join_pivot_eq`) -/
def c04_ext (c : StrokeCtx K) (f b : List (PathEl K)) : StrokeCtx K :=
  { c with forward_path := c.forward_path ++ f, backward_path := c.backward_path ++ b }

@[simp] theorem c04_ext_forward (c : StrokeCtx K) (f b) : (c04_ext c f b).forward_path = c.forward_path ++ f := rfl
@[simp] theorem c04_ext_backward (c : StrokeCtx K) (f b) : (c04_ext c f b).backward_path = c.backward_path ++ b := rfl
@[simp] theorem c04_ext_output (c : StrokeCtx K) (f b) : (c04_ext c f b).output = c.output := rfl
@[simp] theorem c04_ext_start_pt (c : StrokeCtx K) (f b) : (c04_ext c f b).start_pt = c.start_pt := rfl
@[simp] theorem c04_ext_start_norm (c : StrokeCtx K) (f b) : (c04_ext c f b).start_norm = c.start_norm := rfl
@[simp] theorem c04_ext_start_tan (c : StrokeCtx K) (f b) : (c04_ext c f b).start_tan = c.start_tan := rfl
@[simp] theorem c04_ext_last_pt (c : StrokeCtx K) (f b) : (c04_ext c f b).last_pt = c.last_pt := rfl
@[simp] theorem c04_ext_last_tan (c : StrokeCtx K) (f b) : (c04_ext c f b).last_tan = c.last_tan := rfl
@[simp] theorem c04_ext_join_thresh (c : StrokeCtx K) (f b) : (c04_ext c f b).join_thresh = c.join_thresh := rfl

theorem c04_ext_nil (c : StrokeCtx K) : c04_ext c [] [] = c := by
  cases c; simp only [c04_ext, List.append_nil]
theorem c04_ext_nil_right (c : StrokeCtx K) (f : List (PathEl K)) :
    c04_ext c f [] = { c with forward_path := c.forward_path ++ f } := by
  cases c; simp only [c04_ext, List.append_nil]
theorem c04_ext_nil_left (c : StrokeCtx K) (b : List (PathEl K)) :
    c04_ext c [] b = { c with backward_path := c.backward_path ++ b } := by
  cases c; simp only [c04_ext, List.append_nil]
theorem c04_ext_ext (c : StrokeCtx K) (f b f' b' : List (PathEl K)) :
    c04_ext (c04_ext c f b) f' b' = c04_ext c (f ++ f') (b ++ b') := by
  cases c; simp only [c04_ext, List.append_assoc]

/-- the offset vector of `do_join` / `do_line`: the tangent turned by 90° and scaled to half the width -/
def c04_norm (width : K) (tan0 : Vec2 K) : Vec2 K :=
  open Ops in ((Scalar.ofRat (1/2) : K) * width / tan0.hypot) * (⟨-tan0.y, tan0.x⟩ : Vec2 K)

/-- what `inner_join_pivot` appends to the forward path -/
def c04_pivotF (p0 : Point K) (cross : K) : List (PathEl K) :=
  open Ops in if (0 : K) <. cross then [] else if cross <. (0 : K) then [.LineTo p0] else []
/-- what `inner_join_pivot` appends to the backward path -/
def c04_pivotB (p0 : Point K) (cross : K) : List (PathEl K) :=
  open Ops in if (0 : K) <. cross then [.LineTo p0] else []

theorem c04_inner_join_pivot_eq (c : StrokeCtx K) (p0 : Point K) (cross : K) :
    c.inner_join_pivot p0 cross = c04_ext c (c04_pivotF p0 cross) (c04_pivotB p0 cross) := by
  unfold StrokeCtx.inner_join_pivot c04_pivotF c04_pivotB
  split
  · exact (c04_ext_nil_left c _).symm
  · split
    · exact (c04_ext_nil_right c _).symm
    · exact (c04_ext_nil c).symm

/-- the miter point `do_join` puts on the forward path (`cross > 0`) -/
def c04_miterPtF (width : K) (p0 : Point K) (ab cd : Vec2 K) : Point K :=
  open Ops in
  let fp_last := p0 - c04_norm width ab
  let fp_this := p0 - c04_norm width cd
  let h := ab.cross (fp_this - fp_last) / ab.cross cd
  fp_this - cd * h

/-- the miter point `do_join` puts on the backward path (`cross < 0`) -/
def c04_miterPtB (width : K) (p0 : Point K) (ab cd : Vec2 K) : Point K :=
  open Ops in
  let fp_last := p0 + c04_norm width ab
  let fp_this := p0 + c04_norm width cd
  let h := ab.cross (fp_this - fp_last) / ab.cross cd
  fp_this - cd * h

/-- the miter-limit test of `do_join` -/
def c04_miterTest (c : StrokeCtx K) (style : StrokeStyle K) (tan0 : Vec2 K) : Bool :=
  open Ops in
  let cross := c.last_tan.cross tan0
  let dot := c.last_tan.dot tan0
  let hypot := Scalar.hypot cross dot
  (2 : K) * hypot <. (hypot + dot) * spowi style.miter_limit 2

/-- the miter point appended to the forward path, if any -/
def c04_miterF (c : StrokeCtx K) (style : StrokeStyle K) (tan0 : Vec2 K) : List (PathEl K) :=
  open Ops in
  if c04_miterTest c style tan0 then
    if (0 : K) <. c.last_tan.cross tan0 then [.LineTo (c04_miterPtF style.width c.last_pt c.last_tan tan0)] else []
  else []

/-- the miter point appended to the backward path, if any -/
def c04_miterB (c : StrokeCtx K) (style : StrokeStyle K) (tan0 : Vec2 K) : List (PathEl K) :=
  open Ops in
  if c04_miterTest c style tan0 then
    if (0 : K) <. c.last_tan.cross tan0 then []
    else if c.last_tan.cross tan0 <. (0 : K) then [.LineTo (c04_miterPtB style.width c.last_pt c.last_tan tan0)] else []
  else []

/-- the join-skip test of `do_join` (`true`: a join is made) -/
def c04_joinTest (c : StrokeCtx K) (tan0 : Vec2 K) : Bool :=
  open Ops in
  let cross := c.last_tan.cross tan0
  let dot := c.last_tan.dot tan0
  let hypot := Scalar.hypot cross dot
  (dot <=. (0 : K)) || (hypot * c.join_thresh <=. sabs cross)

/-- what `do_join` appends to (forward path, backward path) when the paths are not empty -/
def c04_joinApp (c : StrokeCtx K) (style : StrokeStyle K) (tan0 : Vec2 K) : List (PathEl K) × List (PathEl K) :=
  open Ops in
  let norm := c04_norm style.width tan0
  let p0 := c.last_pt
  let cross := c.last_tan.cross tan0
  let dot := c.last_tan.dot tan0
  if c04_joinTest c tan0 then
    if style.join = 0 then
      (c04_pivotF p0 cross ++ [.LineTo (p0 - norm)], c04_pivotB p0 cross ++ [.LineTo (p0 + norm)])
    else if style.join = 1 then
      (c04_miterF c style tan0 ++ (c04_pivotF p0 cross ++ [.LineTo (p0 - norm)]),
       c04_miterB c style tan0 ++ (c04_pivotB p0 cross ++ [.LineTo (p0 + norm)]))
    else
      let angle := Scalar.atan2 cross dot
      if (0 : K) <. angle then
        (c04_pivotF p0 cross ++ roundJoin c.join_thresh p0 norm angle, c04_pivotB p0 cross ++ [.LineTo (p0 + norm)])
      else
        (c04_pivotF p0 cross ++ [.LineTo (p0 - norm)], c04_pivotB p0 cross ++ roundJoinRev c.join_thresh p0 (-norm) (-angle))
  else ([], [])

open Ops in
theorem c04_do_join_nonempty (c : StrokeCtx K) (style : StrokeStyle K) (tan0 : Vec2 K) (hne : c.forward_path ≠ []) :
    c.do_join style tan0 = c04_ext c (c04_joinApp c style tan0).1 (c04_joinApp c style tan0).2 := by
  obtain ⟨w, j, ml, sc, ec⟩ := style
  unfold StrokeCtx.do_join c04_joinApp
  simp only [c04_isEmpty_false hne, Bool.false_eq_true, if_false]
  by_cases ht : c04_joinTest c tan0 = true
  · have ht' := ht
    simp only [c04_joinTest] at ht'
    simp only [ht, ht', if_true]
    -- in every branch: the pivot, then one more `c04_ext` (`c04_ext_ext`)
    split
    · simp only [c04_inner_join_pivot_eq, if_true]
      exact c04_ext_ext c _ _ _ _
    · simp only [c04_inner_join_pivot_eq, c04_miterF, c04_miterB, if_true, if_false, Nat.succ_ne_zero]
      by_cases hm : c04_miterTest c ⟨w, 1, ml, sc, ec⟩ tan0 = true
      · have hm' := hm
        simp only [c04_miterTest] at hm'
        simp only [hm, hm', if_true]
        by_cases h1 : ((0 : K) <. c.last_tan.cross tan0) = true
        · simp only [h1, if_true]
          rw [← c04_ext_nil_right]
          exact (c04_ext_ext _ _ _ _ _).trans (c04_ext_ext c _ _ _ _)
        · simp only [h1, if_false, Bool.false_eq_true]
          by_cases h2 : (c.last_tan.cross tan0 <. (0 : K)) = true
          · simp only [h2, if_true]
            rw [← c04_ext_nil_left]
            exact (c04_ext_ext _ _ _ _ _).trans (c04_ext_ext c _ _ _ _)
          · simp only [h2, if_false, Bool.false_eq_true]
            exact c04_ext_ext c _ _ _ _
      · have hm' := hm
        simp only [c04_miterTest] at hm'
        simp only [hm, hm', if_false, Bool.false_eq_true]
        exact c04_ext_ext c _ _ _ _
    · rename_i h0 h1
      have h0' : ¬ (j = 0) := fun h => h0 h
      have h1' : ¬ (j = 1) := fun h => h1 h
      simp only [c04_inner_join_pivot_eq, if_neg h0', if_neg h1']
      split
      · exact c04_ext_ext c _ _ _ _
      · exact c04_ext_ext c _ _ _ _
  · have ht' := ht
    simp only [c04_joinTest] at ht'
    simp only [ht, ht', if_false, Bool.false_eq_true]
    exact (c04_ext_nil c).symm

theorem c04_do_join_empty (c : StrokeCtx K) (style : StrokeStyle K) (tan0 : Vec2 K) (he : c.forward_path = []) :
    c.do_join style tan0 =
      { c with forward_path := [.MoveTo (c.last_pt - c04_norm style.width tan0)],
               backward_path := c.backward_path ++ [.MoveTo (c.last_pt + c04_norm style.width tan0)],
               start_tan := tan0, start_norm := c04_norm style.width tan0 } := by
  unfold StrokeCtx.do_join
  simp only [he, List.isEmpty_nil, if_true, List.nil_append]
  rfl

theorem c04_do_line_eq (c : StrokeCtx K) (style : StrokeStyle K) (t : Vec2 K) (p1 : Point K) :
    c.do_line style t p1 =
      { c04_ext c [.LineTo (p1 - c04_norm style.width t)] [.LineTo (p1 + c04_norm style.width t)] with last_pt := p1 } := rfl

theorem c04_pivotF_mem {p0 : Point K} {cross : K} {e : PathEl K} (he : e ∈ c04_pivotF p0 cross) : e = .LineTo p0 := by
  unfold c04_pivotF at he
  split at he
  · cases he
  · split at he
    · exact List.mem_singleton.1 he
    · cases he
theorem c04_pivotB_mem {p0 : Point K} {cross : K} {e : PathEl K} (he : e ∈ c04_pivotB p0 cross) : e = .LineTo p0 := by
  unfold c04_pivotB at he
  split at he
  · exact List.mem_singleton.1 he
  · cases he

open Ops in
theorem c04_miterF_mem {c : StrokeCtx K} {style : StrokeStyle K} {tan0 : Vec2 K} {e : PathEl K} (he : e ∈ c04_miterF c style tan0) :
    e = .LineTo (c04_miterPtF style.width c.last_pt c.last_tan tan0) ∧ c04_miterTest c style tan0 = true ∧
      ((0 : K) <. c.last_tan.cross tan0) = true := by
  unfold c04_miterF at he
  split at he
  · split at he
    · exact ⟨List.mem_singleton.1 he, ‹_›, ‹_›⟩
    · cases he
  · cases he

open Ops in
theorem c04_miterB_mem {c : StrokeCtx K} {style : StrokeStyle K} {tan0 : Vec2 K} {e : PathEl K} (he : e ∈ c04_miterB c style tan0) :
    e = .LineTo (c04_miterPtB style.width c.last_pt c.last_tan tan0) ∧ c04_miterTest c style tan0 = true ∧
      (c.last_tan.cross tan0 <. (0 : K)) = true := by
  unfold c04_miterB at he
  split at he
  · split at he
    · cases he
    · split at he
      · exact ⟨List.mem_singleton.1 he, ‹_›, ‹_›⟩
      · cases he
  · cases he

theorem c04_joinApp_bevel (c : StrokeCtx K) (style : StrokeStyle K) (tan0 : Vec2 K) (hj : style.join = 0)
    (ht : c04_joinTest c tan0 = true) :
    c04_joinApp c style tan0 =
      (c04_pivotF c.last_pt (c.last_tan.cross tan0) ++ [.LineTo (c.last_pt - c04_norm style.width tan0)],
       c04_pivotB c.last_pt (c.last_tan.cross tan0) ++ [.LineTo (c.last_pt + c04_norm style.width tan0)]) := by
  simp only [c04_joinApp, ht, hj, if_true]

theorem c04_joinApp_miter (c : StrokeCtx K) (style : StrokeStyle K) (tan0 : Vec2 K) (hj : style.join = 1)
    (ht : c04_joinTest c tan0 = true) :
    c04_joinApp c style tan0 =
      (c04_miterF c style tan0 ++ (c04_pivotF c.last_pt (c.last_tan.cross tan0) ++ [.LineTo (c.last_pt - c04_norm style.width tan0)]),
       c04_miterB c style tan0 ++ (c04_pivotB c.last_pt (c.last_tan.cross tan0) ++ [.LineTo (c.last_pt + c04_norm style.width tan0)])) := by
  simp only [c04_joinApp, ht, hj, if_true, Nat.succ_ne_zero, if_false]

theorem c04_joinApp_round (c : StrokeCtx K) (style : StrokeStyle K) (tan0 : Vec2 K) (hj0 : style.join ≠ 0)
    (hj1 : style.join ≠ 1) (ht : c04_joinTest c tan0 = true) :
    c04_joinApp c style tan0 = open Ops in
      if (0 : K) <. Scalar.atan2 (c.last_tan.cross tan0) (c.last_tan.dot tan0) then
        (c04_pivotF c.last_pt (c.last_tan.cross tan0) ++
            roundJoin c.join_thresh c.last_pt (c04_norm style.width tan0) (Scalar.atan2 (c.last_tan.cross tan0) (c.last_tan.dot tan0)),
         c04_pivotB c.last_pt (c.last_tan.cross tan0) ++ [.LineTo (c.last_pt + c04_norm style.width tan0)])
      else
        (c04_pivotF c.last_pt (c.last_tan.cross tan0) ++ [.LineTo (c.last_pt - c04_norm style.width tan0)],
         c04_pivotB c.last_pt (c.last_tan.cross tan0) ++
            roundJoinRev c.join_thresh c.last_pt (-(c04_norm style.width tan0)) (-(Scalar.atan2 (c.last_tan.cross tan0) (c.last_tan.dot tan0)))) := by
  simp only [c04_joinApp, ht, hj0, hj1, if_true, if_false]

theorem c04_joinApp_skip (c : StrokeCtx K) (style : StrokeStyle K) (tan0 : Vec2 K) (ht : c04_joinTest c tan0 = false) :
    c04_joinApp c style tan0 = ([], []) := by
  simp only [c04_joinApp, ht, Bool.false_eq_true, if_false]

open Ops in
/-- The case analysis of `c04_joinApp`, once: a property of path elements holds of everything a join appends if it holds of
    the pivot, of the two new offset points, of the miter points (miter joins) and of every `CurveTo` (round joins). -/
theorem c04_joinApp_forall (P : PathEl K → Prop) (c : StrokeCtx K) (style : StrokeStyle K) (tan0 : Vec2 K)
    (hp : P (.LineTo c.last_pt))
    (hmf : style.join = 1 → c04_miterTest c style tan0 = true → ((0 : K) <. c.last_tan.cross tan0) = true →
      P (.LineTo (c04_miterPtF style.width c.last_pt c.last_tan tan0)))
    (hmb : style.join = 1 → c04_miterTest c style tan0 = true → (c.last_tan.cross tan0 <. (0 : K)) = true →
      P (.LineTo (c04_miterPtB style.width c.last_pt c.last_tan tan0)))
    (hf : P (.LineTo (c.last_pt - c04_norm style.width tan0))) (hb : P (.LineTo (c.last_pt + c04_norm style.width tan0)))
    (hr : style.join ≠ 0 → style.join ≠ 1 → ∀ e, c04_isCurve e = true → P e) :
    (∀ e ∈ (c04_joinApp c style tan0).1, P e) ∧ (∀ e ∈ (c04_joinApp c style tan0).2, P e) := by
  have hpf : ∀ e ∈ c04_pivotF c.last_pt (c.last_tan.cross tan0), P e := fun e he => c04_pivotF_mem he ▸ hp
  have hpb : ∀ e ∈ c04_pivotB c.last_pt (c.last_tan.cross tan0), P e := fun e he => c04_pivotB_mem he ▸ hp
  have hf' := List.forall_mem_append.2 ⟨hpf, List.forall_mem_singleton.2 hf⟩
  have hb' := List.forall_mem_append.2 ⟨hpb, List.forall_mem_singleton.2 hb⟩
  cases ht : c04_joinTest c tan0 with
  | false => rw [c04_joinApp_skip c style tan0 ht]; exact ⟨nofun, nofun⟩
  | true =>
    by_cases h0 : style.join = 0
    · rw [c04_joinApp_bevel c style tan0 h0 ht]; exact ⟨hf', hb'⟩
    · by_cases h1 : style.join = 1
      · rw [c04_joinApp_miter c style tan0 h1 ht]
        refine ⟨List.forall_mem_append.2 ⟨fun e he => ?_, hf'⟩, List.forall_mem_append.2 ⟨fun e he => ?_, hb'⟩⟩
        · obtain ⟨rfl, hm, hx⟩ := c04_miterF_mem he
          exact hmf h1 hm hx
        · obtain ⟨rfl, hm, hx⟩ := c04_miterB_mem he
          exact hmb h1 hm hx
      · rw [c04_joinApp_round c style tan0 h0 h1 ht]
        split
        · exact ⟨List.forall_mem_append.2 ⟨hpf, fun e he => hr h0 h1 e (c04_roundJoin_curves _ _ _ _ e he)⟩, hb'⟩
        · exact ⟨hf', List.forall_mem_append.2 ⟨hpb, fun e he => hr h0 h1 e (c04_roundJoinRev_curves _ _ _ _ e he)⟩⟩

theorem c04_joinApp_segs (c : StrokeCtx K) (style : StrokeStyle K) (tan0 : Vec2 K) :
    c04_Segs (c04_joinApp c style tan0).1 ∧ c04_Segs (c04_joinApp c style tan0).2 :=
  c04_joinApp_forall (fun e => c04_isSeg e = true) c style tan0 rfl (fun _ _ _ => rfl) (fun _ _ _ => rfl) rfl rfl
    (fun _ _ _ he => c04_isSeg_of_isCurve he)

theorem c04_joinApp_lines (c : StrokeCtx K) (style : StrokeStyle K) (tan0 : Vec2 K) (hj : style.join = 0 ∨ style.join = 1) :
    (∀ e ∈ (c04_joinApp c style tan0).1, c04_isLine e = true) ∧ (∀ e ∈ (c04_joinApp c style tan0).2, c04_isLine e = true) :=
  c04_joinApp_forall (fun e => c04_isLine e = true) c style tan0 rfl (fun _ _ _ => rfl) (fun _ _ _ => rfl) rfl rfl
    (fun h0 h1 => (hj.elim h0 h1).elim)

end Kurbo
