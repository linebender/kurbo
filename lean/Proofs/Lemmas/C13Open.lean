import Proofs.Lemmas.C13Sim
/-! C13, end to end on one open polyline sub-path: `dash` = `dashCollect ∘ dashImpl` followed through
    `NeedInput → ToStash (first dash, withheld) → Working → FromStash (playback)`.  What `collect()` does between two states
    is a run (`RunN`, `Run`); the theorems about sub-paths, here and for closed sub-paths (`C13B*.lean`), are statements about
    runs, and `dash` enters only at the ends (`dash_ok_collectFrom`, `Finishes.out`, `RunN.returns`). -/
set_option linter.unusedSectionVars false
namespace Kurbo
open DashSpec
variable {K : Type} [Field K] [LinearOrder K] [IsStrictOrderedRing K] [FloorRing K] [Scalar K] [LawfulScalar K]

/-- `collect()` continued from inside a `next` call that has `fuel` rounds left -/
def collectFrom (n fuel : Nat) (s : DashIt K) (acc : List (PathEl K)) : DashRes K :=
  match s.next fuel with
  | .some el s' => dashCollect n s' (el :: acc)
  | .none _ => .ok acc.reverse
  | .panic => .panic
  | .outOfFuel => .outOfFuel

theorem dashCollect_succ (n : Nat) (s : DashIt K) (acc : List (PathEl K)) :
    dashCollect (n + 1) s acc = collectFrom n 100000 s acc := by
  unfold collectFrom
  rw [dashCollect]
  rfl

theorem collectFrom_zero (n : Nat) (s : DashIt K) (acc out : List (PathEl K)) :
    collectFrom n 0 s acc ≠ .ok out := by
  unfold collectFrom DashIt.next
  intro h; cases h

theorem dashCollect_zero (s : DashIt K) (acc out : List (PathEl K)) : dashCollect 0 s acc ≠ .ok out := by
  unfold dashCollect
  intro h; cases h

theorem collectFrom_silent {s s1 : DashIt K} {fuel : Nat} (e : s.next (fuel + 1) = s1.next fuel) (n : Nat)
    (acc : List (PathEl K)) : collectFrom n (fuel + 1) s acc = collectFrom n fuel s1 acc := by
  unfold collectFrom
  rw [e]

theorem collectFrom_emit {s s1 : DashIt K} {el : PathEl K} {fuel : Nat} (e : s.next (fuel + 1) = .some el s1) (n : Nat)
    (acc : List (PathEl K)) : collectFrom n (fuel + 1) s acc = dashCollect n s1 (el :: acc) := by
  unfold collectFrom
  rw [e]

/-! ### runs: rounds of the loop inside `next`, followed across `next` calls

    `RunN k s E s'`: `k` rounds lead from `s` to `s'` and return the elements `E`.  A round enters as an equation about
    `next` (`next_working_some`, `next_toStash_none`, `next_stash_end`, …).  A run is read in two directions: every
    `collect()` that is at `s` and ends normally passes through `s'` (`RunN.passes`; the count plays no part: `Run`), and with
    `k` rounds of fuel and `E.length` units of budget `collect()` does get from `s` to `s'` (`RunN.fwd`, `RunN.returns`). -/

inductive RunN : Nat → DashIt K → List (PathEl K) → DashIt K → Prop
  | refl (s : DashIt K) : RunN 0 s [] s
  | silent {s s1 s2 : DashIt K} {k : Nat} {E : List (PathEl K)} :
      (∀ fuel, s.next (fuel + 1) = s1.next fuel) → RunN k s1 E s2 → RunN (k + 1) s E s2
  | emit {s s1 s2 : DashIt K} {el : PathEl K} {k : Nat} {E : List (PathEl K)} :
      (∀ fuel, s.next (fuel + 1) = .some el s1) → RunN k s1 E s2 → RunN (k + 1) s (el :: E) s2

theorem RunN.trans {k₁ k₂ : Nat} {a b c : DashIt K} {E₁ E₂ : List (PathEl K)} (h₁ : RunN k₁ a E₁ b)
    (h₂ : RunN k₂ b E₂ c) : RunN (k₁ + k₂) a (E₁ ++ E₂) c := by
  induction h₁ with
  | refl s => rw [Nat.zero_add]; exact h₂
  | silent e _ ih => rw [Nat.succ_add]; exact RunN.silent e (ih h₂)
  | emit e _ ih => rw [Nat.succ_add]; exact RunN.emit e (ih h₂)

/-- backwards: every `collect()` that is at `s` (inside a `next` call) and ends normally passes through `s'`, having
    collected `E` in between -/
theorem RunN.passes {k : Nat} {s s' : DashIt K} {E : List (PathEl K)} (h : RunN k s E s') :
    ∀ (n fuel : Nat) (acc out : List (PathEl K)), collectFrom n fuel s acc = .ok out →
      ∃ n' fuel', collectFrom n' fuel' s' (E.reverse ++ acc) = .ok out := by
  induction h with
  | refl s => exact fun n fuel _ _ hc => ⟨n, fuel, hc⟩
  | silent e _ ih =>
    intro n fuel acc out hc
    cases fuel with
    | zero => exact absurd hc (collectFrom_zero _ _ _ _)
    | succ fuel => exact ih n fuel acc out (by rwa [collectFrom_silent (e fuel)] at hc)
  | @emit s s1 s2 el k E e _ ih =>
    intro n fuel acc out hc
    cases fuel with
    | zero => exact absurd hc (collectFrom_zero _ _ _ _)
    | succ fuel =>
      rw [collectFrom_emit (e fuel)] at hc
      cases n with
      | zero => exact absurd hc (dashCollect_zero _ _ _)
      | succ n =>
        -- the next `next` call starts with full fuel
        obtain ⟨n', fuel', h'⟩ := ih n 100000 (el :: acc) out (by rwa [dashCollect_succ] at hc)
        exact ⟨n', fuel', by rwa [List.reverse_cons, List.append_assoc]⟩

def Run (s : DashIt K) (E : List (PathEl K)) (s' : DashIt K) : Prop := ∃ k, RunN k s E s'

theorem RunN.run {k : Nat} {s s' : DashIt K} {E : List (PathEl K)} (h : RunN k s E s') : Run s E s' := ⟨k, h⟩

theorem Run.refl (s : DashIt K) : Run s [] s := ⟨0, .refl s⟩

theorem Run.trans {a b c : DashIt K} {E₁ E₂ : List (PathEl K)} (h₁ : Run a E₁ b) (h₂ : Run b E₂ c) :
    Run a (E₁ ++ E₂) c := by
  obtain ⟨_, r₁⟩ := h₁
  obtain ⟨_, r₂⟩ := h₂
  exact ⟨_, r₁.trans r₂⟩

theorem Run.silent {s s' : DashIt K} (e : ∀ fuel, s.next (fuel + 1) = s'.next fuel) : Run s [] s' :=
  ⟨1, .silent e (.refl s')⟩

theorem Run.emit {s s' : DashIt K} {el : PathEl K} (e : ∀ fuel, s.next (fuel + 1) = .some el s') : Run s [el] s' :=
  ⟨1, .emit e (.refl s')⟩

theorem Run.passes {s s' : DashIt K} {E : List (PathEl K)} (h : Run s E s') {n fuel : Nat} {acc out : List (PathEl K)}
    (hc : collectFrom n fuel s acc = .ok out) : ∃ n' fuel', collectFrom n' fuel' s' (E.reverse ++ acc) = .ok out := by
  obtain ⟨_, r⟩ := h
  exact r.passes n fuel acc out hc

theorem Run.steps {s s' : DashIt K} {outs : List (PathEl K)} (h : Steps s outs s') : Run s outs s' := by
  induction h with
  | refl s => exact Run.refl s
  | @cons s s1 s2 r outs hw e _ ih =>
    cases r with
    | none => exact (Run.silent fun fuel => next_working_none s s1 fuel hw e).trans ih
    | some el => exact (Run.emit fun fuel => next_working_some s s1 el fuel hw e).trans ih

theorem RunN.drain : ∀ (k : Nat) (s : DashIt K), s.stash.size - s.stash_ix = k → s.state = .FromStash →
    RunN k s (s.stash.toList.drop s.stash_ix) { s with stash_ix := s.stash_ix + k }
  | 0, s, hk, _ => by
    rw [List.drop_eq_nil_of_le (by simp; omega)]
    exact RunN.refl s
  | k + 1, s, hk, hs => by
    have hlt : s.stash_ix < s.stash.size := by omega
    rw [List.drop_eq_getElem_cons (by simpa using hlt), show s.stash_ix + (k + 1) = s.stash_ix + 1 + k by omega]
    exact RunN.emit (fun fuel => next_fromStash_some s _ fuel hs (Array.getElem?_eq_getElem hlt))
      (RunN.drain k { s with stash_ix := s.stash_ix + 1 } (by show s.stash.size - (s.stash_ix + 1) = k; omega) hs)

/-- the state in which playback ends -/
def DashIt.drained (s : DashIt K) : DashIt K := { s with stash_ix := s.stash_ix + (s.stash.size - s.stash_ix) }

theorem drained_none (s : DashIt K) : s.drained.stash[s.drained.stash_ix]? = none := by
  rw [Array.getElem?_eq_none_iff]
  show s.stash.size ≤ s.stash_ix + (s.stash.size - s.stash_ix)
  omega

theorem RunN.replay {s : DashIt K} {L : List (PathEl K)} (hs : s.state = .FromStash)
    (hL : s.stash.toList.drop s.stash_ix = L) : RunN L.length s L s.drained := by
  subst hL
  rw [List.length_drop, Array.length_toList]
  exact RunN.drain _ s rfl hs

def DashIt.Stops (s : DashIt K) : Prop := ∀ fuel, ∃ s', s.next (fuel + 1) = .none s'

theorem DashIt.Stops.collect {s : DashIt K} (h : s.Stops) (n fuel : Nat) (acc : List (PathEl K)) :
    collectFrom n (fuel + 1) s acc = .ok acc.reverse := by
  obtain ⟨s', e⟩ := h fuel
  unfold collectFrom
  rw [e]

theorem stops_drained {s : DashIt K} (hs : s.state = .FromStash) (hd : s.input_done = true) : s.drained.Stops :=
  fun fuel => ⟨_, next_fromStash_done _ fuel hs (drained_none s) hd⟩

/-- every `collect()` that is at `s` and ends normally returns what it had collected followed by `O`: a run returns `O` and
    leads to a state at which `next` returns `None` -/
def Finishes (s : DashIt K) (O : List (PathEl K)) : Prop := ∃ s', Run s O s' ∧ s'.Stops

theorem Finishes.out {s : DashIt K} {O : List (PathEl K)} (h : Finishes s O) {n fuel : Nat} {acc out : List (PathEl K)}
    (hc : collectFrom n fuel s acc = .ok out) : out = acc.reverse ++ O := by
  obtain ⟨s', hr, hs⟩ := h
  obtain ⟨n', fuel', h'⟩ := hr.passes hc
  cases fuel' with
  | zero => exact absurd h' (collectFrom_zero _ _ _ _)
  | succ fuel' =>
    rw [hs.collect] at h'
    cases h'
    rw [List.reverse_append, List.reverse_reverse]

theorem Run.finishes {s s' : DashIt K} {E O : List (PathEl K)} (h : Run s E s') (h' : Finishes s' O) :
    Finishes s (E ++ O) := by
  obtain ⟨s'', hr, hs⟩ := h'
  exact ⟨s'', h.trans hr, hs⟩

theorem finishes_replay {s : DashIt K} {L : List (PathEl K)} (hs : s.state = .FromStash) (hd : s.input_done = true)
    (hL : s.stash.toList.drop s.stash_ix = L) : Finishes s L :=
  ⟨_, (RunN.replay hs hL).run, stops_drained hs hd⟩

/-- forwards: `k` rounds of fuel (a `next` call has at most 100000) and `E.length` units of budget suffice for `collect()` to
    get from `s` to `s'`; at most `k` of the fuel is used up -/
theorem RunN.fwd {k : Nat} {s s' : DashIt K} {E : List (PathEl K)} (h : RunN k s E s') :
    ∀ (n fuel : Nat) (acc : List (PathEl K)), E.length ≤ n → k ≤ fuel → fuel ≤ 100000 →
      ∃ fuel', fuel ≤ fuel' + k ∧
        collectFrom n fuel s acc = collectFrom (n - E.length) fuel' s' (E.reverse ++ acc) := by
  induction h with
  | refl s => exact fun n fuel acc _ _ _ => ⟨fuel, Nat.le_refl _, rfl⟩
  | silent e _ ih =>
    intro n fuel acc hn hf hcap
    cases fuel with
    | zero => exact absurd hf (Nat.not_succ_le_zero _)
    | succ fuel =>
      obtain ⟨fuel', h1, h3⟩ := ih n fuel acc hn (Nat.le_of_succ_le_succ hf) (Nat.le_of_succ_le hcap)
      exact ⟨fuel', Nat.succ_le_succ h1, by rw [collectFrom_silent (e fuel), h3]⟩
  | @emit s s1 s2 el k E e _ ih =>
    intro n fuel acc hn hf hcap
    cases fuel with
    | zero => exact absurd hf (Nat.not_succ_le_zero _)
    | succ fuel =>
      cases n with
      | zero => exact absurd hn (Nat.not_succ_le_zero _)
      | succ n =>
        -- the element is returned; the next `next` call has full fuel again
        obtain ⟨fuel', h1, h3⟩ := ih n 100000 (el :: acc) (Nat.le_of_succ_le_succ hn)
          (Nat.le_of_succ_le (hf.trans hcap)) (Nat.le_refl _)
        refine ⟨fuel', (hcap.trans h1).trans (Nat.le_succ _), ?_⟩
        rw [collectFrom_emit (e fuel), dashCollect_succ, h3, List.length_cons, Nat.add_sub_add_right, List.reverse_cons,
          List.append_assoc]
        rfl

theorem RunN.returns {k : Nat} {s s' : DashIt K} {E : List (PathEl K)} (h : RunN k s E s') (hs : s'.Stops)
    {n fuel : Nat} (acc : List (PathEl K)) (hn : E.length ≤ n) (hf : k < fuel) (hcap : fuel ≤ 100000) :
    collectFrom n fuel s acc = .ok (acc.reverse ++ E) := by
  obtain ⟨fuel', h1, h3⟩ := h.fwd n fuel acc hn hf.le hcap
  have hpos : 0 < fuel' := Nat.lt_of_add_lt_add_right (by rw [Nat.zero_add]; exact hf.trans_le h1)
  obtain ⟨fuel', rfl⟩ := Nat.exists_eq_succ_of_ne_zero hpos.ne'
  rw [h3, hs.collect, List.reverse_append, List.reverse_reverse]

theorem get_input_nil (s : DashIt K) (hcp : s.closepath_pending = false) (hin : s.inner = []) :
    s.get_input = { s with inner := [], input_done := true, state := .FromStash } := by
  rw [get_input_of_not_pending s hcp, hin]
  rfl

variable [LawfulHypotSq K]

/-- From a `Working` state inside a segment, with only `LineTo`s left in the input: `collect()` returns strokes `E` of total
    length = the specification's on-length, then the stash. -/
theorem working_finishes (pts : List (Point K)) (l : Line K) (L : K) (f : Nat) (s : DashIt K) (o : K) (ph' : Ph K)
    (hpat : ∀ i, 0 ≤ cyc s.dashes i) (hon : OnLine s l L) (hcp : s.closepath_pending = false)
    (hin : s.inner = pts.map .LineTo)
    (hw : walkList s.dashes.size (cyc s.dashes) f s.ph (s.seg_remaining :: polyLens s.last_pt pts) = some (o, ph')) :
    ∃ E, Finishes s (E ++ s.stash.toList.drop s.stash_ix) ∧
      ∀ pen, (s.is_active = true → pen = l.eval s.t) → drawnLen pen E = o := by
  obtain ⟨outs, s₁, l₁, L₁, hsim, hin1, -⟩ :=
    polyline_sim pts [] l L f s o ph' hpat hon hcp (by rw [hin, List.append_nil]) hw
  -- the step that finishes the last segment finds the input empty: playback follows
  have hstep := hsim.on.step_end hsim.fits
  rw [get_input_nil ({ s₁ with dash_remaining := s₁.dash_remaining - s₁.seg_remaining } : DashIt K)
    (hsim.frame.cp.trans hcp) hin1] at hstep
  have hsteps := hsim.steps.trans (Steps.single hsim.on.working hstep)
  rw [finEl_eq] at hsteps
  exact ⟨outs ++ finEl s₁ l₁, (Run.steps hsteps).finishes (finishes_replay rfl rfl (by
    show List.drop s₁.stash_ix s₁.stash.toList = _
    rw [hsim.frame.stash, hsim.frame.stash_ix])), fun pen hpen => (hsim.drawn pen hpen).1⟩

/-- the iterator is in state `ToStash` inside the straight segment `l` of length `L`: the first dash of the sub-path is on
    and is being written to the (non-empty) stash -/
structure OnLineS (s : DashIt K) (l : Line K) (L : K) : Prop where
  seg : s.current_seg = .Line l
  len : l.arclen 0 = L
  t_lt : s.t < 1
  rem : s.seg_remaining = (1 - s.t) * L
  stashing : s.state = .ToStash
  active : s.is_active = true
  nonempty : s.stash.isEmpty = false
  ix : s.dash_ix < s.dashes.size
  dash_nonneg : 0 ≤ s.dash_remaining
  last : s.last_pt = l.p1

/-- forgetting the routing: the same state in `Working` mode -/
theorem OnLineS.toWorking {s : DashIt K} {l : Line K} {L : K} (h : OnLineS s l L) :
    OnLine ({ s with state := .Working } : DashIt K) l L :=
  ⟨h.seg, h.len, h.t_lt, h.rem, rfl, h.ix, h.dash_nonneg, h.last⟩

omit [LawfulHypotSq K] in
theorem OnLineS.of_working {s : DashIt K} {l : Line K} {L : K} (h : OnLine ({ s with state := .Working } : DashIt K) l L)
    (hs : s.state = .ToStash) (ha : s.is_active = true) (hne : s.stash.isEmpty = false) : OnLineS s l L :=
  ⟨h.seg, h.len, h.t_lt, h.rem, hs, ha, hne, h.ix, h.dash_nonneg, h.last⟩

theorem OnLineS.dist_end {s : DashIt K} {l : Line K} {L : K} (h : OnLineS s l L) :
    (l.p1 - l.eval s.t).hypot = s.seg_remaining := h.toWorking.dist_end

/-- the state after the first dash ended inside the current segment: the `LineTo` to the switch point went to the stash -/
def DashIt.stashSwitched (s : DashIt K) (l : Line K) (L : K) : DashIt K :=
  { s.switched L with stash := s.stash.push (.LineTo (l.eval (s.t + s.dash_remaining / L))) }

omit [LawfulHypotSq K] in
theorem stashSwitched_stash (s : DashIt K) (l : Line K) (L : K) :
    (s.stashSwitched l L).stash = s.stash.push (.LineTo (l.eval (s.t + s.dash_remaining / L))) := rfl

omit [LawfulHypotSq K] in
theorem stashSwitched_stash_ix (s : DashIt K) (l : Line K) (L : K) : (s.stashSwitched l L).stash_ix = s.stash_ix := rfl

/-- the first dash ends inside the current segment: the `LineTo` to the switch point is stashed, the iterator goes on in
    state `Working` with the entry off; the stashed stroke has the length of the rest of the first dash -/
theorem OnLineS.switch {s : DashIt K} {l : Line K} {L : K} (hon : OnLineS s l L) (hpat : ∀ i, 0 ≤ cyc s.dashes i)
    (hlt : s.dash_remaining < s.seg_remaining) :
    (∀ fuel, s.next (fuel + 1) = (s.stashSwitched l L).next fuel) ∧
    OnLine (s.stashSwitched l L) l L ∧ (s.stashSwitched l L).is_active = false ∧
    (s.stashSwitched l L).ph = s.ph.next s.dashes.size (cyc s.dashes) ∧
    (l.eval (s.t + s.dash_remaining / L) - l.eval s.t).hypot = s.dash_remaining := by
  have honW := hon.toWorking
  have hstep := step_line_switch s l L hon.seg hon.len hon.t_lt (by rw [hon.stashing, hon.nonempty]; rfl) hon.ix hlt
  have hel : (if s.is_active = true then PathEl.LineTo (l.eval (s.t + s.dash_remaining / L))
      else PathEl.MoveTo (l.eval (s.t + s.dash_remaining / L))) = PathEl.LineTo (l.eval (s.t + s.dash_remaining / L)) :=
    if_pos hon.active
  rw [hel] at hstep
  have h2 := honW.switched hpat hlt
  refine ⟨fun fuel => next_toStash_some s (s.switched L) _ fuel hon.stashing hstep,
    ⟨h2.seg, h2.len, h2.t_lt, h2.rem, ?_, h2.ix, h2.dash_nonneg, h2.last⟩, ?_, switched_ph s L,
    line_eval_add_dist l L s.t s.dash_remaining hon.len (honW.len_pos hlt) hon.dash_nonneg⟩
  · show (if s.is_active then DashState.Working else s.state) = .Working
    rw [hon.active]; rfl
  · show (!s.is_active) = false
    rw [hon.active]; rfl

/-- the state in which the `step` that finishes a segment inside the first dash calls `get_input`: the end point `p` of the
    segment is on the stash already -/
def DashIt.stashEnd (s : DashIt K) (p : Point K) : DashIt K :=
  { s with stash := s.stash.push (.LineTo p), dash_remaining := s.dash_remaining - s.seg_remaining }

/-- a stash that has just been pushed to is not empty; also for the states whose stash unfolds to a `push`
    (`stashEnd`, `startOn`, and what `loadLine`, `c13b_loadClose` make of them) -/
theorem stash_push_isEmpty {α : Type} (a : Array α) (x : α) : (a.push x).isEmpty = false := by simp

omit [LawfulHypotSq K] in
theorem next_stash_end (s : DashIt K) (l : Line K) (hseg : s.current_seg = .Line l) (hs : s.state = .ToStash)
    (hne : s.stash.isEmpty = false) (ha : s.is_active = true) (hn : ¬ s.dash_remaining < s.seg_remaining) (fuel : Nat) :
    s.next (fuel + 1) = (s.stashEnd l.p1).get_input.next fuel :=
  next_toStash_none s _ fuel hs (step_line_end_stash s l hseg (by rw [hs, hne]; rfl) hs ha hn)

omit [LawfulHypotSq K] in
theorem OnLineS.loadLine {s : DashIt K} {l : Line K} {L : K} (hon : OnLineS s l L)
    (hn : ¬ s.dash_remaining < s.seg_remaining) (q : Point K) (tl : List (PathEl K)) :
    OnLineS ((s.stashEnd l.p1).loadLine q tl) ⟨s.last_pt, q⟩ ((Line.mk s.last_pt q).arclen 0) :=
  .of_working (OnLine.fresh rfl rfl rfl rfl hon.ix (sub_nonneg.mpr (not_lt.mp hn)) rfl) hon.stashing hon.active
    (stash_push_isEmpty _ _)

/-- the first dash ends inside the current segment: one switching `step` (stashed), then the `Working` part -/
theorem first_dash_switch (pts : List (Point K)) (l : Line K) (L : K) (f : Nat) (s : DashIt K) (o : K) (ph' : Ph K)
    (hpat : ∀ i, 0 ≤ cyc s.dashes i) (hon : OnLineS s l L) (hcp : s.closepath_pending = false) (hix : s.stash_ix = 0)
    (hin : s.inner = pts.map .LineTo)
    (hw : walkList s.dashes.size (cyc s.dashes) f s.ph (s.seg_remaining :: polyLens s.last_pt pts) = some (o, ph'))
    (hlt : s.dash_remaining < s.seg_remaining) :
    ∃ N E, Finishes s (E ++ (s.stash.toList ++ N)) ∧ ∀ pen, drawnLen (l.eval s.t) N + drawnLen pen E = o := by
  obtain ⟨c1, c2, c3, c4, c5⟩ := hon.switch hpat hlt
  obtain ⟨o1, w1, rfl⟩ := walkList_of_lt (show s.ph.rem < s.seg_remaining from hlt) hw
  obtain ⟨E, hE1, hE2⟩ := working_finishes pts l L f (s.stashSwitched l L) o1 ph' hpat c2 hcp hin (by rw [c4]; exact w1)
  refine ⟨[.LineTo (l.eval (s.t + s.dash_remaining / L))], E, ?_, fun pen => ?_⟩
  · have := (Run.silent c1).finishes hE1
    rwa [stashSwitched_stash_ix, hix, List.drop_zero, stashSwitched_stash, Array.toList_push] at this
  · show (l.eval (s.t + s.dash_remaining / L) - l.eval s.t).hypot + 0 + drawnLen pen E
      = onPart s.is_active s.dash_remaining + o1
    rw [c5, add_zero, hE2 pen (fun h => by rw [c3] at h; cases h), hon.active]
    rfl

/-- From a `ToStash` state (first dash under way, stash not yet played: `stash_ix = 0`) with only `LineTo`s left:
    `collect()` returns the strokes `E` emitted after the first dash, then the old stash followed by the rest `N` of the first
    dash; `N` measured from the current point and `E` (from anywhere: it starts with a `MoveTo` or is empty) have total
    length = the specification's on-length. -/
theorem first_dash_finishes (pts : List (Point K)) (l : Line K) (L : K) (f : Nat) (s : DashIt K) (o : K) (ph' : Ph K)
    (hpat : ∀ i, 0 ≤ cyc s.dashes i) (hon : OnLineS s l L) (hcp : s.closepath_pending = false) (hix : s.stash_ix = 0)
    (hin : s.inner = pts.map .LineTo)
    (hw : walkList s.dashes.size (cyc s.dashes) f s.ph (s.seg_remaining :: polyLens s.last_pt pts) = some (o, ph')) :
    ∃ N E, Finishes s (E ++ (s.stash.toList ++ N)) ∧ ∀ pen, drawnLen (l.eval s.t) N + drawnLen pen E = o := by
  induction pts generalizing l L s o with
  | nil =>
    by_cases hlt : s.dash_remaining < s.seg_remaining
    · exact first_dash_switch [] l L f s o ph' hpat hon hcp hix hin hw hlt
    · -- the rest of the segment is inside the entry; the input is empty: playback
      have hr : Run s [] { s.stashEnd l.p1 with inner := [], input_done := true, state := .FromStash } :=
        Run.silent fun fuel => by
          rw [next_stash_end s l hon.seg hon.stashing hon.nonempty hon.active hlt, get_input_nil (s.stashEnd l.p1) hcp hin]
      obtain ⟨o2, w1, rfl⟩ := walkList_of_not_lt (show ¬ s.ph.rem < s.seg_remaining from hlt) hw
      cases w1
      refine ⟨[.LineTo l.p1], [], ?_, fun pen => ?_⟩
      · exact hr.finishes (finishes_replay rfl rfl (by
          show List.drop s.stash_ix (s.stash.push _).toList = _
          rw [hix, List.drop_zero, Array.toList_push]))
      · show (l.p1 - l.eval s.t).hypot + 0 + 0 = onPart s.is_active s.seg_remaining + 0
        rw [hon.dist_end, hon.active, add_zero]
        rfl
  | cons q pts ih =>
    by_cases hlt : s.dash_remaining < s.seg_remaining
    · exact first_dash_switch (q :: pts) l L f s o ph' hpat hon hcp hix hin hw hlt
    · -- the rest of the segment is inside the entry; the next segment is loaded, still inside the first dash
      have hr : Run s [] ((s.stashEnd l.p1).loadLine q (pts.map .LineTo)) :=
        Run.silent fun fuel => by
          rw [next_stash_end s l hon.seg hon.stashing hon.nonempty hon.active hlt,
            get_input_lineTo (s.stashEnd l.p1) q (pts.map PathEl.LineTo) hcp hin]
      obtain ⟨o2, w1, rfl⟩ := walkList_of_not_lt (show ¬ s.ph.rem < s.seg_remaining from hlt) hw
      obtain ⟨N', E, hE1, hE2⟩ := ih ⟨s.last_pt, q⟩ _ ((s.stashEnd l.p1).loadLine q (pts.map .LineTo)) o2 hpat
        (hon.loadLine hlt q _) hcp hix rfl w1
      have e0 : (Line.mk s.last_pt q).eval 0 = l.p1 := (line_eval_zero_one _).1.trans hon.last
      refine ⟨.LineTo l.p1 :: N', E, ?_, fun pen => ?_⟩
      · have := hr.finishes hE1
        rwa [show ((s.stashEnd l.p1).loadLine q (pts.map .LineTo)).stash.toList = s.stash.toList ++ [.LineTo l.p1]
          from Array.toList_push, List.append_assoc s.stash.toList] at this
      · have h2 : drawnLen l.p1 N' + drawnLen pen E = o2 := by rw [← e0]; exact hE2 pen
        show (l.p1 - l.eval s.t).hypot + drawnLen l.p1 N' + drawnLen pen E = onPart s.is_active s.seg_remaining + o2
        rw [hon.dist_end, hon.active, ← h2, add_assoc]
        rfl

/-- the iterator is about to fetch a sub-path: state `NeedInput`, nothing stashed, nothing pending; the initial phase
    computed by `dash_impl` is sane -/
structure Ready (s : DashIt K) : Prop where
  state : s.state = .NeedInput
  done : s.input_done = false
  cp : s.closepath_pending = false
  stash : s.stash = #[]
  stash_ix : s.stash_ix = 0
  ix : s.init_dash_ix < s.dashes.size
  rem : 0 ≤ s.init_dash_remaining

/-- the pattern position at which every sub-path starts -/
def DashIt.initPh (s : DashIt K) : Ph K := ⟨s.init_dash_ix, s.init_dash_remaining, s.init_is_active⟩

section
omit [LawfulHypotSq K]
theorem dashImpl_ready (inner : List (PathEl K)) (off : K) (dashes : Array K) (it : DashIt K)
    (hit : dashImpl inner off dashes = some it) (hn : 0 < dashes.size) (h0 : 0 ≤ it.dash_remaining) :
    Ready it ∧ it.inner = inner ∧ it.dashes = dashes ∧ it.initPh = it.ph ∧ it.PhaseInit := by
  have hb := dashImpl_built hit hn
  refine ⟨⟨hb.state, hb.done, hb.cp, hb.stash, hb.stash_ix, hb.ixOk.2, by rw [← hb.phase.2.1]; exact h0⟩, hb.inner, hb.dashes,
    ?_, hb.phase⟩
  unfold DashIt.initPh DashIt.ph
  rw [hb.phase.1, hb.phase.2.1, hb.phase.2.2]

theorem get_input_moveTo_lineTo (s : DashIt K) (p0 q : Point K) (tl : List (PathEl K))
    (hcp : s.closepath_pending = false) (hst : s.stash.isEmpty = true) (hin : s.inner = .MoveTo p0 :: .LineTo q :: tl) :
    s.get_input = (({ s with inner := .LineTo q :: tl, start_pt := p0, last_pt := p0 } : DashIt K).reset_phase).loadLine q tl := by
  rw [get_input_of_not_pending s hcp, hin, getInputList_moveTo, getInputList_lineTo, loaded_line,
    movedTo_of_stash_empty s p0 _ hst]

/-- the state in which the first `step` of the sub-path `M p0 L q …` is taken -/
def DashIt.startState (it : DashIt K) (p0 q : Point K) (tl : List (PathEl K)) : DashIt K :=
  let s1 : DashIt K := { it with inner := .LineTo q :: tl, start_pt := p0, last_pt := p0 }
  let s2 : DashIt K := s1.reset_phase.loadLine q tl
  { s2 with state := .ToStash }

omit [LawfulHypotSq K] in
theorem startState_is_active (it : DashIt K) (p0 q : Point K) (tl : List (PathEl K)) :
    (it.startState p0 q tl).is_active = it.init_is_active := rfl

theorem next_start (s : DashIt K) (p0 q : Point K) (tl : List (PathEl K)) (hs : s.state = .NeedInput)
    (hd : s.input_done = false) (hcp : s.closepath_pending = false) (hst : s.stash = #[])
    (hin : s.inner = .MoveTo p0 :: .LineTo q :: tl) (fuel : Nat) :
    s.next (fuel + 1) = (s.startState p0 q tl).next fuel := by
  have hgi := get_input_moveTo_lineTo s p0 q tl hcp (by rw [hst]; rfl) hin
  rw [next_needInput s fuel hs hd (by rw [hgi]; exact hd) (by rw [hgi]; exact hs), hgi]
  rfl

/-- the pattern is on at the offset: the opening `MoveTo` is the first element of the stash -/
def DashIt.startOn (s : DashIt K) (p0 q : Point K) (tl : List (PathEl K)) : DashIt K :=
  { s.startState p0 q tl with stash := s.stash.push (.MoveTo p0) }

omit [LawfulHypotSq K] in
theorem startOn_stash (s : DashIt K) (p0 q : Point K) (tl : List (PathEl K)) :
    (s.startOn p0 q tl).stash = s.stash.push (.MoveTo p0) := rfl

theorem next_startOn (s : DashIt K) (p0 q : Point K) (tl : List (PathEl K)) (hst : s.stash = #[])
    (hact : s.init_is_active = true) (fuel : Nat) :
    (s.startState p0 q tl).next (fuel + 1) = (s.startOn p0 q tl).next fuel := by
  have hstep : (s.startState p0 q tl).step = some (some (.MoveTo p0), s.startState p0 q tl) := by
    rw [step_stash_start (s.startState p0 q tl) (show (true && s.stash.isEmpty) = true by rw [hst]; rfl)]
    exact if_pos hact
  exact next_toStash_some _ _ _ fuel rfl hstep

/-- the pattern is off at the offset: straight to `Working` -/
def DashIt.startOff (s : DashIt K) (p0 q : Point K) (tl : List (PathEl K)) : DashIt K :=
  { s.startState p0 q tl with state := .Working }

omit [LawfulHypotSq K] in
theorem startOff_is_active (s : DashIt K) (p0 q : Point K) (tl : List (PathEl K)) :
    (s.startOff p0 q tl).is_active = s.init_is_active := rfl

theorem next_startOff (s : DashIt K) (p0 q : Point K) (tl : List (PathEl K)) (hst : s.stash = #[])
    (hact : s.init_is_active = false) (fuel : Nat) :
    (s.startState p0 q tl).next (fuel + 1) = (s.startOff p0 q tl).next fuel := by
  have hstep : (s.startState p0 q tl).step = some (none, s.startOff p0 q tl) := by
    rw [step_stash_start (s.startState p0 q tl) (show (true && s.stash.isEmpty) = true by rw [hst]; rfl)]
    exact if_neg (by rw [startState_is_active, hact]; exact Bool.false_ne_true)
  exact next_toStash_none _ _ fuel rfl hstep

/-- a `dash` that returned is a `collect()` at the iterator `dash_impl` built, inside its first `next` call -/
theorem dash_ok_collectFrom {inner : List (PathEl K)} {off : K} {dashes : Array K} {budget : Nat} {it : DashIt K}
    {out : List (PathEl K)} (hit : dashImpl inner off dashes = some it) (hout : dash inner off dashes budget = .ok out) :
    ∃ n, collectFrom n 100000 it [] = .ok out := by
  unfold dash at hout
  rw [hit] at hout
  simp only at hout
  cases budget with
  | zero => exact absurd hout (dashCollect_zero _ _ _)
  | succ n => exact ⟨n, by rwa [dashCollect_succ] at hout⟩

theorem Ready.run_start {s : DashIt K} (hr : Ready s) (p0 q : Point K) (tl : List (PathEl K))
    (hin : s.inner = .MoveTo p0 :: .LineTo q :: tl) :
    (s.init_is_active = true → Run s [] (s.startOn p0 q tl)) ∧ (s.init_is_active = false → Run s [] (s.startOff p0 q tl)) :=
  ⟨fun ha => (Run.silent (next_start s p0 q tl hr.state hr.done hr.cp hr.stash hin)).trans
      (Run.silent (next_startOn s p0 q tl hr.stash ha)),
   fun ha => (Run.silent (next_start s p0 q tl hr.state hr.done hr.cp hr.stash hin)).trans
      (Run.silent (next_startOff s p0 q tl hr.stash ha))⟩

theorem Ready.onLineS_startOn {s : DashIt K} (hr : Ready s) (p0 q : Point K) (tl : List (PathEl K))
    (hact : s.init_is_active = true) : OnLineS (s.startOn p0 q tl) ⟨p0, q⟩ ((Line.mk p0 q).arclen 0) :=
  .of_working (OnLine.fresh rfl rfl rfl rfl hr.ix hr.rem rfl) rfl hact (stash_push_isEmpty _ _)

theorem Ready.onLine_startOff {s : DashIt K} (hr : Ready s) (p0 q : Point K) (tl : List (PathEl K)) :
    OnLine (s.startOff p0 q tl) ⟨p0, q⟩ ((Line.mk p0 q).arclen 0) :=
  OnLine.fresh rfl rfl rfl rfl hr.ix hr.rem rfl
end

/-- **One open polyline sub-path, end to end.**  `out` = everything `dash` returns for `M p0 L q L …`; `it` = the iterator
    `dash_impl` builds.  If the pattern is on at the offset, `out = E ++ MoveTo p0 :: N` (the proof takes the rest of the
    first dash for `N` and what was emitted after it for `E`; the statement only says that the two lengths add up to `o`);
    otherwise `out` is the strokes in path order.  In both cases the total stroke length is the on-length `o` that the
    specification computes from the start position `it.ph` over the segment lengths. -/
theorem dash_open_total (p0 q : Point K) (pts : List (Point K)) (off : K) (dashes : Array K) (budget : Nat) (it : DashIt K)
    (hit : dashImpl (.MoveTo p0 :: .LineTo q :: pts.map .LineTo) off dashes = some it)
    (hn : 0 < dashes.size) (h0 : 0 ≤ it.dash_remaining) (hpat : ∀ i, 0 ≤ cyc dashes i)
    (f : Nat) (o : K) (ph' : Ph K)
    (hw : walkList dashes.size (cyc dashes) f it.ph (polyLens p0 (q :: pts)) = some (o, ph'))
    (out : List (PathEl K)) (hout : dash (.MoveTo p0 :: .LineTo q :: pts.map .LineTo) off dashes budget = .ok out) :
    (it.is_active = true → ∃ N E, out = E ++ .MoveTo p0 :: N ∧ ∀ pen, drawnLen p0 N + drawnLen pen E = o) ∧
    (it.is_active = false → ∀ pen, drawnLen pen out = o) := by
  obtain ⟨hr, r2, r3, r4, r5⟩ := dashImpl_ready _ off dashes it hit hn h0
  obtain ⟨n, hc⟩ := dash_ok_collectFrom hit hout
  have hpat' : ∀ i, 0 ≤ cyc it.dashes i := by rw [r3]; exact hpat
  have hw' : walkList it.dashes.size (cyc it.dashes) f it.initPh (polyLens p0 (q :: pts)) = some (o, ph') := by
    rw [r3, r4]; exact hw
  have e0 : (Line.mk p0 q).eval 0 = p0 := (line_eval_zero_one _).1
  obtain ⟨hon, hoff⟩ := hr.run_start p0 q (pts.map .LineTo) r2
  constructor
  · -- the pattern is on at the offset: the opening `MoveTo` is stashed, then the first dash
    intro hact
    have hact' : it.init_is_active = true := r5.2.2.symm.trans hact
    obtain ⟨N, E, hE1, hE2⟩ := first_dash_finishes pts ⟨p0, q⟩ _ f (it.startOn p0 q _) o ph' hpat'
      (hr.onLineS_startOn p0 q _ hact') hr.cp hr.stash_ix rfl hw'
    refine ⟨N, E, ?_, fun pen => ?_⟩
    · rw [((hon hact').finishes hE1).out hc]
      show [].reverse ++ ([] ++ (E ++ ((it.stash.push (PathEl.MoveTo p0)).toList ++ N))) = _
      rw [hr.stash]
      rfl
    · rw [← e0]; exact hE2 pen
  · -- the pattern is off at the offset: straight to `Working`
    intro hact
    have hact' : it.init_is_active = false := r5.2.2.symm.trans hact
    obtain ⟨E, hE1, hE2⟩ := working_finishes pts ⟨p0, q⟩ _ f (it.startOff p0 q _) o ph' hpat'
      (hr.onLine_startOff p0 q _) hr.cp rfl hw'
    intro pen
    have hoE : out = E := by
      rw [((hoff hact').finishes hE1).out hc]
      show [].reverse ++ ([] ++ (E ++ List.drop it.stash_ix it.stash.toList)) = E
      rw [hr.stash]
      simp
    rw [hoE]
    exact hE2 pen (fun h => by rw [startOff_is_active, hact'] at h; cases h)

section
omit [LawfulHypotSq K]
/-- A single segment that is not longer than what is left of the first dash is returned whole: `dash … = .ok out` is
    satisfiable for every lawful scalar. -/
theorem dash_short_segment (p0 q : Point K) (off : K) (dashes : Array K) (budget : Nat) (it : DashIt K)
    (hit : dashImpl [.MoveTo p0, .LineTo q] off dashes = some it) (hn : 0 < dashes.size)
    (hact : it.is_active = true) (hge : ¬ it.dash_remaining < (Line.mk p0 q).arclen 0) (hb : 3 ≤ budget) :
    dash [.MoveTo p0, .LineTo q] off dashes budget = .ok [.MoveTo p0, .LineTo q] := by
  have hbt := dashImpl_built hit hn
  have hact' : it.init_is_active = true := hbt.phase.2.2.symm.trans hact
  have hnlt : ¬ (it.startOn p0 q []).dash_remaining < (it.startOn p0 q []).seg_remaining := by
    show ¬ it.init_dash_remaining < (Line.mk p0 q).arclen 0
    rw [← hbt.phase.2.1]; exact hge
  obtain ⟨n, rfl⟩ : ∃ n, budget = n + 1 := ⟨budget - 1, by omega⟩
  -- `MoveTo p0` and `LineTo q` go to the stash, the input ends, the stash is played back
  have hrun := RunN.silent (next_start it p0 q [] hbt.state hbt.done hbt.cp hbt.stash hbt.inner) <|
    RunN.silent (next_startOn it p0 q [] hbt.stash hact') <|
    RunN.silent (fun fuel => by
      rw [next_stash_end (it.startOn p0 q []) ⟨p0, q⟩ rfl rfl (stash_push_isEmpty _ _) hact' hnlt,
        get_input_nil ((it.startOn p0 q []).stashEnd q) hbt.cp rfl]) <|
    RunN.replay (s := { (it.startOn p0 q []).stashEnd q with inner := [], input_done := true, state := .FromStash })
      (L := [.MoveTo p0, .LineTo q]) rfl (by
        show List.drop it.stash_ix ((it.stash.push _).push _).toList = _
        rw [hbt.stash, hbt.stash_ix]
        rfl)
  unfold dash
  rw [hit]
  show dashCollect (n + 1) it [] = _
  rw [dashCollect_succ]
  exact hrun.returns (stops_drained rfl rfl) []
    (Nat.le_of_succ_le_succ hb) (show 5 < 100000 by decide) (Nat.le_refl _)
end

end Kurbo
