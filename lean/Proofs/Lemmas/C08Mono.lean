import Proofs.Lemmas.C08Real
/-! C08 helpers: `extrema_ranges` starts at `0` and `extrema` is increasing (any lawful scalar); over ℝ, between two consecutive
    extrema each coordinate is strictly monotone or constant. -/
namespace Kurbo

section lawful
variable {K : Type} [Field K] [LinearOrder K] [IsStrictOrderedRing K] [FloorRing K] [Scalar K] [LawfulScalar K]

theorem seg_extrema_ranges_eq (s : PathSeg K) : s.extrema_ranges = extremaRangesFrom 0 s.extrema := by
  unfold PathSeg.extrema_ranges
  simp only [scalar_norm]; push_cast; rfl

theorem seg_extrema_sorted (s : PathSeg K) : s.extrema.Pairwise (· ≤ ·) := by
  cases s with
  | Line l => simp [PathSeg.extrema]
  | Quad q => exact quad_extrema_sorted q
  | Cubic c => simp only [PathSeg.extrema]; rw [cubic_extrema_eq]; exact sortList_sorted _

end lawful

section real
variable [Scalar ℝ] [LawfulScalar ℝ]

theorem seg_vel_continuous (s : PathSeg ℝ) :
    Continuous (fun t => (s.vel t).x) ∧ Continuous (fun t => (s.vel t).y) := by
  cases s with
  | Line l => exact ⟨continuous_const, continuous_const⟩
  | Quad q =>
    simp only [PathSeg.vel, QuadBez.deriv_eval_xy]
    constructor <;> fun_prop
  | Cubic c =>
    simp only [PathSeg.vel, CubicBez.deriv_eval_xy]
    constructor <;> fun_prop

theorem crit_ranges_strict {f f' : ℝ → ℝ} (hf : ∀ t, HasDerivAt f (f' t) t) (hc : Continuous f') (ts : List ℝ)
    (hunit : ∀ t ∈ ts, 0 < t ∧ t < 1) (hs : ts.Pairwise (· ≤ ·))
    (hcrit : ∀ t, 0 < t → t < 1 → f' t = 0 → t ∈ ts ∨ ∀ u, f' u = 0) :
    ∀ r ∈ extremaRangesFrom 0 ts, r.start ≤ r.«end» ∧
      (StrictMonoOn f (Set.Icc r.start r.«end») ∨ StrictAntiOn f (Set.Icc r.start r.«end») ∨
        ∀ t ∈ Set.Icc r.start r.«end», f t = f r.start) := by
  intro r hr
  obtain ⟨⟨h0a, hab, hb1⟩, hgap⟩ := extremaRangesFrom_sorted 0 ts (fun t ht => (hunit t ht).1.le) zero_le_one hs
    (fun t ht => (hunit t ht).2.le) r hr
  refine ⟨hab, strict_or_const hf hc _ _ ?_⟩
  by_cases hall : ∀ u, f' u = 0
  · exact Or.inl hall
  · exact Or.inr fun u hau hub hz =>
      (hcrit u (lt_of_le_of_lt h0a hau) (lt_of_lt_of_le hub hb1) hz).elim (fun h => hgap u h ⟨hau, hub⟩) hall

theorem seg_ranges_strict_xy (s : PathSeg ℝ) (S : (∃ c, s = .Cubic c) → QuadSolverSpec ℝ) :
    ∀ r ∈ s.extrema_ranges, r.start ≤ r.«end» ∧
      (StrictMonoOn (fun t => (s.eval t).x) (Set.Icc r.start r.«end») ∨
        StrictAntiOn (fun t => (s.eval t).x) (Set.Icc r.start r.«end») ∨
        ∀ t ∈ Set.Icc r.start r.«end», (s.eval t).x = (s.eval r.start).x) ∧
      (StrictMonoOn (fun t => (s.eval t).y) (Set.Icc r.start r.«end») ∨
        StrictAntiOn (fun t => (s.eval t).y) (Set.Icc r.start r.«end») ∨
        ∀ t ∈ Set.Icc r.start r.«end», (s.eval t).y = (s.eval r.start).y) := by
  intro r hr
  rw [seg_extrema_ranges_eq] at hr
  have hx := crit_ranges_strict (fun t => (seg_hasDerivAt s t).1) (seg_vel_continuous s).1 s.extrema
    (seg_extrema_unit s) (seg_extrema_sorted s) (seg_crit s S).1 r hr
  have hy := crit_ranges_strict (fun t => (seg_hasDerivAt s t).2) (seg_vel_continuous s).2 s.extrema
    (seg_extrema_unit s) (seg_extrema_sorted s) (seg_crit s S).2 r hr
  exact ⟨hx.1, hx.2, hy.2⟩

end real
end Kurbo
