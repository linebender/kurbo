import Proofs.C15
import Proofs.Lemmas.C08Ext
/-! Discharges the solver hypotheses that other property files take as explicit parameters, from the C15 theorems. -/
namespace Kurbo

/-- over ℝ with the real `sqrt` law the quadratic solver meets `QuadSolverSpec` (the hypothesis of the C08 cubic theorems) -/
theorem quadSolverSpec_real [Scalar ℝ] [LawfulScalar ℝ] [LawfulReal] : QuadSolverSpec ℝ where
  quad c0 c1 c2 h2 := (solveQuadratic_spec_real c0 c1 c2 (fun h => h2 h.2.2)).1
  linear c0 c1 h1 := (solveQuadratic_linear c0 c1 h1).1
  zero := solveQuadratic_all_zero
  const c0 h0 := solveQuadratic_const c0 h0
  length_le c0 c1 c2 := solveQuadratic_length_le c0 c1 c2
  sorted c0 c1 c2 := by
    by_cases h : c0 = 0 ∧ c1 = 0 ∧ c2 = 0
    · obtain ⟨rfl, rfl, rfl⟩ := h
      rw [solveQuadratic_all_zero]; simp
    · exact (solveQuadratic_spec_real c0 c1 c2 h).2.1.imp (fun h => h.le)

/-- the hypothesis of the C09 cubic theorems and of C01's cubic branch; a vanishing leading coefficient goes through
    `solveQuadratic` -/
theorem solveCubic_roots_real [Scalar ℝ] [LawfulScalar ℝ] [LawfulReal] (c0 c1 c2 c3 : ℝ)
    (h : ¬ (c0 = 0 ∧ c1 = 0 ∧ c2 = 0 ∧ c3 = 0)) (x : ℝ) :
    x ∈ solveCubic c0 c1 c2 c3 ↔ c0 + c1 * x + c2 * x ^ 2 + c3 * x ^ 3 = 0 := by
  by_cases h3 : c3 = 0
  · subst h3
    rw [solveCubic_of_c3_zero, (solveQuadratic_spec_real c0 c1 c2 (fun hh => h ⟨hh.1, hh.2.1, hh.2.2, rfl⟩)).1 x,
      zero_mul, add_zero]
  · exact solveCubic_mem_iff c0 c1 c2 c3 h3 x

end Kurbo
