import Proofs.Lemmas.KernelEqs
import Proofs.Lemmas.RowSign
import Kurbo.Curve
import Proofs.Lemmas.SubPaths
import Mathlib.Tactic.Ring
import Mathlib.Tactic.Linarith
import Mathlib.Tactic.LinearCombination

/-! C01 helpers.  The crossing indicator `kcr`/`kc` of one edge is the row sign (`rowSign`, `Lemmas/RowSign.lean`) times "the
    edge meets the row left of or at the origin" (`kcr_eq_rowSign_mul`); antisymmetry and splitting follow from that form, and
    the line branch of `winding_inner`, early outs included, is `kcr`.  Also here: points off a closed edge
    (`C11Tri.offEdge`), which both the triangle and the stroke-outline lemmas start from, and the closed form `C11Tri.triW`
    of `Triangle::winding`. -/
set_option linter.unusedSectionVars false
namespace Kurbo
section lawful
variable {K : Type} [Field K] [LinearOrder K] [IsStrictOrderedRing K] [FloorRing K] [Scalar K] [LawfulScalar K]

/-- crossing indicator on raw coordinates relative to the query point -/
def kcr (ax ay bx by_ : K) : Int :=
  if ay < by_ then (if ay ≤ 0 ∧ 0 < by_ ∧ ax * by_ - ay * bx ≤ 0 then -1 else 0)
  else if by_ < ay then (if by_ ≤ 0 ∧ 0 < ay ∧ 0 ≤ ax * by_ - ay * bx then 1 else 0)
  else 0

def kc (a b : Vec2 K) : Int := kcr a.x a.y b.x b.y

theorem kcr_upward {ay by_ : K} (ax bx : K) (hay : ay ≤ 0) (hby : 0 < by_) :
    kcr ax ay bx by_ = if ax * by_ - ay * bx ≤ 0 then -1 else 0 := by
  unfold kcr; rw [if_pos (hay.trans_lt hby)]; simp only [hay, hby, true_and]

theorem kcr_downward {ay by_ : K} (ax bx : K) (hby : by_ ≤ 0) (hay : 0 < ay) :
    kcr ax ay bx by_ = if 0 ≤ ax * by_ - ay * bx then 1 else 0 := by
  unfold kcr; rw [if_neg (not_lt_of_gt (hby.trans_lt hay)), if_pos (hby.trans_lt hay)]; simp only [hay, hby, true_and]

/-- the indicator is the row sign of the origin times "the edge meets the row at an abscissa `≤ 0`"; the abscissa
    is `(a × b) / (b.y − a.y)`, and the factor is irrelevant when the row sign is `0` -/
theorem kcr_eq_rowSign_mul (ax ay bx by_ : K) :
    kcr ax ay bx by_ = rowSign ay by_ 0 * (if (ax * by_ - ay * bx) / (by_ - ay) ≤ 0 then 1 else 0) := by
  rcases rowSign_cases ay by_ 0 with ⟨hs, h1, h2⟩ | ⟨hs, h1, h2⟩ | ⟨hs, hu, hd⟩
  · rw [hs, kcr_upward _ _ h1 h2]
    simp only [div_le_iff₀ (sub_pos.mpr (h1.trans_lt h2)), zero_mul, mul_ite, mul_one, mul_zero]
  · rw [hs, kcr_downward _ _ h1 h2]
    simp only [div_le_iff_of_neg (sub_neg.mpr (h1.trans_lt h2)), zero_mul, one_mul]
  · have hu' : ¬ (ay ≤ 0 ∧ 0 < by_ ∧ ax * by_ - ay * bx ≤ 0) := fun h => hu ⟨h.1, h.2.1⟩
    have hd' : ¬ (by_ ≤ 0 ∧ 0 < ay ∧ 0 ≤ ax * by_ - ay * bx) := fun h => hd ⟨h.1, h.2.1⟩
    rw [hs, zero_mul]
    unfold kcr
    simp only [if_neg hu', if_neg hd', ite_self]

theorem kcr_above {ax ay bx by_ : K} (ha : 0 < ay) (hb : 0 < by_) : kcr ax ay bx by_ = 0 := by
  rw [kcr_eq_rowSign_mul, rowSign_eq_zero (fun h => not_le.mpr ha h.1) (fun h => not_le.mpr hb h.1), zero_mul]

theorem kcr_below {ax ay bx by_ : K} (ha : ay ≤ 0) (hb : by_ ≤ 0) : kcr ax ay bx by_ = 0 := by
  rw [kcr_eq_rowSign_mul, rowSign_eq_zero (fun h => not_lt.mpr hb h.2) (fun h => not_lt.mpr ha h.2), zero_mul]

theorem kcr_swap (ax ay bx by_ : K) : kcr bx by_ ax ay = - kcr ax ay bx by_ := by
  -- the row sign changes sign; the abscissa `(a × b) / (b.y − a.y)` does not: numerator and denominator both do
  rw [kcr_eq_rowSign_mul, kcr_eq_rowSign_mul, rowSign_swap, neg_mul, ← neg_div_neg_eq]
  congr 4; ring

theorem kcr_horizontal (ax bx y : K) : kcr ax y bx y = 0 := by rw [kcr_eq_rowSign_mul, rowSign_self, zero_mul]

theorem kcr_self (ax ay : K) : kcr ax ay ax ay = 0 := kcr_horizontal ax ax ay

theorem kcr_vertical (x ay by_ : K) : kcr x ay x by_ = rowSign ay by_ 0 * (if x ≤ 0 then 1 else 0) := by
  rw [kcr_eq_rowSign_mul]
  rcases eq_or_ne ay by_ with rfl | h
  · rw [rowSign_self, zero_mul, zero_mul]
  · rw [show x * by_ - ay * x = x * (by_ - ay) by ring, mul_div_assoc, div_self (sub_ne_zero.mpr h.symm), mul_one]

/-- the parts `a m` and `m b` meet the row where the whole edge does, at `(a × d) / d.y`, and the row signs add up -/
theorem c04c_kcr_insert (ax ay mx my bx by_ dx dy α β : K) (hα : 0 ≤ α) (hβ : 0 ≤ β)
    (hmx : mx = ax + α * dx) (hmy : my = ay + α * dy) (hbx : bx = mx + β * dx) (hby : by_ = my + β * dy) :
    kcr ax ay mx my + kcr mx my bx by_ = kcr ax ay bx by_ := by
  subst hmx hmy hbx hby
  rcases hα.eq_or_lt with rfl | hα
  · simp only [zero_mul, add_zero, kcr_self, zero_add]
  rcases hβ.eq_or_lt with rfl | hβ
  · simp only [zero_mul, add_zero, kcr_self]
  have e1 : (ax * (ay + α * dy) - ay * (ax + α * dx)) / (ay + α * dy - ay) = (ax * dy - ay * dx) / dy := by
    rw [show ax * (ay + α * dy) - ay * (ax + α * dx) = α * (ax * dy - ay * dx) by ring,
      show ay + α * dy - ay = α * dy by ring, mul_div_mul_left _ _ hα.ne']
  have e2 : ((ax + α * dx) * (ay + α * dy + β * dy) - (ay + α * dy) * (ax + α * dx + β * dx))
      / (ay + α * dy + β * dy - (ay + α * dy)) = (ax * dy - ay * dx) / dy := by
    rw [show (ax + α * dx) * (ay + α * dy + β * dy) - (ay + α * dy) * (ax + α * dx + β * dx)
        = β * (ax * dy - ay * dx) by ring,
      show ay + α * dy + β * dy - (ay + α * dy) = β * dy by ring, mul_div_mul_left _ _ hβ.ne']
  have e3 : (ax * (ay + α * dy + β * dy) - ay * (ax + α * dx + β * dx)) / (ay + α * dy + β * dy - ay)
      = (ax * dy - ay * dx) / dy := by
    rw [show ax * (ay + α * dy + β * dy) - ay * (ax + α * dx + β * dx) = (α + β) * (ax * dy - ay * dx) by ring,
      show ay + α * dy + β * dy - ay = (α + β) * dy by ring, mul_div_mul_left _ _ (add_pos hα hβ).ne']
  rw [kcr_eq_rowSign_mul, kcr_eq_rowSign_mul, kcr_eq_rowSign_mul, e1, e2, e3, ← add_mul, rowSign_add]

theorem ite_earlyOut {P Q T : Prop} [Decidable P] [Decidable Q] [Decidable T] (σ : Int) (h1 : P → ¬ T) (h2 : Q → T) :
    (if P then 0 else if Q then σ else if T then σ else 0) = if T then σ else 0 := by
  by_cases hP : P
  · rw [if_pos hP, if_neg (h1 hP)]
  · by_cases hQ : Q
    · rw [if_neg hP, if_pos hQ, if_pos (h2 hQ)]
    · rw [if_neg hP, if_neg hQ]

/-- an upward edge (`a.y ≤ 0 < b.y`) with both ends right of the origin meets the row right of it -/
theorem cross_pos_of_right {ax ay bx by_ : K} (hay : ay ≤ 0) (hby : 0 < by_) (hax : 0 < ax) (hbx : 0 < bx) :
    ay * bx < ax * by_ :=
  (mul_nonpos_of_nonpos_of_nonneg hay hbx.le).trans_lt (mul_pos hax hby)

/-- an upward edge with no end right of the origin meets the row left of or at it -/
theorem cross_nonpos_of_left {ax ay bx by_ : K} (hay : ay ≤ 0) (hby : 0 < by_) (hax : ax ≤ 0) (hbx : bx ≤ 0) :
    ax * by_ ≤ ay * bx :=
  (mul_nonpos_of_nonpos_of_nonneg hax hby.le).trans (mul_nonneg_of_nonpos_of_nonpos hay hbx)

theorem windingInner_line_eq_kcr (l : Line K) (p : Point K) :
    PathSeg.winding_inner (.Line l) p = kcr (l.p0.x - p.x) (l.p0.y - p.y) (l.p1.x - p.x) (l.p1.y - p.y) := by
  unfold PathSeg.winding_inner
  simp only [PathSeg.start, PathSeg.end, Line.start, Line.end, scalar_norm, decide_eq_true_eq, Bool.or_eq_true]
  push_cast
  rw [rowTest_eq]
  -- the model's line test is the cross product of the end points relative to `p`, up to sign
  have hE : (l.p1.y - l.p0.y) * p.x + (l.p0.x - l.p1.x) * p.y - ((l.p1.y - l.p0.y) * l.p0.x + (l.p0.x - l.p1.x) * l.p0.y)
      = -((l.p0.x - p.x) * (l.p1.y - p.y) - (l.p0.y - p.y) * (l.p1.x - p.x)) := by ring
  rcases rowSign_cases l.p0.y l.p1.y p.y with ⟨hs, h1, h2⟩ | ⟨hs, h1, h2⟩ | ⟨hs, -, -⟩
  · have hay := sub_nonpos.mpr h1
    have hby := sub_pos.mpr h2
    rw [hs, if_neg (show ¬ ((-1 : Int) = 0) by decide), kcr_upward _ _ hay hby]
    simp only [show ((-1 : Int) == 1) = false from rfl, Bool.false_eq_true, if_false, hE, mul_neg_one, neg_neg]
    refine ite_earlyOut (-1) (fun hP => not_le.mpr (sub_pos.mpr ?_)) (fun hQ => sub_nonpos.mpr ?_)
    · exact cross_pos_of_right hay hby (sub_pos.mpr (lt_min_iff.mp hP).1) (sub_pos.mpr (lt_min_iff.mp hP).2)
    · exact cross_nonpos_of_left hay hby (sub_nonpos.mpr (max_le_iff.mp hQ).1) (sub_nonpos.mpr (max_le_iff.mp hQ).2)
  · -- the downward case is the upward one with the end points exchanged
    have hby := sub_nonpos.mpr h1
    have hay := sub_pos.mpr h2
    rw [hs, if_neg (show ¬ ((1 : Int) = 0) by decide), kcr_downward _ _ hby hay]
    simp only [show ((1 : Int) == 1) = true from rfl, if_true, hE, mul_one, neg_nonpos]
    refine ite_earlyOut 1 (fun hP => not_le.mpr (sub_neg.mpr ?_)) (fun hQ => sub_nonneg.mpr ?_)
    · rw [mul_comm, mul_comm (l.p0.y - p.y)]
      exact cross_pos_of_right hby hay (sub_pos.mpr (lt_min_iff.mp hP).2) (sub_pos.mpr (lt_min_iff.mp hP).1)
    · rw [mul_comm, mul_comm (l.p0.x - p.x)]
      exact cross_nonpos_of_left hby hay (sub_nonpos.mpr (max_le_iff.mp hQ).2) (sub_nonpos.mpr (max_le_iff.mp hQ).1)
  · rw [hs, if_pos rfl, kcr_eq_rowSign_mul, rowSign_sub_right, hs, zero_mul]

theorem vsub_x (a b : Point K) : (a - b : Vec2 K).x = a.x - b.x := by simp only [point_sub, scalar_norm]
theorem vsub_y (a b : Point K) : (a - b : Vec2 K).y = a.y - b.y := by simp only [point_sub, scalar_norm]

/-- `kc` on the vectors from the query point `p`, in the coordinates `kcr` takes -/
theorem kc_sub (a b p : Point K) :
    kc (a - p) (b - p) = kcr (a.x - p.x) (a.y - p.y) (b.x - p.x) (b.y - p.y) := by
  unfold kc; simp only [vsub_x, vsub_y]

theorem windingInner_line_eq_kc' (l : Line K) (p : Point K) :
    PathSeg.winding_inner (.Line l) p = kc (l.p0 - p) (l.p1 - p) := by
  rw [windingInner_line_eq_kcr, kc_sub]

end lawful

section structural
variable {K : Type} [Scalar K]

def IsLineSeg : PathSeg K → Prop
  | .Line _ => True
  | _ => False

def IsLineEl : PathEl K → Prop
  | .QuadTo _ _ => False
  | .CurveTo _ _ _ => False
  | _ => True

instance : DecidablePred (IsLineEl (K := K)) := fun e => by
  cases e <;> simp only [IsLineEl] <;> infer_instance

def AllLines (els : List (PathEl K)) : Prop := ∀ e ∈ els, IsLineEl e

instance (els : List (PathEl K)) : Decidable (AllLines els) :=
  inferInstanceAs (Decidable (∀ e ∈ els, IsLineEl e))

theorem allLines_cons {e : PathEl K} {r : List (PathEl K)} : AllLines (e :: r) ↔ IsLineEl e ∧ AllLines r :=
  List.forall_mem_cons

theorem allLines_append {a b : List (PathEl K)} : AllLines (a ++ b) ↔ AllLines a ∧ AllLines b :=
  List.forall_mem_append

theorem stepT_isLine {sl : Point K × Point K} {el : PathEl K} (hl : IsLineEl el) : ∀ s ∈ (stepT sl el).2, IsLineSeg s := by
  cases el with
  | QuadTo _ _ => exact hl.elim
  | CurveTo _ _ _ => exact hl.elim
  | MoveTo q => intro s hs; cases hs
  | LineTo q => intro s hs; cases hs; trivial
  | ClosePath =>
    intro s hs
    simp only [stepT] at hs
    split at hs <;> cases hs
    trivial

theorem segsT_allLines {els : List (PathEl K)} (hl : AllLines els) (sl : Point K × Point K) :
    ∀ s ∈ segsT sl els, IsLineSeg s := by
  induction els generalizing sl with
  | nil => intro s hs; cases hs
  | cons el rest ih =>
    rw [allLines_cons] at hl
    intro s hs
    rcases List.mem_append.1 hs with hs | hs
    · exact stepT_isLine hl.1 s (Option.mem_toList.1 hs)
    · exact ih hl.2 _ s hs

theorem segsFrom_allLines {els : List (PathEl K)} {ss : List (PathSeg K)} (hl : AllLines els)
    (h : segsFrom none els = some ss) : ∀ s ∈ ss, IsLineSeg s := by
  cases els with
  | nil => cases h; intro s hs; cases hs
  | cons el r =>
    rw [segsFrom_none_cons] at h
    cases hp : el.end_point with
    | none => rw [hp] at h; cases h
    | some p =>
      rw [hp, Option.bind_some, segsFrom_some] at h
      cases h
      exact segsT_allLines hl _

theorem sum_reverse_neg {G : Type} [AddCommGroup G] (F : PathSeg K → G) (h : ∀ s, F s.reverse = - F s)
    (ss : List (PathSeg K)) : ((ss.reverse.map PathSeg.reverse).map F).sum = - (ss.map F).sum := by
  rw [List.map_map, List.map_reverse, List.sum_reverse, List.sum_neg, List.map_map]
  exact congrArg List.sum (List.map_congr_left fun s _ => h s)

theorem pathWinding_eq_sum (els : List (PathEl K)) (p : Point K) :
    pathWinding els p = (segs els).map fun ss => (ss.map fun s => s.winding p).sum := by
  unfold pathWinding
  cases segs els with
  | none => rfl
  | some ss => simp only [Option.map_some, List.sum_eq_foldl]

end structural


section lawful2
variable {K : Type} [Field K] [LinearOrder K] [IsStrictOrderedRing K] [FloorRing K] [Scalar K] [LawfulScalar K]

theorem winding_eq_kc_of_isLine (s : PathSeg K) (hs : IsLineSeg s) (p : Point K) :
    s.winding p = kc (s.start - p) (s.end - p) := by
  cases s with
  | Line l => exact windingInner_line_eq_kc' l p
  | Quad q => exact hs.elim
  | Cubic c => exact hs.elim

/-- the crossing sum of a list of segments (only meaningful for line segments) -/
def crossSum (ss : List (PathSeg K)) (p : Point K) : Int := (ss.map fun s => kc (s.start - p) (s.end - p)).sum

theorem crossSum_nil (p : Point K) : crossSum ([] : List (PathSeg K)) p = 0 := rfl
theorem crossSum_cons (s : PathSeg K) (r : List (PathSeg K)) (p : Point K) :
    crossSum (s :: r) p = kc (s.start - p) (s.end - p) + crossSum r p :=
  List.sum_cons
theorem crossSum_append (a b : List (PathSeg K)) (p : Point K) :
    crossSum (a ++ b) p = crossSum a p + crossSum b p := by
  unfold crossSum; rw [List.map_append, List.sum_append]

theorem windingSum_eq_crossSum (ss : List (PathSeg K)) (h : ∀ s ∈ ss, IsLineSeg s) (p : Point K) :
    (ss.map fun s => s.winding p).sum = crossSum ss p := by
  unfold crossSum
  congr 1
  exact List.map_congr_left fun s hs => winding_eq_kc_of_isLine s (h s hs) p

theorem kc_swap (a b : Vec2 K) : kc b a = - kc a b := kcr_swap _ _ _ _

theorem reverse_isLine {s : PathSeg K} (h : IsLineSeg s) : IsLineSeg s.reverse := by
  cases s with
  | Line l => cases l; trivial
  | Quad q => exact h.elim
  | Cubic c => exact h.elim

theorem crossSum_reverse (ss : List (PathSeg K)) (p : Point K) :
    crossSum (ss.reverse.map PathSeg.reverse) p = - crossSum ss p :=
  sum_reverse_neg (fun s => kc (s.start - p) (s.end - p))
    (fun s => by rw [reverse_start, reverse_end]; exact kc_swap _ _) ss

/-- closed chains one after the other (the segments of a list of closed sub-paths) -/
inductive ClosedChains : List (PathSeg K) → Prop
  | nil : ClosedChains []
  | cons (q : Point K) (c rest : List (PathSeg K)) : SegChain q c q → ClosedChains rest → ClosedChains (c ++ rest)

theorem segsFrom_closedPath {els : List (PathEl K)} (h : ClosedPath els) :
    ∃ ss, segsFrom none els = some ss ∧ ClosedChains ss := by
  induction h with
  | nil => exact ⟨[], rfl, ClosedChains.nil⟩
  | close p body rest hb hrest ih =>
    obtain ⟨ss, hss, hcc⟩ := ih
    refine ⟨(bodySegs p body ++ closeSegs (bodyEnd p body) p) ++ ss, ?_, ?_⟩
    · rw [segsFrom_append_bind hrest.state_indep, segsFrom_closed_subpath none p body hb, hss]; rfl
    · exact ClosedChains.cons p _ _ (segChain_append (segChain_bodySegs body p hb) (segChain_closeSegs _ _)) hcc
  | implicit p body rest hb hend hrest ih =>
    obtain ⟨ss, hss, hcc⟩ := ih
    refine ⟨bodySegs p body ++ ss, ?_, ?_⟩
    · rw [segsFrom_append_bind hrest.state_indep, segsFrom_open_subpath none p body hb, hss]; rfl
    · have hc := segChain_bodySegs body p hb
      rw [hend] at hc
      exact ClosedChains.cons p _ _ hc hcc

theorem sum_segChain {G : Type} [AddCommGroup G] (f : Point K → G) {a b : Point K} {ss : List (PathSeg K)}
    (h : SegChain a ss b) : (ss.map fun s => f s.end - f s.start).sum = f b - f a := by
  induction ss generalizing a with
  | nil => simp only [SegChain] at h; subst h; simp
  | cons s r ih =>
    obtain ⟨h1, h2⟩ := h
    simp only [List.map_cons, List.sum_cons, ih h2, h1]
    abel

theorem sum_closedChains {G : Type} [AddCommGroup G] (f : Point K → G) {ss : List (PathSeg K)}
    (h : ClosedChains ss) : (ss.map fun s => f s.end - f s.start).sum = 0 := by
  induction h with
  | nil => rfl
  | cons q c rest hc _ ih =>
    rw [List.map_append, List.sum_append, ih, sum_segChain f hc]; simp

end lawful2


section onseg
variable {K : Type} [Field K] [LinearOrder K] [IsStrictOrderedRing K] [FloorRing K] [Scalar K] [LawfulScalar K]

def OnSeg (s : PathSeg K) (p : Point K) : Prop := ∃ t : K, 0 ≤ t ∧ t ≤ 1 ∧ s.eval t = p

theorem onSeg_line_iff (a b p : Point K) :
    OnSeg (.Line ⟨a, b⟩) p ↔ ∃ t : K, 0 ≤ t ∧ t ≤ 1 ∧ p.x = a.x + (b.x - a.x) * t ∧ p.y = a.y + (b.y - a.y) * t := by
  refine exists_congr fun t => and_congr_right fun _ => and_congr_right fun _ => ?_
  show Line.eval ⟨a, b⟩ t = p ↔ _
  rw [Point.ext_iff, (Line.eval_xy ⟨a, b⟩ t).1, (Line.eval_xy ⟨a, b⟩ t).2]
  exact and_congr eq_comm eq_comm

end onseg


section pathlevel
variable {K : Type} [Field K] [LinearOrder K] [IsStrictOrderedRing K] [FloorRing K] [Scalar K] [LawfulScalar K]

def OffPath (els : List (PathEl K)) (p : Point K) : Prop := ∀ ss, segs els = some ss → ∀ s ∈ ss, ¬ OnSeg s p

def polygon (v0 : Point K) (vs : List (Point K)) : List (PathEl K) := .MoveTo v0 :: vs.map PathEl.LineTo ++ [.ClosePath]

def lineChain (v0 : Point K) : List (Point K) → List (PathSeg K)
  | [] => []
  | v :: r => .Line ⟨v0, v⟩ :: lineChain v r

theorem isBody_map_lineTo (vs : List (Point K)) : IsBody (vs.map PathEl.LineTo) := by
  intro e he
  rw [List.mem_map] at he
  obtain ⟨v, _, rfl⟩ := he
  trivial

theorem allLines_polygon (v0 : Point K) (vs : List (Point K)) : AllLines (polygon v0 vs) := by
  intro e he
  simp only [polygon, List.cons_append, List.mem_cons, List.mem_append, List.mem_map, List.mem_nil_iff, or_false] at he
  rcases he with rfl | ⟨v, _, rfl⟩ | rfl <;> trivial

theorem closedPath_polygon (v0 : Point K) (vs : List (Point K)) : ClosedPath (polygon v0 vs) := by
  have := ClosedPath.close v0 (vs.map PathEl.LineTo) [] (isBody_map_lineTo vs) ClosedPath.nil
  rwa [List.append_nil] at this

theorem bodySegs_map_lineTo (v0 : Point K) (vs : List (Point K)) :
    bodySegs v0 (vs.map PathEl.LineTo) = lineChain v0 vs := by
  induction vs generalizing v0 with
  | nil => rfl
  | cons v r ih => simp only [List.map_cons, bodySegs, lineChain, ih]

theorem bodyEnd_map_lineTo (v0 : Point K) (vs : List (Point K)) :
    bodyEnd v0 (vs.map PathEl.LineTo) = (v0 :: vs).getLast (List.cons_ne_nil _ _) := by
  induction vs generalizing v0 with
  | nil => rfl
  | cons v r ih =>
    simp only [List.map_cons, bodyEnd, PathEl.end_point, Option.getD_some, ih]
    rw [List.getLast_cons (List.cons_ne_nil _ _)]

theorem segs_polygon (v0 : Point K) (vs : List (Point K)) :
    segs (polygon v0 vs) = some (lineChain v0 vs ++
      (if (v0 :: vs).getLast (List.cons_ne_nil _ _) = v0 then []
       else [PathSeg.Line ⟨(v0 :: vs).getLast (List.cons_ne_nil _ _), v0⟩])) := by
  rw [segs_eq_segsFrom, polygon, segsFrom_closed_subpath none v0 _ (isBody_map_lineTo vs), bodySegs_map_lineTo,
    bodyEnd_map_lineTo, closeSegs_eq_ite]

theorem pathWinding_eq_crossSum {els : List (PathEl K)} (hl : AllLines els) {ss : List (PathSeg K)}
    (hss : segsFrom none els = some ss) (p : Point K) : pathWinding els p = some (crossSum ss p) := by
  rw [pathWinding_eq_sum, segs_eq_segsFrom, hss, Option.map_some,
    windingSum_eq_crossSum ss (segsFrom_allLines hl hss) p]

theorem closeSegs_isLine (e p : Point K) : ∀ s ∈ closeSegs e p, IsLineSeg s := by
  intro s hs
  rcases closeSegs_cases e p with h | h <;> rw [h] at hs
  · cases hs
  · rw [List.mem_singleton] at hs; subst hs; trivial

theorem closeSegs_reverse (e p : Point K) : (closeSegs e p).reverse = closeSegs e p := by
  rcases closeSegs_cases e p with h | h <;> rw [h] <;> rfl

end pathlevel

section polygons
variable {K : Type} [Field K] [LinearOrder K] [IsStrictOrderedRing K] [FloorRing K] [Scalar K] [LawfulScalar K]

theorem kc_self (a : Vec2 K) : kc a a = 0 := kcr_self _ _

theorem crossSum_closeIte (e p0 q : Point K) :
    crossSum (if e = p0 then [] else [PathSeg.Line ⟨e, p0⟩]) q = kc (e - q) (p0 - q) := by
  by_cases h : e = p0
  · rw [if_pos h, h, kc_self]; rfl
  · rw [if_neg h, crossSum_cons, crossSum_nil, add_zero]; rfl

theorem segs_quadrilateral (a b c d : Point K) :
    segs [.MoveTo a, .LineTo b, .LineTo c, .LineTo d, .ClosePath]
      = some ([PathSeg.Line ⟨a, b⟩, .Line ⟨b, c⟩, .Line ⟨c, d⟩] ++ (if d = a then [] else [PathSeg.Line ⟨d, a⟩])) :=
  segs_polygon a [b, c, d]

theorem segs_tri (a b c : Point K) :
    segs [.MoveTo a, .LineTo b, .LineTo c, .ClosePath]
      = some ([PathSeg.Line ⟨a, b⟩, .Line ⟨b, c⟩] ++ (if c = a then [] else [PathSeg.Line ⟨c, a⟩])) :=
  segs_polygon a [b, c]

theorem pathWinding_polygon (v0 : Point K) (vs : List (Point K)) (q : Point K) :
    pathWinding (polygon v0 vs) q
      = some (crossSum (lineChain v0 vs) q + kc ((v0 :: vs).getLast (List.cons_ne_nil _ _) - q) (v0 - q)) := by
  have h := segs_polygon v0 vs
  rw [segs_eq_segsFrom] at h
  rw [pathWinding_eq_crossSum (allLines_polygon v0 vs) h q, crossSum_append, crossSum_closeIte]

theorem pathWinding_tri (a b c q : Point K) :
    pathWinding [.MoveTo a, .LineTo b, .LineTo c, .ClosePath] q
      = some (kc (a - q) (b - q) + kc (b - q) (c - q) + kc (c - q) (a - q)) := by
  refine (pathWinding_polygon a [b, c] q).trans ?_
  simp only [lineChain, crossSum_cons, crossSum_nil, PathSeg.start, PathSeg.end, Line.start, Line.end,
    List.getLast_cons_cons, List.getLast_singleton]
  congr 1; ring

theorem pathWinding_quadrilateral (a b c d q : Point K) :
    pathWinding [.MoveTo a, .LineTo b, .LineTo c, .LineTo d, .ClosePath] q
      = some (kc (a - q) (b - q) + kc (b - q) (c - q) + kc (c - q) (d - q) + kc (d - q) (a - q)) := by
  refine (pathWinding_polygon a [b, c, d] q).trans ?_
  simp only [lineChain, crossSum_cons, crossSum_nil, PathSeg.start, PathSeg.end, Line.start, Line.end,
    List.getLast_cons_cons, List.getLast_singleton]
  congr 1; ring

namespace C11Tri
/-- off a closed edge: if the origin is on the supporting line it is outside the segment -/
def offEdge (ax ay bx by_ : K) : Prop := ax * by_ - ay * bx = 0 → 0 < ax * bx + ay * by_

/-- where `offEdge` fails the origin is a point of the closed segment: the foot of the perpendicular from the origin
    has parameter `A·(A − B) / |A − B|²`, which lies in `[0, 1]` when `A·B ≤ 0`, and is the origin when `A × B = 0` -/
theorem exists_param_of_not_offEdge {ax ay bx by_ : K} (hc : ax * by_ - ay * bx = 0) (hd : ax * bx + ay * by_ ≤ 0) :
    ∃ t : K, 0 ≤ t ∧ t ≤ 1 ∧ ax + (bx - ax) * t = 0 ∧ ay + (by_ - ay) * t = 0 := by
  rcases (add_nonneg (mul_self_nonneg (bx - ax)) (mul_self_nonneg (by_ - ay))).eq_or_lt with hD | hD
  · -- `A = B`, and then `A·A ≤ 0`
    obtain ⟨h1, h2⟩ := mul_self_add_mul_self_eq_zero.mp hD.symm
    obtain rfl := sub_eq_zero.mp h1
    obtain rfl := sub_eq_zero.mp h2
    obtain ⟨rfl, rfl⟩ := mul_self_add_mul_self_eq_zero.mp
      (le_antisymm hd (add_nonneg (mul_self_nonneg _) (mul_self_nonneg _)))
    exact ⟨0, le_rfl, zero_le_one, by ring, by ring⟩
  · refine ⟨(ax * (ax - bx) + ay * (ay - by_)) / ((bx - ax) * (bx - ax) + (by_ - ay) * (by_ - ay)),
      div_nonneg (by linarith [mul_self_nonneg ax, mul_self_nonneg ay]) hD.le,
      (div_le_one hD).mpr (by linarith [mul_self_nonneg bx, mul_self_nonneg by_]), ?_, ?_⟩
    · refine mul_right_cancel₀ hD.ne' ?_
      rw [add_mul, mul_assoc, div_mul_cancel₀ _ hD.ne']
      linear_combination (by_ - ay) * hc
    · refine mul_right_cancel₀ hD.ne' ?_
      rw [add_mul, mul_assoc, div_mul_cancel₀ _ hD.ne']
      linear_combination (-(bx - ax)) * hc

/-- `f64::signum` on a non-NaN value (`signum(0.0) = 1`) -/
def sgI (x : K) : Int := if x < 0 then -1 else 1

/-- `Triangle::winding` in relative coordinates: x0 = A×B, x1 = B×C, x2 = C×A -/
def triW (x0 x1 x2 : K) : Int := if sgI x0 = sgI x1 ∧ sgI x1 = sgI x2 then sgI x0 else 0

end C11Tri

theorem c11_offEdge_of_not_onSeg (a b p : Point K) (h : ¬ OnSeg (.Line ⟨a, b⟩) p) :
    C11Tri.offEdge (a.x - p.x) (a.y - p.y) (b.x - p.x) (b.y - p.y) := by
  intro hc
  by_contra hd
  obtain ⟨t, h0, h1, hx, hy⟩ := C11Tri.exists_param_of_not_offEdge hc (not_lt.mp hd)
  exact h ((onSeg_line_iff a b p).mpr ⟨t, h0, h1, by linear_combination -hx, by linear_combination -hy⟩)

end polygons

end Kurbo
