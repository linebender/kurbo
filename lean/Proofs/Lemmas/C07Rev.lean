import Proofs.Lemmas.C07
/-! Helper definitions and lemmas for C07: runs of drawing elements (`AllDraw`, `runEnd`) and `reverse_subpath` on such a
    run (`revBody`: block level; the path level, `reverse_subpaths`, is in `Lemmas/C07Path.lean`).  Core Lean only. -/
set_option linter.unusedSectionVars false
namespace Kurbo
variable {K : Type} [Scalar K]

def PathEl.isDraw : PathEl K → Bool
  | .LineTo _ | .QuadTo _ _ | .CurveTo _ _ _ => true
  | _ => false

@[elab_as_elim]
theorem PathEl.cases_of_isDraw {motive : PathEl K → Prop} {e : PathEl K} (h : e.isDraw = true)
    (line : ∀ p, motive (.LineTo p)) (quad : ∀ c p, motive (.QuadTo c p)) (cubic : ∀ c d p, motive (.CurveTo c d p)) :
    motive e := by
  cases e with
  | LineTo p => exact line p
  | QuadTo c p => exact quad c p
  | CurveTo c d p => exact cubic c d p
  | MoveTo p => cases h
  | ClosePath => cases h

def AllDraw (els : List (PathEl K)) : Prop := ∀ e ∈ els, e.isDraw = true

theorem AllDraw.nil : AllDraw ([] : List (PathEl K)) := fun _ h => by cases h
theorem AllDraw.head {e : PathEl K} {es : List (PathEl K)} (h : AllDraw (e :: es)) : e.isDraw = true :=
  h e (List.mem_cons_self ..)
theorem AllDraw.tail {e : PathEl K} {es : List (PathEl K)} (h : AllDraw (e :: es)) : AllDraw es :=
  fun x hx => h x (List.mem_cons_of_mem _ hx)
theorem AllDraw.append {a b : List (PathEl K)} (ha : AllDraw a) (hb : AllDraw b) : AllDraw (a ++ b) := by
  intro x hx
  rcases List.mem_append.1 hx with h | h
  · exact ha x h
  · exact hb x h
theorem AllDraw.left {a b : List (PathEl K)} (h : AllDraw (a ++ b)) : AllDraw a :=
  fun x hx => h x (List.mem_append_left _ hx)
theorem AllDraw.right {a b : List (PathEl K)} (h : AllDraw (a ++ b)) : AllDraw b :=
  fun x hx => h x (List.mem_append_right _ hx)
theorem AllDraw.single {e : PathEl K} (h : e.isDraw = true) : AllDraw [e] := by
  intro x hx; rw [List.mem_singleton] at hx; subst hx; exact h
theorem allDraw_reverse {els : List (PathEl K)} : AllDraw els.reverse ↔ AllDraw els :=
  ⟨fun h x hx => h x (List.mem_reverse.2 hx), fun h x hx => h x (List.mem_reverse.1 hx)⟩

def PathEl.endD (dflt : Point K) (e : PathEl K) : Point K := e.end_point.getD dflt

/-- the current point after a run of drawing elements started at `start` -/
def runEnd (start : Point K) : List (PathEl K) → Point K
  | [] => start
  | e :: es => runEnd (e.endD start) es

/-- the reversed drawing element, ending at `prevEnd` (body of the loop in `reverse_subpath`) -/
def PathEl.revTo (prevEnd : Point K) : PathEl K → PathEl K
  | .LineTo _ => .LineTo prevEnd
  | .QuadTo c0 _ => .QuadTo c0 prevEnd
  | .CurveTo c0 c1 _ => .CurveTo c1 c0 prevEnd
  | e => e

/-- what the loop of `reverse_subpath` pushes for a run that starts at `start` -/
def revBody (start : Point K) : List (PathEl K) → List (PathEl K)
  | [] => []
  | e :: es => revBody (e.endD start) es ++ [e.revTo start]

theorem runEnd_append (a : Point K) (xs ys : List (PathEl K)) :
    runEnd a (xs ++ ys) = runEnd (runEnd a xs) ys := by
  induction xs generalizing a with
  | nil => rfl
  | cons e es ih => simp only [List.cons_append, runEnd, ih]

theorem stAfterT_draw (S L : Point K) (els : List (PathEl K)) (h : AllDraw els) :
    stAfterT (S, L) els = (S, runEnd L els) := by
  induction els generalizing L with
  | nil => rfl
  | cons e es ih =>
    refine PathEl.cases_of_isDraw h.head ?_ ?_ ?_ <;> intros <;>
      simp only [stAfterT, stepT, runEnd, PathEl.endD, PathEl.end_point, Option.getD, ih _ h.tail]

theorem revBody_isDraw (start : Point K) (els : List (PathEl K)) (h : AllDraw els) :
    AllDraw (revBody start els) := by
  induction els generalizing start with
  | nil => exact AllDraw.nil
  | cons e es ih =>
    refine AllDraw.append (ih _ h.tail) (AllDraw.single ?_)
    refine PathEl.cases_of_isDraw h.head ?_ ?_ ?_ <;> intros <;> rfl

theorem runEnd_revBody (start : Point K) (els : List (PathEl K)) (h : AllDraw els) :
    runEnd (runEnd start els) (revBody start els) = start := by
  induction els generalizing start with
  | nil => rfl
  | cons e es ih =>
    simp only [runEnd, revBody, runEnd_append, ih _ h.tail]
    refine PathEl.cases_of_isDraw h.head ?_ ?_ ?_ <;> intros <;> rfl

/-- **Block lemma.** The elements pushed by `reverse_subpath` for a run of drawing elements trace the reversed
    segments in reverse order, starting from the run's end point. -/
theorem segsT_revBody (S S' start : Point K) (els : List (PathEl K)) (h : AllDraw els) :
    segsT (S', runEnd start els) (revBody start els)
      = (segsT (S, start) els).reverse.map PathSeg.reverse := by
  induction els generalizing start with
  | nil => rfl
  | cons e es ih =>
    simp only [revBody, runEnd]
    rw [segsT_append, ih _ h.tail, stAfterT_draw _ _ _ (revBody_isDraw _ _ h.tail), runEnd_revBody _ _ h.tail]
    refine PathEl.cases_of_isDraw h.head ?_ ?_ ?_ <;> intros <;>
      simp [segsT, stepT, PathEl.revTo, PathEl.endD, PathEl.end_point, PathSeg.reverse,
        Line.new, QuadBez.new, CubicBez.new]

theorem revBody_snoc (a : Point K) (xs : List (PathEl K)) (e : PathEl K) :
    revBody a (xs ++ [e]) = e.revTo (runEnd a xs) :: revBody a xs := by
  induction xs generalizing a with
  | nil => rfl
  | cons x xs ih => simp only [List.cons_append, revBody, runEnd, ih]

theorem revBody_revBody (start : Point K) (els : List (PathEl K)) (h : AllDraw els) :
    revBody (runEnd start els) (revBody start els) = els := by
  induction els generalizing start with
  | nil => rfl
  | cons e es ih =>
    simp only [revBody, runEnd, revBody_snoc, ih _ h.tail, runEnd_revBody _ _ h.tail]
    refine PathEl.cases_of_isDraw h.head ?_ ?_ ?_ <;> intros <;> rfl

/-- the end point of the element before the one being reversed -/
def prevEnd (start : Point K) : List (PathEl K) → Option (Point K)
  | [] => some start
  | prev :: _ => prev.end_point

theorem go_cons (start : Point K) (el : PathEl K) (before : List (PathEl K)) :
    reverseSubpath.go start (el :: before) =
      match prevEnd start before, reverseSubpath.go start before with
      | some ep, some rest =>
        match el with
        | .LineTo _ => some (.LineTo ep :: rest)
        | .QuadTo c0 _ => some (.QuadTo c0 ep :: rest)
        | .CurveTo c0 c1 _ => some (.CurveTo c1 c0 ep :: rest)
        | _ => none
      | _, _ => none := by
  cases before <;> rfl

theorem runEnd_reverse_cons (start : Point K) (prev : PathEl K) (b : List (PathEl K)) (h : prev.isDraw = true) :
    prev.end_point = some (runEnd start (prev :: b).reverse) := by
  rw [List.reverse_cons, runEnd_append]
  refine PathEl.cases_of_isDraw h ?_ ?_ ?_ <;> intros <;> rfl

theorem go_eq (start : Point K) (r : List (PathEl K)) (h : AllDraw r) :
    reverseSubpath.go start r = some (revBody start r.reverse) := by
  induction r with
  | nil => rfl
  | cons el before ih =>
    rw [go_cons, ih h.tail, List.reverse_cons, revBody_snoc]
    have hep : prevEnd start before = some (runEnd start before.reverse) := by
      cases before with
      | nil => rfl
      | cons prev b => exact runEnd_reverse_cons start prev b h.tail.head
    rw [hep]
    refine PathEl.cases_of_isDraw h.head ?_ ?_ ?_ <;> intros <;> rfl

theorem end_pt_eq (start : Point K) (els : List (PathEl K)) (h : AllDraw els) :
    (els.getLast?.bind PathEl.end_point).getD start = runEnd start els := by
  induction els using snoc_induction with
  | nil => rfl
  | snoc l a _ =>
    rw [List.getLast?_concat, runEnd_append]
    refine PathEl.cases_of_isDraw h.right.head ?_ ?_ ?_ <;> intros <;> rfl

theorem reverseSubpath_eq (start : Point K) (els : List (PathEl K)) (h : AllDraw els) :
    reverseSubpath start els = some (.MoveTo (runEnd start els) :: revBody start els) := by
  unfold reverseSubpath
  simp only [go_eq start _ (allDraw_reverse.2 h), List.reverse_reverse, end_pt_eq start els h]

theorem go_none_of_not_allDraw (start : Point K) (r : List (PathEl K)) (h : ¬ AllDraw r) :
    reverseSubpath.go start r = none := by
  induction r with
  | nil => exact absurd AllDraw.nil h
  | cons el before ih =>
    rw [go_cons]
    by_cases hb : AllDraw before
    · have hel : ¬ el.isDraw = true := by
        intro he
        exact h (AllDraw.append (AllDraw.single he) hb)
      cases el <;> simp only [PathEl.isDraw, not_true_eq_false] at hel <;>
        cases prevEnd start before <;> cases reverseSubpath.go start before <;> rfl
    · rw [ih hb]
      cases prevEnd start before <;> rfl

theorem reverseSubpath_none (start : Point K) (els : List (PathEl K)) (h : ¬ AllDraw els) :
    reverseSubpath start els = none := by
  unfold reverseSubpath
  simp only [go_none_of_not_allDraw start _ (mt allDraw_reverse.1 h)]

end Kurbo
