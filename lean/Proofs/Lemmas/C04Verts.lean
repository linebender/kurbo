import Proofs.Lemmas.C04Geom
import Proofs.Lemmas.C04Contours
/-! C04 over a lawful ordered field with `C04HypotLaw`: every vertex of the outline of a polyline (bevel/miter joins,
    butt/square caps) is within the style bound of a vertex of the source. -/
set_option linter.unusedSectionVars false
namespace Kurbo
variable {K : Type} [Field K] [LinearOrder K] [IsStrictOrderedRing K] [FloorRing K] [Scalar K] [LawfulScalar K]

/-- `q` is within squared distance `R2` of some point of `V` (the source vertices) -/
def c04_W (R2 : K) (V : List (Point K)) (q : Point K) : Prop := ∃ p ∈ V, q.distance_squared p ≤ R2

/-- the vertex of a `MoveTo` / `LineTo` is within `R2` of `V`; no curve element is: the vertex bound excludes round joins and caps -/
def c04_elW (R2 : K) (V : List (Point K)) : PathEl K → Prop
  | .MoveTo q => c04_W R2 V q
  | .LineTo q => c04_W R2 V q
  | .ClosePath => True
  | _ => False

def c04_allW (R2 : K) (V : List (Point K)) (l : List (PathEl K)) : Prop := ∀ e ∈ l, c04_elW R2 V e

theorem c04_allW_nil {R2 : K} {V : List (Point K)} : c04_allW R2 V [] := fun _ h => (nomatch h)
theorem c04_allW_append {R2 : K} {V : List (Point K)} {a b : List (PathEl K)} (ha : c04_allW R2 V a) (hb : c04_allW R2 V b) :
    c04_allW R2 V (a ++ b) :=
  List.forall_mem_append.2 ⟨ha, hb⟩
theorem c04_allW_cons {R2 : K} {V : List (Point K)} {x : PathEl K} {l : List (PathEl K)} (hx : c04_elW R2 V x)
    (hl : c04_allW R2 V l) : c04_allW R2 V (x :: l) :=
  List.forall_mem_cons.2 ⟨hx, hl⟩
theorem c04_allW_single {R2 : K} {V : List (Point K)} {x : PathEl K} (hx : c04_elW R2 V x) : c04_allW R2 V [x] :=
  c04_allW_cons hx c04_allW_nil

theorem c04_dist_self (p : Point K) : p.distance_squared p = 0 := by
  cases p; kring
theorem c04_W_self {R2 : K} {V : List (Point K)} {p : Point K} (hR : 0 ≤ R2) (hp : p ∈ V) : c04_W R2 V p :=
  ⟨p, hp, by rw [c04_dist_self]; exact hR⟩

theorem c04_sub_add_hypot2 (p : Point K) (n : Vec2 K) : (p - (p + n)).hypot2 = n.hypot2 := by
  cases p; cases n; kring

theorem c04_lastEndPoint_W {R2 : K} {V : List (Point K)} {l : List (PathEl K)} (hl : c04_allW R2 V l) {rp : Point K}
    (h : lastEndPoint l = some rp) : c04_W R2 V rp := by
  unfold lastEndPoint at h
  cases hg : l.getLast? with
  | none => rw [hg] at h; cases h
  | some e =>
    rw [hg] at h
    have hm : e ∈ l := List.mem_of_getLast? hg
    have := hl e hm
    cases e with
    | MoveTo q => simp only [PathEl.end_point, Option.some.injEq] at h; subst h; exact this
    | LineTo q => simp only [PathEl.end_point, Option.some.injEq] at h; subst h; exact this
    | ClosePath => cases h
    | QuadTo _ _ => exact this.elim
    | CurveTo _ _ _ => exact this.elim

theorem c04_revEl_W {R2 : K} {V : List (Point K)} {a b : PathEl K} (ha : c04_elW R2 V a) (hb : c04_elW R2 V b) :
    c04_elW R2 V (c04_revEl a b) := by
  cases a with
  | MoveTo q => cases b <;> first | exact ha | exact hb
  | LineTo q => cases b <;> first | exact ha | exact hb
  | ClosePath => exact hb
  | QuadTo _ _ => exact ha.elim
  | CurveTo _ _ _ => exact ha.elim

theorem c04_extendReversed_allW {R2 : K} {V : List (Point K)} {l : List (PathEl K)} (hl : c04_PathOK l) (hw : c04_allW R2 V l) :
    ∃ rev, extendReversed l = some rev ∧ c04_allW R2 V rev :=
  c04_extendReversed_forall (fun _ _ => c04_revEl_W) hl hw (fun e he => hw e (List.mem_of_mem_tail he))

theorem c04_squareCap_allW {R2 rr : K} {V : List (Point K)} (close : Bool) {s : Point K} (hs : s ∈ V) (n : Vec2 K)
    (hn : n.hypot2 = rr) (h1 : rr ≤ R2) (h2 : 2 * rr ≤ R2) : c04_allW R2 V (squareCap close s n) := by
  rw [c04_squareCap_eq]
  obtain ⟨d1, d2, d3⟩ := c04_squareCap_dist s n
  rw [hn] at d1 d2 d3
  refine c04_allW_append (c04_allW_cons ⟨s, hs, by rw [d1]; exact h2⟩ (c04_allW_single ⟨s, hs, by rw [d2]; exact h2⟩)) ?_
  cases close
  · exact c04_allW_single ⟨s, hs, by rw [d3]; exact h1⟩
  · exact c04_allW_single trivial

theorem c04_lastEndPoint_snoc' (l m : List (PathEl K)) (e : PathEl K) : lastEndPoint (l ++ (m ++ [e])) = e.end_point := by
  rw [← List.append_assoc]; exact c04_lastEndPoint_snoc _ e

section verts
variable [C04HypotLaw K]

/-- `R2` is a squared style bound; round joins and caps are excluded -/
structure C04Bound (style : StrokeStyle K) (R2 : K) : Prop where
  join : style.join = 0 ∨ style.join = 1
  start_cap : style.start_cap ≠ 2
  end_cap : style.end_cap ≠ 2
  half : (style.width / 2) ^ 2 ≤ R2
  square : (style.start_cap ≠ 0 ∨ style.end_cap ≠ 0) → 2 * (style.width / 2) ^ 2 ≤ R2
  miter : style.join = 1 → (style.width / 2 * style.miter_limit) ^ 2 ≤ R2

/-- context invariant for the vertex bound, relative to a list `V` of source vertices (one list for the whole loop) -/
structure C04VInv (style : StrokeStyle K) (R2 : K) (V : List (Point K)) (c : StrokeCtx K) : Prop where
  inv : C04Inv c
  out : c04_allW R2 V c.output
  fwd : c04_allW R2 V c.forward_path
  bwd : c04_allW R2 V c.backward_path
  start_mem : c.start_pt ∈ V
  last_mem : c.last_pt ∈ V
  start_norm : c.forward_path ≠ [] → c.start_norm.hypot2 = (style.width / 2) ^ 2
  ret : c.forward_path ≠ [] → ∃ rp, lastEndPoint c.backward_path = some rp ∧ (c.last_pt - rp).hypot2 = (style.width / 2) ^ 2
  last_tan : c.forward_path ≠ [] → (c.last_tan.x ≠ 0 ∨ c.last_tan.y ≠ 0)
  start_tan : c.forward_path ≠ [] → (c.start_tan.x ≠ 0 ∨ c.start_tan.y ≠ 0)

theorem C04VInv.of_empty {style : StrokeStyle K} {R2 : K} {V : List (Point K)} {c : StrokeCtx K} (hf : c.forward_path = [])
    (hb : c.backward_path = []) (hl : c.last_pt = c.start_pt) (ho : c04_allW R2 V c.output) (hs : c.start_pt ∈ V) :
    C04VInv style R2 V c :=
  ⟨.of_empty hf hb fun _ => hl, ho, hf ▸ c04_allW_nil, hb ▸ c04_allW_nil, hs, hl ▸ hs, fun h => absurd hf h, fun h => absurd hf h,
    fun h => absurd hf h, fun h => absurd hf h⟩

theorem c04_offset_W {style : StrokeStyle K} {R2 : K} {V : List (Point K)} (hB : C04Bound style R2) {p : Point K} (hp : p ∈ V)
    {t : Vec2 K} (ht : t.x ≠ 0 ∨ t.y ≠ 0) :
    c04_W R2 V (p - c04_norm style.width t) ∧ c04_W R2 V (p + c04_norm style.width t) := by
  obtain ⟨d1, d2⟩ := c04_offset_dist p (c04_norm style.width t)
  rw [c04_norm_hypot2 style.width t ht] at d1 d2
  exact ⟨⟨p, hp, d1.trans_le hB.half⟩, ⟨p, hp, d2.trans_le hB.half⟩⟩

theorem c04_joinApp_allW {style : StrokeStyle K} {R2 : K} {V : List (Point K)} (hB : C04Bound style R2) (c : StrokeCtx K)
    (tan0 : Vec2 K) (hl : c.last_pt ∈ V) (hab : c.last_tan.x ≠ 0 ∨ c.last_tan.y ≠ 0) (hcd : tan0.x ≠ 0 ∨ tan0.y ≠ 0) :
    c04_allW R2 V (c04_joinApp c style tan0).1 ∧ c04_allW R2 V (c04_joinApp c style tan0).2 := by
  have hR0 : 0 ≤ R2 := le_trans (sq_nonneg _) hB.half
  refine c04_joinApp_forall (c04_elW R2 V) c style tan0 (c04_W_self hR0 hl) ?_ ?_ ?_ ?_ (fun h0 h1 => (hB.join.elim h0 h1).elim)
  · intro h1 ht hx
    have hX : 0 < c.last_tan.cross tan0 := by
      simpa only [scalar_norm, Nat.cast_zero, decide_eq_true_eq] using hx
    exact ⟨c.last_pt, hl, le_trans ((c04_miter_within_ctx c style tan0 hab hcd ht).1 hX) (hB.miter h1)⟩
  · intro h1 ht hx
    have hX : c.last_tan.cross tan0 < 0 := by
      simpa only [scalar_norm, Nat.cast_zero, decide_eq_true_eq] using hx
    exact ⟨c.last_pt, hl, le_trans ((c04_miter_within_ctx c style tan0 hab hcd ht).2 hX) (hB.miter h1)⟩
  · exact (c04_offset_W hB hl hcd).1
  · exact (c04_offset_W hB hl hcd).2

theorem c04_stepLine_vinv {style : StrokeStyle K} {R2 : K} {V : List (Point K)} (hB : C04Bound style R2) (c : StrokeCtx K)
    (p1 : Point K) (h : C04VInv style R2 V c) (hne : p1.peq c.last_pt = false) (hp1 : p1 ∈ V) :
    C04VInv style R2 V (c04_stepLine style c p1) := by
  have ht : (p1 - c.last_pt).x ≠ 0 ∨ (p1 - c.last_pt).y ≠ 0 := c04_sub_ne_zero ((peq_false_iff _ _).1 hne)
  have hn := c04_norm_hypot2 style.width (p1 - c.last_pt) ht
  have hinv' := c04_stepLine_inv style c p1 h.inv
  obtain ⟨hW1m, hW1p⟩ := c04_offset_W hB h.last_mem ht
  obtain ⟨hW2m, hW2p⟩ := c04_offset_W hB hp1 ht
  by_cases he : c.forward_path = []
  · have e := c04_stepLine_empty style c p1 he
    rw [e] at hinv'
    rw [e]
    refine ⟨hinv', h.out, ?_, ?_, h.start_mem, hp1, fun _ => hn, fun _ => ⟨p1 + c04_norm style.width (p1 - c.last_pt), ?_, ?_⟩, fun _ => ht, fun _ => ht⟩
    · exact c04_allW_cons (R2 := R2) (V := V) (x := .MoveTo _) hW1m (c04_allW_single (x := .LineTo _) hW2m)
    · exact c04_allW_append h.bwd
        (c04_allW_cons (R2 := R2) (V := V) (x := .MoveTo _) hW1p (c04_allW_single (x := .LineTo _) hW2p))
    · exact c04_lastEndPoint_snoc' c.backward_path [_] (.LineTo _)
    · exact (c04_sub_add_hypot2 _ _).trans hn
  · have e := c04_stepLine_nonempty style c p1 he
    obtain ⟨hjf, hjb⟩ := c04_joinApp_allW (V := V) hB c (p1 - c.last_pt) h.last_mem (h.last_tan he) ht
    rw [e] at hinv'
    rw [e]
    refine ⟨hinv', h.out, ?_, ?_, h.start_mem, hp1, fun _ => h.start_norm he, fun _ => ⟨p1 + c04_norm style.width (p1 - c.last_pt), ?_, ?_⟩, fun _ => ht,
      fun _ => h.start_tan he⟩
    · exact c04_allW_append h.fwd (c04_allW_append hjf (c04_allW_single (x := .LineTo _) hW2m))
    · exact c04_allW_append h.bwd (c04_allW_append hjb (c04_allW_single (x := .LineTo _) hW2p))
    · exact c04_lastEndPoint_snoc' c.backward_path _ (.LineTo _)
    · exact (c04_sub_add_hypot2 _ _).trans hn

theorem c04_endCap_allW {style : StrokeStyle K} {R2 : K} {V : List (Point K)} (hB : C04Bound style R2) {tol : K} {lp rp : Point K}
    (hlp : lp ∈ V) (hrp : c04_W R2 V rp) (hd : (lp - rp).hypot2 = (style.width / 2) ^ 2) :
    c04_allW R2 V (c04_endCap tol style lp rp) := by
  unfold c04_endCap
  split
  · exact c04_allW_single (x := .LineTo _) hrp
  · rename_i h2; exact absurd h2 hB.end_cap
  · rename_i h0 _
    exact c04_squareCap_allW false hlp _ hd hB.half (hB.square (Or.inr (fun h => h0 h)))

theorem c04_startCap_allW {style : StrokeStyle K} {R2 : K} {V : List (Point K)} (hB : C04Bound style R2) {tol : K} {s : Point K}
    {n : Vec2 K} (hs : s ∈ V) (hn : n.hypot2 = (style.width / 2) ^ 2) : c04_allW R2 V (c04_startCap tol style s n) := by
  unfold c04_startCap
  split
  · exact c04_allW_single (x := .ClosePath) trivial
  · rename_i h2; exact absurd h2 hB.start_cap
  · rename_i h0 _
    exact c04_squareCap_allW true hs _ hn hB.half (hB.square (Or.inl (fun h => h0 h)))

theorem c04_finish_allW {style : StrokeStyle K} {R2 : K} {V : List (Point K)} (hB : C04Bound style R2) (c : StrokeCtx K)
    (h : C04VInv style R2 V c) :
    ∃ out', c04_allW R2 V out' ∧
      c.finish style = some { c with output := out', forward_path := [], backward_path := [] } := by
  by_cases he : c.forward_path = []
  · have hb := h.inv.backward_empty he
    exact ⟨c.output, h.out, c04_finish_empty_eq c style he hb⟩
  · obtain ⟨hf, hb⟩ := h.inv.ok_of_ne he
    obtain ⟨rp, hrp, hd⟩ := h.ret he
    obtain ⟨rev, hrev, hrevW⟩ := c04_extendReversed_allW hb h.bwd
    refine ⟨_, ?_, c04_finish_eq c style he hrp hrev⟩
    exact c04_allW_append (c04_allW_append (c04_allW_append (c04_allW_append h.out h.fwd)
      (c04_endCap_allW hB h.last_mem (c04_lastEndPoint_W h.bwd hrp) hd)) hrevW)
      (c04_startCap_allW hB h.start_mem (h.start_norm he))

theorem c04_finish_closed_vinv {style : StrokeStyle K} {R2 : K} {V : List (Point K)} (hB : C04Bound style R2) (c : StrokeCtx K)
    (h : C04VInv style R2 V c) (hne : c.forward_path ≠ []) (hls : c.last_pt = c.start_pt) :
    ∃ c', c.finish_closed style = some c' ∧ C04VInv style R2 V c' := by
  obtain ⟨hf, hb⟩ := h.inv.ok_of_ne hne
  have hs := c04_joinApp_segs c style c.start_tan
  obtain ⟨hjf, hjb⟩ := c04_joinApp_allW (V := V) hB c c.start_tan h.last_mem (h.last_tan hne) (h.start_tan hne)
  have hj := c04_do_join_nonempty c style c.start_tan hne
  have hb' : c04_PathOK (c.do_join style c.start_tan).backward_path := by
    rw [hj]; exact c04_PathOK_append hb hs.2
  have hbw : c04_allW R2 V (c.do_join style c.start_tan).backward_path := by
    rw [hj]; exact c04_allW_append h.bwd hjb
  have hfw : c04_allW R2 V (c.do_join style c.start_tan).forward_path := by
    rw [hj]; exact c04_allW_append h.fwd hjf
  have how : c04_allW R2 V (c.do_join style c.start_tan).output := by
    rw [hj]; exact h.out
  obtain ⟨rp, hrp⟩ := c04_lastEndPoint_PathOK hb'
  obtain ⟨rev, hrev, hrevW⟩ := c04_extendReversed_allW hb' hbw
  refine ⟨_, c04_finish_closed_eq c style hne hrp hrev, ?_⟩
  refine .of_empty rfl rfl ?_ ?_ ?_
  · show (c.do_join style c.start_tan).last_pt = (c.do_join style c.start_tan).start_pt
    rw [c04_do_join_start_pt, c04_do_join_last_pt]; exact hls
  · exact c04_allW_append (c04_allW_append (c04_allW_append (c04_allW_append (c04_allW_append how hfw)
      (c04_allW_single (x := .ClosePath) trivial)) (c04_allW_single (x := .MoveTo _) (c04_lastEndPoint_W hbw hrp))) hrevW)
      (c04_allW_single (x := .ClosePath) trivial)
  · show (c.do_join style c.start_tan).start_pt ∈ V
    rw [c04_do_join_start_pt]; exact h.start_mem

theorem c04_loop_allW_of_mem {style : StrokeStyle K} {R2 : K} (hB : C04Bound style R2) (V : List (Point K)) (c0 : StrokeCtx K)
    (h0 : C04VInv style R2 V c0) (els : List (PathEl K)) (hp : ∀ e ∈ els, c04_isPoly e = true)
    (hV : ∀ e ∈ els, ∀ q, e.end_point = some q → q ∈ V) :
    ∃ out, strokeLoop style els c0 = .ok out ∧ c04_allW R2 V out := by
  obtain ⟨cf, hI, hres⟩ := c04_loop_rule style (fun _ => C04VInv style R2 V) (fun e => ∀ q, e.end_point = some q → q ∈ V)
    (fun _ c p hE hJ => by
      obtain ⟨out', hout, hf⟩ := c04_finish_allW hB c hJ
      exact ⟨_, hf, .of_empty rfl rfl rfl hout (hE p rfl)⟩)
    (fun _ c p1 hE hJ hd => c04_stepLine_vinv hB c p1 hJ hd (hE p1 rfl))
    (fun _ c hJ hd => c04_stepLine_vinv hB c c.start_pt hJ ((peq_comm _ _).trans hd) hJ.start_mem)
    (fun _ c hJ hne hls => c04_finish_closed_vinv hB c hJ hne (hls.elim (c04_peqSound _ _) id))
    els ⟨c0.start_pt, c0.last_pt, false⟩ c0 hp hV rfl rfl h0
  obtain ⟨out', hout, hfin⟩ := c04_finish_allW hB cf hI
  rw [c04_strokeLoop_nil, hfin] at hres
  exact ⟨_, hres, hout⟩

theorem c04_vinv_fresh {style : StrokeStyle K} {R2 : K} {V : List (Point K)} (o : Point K) (c0 : StrokeCtx K)
    (hf : c0.forward_path = []) (hb : c0.backward_path = []) (ho : c0.output = []) (hs : c0.start_pt = o) (hl : c0.last_pt = o) :
    C04VInv style R2 (o :: V) c0 :=
  .of_empty hf hb (hl.trans hs.symm) (ho ▸ c04_allW_nil) (hs ▸ List.mem_cons_self)

theorem c04_elW_cases {R2 : K} {V : List (Point K)} {e : PathEl K} (h : c04_elW R2 V e) :
    e = .ClosePath ∨ ∃ q, (e = .MoveTo q ∨ e = .LineTo q) ∧ ∃ p ∈ V, q.distance_squared p ≤ R2 := by
  cases e with
  | MoveTo q => exact Or.inr ⟨q, Or.inl rfl, h⟩
  | LineTo q => exact Or.inr ⟨q, Or.inr rfl, h⟩
  | ClosePath => exact Or.inl rfl
  | QuadTo _ _ => exact h.elim
  | CurveTo _ _ _ => exact h.elim

/-- `V` = the source vertices and the origin: the stroker's initial current point (`StrokeCtx::default()`), from which a source
    that does not start with `MoveTo` is drawn -/
theorem c04_strokeUndashed_allW {style : StrokeStyle K} {R2 : K} (hB : C04Bound style R2) (els : List (PathEl K))
    (tolerance : K) (hp : ∀ e ∈ els, c04_isPoly e = true) :
    ∃ out, strokeUndashed els style tolerance = .ok out ∧ c04_allW R2 ((⟨0, 0⟩ : Point K) :: els.filterMap PathEl.end_point) out := by
  unfold strokeUndashed
  refine c04_loop_allW_of_mem hB _ _ (c04_vinv_fresh (⟨0, 0⟩ : Point K) _ rfl rfl rfl ?_ ?_) els hp
    fun e he q hq => List.mem_cons_of_mem _ (List.mem_filterMap.2 ⟨e, he, hq⟩)
  · simp only [scalar_norm, Nat.cast_zero]
  · simp only [scalar_norm, Nat.cast_zero]

theorem c04_strokeUndashed_allW_moveTo {style : StrokeStyle K} {R2 : K} (hB : C04Bound style R2) (p0 : Point K)
    (rest : List (PathEl K)) (tolerance : K) (hp : ∀ e ∈ rest, c04_isPoly e = true) :
    ∃ out, strokeUndashed (.MoveTo p0 :: rest) style tolerance = .ok out ∧
      c04_allW R2 ((PathEl.MoveTo p0 :: rest).filterMap PathEl.end_point) out := by
  unfold strokeUndashed
  rw [c04_loop_moveTo _ _ _ _ rfl]
  exact c04_loop_allW_of_mem hB _ _ (c04_vinv_fresh p0 _ rfl rfl rfl rfl rfl) rest hp
    fun e he q hq => List.mem_cons_of_mem _ (List.mem_filterMap.2 ⟨e, he, hq⟩)

end verts

end Kurbo
