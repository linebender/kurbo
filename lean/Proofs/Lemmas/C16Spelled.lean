import Proofs.Lemmas.C16Step
/-! C16: commands as they are spelled.  A `C16Cmd NumChunk` carries its arguments as number chunks, a `C16Spelled` adds white
    space and says whether the letter is written out.  On well-formed chunks the argument lexer returns the command with every
    chunk replaced by its value, so one loop iteration is one spelled command (`c16b_step`: letter written out or implied), and
    by induction the parser returns the folded meaning of a well-formed spelled list (`c16b_parse`).  Arbitrary `[Scalar K]`. -/
namespace Kurbo

def c16b_ptc (p : Point NumChunk) : PtChunk := ⟨p.x, p.y⟩

def C16Cmd.argBytes : C16Cmd NumChunk → List UInt8
  | .moveTo _ p => (c16b_ptc p).bytes
  | .lineTo _ p => (c16b_ptc p).bytes
  | .horiz _ x => x.bytes
  | .vert _ y => y.bytes
  | .quadTo _ p1 p2 => (c16b_ptc p1).bytes ++ (c16b_ptc p2).bytes
  | .smoothQuadTo _ p => (c16b_ptc p).bytes
  | .curveTo _ p1 p2 p3 => (c16b_ptc p1).bytes ++ ((c16b_ptc p2).bytes ++ (c16b_ptc p3).bytes)
  | .smoothCurveTo _ p2 p3 => (c16b_ptc p2).bytes ++ (c16b_ptc p3).bytes
  | .close _ => []

/-- every number chunk of the command is well formed in front of what follows it (`r` = what follows the command): white space,
    a valid number that cannot be continued by the next byte, a separator `ws* ','?` that is all `optComma` will eat -/
def C16Cmd.ArgsOk : C16Cmd NumChunk → List UInt8 → Prop
  | .moveTo _ p, r => (c16b_ptc p).Ok r
  | .lineTo _ p, r => (c16b_ptc p).Ok r
  | .horiz _ x, r => x.Ok r
  | .vert _ y, r => y.Ok r
  | .quadTo _ p1 p2, r => (c16b_ptc p1).Ok ((c16b_ptc p2).bytes ++ r) ∧ (c16b_ptc p2).Ok r
  | .smoothQuadTo _ p, r => (c16b_ptc p).Ok r
  | .curveTo _ p1 p2 p3, r =>
    (c16b_ptc p1).Ok ((c16b_ptc p2).bytes ++ ((c16b_ptc p3).bytes ++ r)) ∧ (c16b_ptc p2).Ok ((c16b_ptc p3).bytes ++ r) ∧
      (c16b_ptc p3).Ok r
  | .smoothCurveTo _ p2 p3, r => (c16b_ptc p2).Ok ((c16b_ptc p3).bytes ++ r) ∧ (c16b_ptc p3).Ok r
  | .close _, _ => True

/-- a spelled command: white space, the letter (or nothing: implicit repetition of the previous command), the spelled arguments -/
structure C16Spelled where
  ws : List UInt8 := []
  explicit : Bool := true
  cmd : C16Cmd NumChunk

def C16Spelled.bytes (s : C16Spelled) : List UInt8 :=
  s.ws ++ ((if s.explicit then [s.cmd.letter] else []) ++ s.cmd.argBytes)

/-- the spelled command is well formed after a command that left `lc` in `last_cmd` and in front of `r`:
    white space is white space, the arguments are well formed, and the letter may only be omitted (no white space of its own then –
    the first number chunk has some) if the command is neither `M` nor `Z` and its letter is what the parser remembers -/
structure C16Spelled.Ok (s : C16Spelled) (lc : UInt8) (r : List UInt8) : Prop where
  ws : ∀ b ∈ s.ws, isWs b = true
  args : s.cmd.ArgsOk r
  implicit : s.explicit = false → s.ws = [] ∧ s.cmd.letter = lc ∧ s.cmd.isMove = false ∧ s.cmd.isClose = false

/-- the byte string spelled by a list of spelled commands, followed by `tail` (trailing white space) -/
def c16b_spell : List C16Spelled → List UInt8 → List UInt8
  | [], tail => tail
  | s :: ss, tail => s.bytes ++ c16b_spell ss tail

/-- all spelled commands are well formed in front of what follows them, the tail is white space; `lc` = `last_cmd` before the
    first command -/
def c16b_SpelledOk (lc : UInt8) : List C16Spelled → List UInt8 → Prop
  | [], tail => ∀ b ∈ tail, isWs b = true
  | s :: ss, tail => s.Ok lc (c16b_spell ss tail) ∧ c16b_SpelledOk (c16b_nextCmd lc s.cmd) ss tail

section
variable {K : Type} [Scalar K]

/-- the abstract command a spelled command denotes: every chunk replaced by its value `tokValue (parseTok number)` -/
def C16Spelled.value (s : C16Spelled) : C16Cmd K := s.cmd.map NumChunk.value

theorem c16b_ptc_value (p : Point NumChunk) : ((c16b_ptc p).value : Point K) = c16b_mapPt NumChunk.value p := rfl


theorem lexArgs_spelled (l : Lx) (c : C16Cmd NumChunk) (r : List UInt8) (hrem : l.rem = c.argBytes ++ r) (hok : c.ArgsOk r) :
    lexArgs (K := K) c.letter l = .ok (c.map NumChunk.value) (l.adv c.argBytes.length) := by
  have hl := c.lowerCmd_letter
  have hr := c.isLower_letter
  cases c <;> simp only [lexArgs, hl, hr, C16Cmd.rel]
  case moveTo rel p | lineTo rel p | smoothQuadTo rel p => rw [getNumberPair_pt (q := c16b_ptc p) hrem hok]; rfl
  case horiz rel x | vert rel x =>
    obtain ⟨hn, ho⟩ := getNumber_chunk (K := K) hrem hok
    rw [hn]; simp only [LR.bind_ok]; rw [commaLR_of_some ho]; rfl
  case quadTo rel p1 p2 | smoothCurveTo rel p1 p2 =>
    have h1 : l.rem = (c16b_ptc p1).bytes ++ ((c16b_ptc p2).bytes ++ r) := by rw [hrem]; simp [C16Cmd.argBytes]
    rw [getNumberPair_pt h1 hok.1]; simp only [LR.bind_ok]
    rw [getNumberPair_pt (Lx.rem_adv h1) hok.2, Lx.adv_adv, ← List.length_append]; rfl
  case curveTo rel p1 p2 p3 =>
    have h1 : l.rem = (c16b_ptc p1).bytes ++ ((c16b_ptc p2).bytes ++ ((c16b_ptc p3).bytes ++ r)) := by
      rw [hrem]; simp [C16Cmd.argBytes]
    have h2 := Lx.rem_adv h1
    rw [getNumberPair_pt h1 hok.1]; simp only [LR.bind_ok]
    rw [getNumberPair_pt h2 hok.2.1]; simp only [LR.bind_ok]
    have e : ((l.adv (c16b_ptc p1).bytes.length).adv (c16b_ptc p2).bytes.length).adv (c16b_ptc p3).bytes.length =
        l.adv (C16Cmd.curveTo rel p1 p2 p3).argBytes.length := by
      simp only [Lx.adv_adv, C16Cmd.argBytes, List.length_append, Nat.add_assoc]
    rw [getNumberPair_pt (Lx.rem_adv h2) hok.2.2, e]; rfl
  case close rel => rfl

theorem svgCommand_spelled (st : SvgSt K) (l : Lx) (c : C16Cmd NumChunk) (r : List UInt8) (hrem : l.rem = c.argBytes ++ r)
    (hok : c.ArgsOk r) (hp : st.path ≠ [] ∨ c.isMove = true) :
    svgCommand c.letter st l = .ok (c16b_interp st (c.map NumChunk.value)) (l.adv c.argBytes.length) := by
  have hg : ¬ (c.letter ≠ 109 ∧ c.letter ≠ 77 ∧ st.path = []) := by
    rintro ⟨h1, h2, h3⟩
    rcases hp with hp | hp
    · exact hp h3
    · cases c with
      | moveTo rel p => cases rel <;> simp [C16Cmd.letter] at h1 h2
      | _ => cases hp
  rw [svgCommand_eq_interp, if_neg hg, if_neg (by rw [c.lowerCmd_letter]; cases c <;> simp), lexArgs_spelled l c r hrem hok,
    LR.bind_ok]

end

theorem c16b_chunk_head {k : NumChunk} {r : List UInt8} (hk : k.Ok r) :
    ∃ b r', k.bytes = k.ws ++ b :: r' ∧ isNumStart b = true := by
  obtain ⟨b, br, hb, hnum⟩ := hk.valid.bytes_head
  exact ⟨b, br ++ k.sep, by simp [NumChunk.bytes, hb], hnum⟩

theorem c16b_ptChunk_head {q : PtChunk} {r : List UInt8} (hq : q.Ok r) :
    ∃ b r', q.bytes = q.x.ws ++ b :: r' ∧ (∀ c ∈ q.x.ws, isWs c = true) ∧ isNumStart b = true := by
  obtain ⟨b, r', hb, hnum⟩ := c16b_chunk_head hq.1
  exact ⟨b, r' ++ q.y.bytes, by simp [PtChunk.bytes, hb], hq.1.ws, hnum⟩

theorem c16b_argBytes_head {c : C16Cmd NumChunk} {r : List UInt8} (hok : c.ArgsOk r) (hc : c.isClose = false) :
    ∃ ws b r', c.argBytes = ws ++ b :: r' ∧ (∀ x ∈ ws, isWs x = true) ∧ isNumStart b = true := by
  cases c with
  | moveTo rel p | lineTo rel p | smoothQuadTo rel p =>
    obtain ⟨b, r', h1, h2, h3⟩ := c16b_ptChunk_head (q := c16b_ptc p) hok
    exact ⟨_, b, r', h1, h2, h3⟩
  | horiz rel x | vert rel x =>
    obtain ⟨b, r', h1, h3⟩ := c16b_chunk_head (k := x) hok
    exact ⟨_, b, r', h1, hok.ws, h3⟩
  | quadTo rel p1 p2 | smoothCurveTo rel p1 p2 =>
    obtain ⟨b, r', h1, h2, h3⟩ := c16b_ptChunk_head (q := c16b_ptc p1) hok.1
    exact ⟨_, b, r' ++ (c16b_ptc p2).bytes, by simp [C16Cmd.argBytes, h1], h2, h3⟩
  | curveTo rel p1 p2 p3 =>
    obtain ⟨b, r', h1, h2, h3⟩ := c16b_ptChunk_head (q := c16b_ptc p1) hok.1
    exact ⟨_, b, r' ++ ((c16b_ptc p2).bytes ++ (c16b_ptc p3).bytes), by simp [C16Cmd.argBytes, h1], h2, h3⟩
  | close rel => cases hc

section
variable {K : Type} [Scalar K]

theorem c16b_step (fuel : Nat) (st : SvgSt K) (l : Lx) (s : C16Spelled) (r : List UInt8)
    (hrem : l.rem = s.bytes ++ r) (hok : s.Ok st.last_cmd r) (hp : st.path ≠ [] ∨ s.cmd.isMove = true) :
    svgLoop (fuel + 1) st l = svgLoop fuel (c16b_interp st s.value) (l.adv s.bytes.length) := by
  cases hex : s.explicit with
  | true =>
    have hb : s.bytes = s.ws ++ s.cmd.letter :: s.cmd.argBytes := by simp [C16Spelled.bytes, hex]
    have hrem' : l.rem = s.ws ++ s.cmd.letter :: (s.cmd.argBytes ++ r) := by rw [hrem, hb]; simp
    have hcmd := svgCommand_spelled st (l.adv (s.ws.length + 1)) s.cmd r (Lx.rem_adv_cons hrem') hok.args hp
    rw [svgLoop_letter_ok fuel st _ hrem' hok.ws (c16b_letter_isLetter s.cmd) hcmd, Lx.adv_adv]
    have hlen : s.bytes.length = s.ws.length + 1 + s.cmd.argBytes.length := by
      rw [hb]; simp only [List.length_append, List.length_cons]; omega
    rw [hlen]; rfl
  | false =>
    obtain ⟨hws, hlc, hmove, hclose⟩ := hok.implicit hex
    have hb : s.bytes = s.cmd.argBytes := by simp [C16Spelled.bytes, hex, hws]
    have hp' : st.path ≠ [] := by
      rcases hp with h | h
      · exact h
      · rw [hmove] at h; cases h
    rw [hb] at hrem ⊢
    obtain ⟨ws, b, r', hab, hwsa, hnum⟩ := c16b_argBytes_head hok.args hclose
    have hrem' : l.rem = ws ++ b :: (r' ++ r) := by rw [hrem, hab]; simp
    have hcmd := svgCommand_spelled st l s.cmd r hrem hok.args (.inl hp')
    rw [hlc] at hcmd
    have hne : st.last_cmd ≠ 0 := by rw [← hlc]; exact c16b_letter_ne_zero _
    have hinv : st.Inv := by unfold SvgSt.Inv; rw [← hlc]; exact c16b_letter_lower_ne_z _ hclose
    rw [svgLoop_implicit_ok fuel st _ hrem' hwsa hnum hne hinv hcmd]; rfl

theorem c16b_spelled_bytes_pos (s : C16Spelled) (lc : UInt8) (r : List UInt8) (hok : s.Ok lc r) : 0 < s.bytes.length := by
  cases hex : s.explicit with
  | true => simp [C16Spelled.bytes, hex]; omega
  | false =>
    obtain ⟨-, -, -, hclose⟩ := hok.implicit hex
    obtain ⟨ws, b, r', hab, -, -⟩ := c16b_argBytes_head hok.args hclose
    simp [C16Spelled.bytes, hex, hab]; omega

theorem c16b_loop (ss : List C16Spelled) (tail : List UInt8) :
    ∀ (fuel : Nat) (st : SvgSt K) (l : Lx), ss.length < fuel → l.rem = c16b_spell ss tail →
      c16b_SpelledOk st.last_cmd ss tail → (st.path ≠ [] ∨ c16b_startsWithMove (ss.map (·.cmd))) →
      svgLoop fuel st l = .ok (c16b_run st (ss.map C16Spelled.value)).path := by
  induction ss with
  | nil =>
    intro fuel st l hf hrem hok _
    obtain ⟨f, rfl⟩ : ∃ f, fuel = f + 1 := ⟨fuel - 1, by simp at hf; omega⟩
    exact svgLoop_step_end f (getCmd_end_rem st.last_cmd hrem hok)
  | cons s ss ih =>
    intro fuel st l hf hrem hok hp
    obtain ⟨f, rfl⟩ : ∃ f, fuel = f + 1 := ⟨fuel - 1, by simp at hf; omega⟩
    have hp' : st.path ≠ [] ∨ s.cmd.isMove = true := hp
    rw [c16b_step f st l s (c16b_spell ss tail) hrem hok.1 hp']
    simp only [List.map_cons, c16b_run_cons]
    apply ih
    · simp at hf; omega
    · exact Lx.rem_adv hrem
    · rw [c16b_interp_last_cmd]; simpa [C16Spelled.value] using hok.2
    · exact .inl (c16b_interp_path_ne _ _)

theorem c16b_spell_length (ss : List C16Spelled) (tail : List UInt8) (lc : UInt8) (hok : c16b_SpelledOk lc ss tail) :
    ss.length ≤ (c16b_spell ss tail).length := by
  induction ss generalizing lc with
  | nil => simp
  | cons s ss ih =>
    have := c16b_spelled_bytes_pos s lc _ hok.1
    have := ih _ hok.2
    simp only [c16b_spell, List.length_cons, List.length_append]; omega

/-- `svgRun` = the loop with the fuel `fromSvgBytes` provides for the bytes left; it suffices because every command occupies at
    least one byte -/
theorem c16b_svgRun (ss : List C16Spelled) (tail : List UInt8) (st : SvgSt K) (l : Lx)
    (hrem : l.rem = c16b_spell ss tail) (hok : c16b_SpelledOk st.last_cmd ss tail)
    (hp : st.path ≠ [] ∨ c16b_startsWithMove (ss.map (·.cmd))) :
    svgRun st l = .ok (c16b_run st (ss.map C16Spelled.value)).path := by
  unfold svgRun
  apply c16b_loop ss tail _ st l _ hrem hok hp
  have h1 := c16b_spell_length ss tail _ hok
  have h2 : l.rem.length = l.data.size - l.ix := by simp [Lx.rem]
  rw [← hrem] at h1; omega

theorem c16b_parse (data : ByteArray) (ss : List C16Spelled) (tail : List UInt8)
    (hdata : data.data.toList = c16b_spell ss tail) (hok : c16b_SpelledOk 0 ss tail)
    (hm : c16b_startsWithMove (ss.map (·.cmd))) :
    fromSvgBytes (K := K) data = .ok (c16b_run svgInit (ss.map C16Spelled.value)).path := by
  rw [fromSvgBytes_eq_run]
  exact c16b_svgRun ss tail svgInit ⟨data, 0⟩ ((Lx.rem_start data).trans hdata) hok (.inr hm)

end

end Kurbo
