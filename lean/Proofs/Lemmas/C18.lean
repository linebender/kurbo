import Proofs.KDefs
import Proofs.C06
import Mathlib.Algebra.BigOperators.Ring.Finset
import Mathlib.Algebra.Polynomial.Derivative
import Mathlib.Algebra.Polynomial.Roots
import Mathlib.Algebra.CharZero.Infinite
/-! Helper definitions and lemmas for `Proofs/C18.lean` and, through `Lemmas/C02Seg.lean`, for the areas of `Proofs/C02.lean`;
    algebraic part (any lawful scalar).

    The kernel function `momentIntegrals` is a closed form in the Bernstein control points.  Here it is connected to
    the power basis: with `x(t) = Σ aᵢ tⁱ`, `y(t) = Σ bⱼ tʲ`, `x′(t) = Σ dₖ tᵏ` the three components are values at `1`
    of the formal antiderivative `c18_F a b d t = Σ aᵢ bⱼ dₖ t^(i+j+k+1)/(i+j+k+1)` of the product.  A cubic that traces
    `c` along a polynomial `L` has the moment integrals `F(L 1) − F(L 0)` (`c18_mi_reparam_poly`): as elements of `K[X]`
    its antiderivative and `F ∘ L` have the same derivative.  Sub-segments (`c18_mi_subsegment`) and reversal (in
    `Proofs/C18.lean`) are the cases `L = t0 + (t1 − t0)·X` and `L = 1 − X`; a line written as a cubic is a case of
    degree 3 (`c18_mi_of_trace`, `c18_mi_on_line`, and `to_cubic` along the smoothstep, `c18_mi_line_toCubic`). -/
set_option linter.unusedSectionVars false
namespace Kurbo
open Finset

section defs
variable {K : Type} [Field K]

/-- a cubic polynomial as a coefficient sequence -/
def c18_cf4 (a0 a1 a2 a3 : K) : ℕ → K
  | 0 => a0 | 1 => a1 | 2 => a2 | 3 => a3 | _ => 0

/-- coefficients of the formal derivative -/
def c18_der (a : ℕ → K) : ℕ → K := fun k => ((k : K) + 1) * a (k + 1)

/-- the polynomial `Σ_{i<n} aᵢ tⁱ` -/
def c18_poly (a : ℕ → K) (n : ℕ) (t : K) : K := ∑ i ∈ range n, a i * t ^ i

/-- formal antiderivative (vanishing at `0`) of `(Σ_{i<4} aᵢ tⁱ)·(Σ_{j<4} bⱼ tʲ)·(Σ_{k<3} dₖ tᵏ)` -/
def c18_F (a b d : ℕ → K) (t : K) : K :=
  ∑ i ∈ range 4, ∑ j ∈ range 4, ∑ k ∈ range 3,
    a i * b j * d k * t ^ (i + j + k + 1) / (((i + j + k : ℕ) : K) + 1)

def c18_one : ℕ → K := c18_cf4 1 0 0 0

theorem c18_poly_cf4 (a0 a1 a2 a3 t : K) :
    c18_poly (c18_cf4 a0 a1 a2 a3) 4 t = a0 + a1 * t + a2 * t ^ 2 + a3 * t ^ 3 := by
  simp only [c18_poly, c18_cf4, sum_range_succ, sum_range_zero, zero_add, pow_zero, mul_one, pow_one]

theorem c18_poly_der_cf4 (a0 a1 a2 a3 t : K) :
    c18_poly (c18_der (c18_cf4 a0 a1 a2 a3)) 3 t = a1 + a2 * (2 * t) + a3 * (3 * t ^ 2) := by
  simp only [c18_poly, c18_der, c18_cf4, sum_range_succ, sum_range_zero]
  push_cast
  ring

theorem c18_F_zero (a b d : ℕ → K) : c18_F a b d 0 = 0 := by
  simp [c18_F]

theorem c18_F_add_left (a a' b d : ℕ → K) (t : K) : c18_F (a + a') b d t = c18_F a b d t + c18_F a' b d t := by
  simp only [c18_F, Pi.add_apply, add_mul, add_div, sum_add_distrib]

theorem c18_F_smul_left (r : K) (a b d : ℕ → K) (t : K) : c18_F (r • a) b d t = r * c18_F a b d t := by
  simp only [c18_F, Pi.smul_apply, smul_eq_mul, mul_sum, mul_assoc, mul_div_assoc]

theorem c18_F_comm (a b d : ℕ → K) (t : K) : c18_F a b d t = c18_F b a d t := by
  rw [c18_F, sum_comm]
  refine sum_congr rfl fun j _ => sum_congr rfl fun i _ => sum_congr rfl fun k _ => ?_
  rw [mul_comm (a i), add_comm i]

theorem c18_F_const_add_left (u : K) (a b d : ℕ → K) (t : K) :
    c18_F (u • c18_one + a) b d t = c18_F a b d t + u * c18_F c18_one b d t := by
  rw [c18_F_add_left, c18_F_smul_left, add_comm]

theorem c18_F_const_add_right (v : K) (a b d : ℕ → K) (t : K) :
    c18_F a (v • c18_one + b) d t = c18_F a b d t + v * c18_F a c18_one d t := by
  rw [c18_F_comm, c18_F_const_add_left, c18_F_comm b, c18_F_comm c18_one]

theorem c18_cf4_const_add (u a0 a1 a2 a3 : K) :
    c18_cf4 (u + a0) a1 a2 a3 = u • c18_one + c18_cf4 a0 a1 a2 a3 := by
  funext n
  match n with
  | 0 | 1 | 2 | 3 | _ + 4 => simp [c18_one, c18_cf4]

theorem c18_der_const_add (u : K) (a : ℕ → K) : c18_der (u • c18_one + a) = c18_der a := by
  funext k
  match k with
  | 0 | 1 | 2 | _ + 3 => simp [c18_der, c18_one, c18_cf4]

end defs

section poly
open Polynomial
variable {K : Type} [Field K] [CharZero K]

/-- `c18_poly a n` as an element of `K[X]` -/
noncomputable def c18_P (a : ℕ → K) (n : ℕ) : K[X] := ∑ i ∈ range n, C (a i) * X ^ i

theorem c18_P_eval (a : ℕ → K) (n : ℕ) (t : K) : (c18_P a n).eval t = c18_poly a n t := by
  simp only [c18_P, c18_poly, eval_finsetSum, eval_mul, eval_C, eval_pow, eval_X]

theorem c18_P_der (a : ℕ → K) (n : ℕ) : c18_P (c18_der a) n = derivative (c18_P a (n + 1)) := by
  rw [c18_P, c18_P, sum_range_succ', derivative_add, derivative_sum, pow_zero, mul_one, derivative_C, add_zero]
  refine sum_congr rfl fun i _ => ?_
  rw [derivative_C_mul_X_pow, c18_der, Nat.add_sub_cancel, Nat.cast_succ, mul_comm (a (i + 1))]

theorem c18_P_one : c18_P (c18_one : ℕ → K) 4 = 1 := by
  simp [c18_P, c18_one, c18_cf4, sum_range_succ]

/-- `c18_F a b d` as an element of `K[X]` -/
noncomputable def c18_Q (a b d : ℕ → K) : K[X] :=
  ∑ i ∈ range 4, ∑ j ∈ range 4, ∑ k ∈ range 3,
    C (a i * b j * d k / (((i + j + k : ℕ) : K) + 1)) * X ^ (i + j + k + 1)

theorem c18_Q_eval (a b d : ℕ → K) (t : K) : (c18_Q a b d).eval t = c18_F a b d t := by
  simp only [c18_Q, c18_F, eval_finsetSum, eval_mul, eval_C, eval_pow, eval_X, div_mul_eq_mul_div]

theorem c18_Q_derivative (a b d : ℕ → K) :
    derivative (c18_Q a b d) = c18_P a 4 * c18_P b 4 * c18_P d 3 := by
  rw [c18_Q, c18_P, c18_P, c18_P, sum_mul_sum, sum_mul, derivative_sum]
  refine sum_congr rfl fun i _ => ?_
  rw [sum_mul_sum, derivative_sum]
  refine sum_congr rfl fun j _ => ?_
  rw [derivative_sum]
  refine sum_congr rfl fun k _ => ?_
  rw [derivative_C_mul_X_pow, Nat.cast_succ, div_mul_cancel₀ _ (Nat.cast_add_one_ne_zero _), Nat.add_sub_cancel,
    C_mul, C_mul, pow_add, pow_add]
  ring

theorem c18_eval_sub_of_derivative_eq {p q : K[X]} (h : derivative p = derivative q) (x y : K) :
    p.eval x - p.eval y = q.eval x - q.eval y := by
  have h0 : derivative (p - q) = 0 := by rw [derivative_sub, h, sub_self]
  have e : ∀ z, p.eval z - q.eval z = (p - q).coeff 0 := fun z => by
    rw [← eval_sub]
    conv_lhs => rw [eq_C_of_derivative_eq_zero h0, eval_C]
  linear_combination e x - e y

theorem c18_F_comp {a b c a' b' c' : ℕ → K} (L : K[X])
    (ha : c18_P a' 4 = (c18_P a 4).comp L) (hb : c18_P b' 4 = (c18_P b 4).comp L)
    (hc : c18_P c' 4 = (c18_P c 4).comp L) :
    c18_F a' b' (c18_der c') 1 = c18_F a b (c18_der c) (L.eval 1) - c18_F a b (c18_der c) (L.eval 0) := by
  have hd : derivative (c18_Q a' b' (c18_der c')) = derivative ((c18_Q a b (c18_der c)).comp L) := by
    simp only [derivative_comp, c18_Q_derivative, c18_P_der, ha, hb, hc, mul_comp]
    ring
  have := c18_eval_sub_of_derivative_eq hd 1 0
  simpa only [c18_Q_eval, eval_comp, c18_F_zero, sub_zero] using this

/-- `∫ p′ = p` -/
theorem c18_F_one_one_der (a : ℕ → K) (t : K) :
    c18_F c18_one c18_one (c18_der a) t = c18_poly a 4 t - c18_poly a 4 0 := by
  have hd : derivative (c18_Q c18_one c18_one (c18_der a)) = derivative (c18_P a 4) := by
    rw [c18_Q_derivative, c18_P_one, c18_P_der, one_mul, one_mul]
  simpa only [c18_Q_eval, c18_P_eval, c18_F_zero, sub_zero] using c18_eval_sub_of_derivative_eq hd t 0

/-- `∫ (p·q′ + q·p′) = p·q` -/
theorem c18_F_one_der_add (a b : ℕ → K) (t : K) :
    c18_F a c18_one (c18_der b) t + c18_F b c18_one (c18_der a) t
      = c18_poly a 4 t * c18_poly b 4 t - c18_poly a 4 0 * c18_poly b 4 0 := by
  have hd : derivative (c18_Q a c18_one (c18_der b) + c18_Q b c18_one (c18_der a))
      = derivative (c18_P a 4 * c18_P b 4) := by
    rw [derivative_add, c18_Q_derivative, c18_Q_derivative, c18_P_one, c18_P_der, c18_P_der, derivative_mul]
    ring
  simpa only [eval_add, eval_mul, c18_Q_eval, c18_P_eval, c18_F_zero, add_zero, sub_zero] using
    c18_eval_sub_of_derivative_eq hd t 0

/-- `∫ p·p′ = p²/2` -/
theorem c18_F_self_one_der (a : ℕ → K) (t : K) :
    c18_F a c18_one (c18_der a) t = (c18_poly a 4 t ^ 2 - c18_poly a 4 0 ^ 2) / 2 := by
  linear_combination (1 / 2 : K) * c18_F_one_der_add a a t

end poly

section lawful
variable {K : Type} [Field K] [LinearOrder K] [IsStrictOrderedRing K] [FloorRing K] [Scalar K] [LawfulScalar K]

theorem c18_point_add_sub (p : Point K) (w : Vec2 K) : ((p + w) - p : Vec2 K) = w := by
  cases w; cases p
  simp only [kdefs, scalar_norm, Vec2.mk.injEq]
  constructor <;> ring

theorem c18_deriv_eval_zero (c : CubicBez K) :
    c.deriv.eval 0 = ⟨3 * (c.p1.x - c.p0.x), 3 * (c.p1.y - c.p0.y)⟩ := by
  simp only [Point.ext_iff, CubicBez.deriv_eval_xy]
  constructor <;> ring
theorem c18_deriv_eval_one (c : CubicBez K) :
    c.deriv.eval 1 = ⟨3 * (c.p3.x - c.p2.x), 3 * (c.p3.y - c.p2.y)⟩ := by
  simp only [Point.ext_iff, CubicBez.deriv_eval_xy]
  constructor <;> ring

/-- power-basis coefficients of the `x` coordinate of a cubic Bézier -/
def c18_px (c : CubicBez K) : ℕ → K :=
  c18_cf4 c.p0.x (3 * (c.p1.x - c.p0.x)) (3 * (c.p2.x - 2 * c.p1.x + c.p0.x))
    (c.p3.x - 3 * c.p2.x + 3 * c.p1.x - c.p0.x)
/-- power-basis coefficients of the `y` coordinate of a cubic Bézier -/
def c18_py (c : CubicBez K) : ℕ → K :=
  c18_cf4 c.p0.y (3 * (c.p1.y - c.p0.y)) (3 * (c.p2.y - 2 * c.p1.y + c.p0.y))
    (c.p3.y - 3 * c.p2.y + 3 * c.p1.y - c.p0.y)

theorem c18_eval_eq (c : CubicBez K) (t : K) :
    c.eval t = ⟨c18_poly (c18_px c) 4 t, c18_poly (c18_py c) 4 t⟩ := by
  simp only [Point.ext_iff, CubicBez.eval_xy, c18_px, c18_py, c18_poly_cf4, and_self]
theorem c18_deriv_eq (c : CubicBez K) (t : K) :
    c.deriv.eval t = ⟨c18_poly (c18_der (c18_px c)) 3 t, c18_poly (c18_der (c18_py c)) 3 t⟩ := by
  simp only [Point.ext_iff, CubicBez.deriv_eval_xy, c18_px, c18_py, c18_poly_der_cf4, and_self]
theorem c18_deriv_y (c : CubicBez K) (t : K) : (c.deriv.eval t).y = c18_poly (c18_der (c18_py c)) 3 t :=
  congrArg Point.y (c18_deriv_eq c t)
theorem c18_one_poly (t : K) : c18_poly (c18_one : ℕ → K) 4 t = 1 := by
  rw [c18_one, c18_poly_cf4, zero_mul, zero_mul, zero_mul, add_zero, add_zero, add_zero]

open Polynomial in
theorem c18_reparam {c c' : CubicBez K} (L : K[X]) (he : ∀ s, c'.eval s = c.eval (L.eval s)) :
    c18_P (c18_px c') 4 = (c18_P (c18_px c) 4).comp L ∧ c18_P (c18_py c') 4 = (c18_P (c18_py c) 4).comp L := by
  have e := fun s => (c18_eval_eq c' s).symm.trans ((he s).trans (c18_eval_eq c (L.eval s)))
  constructor <;> refine Polynomial.funext fun s => ?_ <;> simp only [eval_comp, c18_P_eval]
  · exact congrArg Point.x (e s)
  · exact congrArg Point.y (e s)

/-- antiderivatives (vanishing at `0`) of `y·x′`, `x·y·x′`, `y²·x′` along the cubic -/
def c18_momentPrim (c : CubicBez K) (t : K) : K × K × K :=
  (c18_F c18_one (c18_py c) (c18_der (c18_px c)) t,
   c18_F (c18_px c) (c18_py c) (c18_der (c18_px c)) t,
   c18_F (c18_py c) (c18_py c) (c18_der (c18_px c)) t)

theorem c18_momentPrim_zero (c : CubicBez K) : c18_momentPrim c 0 = 0 := by
  simp only [c18_momentPrim, c18_F_zero]; rfl

theorem c18_mi_eq_prim (c : CubicBez K) : momentIntegrals c = c18_momentPrim c 1 := by
  -- the power-basis coefficients `aᵢ`, `bᵢ` become the variables of `ring`; the kernel works with the control points
  -- relative to `p0`, which are `a1/3`, `a2/3 + 2·a1/3`, `a3 + a2 + a1`
  obtain ⟨a1, a2, a3, h1, h2, h3, hx⟩ : ∃ a1 a2 a3, c.p1.x - c.p0.x = a1 / 3 ∧ c.p2.x - c.p0.x = a2 / 3 + 2 * a1 / 3 ∧
      c.p3.x - c.p0.x = a3 + a2 + a1 ∧ c18_px c = c18_cf4 c.p0.x a1 a2 a3 :=
    ⟨_, _, _, by ring, by ring, by ring, rfl⟩
  obtain ⟨b1, b2, b3, k1, k2, k3, hy⟩ : ∃ b1 b2 b3, c.p1.y - c.p0.y = b1 / 3 ∧ c.p2.y - c.p0.y = b2 / 3 + 2 * b1 / 3 ∧
      c.p3.y - c.p0.y = b3 + b2 + b1 ∧ c18_py c = c18_cf4 c.p0.y b1 b2 b3 :=
    ⟨_, _, _, by ring, by ring, by ring, rfl⟩
  rw [c18_momentPrim, hx, hy]
  -- `scalar_norm` on the kernel side only: on Mathlib's operations its lemmas fail slowly
  conv_lhs => simp only [momentIntegrals, scalar_norm, h1, h2, h3, k1, k2, k3]
  simp only [c18_F, c18_one, c18_der, c18_cf4, sum_range_succ, sum_range_zero, Prod.mk.injEq, one_pow, mul_one,
    Nat.reduceAdd, Nat.cast_ofNat, Nat.cast_zero, Nat.cast_one, zero_add]
  refine ⟨?_, ?_, ?_⟩ <;> ring

/-- first component against the signed area: `∫ y dx = ½·[x·y]₀¹ − ½∫(x dy − y dx)` -/
theorem c18_mi_area (c : CubicBez K) :
    (momentIntegrals c).1 = (c.p3.x * c.p3.y - c.p0.x * c.p0.y) / 2 - c.signed_area := by
  rw [momentIntegrals]
  dsimp only
  conv_lhs => simp only [scalar_norm]
  conv_rhs => simp only [CubicBez.signed_area, scalar_norm]
  push_cast
  ring

open Polynomial in
theorem c18_mi_reparam_poly {c c' : CubicBez K} (L : K[X]) (he : ∀ s, c'.eval s = c.eval (L.eval s)) :
    momentIntegrals c' = c18_momentPrim c (L.eval 1) - c18_momentPrim c (L.eval 0) := by
  obtain ⟨hx, hy⟩ := c18_reparam L he
  have h1 : c18_P (c18_one : ℕ → K) 4 = (c18_P c18_one 4).comp L := by
    rw [c18_P_one, one_comp]
  rw [c18_mi_eq_prim, c18_momentPrim, c18_F_comp L h1 hy hx, c18_F_comp L hx hy hx, c18_F_comp L hy hy hx]
  rfl

open Polynomial in
theorem c18_mi_reparam {c c' : CubicBez K} {t h : K} (he : ∀ s, c'.eval s = c.eval (t + h * s)) :
    momentIntegrals c' = c18_momentPrim c (t + h) - c18_momentPrim c t := by
  have := c18_mi_reparam_poly (c := c) (c' := c') (C t + C h * X) fun s => by
    rw [he, eval_add, eval_mul, eval_C, eval_C, eval_X]
  rwa [eval_add, eval_mul, eval_C, eval_C, eval_X, mul_one, eval_add, eval_mul, eval_C, eval_C, eval_X, mul_zero,
    add_zero] at this

theorem c18_mi_subsegment (c : CubicBez K) (t0 t1 : K) :
    momentIntegrals (c.subsegment ⟨t0, t1⟩) = c18_momentPrim c t1 - c18_momentPrim c t0 := by
  have h := c18_mi_reparam (c := c) (c' := c.subsegment ⟨t0, t1⟩) (t := t0) (h := t1 - t0) fun s => by
    rw [cubic_subsegment_eval, mul_comm]
  rwa [add_sub_cancel] at h

theorem c18_thirds_eval (l : Line K) (t : K) :
    (⟨l.p0, l.p0.lerp l.p1 (1 / 3), l.p0.lerp l.p1 (2 / 3), l.p1⟩ : CubicBez K).eval t = l.eval t := by kring
theorem c18_thirds_deriv_eval (l : Line K) (t : K) :
    (⟨l.p0, l.p0.lerp l.p1 (1 / 3), l.p0.lerp l.p1 (2 / 3), l.p1⟩ : CubicBez K).deriv.eval t
      = ⟨l.p1.x - l.p0.x, l.p1.y - l.p0.y⟩ := by kring

open Polynomial in
theorem c18_mi_of_trace {c c' : CubicBez K} (L : K[X]) (h0 : L.eval 0 = 0) (h1 : L.eval 1 = 1)
    (he : ∀ s, c'.eval s = c.eval (L.eval s)) : momentIntegrals c' = momentIntegrals c := by
  rw [c18_mi_reparam_poly L he, h0, h1, c18_momentPrim_zero, sub_zero, c18_mi_eq_prim]

/-- the scalar cubic with the Bernstein coefficients `0, s, u, 1` -/
noncomputable def c18_bern (s u : K) : Polynomial K :=
  open Polynomial in C (3 * s) * (X * (1 - X) ^ 2) + C (3 * u) * (X ^ 2 * (1 - X)) + X ^ 3

open Polynomial in
theorem c18_bern_eval (s u t : K) :
    (c18_bern s u).eval t = 3 * s * (t * (1 - t) ^ 2) + 3 * u * (t ^ 2 * (1 - t)) + t ^ 3 := by
  simp only [c18_bern, eval_add, eval_mul, eval_C, eval_pow, eval_sub, eval_one, eval_X]

theorem c18_on_line_eval (l : Line K) (s u t : K) :
    (⟨l.p0, l.eval s, l.eval u, l.p1⟩ : CubicBez K).eval t = l.eval ((c18_bern s u).eval t) := by
  simp only [Point.ext_iff, CubicBez.eval_xy, Line.eval_xy, c18_bern_eval]
  constructor <;> ring

theorem c18_mi_on_line (l : Line K) (s u : K) :
    momentIntegrals ⟨l.p0, l.eval s, l.eval u, l.p1⟩
      = momentIntegrals ⟨l.p0, l.p0.lerp l.p1 (1 / 3), l.p0.lerp l.p1 (2 / 3), l.p1⟩ :=
  c18_mi_of_trace (c18_bern s u) (by simp [c18_bern_eval]) (by simp [c18_bern_eval]) fun t => by
    rw [c18_on_line_eval, c18_thirds_eval]

open Polynomial in
/-- `to_cubic` of a line, `(p0, p0, p1, p1)`, traces it along the smoothstep -/
theorem c18_mi_line_toCubic (l : Line K) :
    momentIntegrals (PathSeg.Line l).to_cubic
      = momentIntegrals ⟨l.p0, l.p0.lerp l.p1 (1 / 3), l.p0.lerp l.p1 (2 / 3), l.p1⟩ :=
  c18_mi_of_trace (3 * X ^ 2 - 2 * X ^ 3) (by simp) (by simp; norm_num) fun s => by
    rw [line_toCubic_eval, c18_thirds_eval]
    simp

/-- the one place where the kernel's formula meets a line -/
theorem c18_mi_thirds (p0 p3 : Point K) :
    momentIntegrals ⟨p0, p0.lerp p3 (1 / 3), p0.lerp p3 (2 / 3), p3⟩ =
      ((p3.x - p0.x) * (p0.y + p3.y) / 2,
       (p3.x - p0.x) * (2 * p0.x * p0.y + p0.x * p3.y + p3.x * p0.y + 2 * p3.x * p3.y) / 6,
       (p3.x - p0.x) * (p0.y ^ 2 + p0.y * p3.y + p3.y ^ 2) / 3) := by
  -- in the coordinates relative to `p0`, in which the kernel computes, the control points are `0, Δ/3, 2Δ/3, Δ`
  obtain ⟨x0, y0⟩ := p0
  obtain ⟨x1, y1⟩ := p3
  obtain ⟨dx, rfl⟩ : ∃ dx, x1 = x0 + dx := ⟨x1 - x0, by ring⟩
  obtain ⟨dy, rfl⟩ : ∃ dy, y1 = y0 + dy := ⟨y1 - y0, by ring⟩
  have ex (t : K) : x0 * (1 - t) + (x0 + dx) * t - x0 = dx * t := by ring
  have ey (t : K) : y0 * (1 - t) + (y0 + dy) * t - y0 = dy * t := by ring
  conv_lhs => simp only [momentIntegrals, Point.lerp_eq, scalar_norm, ex, ey, add_sub_cancel_left]
  simp only [Prod.mk.injEq]
  push_cast
  refine ⟨?_, ?_, ?_⟩ <;> ring

end lawful
/-! ### example data for the non-vacuity `example`s of `Proofs/C18.lean` -/
def c18_cb : CubicBez Rat := ⟨⟨1, 2⟩, ⟨3, 5⟩, ⟨4, -1⟩, ⟨7, 3⟩⟩
/-- the same with `p1 = p0`: the velocity vanishes at `t = 0` -/
def c18_cbDeg : CubicBez Rat := ⟨⟨1, 2⟩, ⟨1, 2⟩, ⟨4, -1⟩, ⟨7, 3⟩⟩

end Kurbo
