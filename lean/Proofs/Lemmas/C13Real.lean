import Proofs.Lemmas.C13Open
import Proofs.Lemmas.RealLaws
import Mathlib.Tactic.IntervalCases
/-! `LawfulHypotSq` is inhabited: ℝ with `hypot x y = √(x·x + y·y)` (`realScalar`, `Proofs/Lemmas/RealLaws.lean`); a witness
    state over ℝ for the hypotheses of the geometric theorems of C13. -/
namespace Kurbo
open DashSpec

theorem realScalar_lawfulHypotSq : @LawfulHypotSq ℝ _ _ realScalar :=
  letI := realScalar
  { hypot_nonneg := fun x y => Real.sqrt_nonneg _
    hypot_sq := fun x y => by
      show Real.sqrt (x * x + y * y) ^ 2 = x ^ 2 + y ^ 2
      rw [Real.sq_sqrt (by nlinarith [mul_self_nonneg x, mul_self_nonneg y])]
      ring }

/-- the length of a concrete line over ℝ, from `|q − p|² = L²` -/
theorem realScalar_line_arclen (p q : Point ℝ) (a L : ℝ) (hL : 0 ≤ L)
    (h : (q.x - p.x) * (q.x - p.x) + (q.y - p.y) * (q.y - p.y) = L ^ 2) : @Line.arclen ℝ realScalar ⟨p, q⟩ a = L := by
  show Real.sqrt ((q.x - p.x) * (q.x - p.x) + (q.y - p.y) * (q.y - p.y)) = L
  rw [h, Real.sqrt_sq hL]

/-- the iterator inside the segment (0,0)–(21,0), 1 unit done, pattern [1,5,2,5], in the first gap; `LineTo (21,5)` next -/
noncomputable def exReal : DashIt ℝ :=
  { inner := [.LineTo ⟨21, 5⟩], dashes := #[1, 5, 2, 5], dash_ix := 1, init_dash_ix := 0, init_dash_remaining := 1,
    init_is_active := true, is_active := false, state := .Working, current_seg := .Line ⟨⟨0, 0⟩, ⟨21, 0⟩⟩, t := 1 / 21,
    dash_remaining := 5, seg_remaining := 20, start_pt := ⟨0, 0⟩, last_pt := ⟨21, 0⟩ }

/-- the hypotheses of `dash_step_line_switch`, `dash_segment_refines`, `dash_open_polyline_refines` are satisfiable -/
theorem exReal_witness : ∃ (_ : Scalar ℝ) (_ : LawfulScalar ℝ) (_ : LawfulHypotSq ℝ) (s : DashIt ℝ) (l : Line ℝ) (L : ℝ),
    OnLine s l L ∧ s.dash_remaining < s.seg_remaining ∧ 0 < L ∧ (∀ i, 0 ≤ cyc s.dashes i) ∧ (∀ i, 1 ≤ cyc s.dashes i) ∧
      s.closepath_pending = false ∧ s.inner = [(⟨21, 5⟩ : Point ℝ)].map .LineTo ++ [] ∧
      (s.state == .ToStash && s.stash.isEmpty) = false ∧
      (∀ x ∈ s.seg_remaining :: polyLens s.last_pt [(⟨21, 5⟩ : Point ℝ)], 0 ≤ x ∧ x ≤ 20) := by
  let _ := realScalar
  have _ := realScalar_lawful
  have hge : ∀ i, (hi : i < exReal.dashes.size) → (1 : ℝ) ≤ exReal.dashes[i] := by
    intro i hi
    have hi' : i < 4 := hi
    interval_cases i <;> simp [exReal]
  have h1 : ∀ i, 1 ≤ cyc exReal.dashes i := cyc_ge exReal.dashes (by decide) 1 hge
  refine ⟨realScalar, realScalar_lawful, realScalar_lawfulHypotSq, exReal, ⟨⟨0, 0⟩, ⟨21, 0⟩⟩, 21, ?_, ?_, by norm_num,
    fun i => le_trans zero_le_one (h1 i), h1, rfl, rfl, rfl, ?_⟩
  · refine ⟨rfl, ?_, ?_, ?_, rfl, by decide, ?_, rfl⟩
    · exact realScalar_line_arclen _ _ 0 21 (by norm_num) (by norm_num)
    · show (1 / 21 : ℝ) < 1
      norm_num
    · show (20 : ℝ) = (1 - 1 / 21) * 21
      norm_num
    · show (0 : ℝ) ≤ 5
      norm_num
  · show (5 : ℝ) < 20
    norm_num
  · have e : polyLens exReal.last_pt [(⟨21, 5⟩ : Point ℝ)] = [5] :=
      congrArg (· :: []) (realScalar_line_arclen ⟨21, 0⟩ ⟨21, 5⟩ 0 5 (by norm_num) (by norm_num))
    rw [e]
    intro x hx
    have : x = 20 ∨ x = 5 := by simpa [exReal] using hx
    rcases this with rfl | rfl <;> norm_num

/-- `dash` does return over ℝ: the segment (0,0)–(1,0) with pattern [2], offset 0 (inside the first dash) comes back whole;
    pattern positive, `steps = 0` -/
theorem exReal_dash_ok : ∃ (_ : Scalar ℝ) (_ : LawfulScalar ℝ) (_ : LawfulHypotSq ℝ),
    dash [.MoveTo ⟨0, 0⟩, .LineTo ⟨1, 0⟩] (0 : ℝ) #[2] 10 = .ok [.MoveTo ⟨0, 0⟩, .LineTo ⟨1, 0⟩] ∧
    (∀ i, (h : i < (#[2] : Array ℝ).size) → 0 < (#[2] : Array ℝ)[i]) ∧
    (∀ k < 0, prefixSum (#[2] : Array ℝ) k < 0) ∧ (0 : ℝ) ≤ prefixSum #[2] 0 := by
  let _ := realScalar
  have _ := realScalar_lawful
  obtain ⟨hpos, hmin, hlast, it, h1, h3, h4⟩ := dashImpl_single [.MoveTo ⟨0, 0⟩, .LineTo ⟨1, 0⟩] (2 : ℝ) two_pos
  refine ⟨realScalar, realScalar_lawful, realScalar_lawfulHypotSq, ?_, hpos, hmin, hlast⟩
  refine dash_short_segment ⟨0, 0⟩ ⟨1, 0⟩ 0 #[2] 10 it h1 (by decide) h4 ?_ (by omega)
  rw [h3]
  rw [realScalar_line_arclen ⟨0, 0⟩ ⟨1, 0⟩ 0 1 zero_le_one (by norm_num)]
  norm_num

end Kurbo
