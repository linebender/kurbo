import Proofs.Lemmas.C10CircleTol
/-! Circular arcs (equal radii, no rotation: the corner arcs of rounded rectangles and the arcs of circle segments), for
    every tolerance.  Each piece is the standard circular-arc cubic with arm `4/3·tan(step/4)`.  With
    `m = n_err = max((1.1163·R/T)^(1/6), 3.999999)` (`appendParams_band_spec`): `|step|·m ≤ 2π`, `1.1163·R/T ≤ m⁶`,
    `m ≥ 3.999999`, which is what `tanArm_piece_band` needs. -/
set_option linter.unusedSectionVars false
namespace Kurbo

section real
variable [Scalar ℝ] [LawfulScalar ℝ] [LawfulTrig]
open LawfulTrig

theorem arc_piece_circular (c : Point ℝ) (R arm step start : ℝ) (k : Nat) :
    (⟨arcPt c ⟨R, R⟩ 0 step start k, arcC1 c ⟨R, R⟩ 0 arm step start k, arcC2 c ⟨R, R⟩ 0 arm step start k,
        arcPt c ⟨R, R⟩ 0 step start (k + 1)⟩ : CubicBez ℝ)
      = circleArcCubic c R arm (accAngle start step k) (accAngle start step (k + 1)) := by
  simp only [arcPt, arcC1, arcC2, circleArcCubic, circlePt, sampleEllipse_real, fracPi2_real, kdefs, scalar_norm,
    Real.cos_add_pi_div_two, Real.sin_add_pi_div_two, Real.cos_zero, Real.sin_zero, CubicBez.mk.injEq, Point.mk.injEq]
  refine ⟨⟨?_, ?_⟩, ⟨?_, ?_⟩, ⟨?_, ?_⟩, ⟨?_, ?_⟩⟩ <;> ring

end real

section count
variable [Scalar ℝ] [LawfulScalar ℝ] [LawfulTrig] [LawfulCount]
open LawfulTrig LawfulCount

/-- the sign factor and the absolute value in `arm_len` of the source cancel -/
theorem arc_arm_eq_tan (a : Arc ℝ) (tol : ℝ) :
    (a.appendParams tol).2.1 = 4 / 3 * Real.tan ((a.appendParams tol).2.2 / 2 / 2) := by
  obtain ⟨-, h1, h2⟩ := appendParams_eq a tol
  rw [h2, h1]
  set n := ((a.appendParams tol).1 : ℝ) with hn
  have hn0 : 0 ≤ n := Nat.cast_nonneg _
  rw [show a.sweep_angle / n / 2 / 2 = 1 / 4 * (a.sweep_angle / n) by ring]
  by_cases hs : a.sweep_angle < 0
  · rw [if_pos hs, abs_of_nonpos (by linear_combination (1 / 4) * div_nonpos_of_nonpos_of_nonneg hs.le hn0), Real.tan_neg]
    ring
  · rw [if_neg hs, abs_of_nonneg (by linear_combination (1 / 4) * div_nonneg (not_lt.mp hs) hn0), mul_one]

/-- `m` is `n_err`; every piece spans at most `2π/m`, also when there is no piece: then `step = sweep/0 = 0` -/
theorem appendParams_band_spec (a : Arc ℝ) (tol : ℝ) :
    ∃ m : ℝ, 3999999 / 1000000 ≤ m ∧ 11163 / 10000 * (max a.radii.x a.radii.y / tol) ≤ m ^ 6 ∧
      |(a.appendParams tol).2.2| * m ≤ 2 * Real.pi := by
  obtain ⟨m, hm4, hm6, hn⟩ := appendParams_spec a tol
  refine ⟨m, hm4, hm6, ?_⟩
  rw [appendParams_step]
  rcases Nat.eq_zero_or_pos (a.appendParams tol).1 with h | h
  · rw [h, Nat.cast_zero, div_zero, abs_zero, zero_mul]; positivity
  · have hn0 : (0 : ℝ) < ((a.appendParams tol).1 : ℝ) := by exact_mod_cast h
    rw [abs_div, abs_of_pos hn0, div_mul_eq_mul_div, div_le_iff₀ hn0, mul_comm]
    exact hn

theorem circular_arc_segs (a : Arc ℝ) (tol R : ℝ) (hr : a.radii = ⟨R, R⟩) (hrot : a.x_rotation = 0) :
    segs (a.path_elements tol) = some ((List.range (a.appendParams tol).1).map fun k => PathSeg.Cubic
      (circleArcCubic a.center R (a.appendParams tol).2.1 (accAngle a.start_angle (a.appendParams tol).2.2 k)
        (accAngle a.start_angle (a.appendParams tol).2.2 (k + 1)))) := by
  rw [segs_arc_path_elements, hr, hrot]
  congr 1
  apply List.map_congr_left
  intro k _
  rw [arc_piece_circular]

theorem circular_arc_piece_band (a : Arc ℝ) (tol R : ℝ) (hr : a.radii = ⟨R, R⟩) (hR : 0 ≤ R)
    (htol : 0 < tol) (k : Nat) {t : ℝ} (h0 : 0 ≤ t) (h1 : t ≤ 1) :
    let q := circleArcCubic a.center R (a.appendParams tol).2.1
      (accAngle a.start_angle (a.appendParams tol).2.2 k) (accAngle a.start_angle (a.appendParams tol).2.2 (k + 1))
    abs R ≤ Real.sqrt (((q.eval t).x - a.center.x) ^ 2 + ((q.eval t).y - a.center.y) ^ 2) ∧
    Real.sqrt (((q.eval t).x - a.center.x) ^ 2 + ((q.eval t).y - a.center.y) ^ 2) ≤ abs R + tol := by
  dsimp only
  obtain ⟨m, hm4, hm6, hspan⟩ := appendParams_band_spec a tol
  rw [hr, max_self] at hm6
  rw [arc_arm_eq_tan, div_div, show (2 : ℝ) * 2 = 4 by norm_num, accAngle_succ_eq]
  exact tanArm_piece_band a.center R _ _ m tol hm4 hspan
    (by rw [abs_of_nonneg hR]; exact radius_bound_le_tol htol (lt_of_lt_of_le (by norm_num) hm4) hm6) h0 h1

theorem circular_arc_segs_within (a : Arc ℝ) (tol R : ℝ) (hr : a.radii = ⟨R, R⟩) (hrot : a.x_rotation = 0)
    (hR : 0 ≤ R) (htol : 0 < tol) :
    ∃ ss, segs (a.path_elements tol) = some ss ∧ ss.length = (a.appendParams tol).1 ∧ ∀ s ∈ ss, ∃ q, s = PathSeg.Cubic q ∧
      ∀ t : ℝ, 0 ≤ t → t ≤ 1 →
        abs (Real.sqrt (((q.eval t).x - a.center.x) ^ 2 + ((q.eval t).y - a.center.y) ^ 2) - abs R) ≤ tol := by
  refine ⟨_, circular_arc_segs a tol R hr hrot, by simp, ?_⟩
  intro s hs
  obtain ⟨k, -, rfl⟩ := List.mem_map.mp hs
  refine ⟨_, rfl, fun t h0 h1 => ?_⟩
  obtain ⟨hin, hout⟩ := circular_arc_piece_band a tol R hr hR htol k h0 h1
  exact abs_sub_le_of_band hin hout

theorem roundedRect_corners_within (s : RoundedRect ℝ) (tol : ℝ) (htol : 0 < tol) :
    ∀ a ∈ s.arcs, 0 ≤ a.radii.x →
      ∃ ss, segs (a.path_elements tol) = some ss ∧ ss.length = (a.appendParams tol).1 ∧ ∀ sg ∈ ss, ∃ q, sg = PathSeg.Cubic q ∧
        ∀ t : ℝ, 0 ≤ t → t ≤ 1 →
          abs (Real.sqrt (((q.eval t).x - a.center.x) ^ 2 + ((q.eval t).y - a.center.y) ^ 2) - abs a.radii.x) ≤ tol := by
  refine s.forall_mem_arcs.mpr ⟨?_, ?_, ?_, ?_⟩ <;>
    exact fun hR => circular_arc_segs_within _ tol _ rfl ofNat_zero_eq hR htol

end count
end Kurbo
