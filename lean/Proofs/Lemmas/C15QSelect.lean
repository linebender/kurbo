import Proofs.Lemmas.C15QFactor
/-! helper lemmas for C15Q: the resolvent cubic of `factor_quartic_inner` does not depend on the shift `s` (nor, up to the
    scaling by `K_C`, on `rescale`), and an exact root `phi` of it makes the first LDLᵀ candidate exact -/
set_option linter.unusedSectionVars false
namespace Kurbo
variable {K : Type} [Field K] [LinearOrder K] [IsStrictOrderedRing K] [FloorRing K] [Scalar K] [LawfulScalar K]

/-- coefficients of the depressed resolvent cubic `φ³ + g φ + h` of `x⁴ + a x³ + b x² + c x + d` -/
def resolventG (a b c d : K) : K := a * c - 4 * d - 1 / 3 * b ^ 2
def resolventH (a b c d : K) : K := (a * c + 8 * d - 2 / 9 * b ^ 2) * (1 / 3) * b - c ^ 2 - a ^ 2 * d

theorem quarticKC_pos : (0 : K) < quarticKC := by
  unfold quarticKC; rw [sn_ofRat]; push_cast; positivity

/-- the substitution `x ↦ x + s` leaves the depressed resolvent unchanged -/
theorem resolventG_shift (a b c d s : K) :
    resolventG (a + 4 * s) (b + 3 * s * (a + 2 * s)) (c + s * (2 * b + s * (3 * a + 4 * s)))
      (d + s * (c + s * (b + s * (a + s)))) = resolventG a b c d := by
  unfold resolventG; ring

theorem resolventH_shift (a b c d s : K) :
    resolventH (a + 4 * s) (b + 3 * s * (a + 2 * s)) (c + s * (2 * b + s * (3 * a + 4 * s)))
      (d + s * (c + s * (b + s * (a + s)))) = resolventH a b c d := by
  unfold resolventH; ring

/-- `g`, `h` as the rescaling branch computes them, every coefficient divided by the same `k` (also true for `k = 0`) -/
theorem resolventG_div (a b c d k : K) :
    a / k * (c / k) - 4 / k * (d / k) - 1 / 3 * (b / k) ^ 2 = resolventG a b c d / k ^ 2 := by
  unfold resolventG; ring

theorem resolventH_div (a b c d k : K) :
    (a / k * (c / k) + 8 / k * (d / k) - 2 / 9 * (b / k) ^ 2) * (1 / 3) * (b / k) - c / k * (c / k / k) - (a / k) ^ 2 * (d / k) =
      resolventH a b c d / k ^ 3 := by
  unfold resolventH; ring

theorem resolventGH_eq (a b c d : K) (rescale : Bool) :
    resolventGH a b c d rescale =
      if rescale then (resolventG a b c d / (quarticKC : K) ^ 2, resolventH a b c d / (quarticKC : K) ^ 3)
      else (resolventG a b c d, resolventH a b c d) := by
  rw [← resolventG_shift a b c d (quarticShift a b), ← resolventH_shift a b c d (quarticShift a b),
    ← resolventG_div, ← resolventH_div]
  unfold resolventGH resolventG resolventH
  simp only [scalar_norm]
  push_cast
  rfl

theorem quarticPhi_false (a b c d : K) :
    quarticPhi a b c d false = some (depressedCubicDominant (resolventG a b c d) (resolventH a b c d)) := by
  unfold quarticPhi
  simp only [scalar_norm, resolventGH_eq]
  simp

theorem quarticPhi_true (a b c d : K) :
    quarticPhi a b c d true = some (depressedCubicDominant (resolventG a b c d / (quarticKC : K) ^ 2)
      (resolventH a b c d / (quarticKC : K) ^ 3) * quarticKC) := by
  unfold quarticPhi
  simp only [scalar_norm, resolventGH_eq]
  simp

theorem resolvent_root_rescale {G H kc x : K} (hk : kc ≠ 0) (hx : x ^ 3 + G / kc ^ 2 * x + H / kc ^ 3 = 0) :
    (x * kc) ^ 3 + G * (x * kc) + H = 0 := by
  have hG : G = G / kc ^ 2 * kc ^ 2 := (div_mul_cancel₀ G (pow_ne_zero 2 hk)).symm
  have hH : H = H / kc ^ 3 * kc ^ 3 := (div_mul_cancel₀ H (pow_ne_zero 3 hk)).symm
  generalize G / kc ^ 2 = g at hx hG
  generalize H / kc ^ 3 = h at hx hH
  rw [hG, hH]; linear_combination kc ^ 3 * hx

theorem ldlEps_eq (b c d l_1 l_3 d_2 l_2 : K) :
    ldlEps b c d l_1 l_3 d_2 l_2 =
      epsRel (d_2 + l_1 * l_1 + 2 * l_3) b + epsRel (2 * (d_2 * l_2 + l_1 * l_3)) c + epsRel (d_2 * l_2 * l_2 + l_3 * l_3) d := by
  unfold ldlEps
  simp only [scalar_norm]
  push_cast
  rfl

theorem ldlEps_nonneg (b c d l_1 l_3 d_2 l_2 : K) : 0 ≤ ldlEps b c d l_1 l_3 d_2 l_2 := by
  rw [ldlEps_eq]; exact epsRel3_nonneg _ _ _ _ _ _

theorem ldlEps_eq_zero_iff (b c d l_1 l_3 d_2 l_2 : K) :
    ldlEps b c d l_1 l_3 d_2 l_2 = 0 ↔
      d_2 + l_1 * l_1 + 2 * l_3 = b ∧ 2 * (d_2 * l_2 + l_1 * l_3) = c ∧ d_2 * l_2 * l_2 + l_3 * l_3 = d := by
  rw [ldlEps_eq]; exact epsRel3_eq_zero_iff _ _ _ _ _ _

theorem ldlPick_of_zero (b c d l_1 l_3 : K) (best : K × K × K) (cand : K × K) (h : best.2.2 = 0) :
    ldlPick b c d l_1 l_3 best cand = best := by
  unfold ldlPick
  simp only [scalar_norm]
  rw [if_neg]
  rw [h, decide_eq_true_eq]
  exact not_lt.mpr (ldlEps_nonneg _ _ _ _ _ _ _)

theorem ldlPick_fst (b c d l_1 l_3 : K) (best : K × K × K) (cand : K × K) :
    (ldlPick b c d l_1 l_3 best cand).1 = best.1 ∨ (ldlPick b c d l_1 l_3 best cand).1 = cand.1 := by
  unfold ldlPick
  dsimp only
  split_ifs
  · right; rfl
  · left; rfl

theorem ldlBest_of_exact (b c d l_1 l_3 : K) (c1 c2 c3 : K × K) (h : ldlEps b c d l_1 l_3 c1.1 c1.2 = 0) :
    ldlBest b c d l_1 l_3 c1 c2 c3 = (c1.1, c1.2, 0) := by
  unfold ldlBest
  rw [h]
  have e1 : ldlPick b c d l_1 l_3 (c1.1, c1.2, (0 : K)) c2 = (c1.1, c1.2, 0) := ldlPick_of_zero _ _ _ _ _ _ _ rfl
  rw [e1]; exact ldlPick_of_zero _ _ _ _ _ _ _ rfl

theorem ldlBest_fst_zero (b c d l_1 l_3 : K) (c1 c2 c3 : K × K) (h1 : c1.1 = 0) (h2 : c2.1 = 0) (h3 : c3.1 = 0) :
    (ldlBest b c d l_1 l_3 c1 c2 c3).1 = 0 := by
  unfold ldlBest
  rcases ldlPick_fst b c d l_1 l_3 (ldlPick b c d l_1 l_3 (c1.1, c1.2, ldlEps b c d l_1 l_3 c1.1 c1.2) c2) c3 with e | e
  · rw [e]
    rcases ldlPick_fst b c d l_1 l_3 (c1.1, c1.2, ldlEps b c d l_1 l_3 c1.1 c1.2) c2 with e' | e'
    · rw [e']; exact h1
    · rw [e']; exact h2
  · rw [e]; exact h3

theorem ldlNoiseZero_eq (b phi l_1 d_2 : K) :
    ldlNoiseZero b phi l_1 d_2 = if |d_2| ≤ 64 * (1 / 4503599627370496) * (|b| + |phi| + l_1 * l_1) then 0 else d_2 := by
  unfold ldlNoiseZero f64Epsilon
  simp only [scalar_norm, decide_eq_true_eq]
  push_cast
  rfl

theorem ldlNoiseZero_zero (b phi l_1 : K) : ldlNoiseZero b phi l_1 0 = 0 := by
  rw [ldlNoiseZero_eq]; split_ifs <;> rfl

/-- `d_2_cand_1` as a function of `phi` -/
def ldlD1 (a b phi : K) : K := 2 / 3 * b - phi - a * (1 / 2) * (a * (1 / 2))

/-- the right-hand side of the test `|d_2| <= 64 ε (|b| + |phi| + l_1²)` (ε = 2⁻⁵²) -/
def ldlNoise (a b phi : K) : K := 64 * (1 / 4503599627370496) * (|b| + |phi| + a * (1 / 2) * (a * (1 / 2)))

/-- `l_3` as a function of `phi` -/
def ldlL3 (b phi : K) : K := 1 / 6 * b + 1 / 2 * phi

/-- `delt_2` as a function of `phi` -/
def ldlDelt (a b c phi : K) : K := c - a * ldlL3 b phi

/-- the first LDLᵀ identity holds for every `phi`: `l_3` and `d_2_cand_1` are chosen so -/
theorem ldlD1_add_ldlL3 (a b phi : K) : ldlD1 a b phi + a * (1 / 2) * (a * (1 / 2)) + 2 * ldlL3 b phi = b := by
  unfold ldlD1 ldlL3; ring

/-- `delt_2` is what the second identity lacks when `d_2 l_2` is left out -/
theorem ldlDelt_add (a b c phi : K) : ldlDelt a b c phi + 2 * (a * (1 / 2) * ldlL3 b phi) = c := by
  unfold ldlDelt; ring

/-- the resolvent cubic in `phi` is minus the discriminant of what `(x² + l_1 x + l_3)²` leaves of the quartic,
    `d_2_cand_1·x² + delt_2·x + (d − l_3²)`: at a root that remainder is `d_2 (x + l_2)²` -/
theorem resolvent_key (a b c d phi : K) :
    ldlDelt a b c phi ^ 2 - 4 * ldlD1 a b phi * (d - ldlL3 b phi * ldlL3 b phi) =
      -(phi ^ 3 + resolventG a b c d * phi + resolventH a b c d) := by
  unfold ldlDelt ldlL3 ldlD1 resolventG resolventH; ring

theorem ldlNoise_nonneg (a b phi : K) : 0 ≤ ldlNoise a b phi :=
  mul_nonneg (by norm_num) (add_nonneg (add_nonneg (abs_nonneg b) (abs_nonneg phi)) (mul_self_nonneg _))

theorem ldlSelect_eq (a b c d phi : K) :
    ldlSelect a b c d phi =
      (a * (1 / 2), ldlL3 b phi,
        ldlNoiseZero b phi (a * (1 / 2)) (ldlBest b c d (a * (1 / 2)) (ldlL3 b phi)
          (ldlD1 a b phi, 1 / 2 * ldlDelt a b c phi / ldlD1 a b phi)
          (1 / 2 * ldlDelt a b c phi / (2 * (d - ldlL3 b phi * ldlL3 b phi) / ldlDelt a b c phi),
            2 * (d - ldlL3 b phi * ldlL3 b phi) / ldlDelt a b c phi)
          (ldlD1 a b phi, 2 * (d - ldlL3 b phi * ldlL3 b phi) / ldlDelt a b c phi)).1,
        (ldlBest b c d (a * (1 / 2)) (ldlL3 b phi)
          (ldlD1 a b phi, 1 / 2 * ldlDelt a b c phi / ldlD1 a b phi)
          (1 / 2 * ldlDelt a b c phi / (2 * (d - ldlL3 b phi * ldlL3 b phi) / ldlDelt a b c phi),
            2 * (d - ldlL3 b phi * ldlL3 b phi) / ldlDelt a b c phi)
          (ldlD1 a b phi, 2 * (d - ldlL3 b phi * ldlL3 b phi) / ldlDelt a b c phi)).2.1) := by
  unfold ldlSelect ldlD1 ldlDelt ldlL3
  simp only [scalar_norm]
  push_cast
  rfl

theorem ldlSelect_l1 (a b c d phi : K) : (ldlSelect a b c d phi).1 = a * (1 / 2) := by rw [ldlSelect_eq]

theorem ldlSelect_l3 (a b c d phi : K) : (ldlSelect a b c d phi).2.1 = ldlL3 b phi := by rw [ldlSelect_eq]

theorem ldlSelect_of_exact_ne {a b c d phi : K} (hphi : phi ^ 3 + resolventG a b c d * phi + resolventH a b c d = 0)
    (hthr : ldlNoise a b phi < |ldlD1 a b phi|) :
    ldlSelect a b c d phi = (a * (1 / 2), ldlL3 b phi, ldlD1 a b phi, 1 / 2 * ldlDelt a b c phi / ldlD1 a b phi) ∧
      LdlExact a b c d (a * (1 / 2)) (ldlL3 b phi) (ldlD1 a b phi) (1 / 2 * ldlDelt a b c phi / ldlD1 a b phi) := by
  have hkey := resolvent_key a b c d phi
  rw [hphi, neg_zero] at hkey
  have hD : ldlD1 a b phi ≠ 0 := fun h0 => by
    rw [h0, abs_zero] at hthr
    exact not_le.mpr hthr (ldlNoise_nonneg a b phi)
  have hex : LdlExact a b c d (a * (1 / 2)) (ldlL3 b phi) (ldlD1 a b phi) (1 / 2 * ldlDelt a b c phi / ldlD1 a b phi) := by
    refine ⟨by ring, ldlD1_add_ldlL3 a b phi, ?_, ?_⟩
    · rw [mul_div_cancel₀ _ hD]; linear_combination ldlDelt_add a b c phi
    · generalize ldlL3 b phi = l_3 at hkey ⊢
      generalize ldlDelt a b c phi = δ at hkey ⊢
      rw [mul_div_cancel₀ _ hD, mul_div_assoc', div_add' _ _ _ hD, div_eq_iff hD]
      linear_combination (1 / 4 : K) * hkey
  refine ⟨?_, hex⟩
  rw [ldlSelect_eq, ldlBest_of_exact _ _ _ _ _ (ldlD1 a b phi, _) _ _ ((ldlEps_eq_zero_iff _ _ _ _ _ _ _).mpr hex.2)]
  dsimp only
  unfold ldlNoise at hthr
  rw [ldlNoiseZero_eq, if_neg (not_le.mpr hthr)]

theorem ldlSelect_of_exact_zero {a b c d phi : K} (hphi : phi ^ 3 + resolventG a b c d * phi + resolventH a b c d = 0)
    (hD : ldlD1 a b phi = 0) :
    (ldlSelect a b c d phi).2.2.1 = 0 ∧
      a * (1 / 2) * (a * (1 / 2)) + 2 * ldlL3 b phi = b ∧ 2 * (a * (1 / 2) * ldlL3 b phi) = c := by
  have hkey := resolvent_key a b c d phi
  rw [hphi, neg_zero, hD, mul_zero, zero_mul, sub_zero] at hkey
  have hdelt : ldlDelt a b c phi = 0 := pow_eq_zero_iff (two_ne_zero) |>.mp hkey
  refine ⟨?_, ?_, ?_⟩
  · rw [ldlSelect_eq, hD, hdelt, ldlBest_fst_zero _ _ _ _ _ _ _ _ rfl (by simp) rfl, ldlNoiseZero_zero]
  · linear_combination ldlD1_add_ldlL3 a b phi - hD
  · linear_combination ldlDelt_add a b c phi - hdelt

end Kurbo
