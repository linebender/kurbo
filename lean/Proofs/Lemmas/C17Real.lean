import Proofs.Lemmas.C17
import Proofs.Lemmas.C17Fit
import Proofs.Lemmas.CanonScalar
import Mathlib.Analysis.SpecialFunctions.Pow.Real
import Mathlib.Algebra.Order.Floor.Semiring
/-! Helper file for C17: the real numbers as a lawful scalar whose `hypot`, `powf`, `toUSize` are the mathematical
    functions (shows that the law classes used by C17 are satisfiable together), and the piece count of `to_quads`. -/
namespace Kurbo

/-- laws for the two otherwise uninterpreted operations in the piece count of `to_quads` (ℝ):
    `powf` is the real power on non-negative bases, `x as usize` is the floor, saturating at `usize::MAX = 2⁶⁴−1` -/
class LawfulPowf [Scalar ℝ] : Prop where
  powf_eq : ∀ x y : ℝ, 0 ≤ x → Scalar.powf x y = x ^ y
  toUSize_eq : ∀ x : ℝ, Scalar.toUSize x = min ⌊x⌋₊ (2 ^ 64 - 1)

/-- the real numbers with the mathematical operations (the transcendental ones that C17 does not use are left
    arbitrary) -/
@[reducible] noncomputable def realScalar17 : Scalar ℝ where
  add := (· + ·); sub := (· - ·); mul := (· * ·); div := (· / ·); neg := (- ·)
  abs x := |x|
  lt a b := decide (a < b); le a b := decide (a ≤ b); beq a b := decide (a = b)
  ofRat r := (r : ℝ)
  floor x := (⌊x⌋ : ℝ); ceil x := (⌈x⌉ : ℝ)
  round x := if x < 0 then (⌈x - 1 / 2⌉ : ℝ) else (⌊x + 1 / 2⌋ : ℝ)
  trunc x := if x < 0 then (⌈x⌉ : ℝ) else (⌊x⌋ : ℝ)
  sqrt := Real.sqrt
  cbrt x := x
  sin x := x
  cos x := x
  tan x := x
  acos x := x
  atan2 x _ := x
  powf x y := x ^ y
  ln x := x
  log2 x := x
  fma a b c := a * b + c
  hypot x y := Real.sqrt (x ^ 2 + y ^ 2)
  copysign a b := if b < 0 then -|a| else |a|
  fin _ := true
  finQuot den _ := decide (den ≠ 0)
  isNan _ := false
  toUSize x := min ⌊x⌋₊ (2 ^ 64 - 1)
  signum x := if x < 0 then -1 else 1
  min a b := min a b
  max a b := max a b
  fmod a _ := a
  pi := 3

theorem realScalar17_lawful : @LawfulScalar ℝ _ _ _ _ realScalar17 :=
  canonScalar_lawful realScalar17

theorem realScalar_hypot : @LawfulHypot ℝ _ _ realScalar17 :=
  letI := realScalar17
  lawfulHypot_of_sqrt fun _ _ => rfl

theorem realScalar_powf : @LawfulPowf realScalar17 :=
  letI := realScalar17
  { powf_eq := fun _ _ _ => rfl, toUSize_eq := fun _ => rfl }

section
variable [Scalar ℝ] [LawfulScalar ℝ] [LawfulPowf]

theorem c17_toQuadsN_eq (c : CubicBez ℝ) (a : ℝ) :
    toQuadsN c a = max 1 (min ⌈(toQuadsErr c / (432 * a ^ 2)) ^ ((1 : ℝ) / 6)⌉₊ (2 ^ 64 - 1)) := by
  rw [toQuadsN_eq, toQuadsMax_eq]
  simp only [scalar_norm]
  push_cast
  rw [LawfulPowf.powf_eq _ _ (div_nonneg (toQuadsErr_nonneg c) (by positivity)), LawfulPowf.toUSize_eq,
    ← Int.floor_toNat, Int.floor_intCast, Int.ceil_toNat]
  split_ifs with h
  · omega
  · omega
end

/-- the unsaturated count `max 1 ⌈r^(1/6)⌉` has sixth power at least `r` -/
theorem count_meets (r : ℝ) (hr : 0 ≤ r) (hsat : r ^ ((1 : ℝ) / 6) ≤ 2 ^ 64 - 1) :
    r ≤ ((max 1 (min ⌈r ^ ((1 : ℝ) / 6)⌉₊ (2 ^ 64 - 1)) : Nat) : ℝ) ^ 6 := by
  have hx0 : 0 ≤ r ^ ((1 : ℝ) / 6) := Real.rpow_nonneg hr _
  have hx6 : (r ^ ((1 : ℝ) / 6)) ^ 6 = r := by
    rw [← Real.rpow_natCast, ← Real.rpow_mul hr]
    norm_num
  generalize r ^ ((1 : ℝ) / 6) = x at hsat hx0 hx6 ⊢
  have hceil : ⌈x⌉₊ ≤ 2 ^ 64 - 1 := by
    rw [Nat.ceil_le]; push_cast; norm_num at hsat ⊢; exact hsat
  have hn : x ≤ ((max 1 (min ⌈x⌉₊ (2 ^ 64 - 1)) : Nat) : ℝ) := by
    rw [min_eq_left hceil]
    calc x ≤ (⌈x⌉₊ : ℝ) := Nat.le_ceil x
      _ ≤ ((max 1 ⌈x⌉₊ : Nat) : ℝ) := by exact_mod_cast le_max_right 1 ⌈x⌉₊
  rw [← hx6]
  exact pow_le_pow_left₀ hx0 hn 6

end Kurbo
