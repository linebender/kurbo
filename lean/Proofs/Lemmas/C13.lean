import Kurbo.Dash
import Mathlib.Tactic.Common
/-! Structural lemmas about the dash iterator model (`Kurbo/Dash.lean`): index invariant, no index panic, phase reset, the
    equations of `getInputList` and of the three branches of `step`, a rule for invariants of `next` (`NextInv`) with the
    equations of `next`, output kinds, the ways `get_input`'s loop ends (`InputOutcome`), and the witness states of the examples
    of `Proofs/C13.lean`.  No arithmetic law is used: everything holds for every `[Scalar K]` (also `Float`). -/
set_option linter.unusedSectionVars false
namespace Kurbo
variable {K : Type} [Scalar K]

/-- both pattern indices are in range (so `self.dashes[self.dash_ix]` cannot panic) -/
def DashIt.IxOk (s : DashIt K) : Prop := s.dash_ix < s.dashes.size ∧ s.init_dash_ix < s.dashes.size

def DashIt.PhaseInit (s : DashIt K) : Prop :=
  s.dash_ix = s.init_dash_ix ∧ s.dash_remaining = s.init_dash_remaining ∧ s.is_active = s.init_is_active

/-- the fields written by `dash_impl` only -/
def DashIt.SameInit (s s' : DashIt K) : Prop :=
  s'.dashes = s.dashes ∧ s'.init_dash_ix = s.init_dash_ix ∧ s'.init_dash_remaining = s.init_dash_remaining ∧
    s'.init_is_active = s.init_is_active

/-- also for `s.SameInit s'` with `s'` a record update of `s` in other fields (by unfolding) -/
theorem DashIt.SameInit.refl (s : DashIt K) : s.SameInit s := ⟨rfl, rfl, rfl, rfl⟩
theorem DashIt.SameInit.trans {a b c : DashIt K} (h1 : a.SameInit b) (h2 : b.SameInit c) : a.SameInit c := by
  obtain ⟨a1, a2, a3, a4⟩ := h1
  obtain ⟨b1, b2, b3, b4⟩ := h2
  exact ⟨b1.trans a1, b2.trans a2, b3.trans a3, b4.trans a4⟩

theorem dashAt_lt (d : Array K) (i : Nat) (h : i < d.size) : dashAt d i = some d[i] := by
  unfold dashAt; exact Array.getElem?_eq_getElem h

theorem dashAt_none (d : Array K) (i : Nat) (h : dashAt d i = none) : d.size ≤ i := by
  unfold dashAt at h; simpa using h

/-- the loop reads `dashes[(ix + 1) % len]` only: it cannot panic on a non-empty pattern whatever `ix` is, and it
    keeps an index in range -/
theorem dashInitLoop_ok (dashes : Array K) (hn : 0 < dashes.size) : ∀ (fuel ix : Nat) (rem : K) (act : Bool),
    ∃ r, dashInitLoop dashes fuel ix rem act = some r ∧ (ix < dashes.size → r.1 < dashes.size)
  | 0, ix, rem, act => ⟨_, rfl, id⟩
  | fuel + 1, ix, rem, act => by
    unfold dashInitLoop
    split
    · have hlt : (ix + 1) % dashes.size < dashes.size := Nat.mod_lt _ hn
      simp only [dashAt_lt _ _ hlt]
      obtain ⟨r, h1, h2⟩ := dashInitLoop_ok dashes hn fuel ((ix + 1) % dashes.size) _ (!act)
      exact ⟨r, h1, fun _ => h2 hlt⟩
    · exact ⟨_, rfl, id⟩

/-- what `dash_impl` leaves in the iterator it builds from `inner` and `dashes` -/
structure DashIt.Built (it : DashIt K) (inner : List (PathEl K)) (dashes : Array K) : Prop where
  ixOk : it.IxOk
  dashes : it.dashes = dashes
  inner : it.inner = inner
  phase : it.PhaseInit
  state : it.state = .NeedInput
  stash : it.stash = #[]
  stash_ix : it.stash_ix = 0
  done : it.input_done = false
  cp : it.closepath_pending = false

theorem dashImpl_ok (inner : List (PathEl K)) (off : K) (dashes : Array K) (fuel : Nat) (hn : 0 < dashes.size) :
    ∃ it, dashImpl inner off dashes fuel = some it ∧ it.Built inner dashes := by
  unfold dashImpl
  simp only [dashAt_lt _ _ hn]
  obtain ⟨⟨ix, rem, act⟩, h1, h2⟩ := dashInitLoop_ok dashes hn fuel 0 (Scalar.sub dashes[0] off) true
  replace h2 := h2 hn
  split
  · rename_i heq
    cases h1.symm.trans heq
  · rename_i heq
    cases h1.symm.trans heq
    exact ⟨_, rfl, ⟨h2, h2⟩, rfl, rfl, ⟨rfl, rfl, rfl⟩, rfl, rfl, rfl, rfl, rfl⟩

theorem dashImpl_built {inner : List (PathEl K)} {off : K} {dashes : Array K} {fuel : Nat} {it : DashIt K}
    (hit : dashImpl inner off dashes fuel = some it) (hn : 0 < dashes.size) : it.Built inner dashes := by
  obtain ⟨it', h, hb⟩ := dashImpl_ok inner off dashes fuel hn
  cases hit.symm.trans h
  exact hb

/-- the phase is left as it is (`get_input` does that or resets it: `get_input_phase`) -/
def DashIt.PhaseKept (s s' : DashIt K) : Prop :=
  s'.dash_ix = s.dash_ix ∧ s'.dash_remaining = s.dash_remaining ∧ s'.is_active = s.is_active

theorem reset_phase_sameInit (s : DashIt K) : s.SameInit s.reset_phase := .refl _
theorem reset_phase_phaseInit (s : DashIt K) : s.reset_phase.PhaseInit := ⟨rfl, rfl, rfl⟩

/-- `handle_closepath` writes the stash or the playback index (which, and how: `handle_closepath_join`), the state and the
    phase, nothing else -/
theorem handle_closepath_eq (s : DashIt K) : ∃ st ix, s.handle_closepath =
    { s with stash := st, stash_ix := ix, state := .FromStash, dash_ix := s.init_dash_ix,
             dash_remaining := s.init_dash_remaining, is_active := s.init_is_active } := by
  unfold DashIt.handle_closepath
  split
  · exact ⟨_, _, rfl⟩
  · split <;> exact ⟨_, _, rfl⟩

theorem handle_closepath_sameInit (s : DashIt K) : s.SameInit s.handle_closepath := by
  obtain ⟨st, ix, e⟩ := handle_closepath_eq s
  rw [e]; exact .refl _

theorem handle_closepath_phaseInit (s : DashIt K) : s.handle_closepath.PhaseInit := by
  obtain ⟨st, ix, e⟩ := handle_closepath_eq s
  rw [e]; exact ⟨rfl, rfl, rfl⟩

theorem handle_closepath_state (s : DashIt K) : s.handle_closepath.state = .FromStash := by
  obtain ⟨st, ix, e⟩ := handle_closepath_eq s
  rw [e]

theorem phaseInit_of_kept {s s' : DashIt K} (h : s.PhaseInit) (hs : s.SameInit s') (hk : s.PhaseKept s') :
    s'.PhaseInit := by
  obtain ⟨a1, a2, a3⟩ := h
  obtain ⟨-, c2, c3, c4⟩ := hs
  obtain ⟨k1, k2, k3⟩ := hk
  exact ⟨k1.trans (a1.trans c2.symm), k2.trans (a2.trans c3.symm), k3.trans (a3.trans c4.symm)⟩

/-- the state after the loop of `get_input` consumed a `MoveTo p`: a stash (if any) is to be flushed, the phase is reset -/
def DashIt.movedTo (s : DashIt K) (p : Point K) (rest : List (PathEl K)) : DashIt K :=
  ({ s with inner := rest, state := if !s.stash.isEmpty then .FromStash else s.state, start_pt := p, last_pt := p }
    : DashIt K).reset_phase

theorem getInputList_moveTo (b : Bool) (p : Point K) (rest : List (PathEl K)) (s : DashIt K) :
    getInputList b (.MoveTo p :: rest) s = getInputList true rest (s.movedTo p rest) := by
  simp only [getInputList, DashIt.movedTo]
  split <;> rfl

theorem movedTo_of_stash_empty (s : DashIt K) (p : Point K) (rest : List (PathEl K)) (h : s.stash.isEmpty = true) :
    s.movedTo p rest = ({ s with inner := rest, start_pt := p, last_pt := p } : DashIt K).reset_phase := by
  simp only [DashIt.movedTo, h, Bool.not_true, Bool.false_eq_true, if_false]

theorem movedTo_state (s : DashIt K) (p : Point K) (rest : List (PathEl K)) :
    (s.movedTo p rest).state = s.state ∨ (s.movedTo p rest).state = .FromStash := by
  show (if !s.stash.isEmpty then DashState.FromStash else s.state) = s.state ∨
    (if !s.stash.isEmpty then DashState.FromStash else s.state) = .FromStash
  split
  · exact Or.inr rfl
  · exact Or.inl rfl

open Ops in
/-- the state after the loop of `get_input` loaded the segment `seg` -/
def DashIt.loaded (s : DashIt K) (rest : List (PathEl K)) (seg : PathSeg K) : DashIt K :=
  { s with inner := rest, seg_remaining := seg.arclen (Scalar.ofRat dashAccuracy), current_seg := seg, last_pt := seg.end,
           t := (0 : K) }

theorem getInputList_lineTo (b : Bool) (p1 : Point K) (rest : List (PathEl K)) (s : DashIt K) :
    getInputList b (.LineTo p1 :: rest) s = s.loaded rest (.Line ⟨s.last_pt, p1⟩) := rfl

theorem getInputList_quadTo (b : Bool) (p1 p2 : Point K) (rest : List (PathEl K)) (s : DashIt K) :
    getInputList b (.QuadTo p1 p2 :: rest) s = s.loaded rest (.Quad ⟨s.last_pt, p1, p2⟩) := rfl

theorem getInputList_curveTo (b : Bool) (p1 p2 p3 : Point K) (rest : List (PathEl K)) (s : DashIt K) :
    getInputList b (.CurveTo p1 p2 p3 :: rest) s = s.loaded rest (.Cubic ⟨s.last_pt, p1, p2, p3⟩) := rfl

open Ops in
theorem getInputList_closePath (b : Bool) (rest : List (PathEl K)) (s : DashIt K) :
    getInputList b (.ClosePath :: rest) s =
      if b then getInputList true rest { s with inner := rest } else
      if !(s.last_pt.peq s.start_pt) then
        ({ s with closepath_pending := true } : DashIt K).loaded rest (.Line ⟨s.last_pt, s.start_pt⟩)
      else { ({ s with inner := rest, closepath_pending := true } : DashIt K).handle_closepath with t := (0 : K) } := rfl

theorem loaded_phase (s : DashIt K) (rest : List (PathEl K)) (seg : PathSeg K) :
    s.SameInit (s.loaded rest seg) ∧ (s.PhaseKept (s.loaded rest seg) ∨ (s.loaded rest seg).PhaseInit) :=
  ⟨.refl _, Or.inl ⟨rfl, rfl, rfl⟩⟩

theorem getInputList_phase (b : Bool) (l : List (PathEl K)) (s : DashIt K) :
    s.SameInit (getInputList b l s) ∧ (s.PhaseKept (getInputList b l s) ∨ (getInputList b l s).PhaseInit) := by
  induction l generalizing b s with
  | nil => exact ⟨.refl _, Or.inl ⟨rfl, rfl, rfl⟩⟩
  | cons el rest ih =>
    cases el with
    | MoveTo p =>
      rw [getInputList_moveTo]
      obtain ⟨h1, h2⟩ := ih true (s.movedTo p rest)
      exact ⟨DashIt.SameInit.trans (.refl _) h1, Or.inr (h2.elim (phaseInit_of_kept ⟨rfl, rfl, rfl⟩ h1) id)⟩
    | LineTo p => exact loaded_phase s rest _
    | QuadTo p1 p2 => exact loaded_phase s rest _
    | CurveTo p1 p2 p3 => exact loaded_phase s rest _
    | ClosePath =>
      rw [getInputList_closePath]
      split
      · obtain ⟨h1, h2⟩ := ih true ({ s with inner := rest } : DashIt K)
        exact ⟨DashIt.SameInit.trans (.refl _) h1, h2⟩
      · split
        · exact loaded_phase _ rest _
        · exact ⟨handle_closepath_sameInit _, Or.inr (handle_closepath_phaseInit _)⟩

section
open Ops
/-- index of the pattern entry after the current one (`step`'s wrap-around) -/
def DashIt.nextIx (s : DashIt K) : Nat := if s.dash_ix + 1 == s.dashes.size then 0 else s.dash_ix + 1

/-- the rest of the current segment, `current_seg.subsegment(t..1)` -/
def DashIt.restSeg (s : DashIt K) : PathSeg K := s.current_seg.subsegment ⟨s.t, (1 : K)⟩

/-- parameter (on `restSeg`) at which the current pattern entry ends -/
def DashIt.cutT (s : DashIt K) : K := s.restSeg.inv_arclen s.dash_remaining (Scalar.ofRat dashAccuracy)

theorem step_stash_start (s : DashIt K) (h0 : (s.state == .ToStash && s.stash.isEmpty) = true) :
    s.step = if s.is_active then some (some (.MoveTo s.current_seg.start), s)
      else some (none, { s with state := .Working }) := by
  unfold DashIt.step
  simp only [h0, if_true]

theorem step_switch (s : DashIt K) (h0 : (s.state == .ToStash && s.stash.isEmpty) = false)
    (h1 : (s.dash_remaining <. s.seg_remaining) = true) :
    s.step = match dashAt s.dashes s.nextIx with
      | none => none
      | some d => some (some (if s.is_active then segToEl (s.restSeg.subsegment ⟨(0 : K), s.cutT⟩)
                          else .MoveTo (s.restSeg.eval s.cutT)),
                  { s with state := if s.is_active then .Working else s.state, is_active := !s.is_active,
                           t := s.t + s.cutT * ((1 : K) - s.t),
                           seg_remaining := s.seg_remaining - s.dash_remaining,
                           dash_ix := s.nextIx, dash_remaining := d }) := by
  unfold DashIt.step
  simp only [h0, h1, if_true, Bool.false_eq_true, if_false]
  cases hact : s.is_active
  · simp only [hact, Bool.false_eq_true, if_false]
    rfl
  · simp only [if_true]
    rfl

/-- the state in which the segment-ending `step` calls `get_input`: while the first dash is being stashed (`ToStash`, entry on)
    the rest of the segment has been pushed to the stash before, so that a `ClosePath` appended by `get_input` comes after
    it -/
def DashIt.endPush (s : DashIt K) : DashIt K :=
  if s.is_active && s.state == .ToStash then { s with stash := s.stash.push (segToEl s.restSeg) } else s

set_option linter.unusedSimpArgs false in
theorem step_seg_end (s : DashIt K) (h0 : (s.state == .ToStash && s.stash.isEmpty) = false)
    (h1 : (s.dash_remaining <. s.seg_remaining) = false) :
    s.step = some (if s.is_active && !(s.state == .ToStash) then some (segToEl s.restSeg) else none,
      ({ s.endPush with dash_remaining := s.dash_remaining - s.seg_remaining } : DashIt K).get_input) := by
  unfold DashIt.step DashIt.endPush
  simp only [h0, h1, Bool.false_eq_true, if_false]
  cases ha : s.is_active <;> cases hs : (s.state == DashState.ToStash) <;>
    simp only [Bool.false_eq_true, if_false, if_true, Bool.and_true, Bool.and_false, Bool.false_and, Bool.true_and,
      Bool.not_true, Bool.not_false] <;> rfl

theorem step_seg_end_ns (s : DashIt K) (h0 : (s.state == .ToStash && s.stash.isEmpty) = false)
    (hns : (s.state == .ToStash) = false) (h1 : (s.dash_remaining <. s.seg_remaining) = false) :
    s.step = some (if s.is_active then some (segToEl s.restSeg) else none,
      ({ s with dash_remaining := s.dash_remaining - s.seg_remaining } : DashIt K).get_input) := by
  rw [step_seg_end s h0 h1]
  unfold DashIt.endPush
  simp only [hns, Bool.and_false, Bool.false_eq_true, if_false, Bool.not_false, Bool.and_true]

theorem step_seg_end_stash (s : DashIt K) (h0 : (s.state == .ToStash && s.stash.isEmpty) = false)
    (hs : s.state = .ToStash) (ha : s.is_active = true) (h1 : (s.dash_remaining <. s.seg_remaining) = false) :
    s.step = some (none, ({ s with stash := s.stash.push (segToEl s.restSeg),
                                   dash_remaining := s.dash_remaining - s.seg_remaining } : DashIt K).get_input) := by
  rw [step_seg_end s h0 h1]
  unfold DashIt.endPush
  have hb : (s.state == DashState.ToStash) = true := by rw [hs]; rfl
  simp only [hb, ha, Bool.and_true, if_true, Bool.not_true, Bool.and_false, Bool.false_eq_true, if_false]
end

theorem endPush_fields (s : DashIt K) :
    s.endPush.dashes = s.dashes ∧ s.endPush.dash_ix = s.dash_ix ∧ s.endPush.init_dash_ix = s.init_dash_ix ∧
    s.endPush.init_dash_remaining = s.init_dash_remaining ∧ s.endPush.init_is_active = s.init_is_active := by
  unfold DashIt.endPush
  split <;> exact ⟨rfl, rfl, rfl, rfl, rfl⟩

theorem get_input_of_not_pending (s : DashIt K) (hcp : s.closepath_pending = false) :
    s.get_input = getInputList false s.inner s := by
  unfold DashIt.get_input
  rw [if_neg (by rw [hcp]; exact Bool.false_ne_true)]

theorem get_input_phase (s : DashIt K) :
    s.SameInit s.get_input ∧ (s.PhaseKept s.get_input ∨ s.get_input.PhaseInit) := by
  unfold DashIt.get_input
  split
  · exact ⟨handle_closepath_sameInit s, Or.inr (handle_closepath_phaseInit s)⟩
  · exact getInputList_phase _ _ _

theorem IxOk_of_phase {s s' : DashIt K} (h : s.IxOk) (h1 : s.SameInit s')
    (h2 : s.PhaseKept s' ∨ s'.PhaseInit) : s'.IxOk := by
  obtain ⟨a1, a2⟩ := h
  obtain ⟨c1, c2, -, -⟩ := h1
  unfold DashIt.IxOk
  rw [c1, c2]
  refine ⟨?_, a2⟩
  rcases h2 with h2 | h2
  · rw [h2.1]; exact a1
  · rw [h2.1, c2]; exact a2

theorem get_input_ixOk (s : DashIt K) (h : s.IxOk) : s.get_input.IxOk :=
  IxOk_of_phase h (get_input_phase s).1 (get_input_phase s).2

theorem nextIx_lt (s : DashIt K) (h : s.dash_ix < s.dashes.size) : s.nextIx < s.dashes.size := by
  unfold DashIt.nextIx
  split
  · omega
  · rename_i hne
    simp only [beq_iff_eq] at hne
    omega

theorem step_ok (s : DashIt K) (h : s.IxOk) : ∃ r s', s.step = some (r, s') ∧ s'.IxOk ∧ s.SameInit s' := by
  cases h0 : (s.state == .ToStash && s.stash.isEmpty)
  · cases h1 : Scalar.lt s.dash_remaining s.seg_remaining
    · rw [step_seg_end s h0 h1]
      obtain ⟨f1, f2, f3, f4, f5⟩ := endPush_fields s
      refine ⟨_, _, rfl, ?_, ?_⟩
      · refine get_input_ixOk _ ?_
        show s.endPush.dash_ix < s.endPush.dashes.size ∧ s.endPush.init_dash_ix < s.endPush.dashes.size
        rw [f1, f2, f3]; exact h
      · exact DashIt.SameInit.trans ⟨f1, f3, f4, f5⟩ (get_input_phase _).1
    · rw [step_switch s h0 h1, dashAt_lt _ _ (nextIx_lt s h.1)]
      exact ⟨_, _, rfl, ⟨nextIx_lt s h.1, h.2⟩, .refl _⟩
  · rw [step_stash_start s h0]
    split
    · exact ⟨_, _, rfl, h, DashIt.SameInit.refl _⟩
    · exact ⟨_, _, rfl, h, .refl _⟩

theorem step_ne_none (s : DashIt K) (h : s.IxOk) : s.step ≠ none := by
  obtain ⟨r, s', e, -⟩ := step_ok s h
  rw [e]; exact Option.some_ne_none _

theorem step_ixOk (s s' : DashIt K) (r : Option (PathEl K)) (h : s.IxOk) (e : s.step = some (r, s')) :
    s'.IxOk ∧ s.SameInit s' := by
  obtain ⟨r1, s1, e1, h1, h2⟩ := step_ok s h
  rw [e] at e1
  cases e1
  exact ⟨h1, h2⟩

/-- closure conditions under which a state predicate `P` is kept by `next` and every emitted element satisfies `Q` -/
structure NextInv (P : DashIt K → Prop) (Q : PathEl K → Prop) : Prop where
  get_input : ∀ s, P s → P s.get_input
  step : ∀ s r s', P s → s.step = some (r, s') → P s' ∧ ∀ el, r = some el → Q el
  set_state : ∀ s st, P s → P { s with state := st }
  push : ∀ s el, P s → Q el → P { s with stash := s.stash.push el }
  stash : ∀ s el, P s → s.stash[s.stash_ix]? = some el → Q el
  set_ix : ∀ s i, P s → P { s with stash_ix := i }
  clear : ∀ s, P s → P { s with stash := #[], stash_ix := 0 }
  set_cp : ∀ s b, P s → P { s with closepath_pending := b }

/-- what the rule gives for one result of `next` -/
def DashNext.Good (P : DashIt K → Prop) (Q : PathEl K → Prop) (noPanic : Prop) : DashNext K → Prop
  | .some el s => P s ∧ Q el
  | .none s => P s
  | .panic => ¬ noPanic
  | .outOfFuel => True

theorem next_inv {P : DashIt K → Prop} {Q : PathEl K → Prop} (I : NextInv P Q) :
    ∀ (fuel : Nat) (s : DashIt K), P s → (s.next fuel).Good P Q (∀ s, P s → s.step ≠ none)
  | 0, _, _ => trivial
  | fuel + 1, s, h => by
    unfold DashIt.next
    split
    · -- NeedInput
      split
      · exact h
      · simp only []
        split
        · exact I.get_input s h
        · split
          · exact next_inv I fuel _ (I.get_input s h)
          · exact next_inv I fuel _ (I.set_state _ _ (I.get_input s h))
    · -- ToStash
      split
      · rename_i e
        exact fun hp => hp s h e
      · rename_i el s' e
        obtain ⟨h1, h2⟩ := I.step s _ _ h e
        exact next_inv I fuel _ (I.push _ _ h1 (h2 el rfl))
      · rename_i s' e
        exact next_inv I fuel _ (I.step s _ _ h e).1
    · -- Working
      split
      · rename_i e
        exact fun hp => hp s h e
      · rename_i el s' e
        obtain ⟨h1, h2⟩ := I.step s _ _ h e
        exact ⟨h1, h2 el rfl⟩
      · rename_i s' e
        exact next_inv I fuel _ (I.step s _ _ h e).1
    · -- FromStash
      split
      · rename_i el e
        exact ⟨I.set_ix _ _ h, I.stash s el h e⟩
      · simp only []
        split
        · exact I.clear s h
        · split
          · exact next_inv I fuel _ (I.set_state _ _ (I.set_cp _ _ (I.clear s h)))
          · exact next_inv I fuel _ (I.set_state _ _ (I.clear s h))

theorem next_working_some (s s1 : DashIt K) (el : PathEl K) (fuel : Nat) (hw : s.state = .Working)
    (e : s.step = some (some el, s1)) : s.next (fuel + 1) = .some el s1 := by
  unfold DashIt.next
  rw [hw]
  simp only [e]

theorem next_working_none (s s1 : DashIt K) (fuel : Nat) (hw : s.state = .Working)
    (e : s.step = some (none, s1)) : s.next (fuel + 1) = s1.next fuel := by
  conv_lhs => unfold DashIt.next
  rw [hw]
  simp only [e]

theorem next_toStash_some (s s1 : DashIt K) (el : PathEl K) (fuel : Nat) (hs : s.state = .ToStash)
    (e : s.step = some (some el, s1)) :
    s.next (fuel + 1) = ({ s1 with stash := s1.stash.push el } : DashIt K).next fuel := by
  conv_lhs => unfold DashIt.next
  rw [hs]; simp only [e]

theorem next_toStash_none (s s1 : DashIt K) (fuel : Nat) (hs : s.state = .ToStash)
    (e : s.step = some (none, s1)) : s.next (fuel + 1) = s1.next fuel := by
  conv_lhs => unfold DashIt.next
  rw [hs]; simp only [e]

theorem next_fromStash_some (s : DashIt K) (el : PathEl K) (fuel : Nat) (hs : s.state = .FromStash)
    (e : s.stash[s.stash_ix]? = some el) : s.next (fuel + 1) = .some el { s with stash_ix := s.stash_ix + 1 } := by
  unfold DashIt.next
  rw [hs]; simp only [e]

theorem next_fromStash_done (s : DashIt K) (fuel : Nat) (hs : s.state = .FromStash)
    (e : s.stash[s.stash_ix]? = none) (hd : s.input_done = true) :
    s.next (fuel + 1) = .none { s with stash := #[], stash_ix := 0 } := by
  unfold DashIt.next
  rw [hs]; simp only [e, hd, if_true]

theorem next_fromStash_cp (s : DashIt K) (fuel : Nat) (hs : s.state = .FromStash)
    (e : s.stash[s.stash_ix]? = none) (hd : s.input_done = false) (hcp : s.closepath_pending = true) :
    s.next (fuel + 1) =
      ({ s with stash := #[], stash_ix := 0, closepath_pending := false, state := .NeedInput } : DashIt K).next fuel := by
  conv_lhs => unfold DashIt.next
  rw [hs]
  simp only [e]
  rw [if_neg (by show ¬ s.input_done = true; rw [hd]; exact Bool.false_ne_true), if_pos (by exact hcp)]

theorem next_needInput (s : DashIt K) (fuel : Nat) (hs : s.state = .NeedInput) (hd : s.input_done = false)
    (hd' : s.get_input.input_done = false) (hs' : s.get_input.state = .NeedInput) :
    s.next (fuel + 1) = ({ s.get_input with state := .ToStash } : DashIt K).next fuel := by
  conv_lhs => unfold DashIt.next
  rw [hs]
  simp only [hd, hd', hs', Bool.false_eq_true, if_false]
  rfl

theorem next_needInput_done (s : DashIt K) (fuel : Nat) (hs : s.state = .NeedInput) (hd : s.input_done = false)
    (hd' : s.get_input.input_done = true) : s.next (fuel + 1) = .none s.get_input := by
  unfold DashIt.next
  rw [hs]
  simp only [hd, hd', Bool.false_eq_true, if_false, if_true]

/-- `dash(..).collect()` under the rule -/
def DashRes.Good (Q : PathEl K → Prop) (noPanic : Prop) : DashRes K → Prop
  | .ok els => ∀ el ∈ els, Q el
  | .panic => ¬ noPanic
  | .outOfFuel => True

theorem dashCollect_inv {P : DashIt K → Prop} {Q : PathEl K → Prop} (I : NextInv P Q) :
    ∀ (n : Nat) (s : DashIt K) (acc : List (PathEl K)), P s → (∀ el ∈ acc, Q el) →
      (dashCollect n s acc).Good Q (∀ s, P s → s.step ≠ none)
  | 0, _, _, _, _ => trivial
  | n + 1, s, acc, h, hacc => by
    unfold dashCollect
    have hn := next_inv I 100000 s h
    split
    · rename_i el s' e
      rw [e] at hn
      refine dashCollect_inv I n s' (el :: acc) hn.1 ?_
      intro x hx
      rcases List.mem_cons.mp hx with rfl | hx
      · exact hn.2
      · exact hacc x hx
    · intro el hel
      exact hacc el (List.mem_reverse.mp hel)
    · rename_i e
      rw [e] at hn
      exact hn
    · trivial

theorem ixOk_nextInv : NextInv (K := K) DashIt.IxOk (fun _ => True) where
  get_input := get_input_ixOk
  step s r s' h e := ⟨(step_ixOk s s' r h e).1, fun _ _ => trivial⟩
  set_state _ _ h := h
  push _ _ h _ := h
  stash _ _ _ _ := trivial
  set_ix _ _ h := h
  clear _ h := h
  set_cp _ _ h := h

def PathEl.isPoly : PathEl K → Bool
  | .MoveTo _ => true
  | .LineTo _ => true
  | .ClosePath => true
  | _ => false

def DashIt.PolyInv (s : DashIt K) : Prop :=
  (∀ el ∈ s.inner, el.isPoly = true) ∧ (∃ l, s.current_seg = .Line l) ∧ (∀ el ∈ s.stash.toList, el.isPoly = true)

theorem isPoly_push {stash : Array (PathEl K)} {el : PathEl K} (h : ∀ x ∈ stash.toList, x.isPoly = true)
    (hel : el.isPoly = true) : ∀ x ∈ (stash.push el).toList, x.isPoly = true := by
  intro x hx
  simp only [Array.toList_push, List.mem_append, List.mem_singleton] at hx
  rcases hx with hx | rfl
  · exact h x hx
  · exact hel

theorem handle_closepath_polyInv (s : DashIt K) (h : s.PolyInv) : s.handle_closepath.PolyInv := by
  obtain ⟨h1, h2, h3⟩ := h
  unfold DashIt.handle_closepath
  split
  · exact ⟨h1, h2, isPoly_push h3 rfl⟩
  · split <;> exact ⟨h1, h2, h3⟩

theorem getInputList_polyInv (b : Bool) (l : List (PathEl K)) (s : DashIt K) (hl : ∀ el ∈ l, el.isPoly = true)
    (h : s.PolyInv) : (getInputList b l s).PolyInv := by
  induction l generalizing b s with
  | nil => exact ⟨fun el hel => (by cases hel), h.2.1, h.2.2⟩
  | cons el rest ih =>
    have hrest : ∀ el ∈ rest, el.isPoly = true := fun x hx => hl x (List.mem_cons_of_mem _ hx)
    obtain ⟨h1, h2, h3⟩ := h
    cases el with
    | MoveTo p =>
      rw [getInputList_moveTo]
      exact ih true _ hrest ⟨hrest, h2, h3⟩
    | LineTo p => exact ⟨hrest, ⟨_, rfl⟩, h3⟩
    | QuadTo p1 p2 => cases hl _ List.mem_cons_self
    | CurveTo p1 p2 p3 => cases hl _ List.mem_cons_self
    | ClosePath =>
      rw [getInputList_closePath]
      split
      · exact ih true _ hrest ⟨hrest, h2, h3⟩
      · split
        · exact ⟨hrest, ⟨_, rfl⟩, h3⟩
        · exact handle_closepath_polyInv _ ⟨hrest, h2, h3⟩

theorem get_input_polyInv (s : DashIt K) (h : s.PolyInv) : s.get_input.PolyInv := by
  unfold DashIt.get_input
  split
  · exact handle_closepath_polyInv s h
  · exact getInputList_polyInv _ _ _ h.1 h

theorem step_polyInv (s s' : DashIt K) (r : Option (PathEl K)) (h : s.PolyInv) (e : s.step = some (r, s')) :
    s'.PolyInv ∧ ∀ el, r = some el → el.isPoly = true := by
  obtain ⟨l, hl⟩ := h.2.1
  cases h0 : (s.state == .ToStash && s.stash.isEmpty)
  · cases h1 : Scalar.lt s.dash_remaining s.seg_remaining
    · rw [step_seg_end s h0 h1] at e
      simp only [Option.some.injEq, Prod.mk.injEq] at e
      obtain ⟨e1, e2⟩ := e
      subst e1 e2
      have hrest : (segToEl s.restSeg).isPoly = true := by
        simp only [DashIt.restSeg, hl, PathSeg.subsegment, segToEl, PathEl.isPoly]
      refine ⟨get_input_polyInv _ ?_, ?_⟩
      · show (∀ el ∈ s.endPush.inner, el.isPoly = true) ∧ (∃ l, s.endPush.current_seg = .Line l) ∧
          (∀ el ∈ s.endPush.stash.toList, el.isPoly = true)
        unfold DashIt.endPush
        split
        · exact ⟨h.1, h.2.1, isPoly_push h.2.2 hrest⟩
        · exact h
      · intro el hel
        split at hel
        · cases hel
          exact hrest
        · cases hel
    · rw [step_switch s h0 h1] at e
      split at e
      · cases e
      · simp only [Option.some.injEq, Prod.mk.injEq] at e
        obtain ⟨e1, e2⟩ := e
        subst e1 e2
        refine ⟨h, ?_⟩
        intro el hel
        cases hel
        split
        · simp only [DashIt.restSeg, hl, PathSeg.subsegment, segToEl, PathEl.isPoly]
        · rfl
  · rw [step_stash_start s h0] at e
    split at e
    · cases e
      exact ⟨h, fun el hel => by cases hel; rfl⟩
    · cases e
      exact ⟨h, fun el hel => by cases hel⟩

theorem polyInv_nextInv : NextInv (K := K) DashIt.PolyInv (fun el => el.isPoly = true) where
  get_input := get_input_polyInv
  step s r s' h e := step_polyInv s s' r h e
  set_state _ _ h := h
  push _ _ h hq := ⟨h.1, h.2.1, isPoly_push h.2.2 hq⟩
  stash s el h e := by
    apply h.2.2
    rw [Array.getElem?_eq_some_iff] at e
    obtain ⟨hi, e⟩ := e
    rw [← e]
    exact Array.getElem_mem_toList hi
  set_ix _ _ h := h
  clear _ h := ⟨h.1, h.2.1, by intro el hel; simp at hel⟩
  set_cp _ _ h := h

theorem handle_closepath_fields (s : DashIt K) :
    s.handle_closepath.input_done = s.input_done ∧ s.handle_closepath.inner = s.inner ∧
    s.handle_closepath.closepath_pending = s.closepath_pending ∧ s.handle_closepath.current_seg = s.current_seg ∧
    s.handle_closepath.t = s.t ∧ s.handle_closepath.seg_remaining = s.seg_remaining ∧
    s.handle_closepath.start_pt = s.start_pt ∧ s.handle_closepath.last_pt = s.last_pt := by
  obtain ⟨st, ix, e⟩ := handle_closepath_eq s
  rw [e]; exact ⟨rfl, rfl, rfl, rfl, rfl, rfl, rfl, rfl⟩

/-- `s'` is the state after `get_input`'s loop ran from `s` over the remaining input `l`:
    * the input ended: `input_done`, state `FromStash`; or (otherwise `t = 0`, `input_done` untouched, input got shorter)
    * a segment was loaded into `current_seg`: it starts at the previous `last_pt` with phase, `start_pt` and state
      untouched, or – when `MoveTo`s were consumed first – at the last `MoveTo` point, which is the new `start_pt`, with the
      phase reset (and the state set to `FromStash` if there was a stash to flush); `last_pt` is its end,
      `seg_remaining` its arc length; or
    * a `ClosePath` was handled (`handle_closepath`: state `FromStash`, phase reset). -/
def DashIt.InputOutcome (l : List (PathEl K)) (s s' : DashIt K) : Prop :=
  (s'.input_done = true ∧ s'.state = .FromStash ∧ s'.inner = []) ∨
  (s'.input_done = s.input_done ∧ s'.inner.length < l.length ∧ s'.t = Scalar.ofRat (0 : Nat) ∧
    ((s'.seg_remaining = s'.current_seg.arclen (Scalar.ofRat dashAccuracy) ∧ s'.last_pt = s'.current_seg.end ∧
        ((s'.current_seg.start = s.last_pt ∧ s.PhaseKept s' ∧ s'.start_pt = s.start_pt ∧ s'.state = s.state) ∨
         (PathEl.MoveTo s'.current_seg.start ∈ l ∧ s'.PhaseInit ∧ s'.start_pt = s'.current_seg.start ∧
           (s'.state = s.state ∨ s'.state = .FromStash)))) ∨
     (s'.state = .FromStash ∧ s'.PhaseInit ∧ s'.closepath_pending = true)))

theorem DashIt.InputOutcome.cons {l : List (PathEl K)} {s s' : DashIt K} (el : PathEl K)
    (h : s.InputOutcome l s') : s.InputOutcome (el :: l) s' := by
  rcases h with h | ⟨a, b, c, d⟩
  · exact Or.inl h
  · refine Or.inr ⟨a, Nat.lt_succ_of_lt b, c, ?_⟩
    rcases d with ⟨d1, d2, d3⟩ | d
    · refine Or.inl ⟨d1, d2, ?_⟩
      rcases d3 with d3 | ⟨e1, e2⟩
      · exact Or.inl d3
      · exact Or.inr ⟨List.mem_cons_of_mem _ e1, e2⟩
    · exact Or.inr d

/-- outcome after a `MoveTo p` was consumed (`s₁` = state after the `MoveTo`) -/
theorem DashIt.InputOutcome.moveTo {rest : List (PathEl K)} {s s₁ s' : DashIt K} (p : Point K)
    (h : s₁.InputOutcome rest s') (hs : s₁.SameInit s') (g1 : s₁.input_done = s.input_done) (g2 : s₁.last_pt = p)
    (g3 : s₁.start_pt = p) (g4 : s₁.PhaseInit) (g5 : s₁.state = s.state ∨ s₁.state = .FromStash) :
    s.InputOutcome (.MoveTo p :: rest) s' := by
  rcases h with h | ⟨a, b, c, d⟩
  · exact Or.inl h
  · refine Or.inr ⟨a.trans g1, Nat.lt_succ_of_lt b, c, ?_⟩
    rcases d with ⟨d1, d2, d3⟩ | d
    · refine Or.inl ⟨d1, d2, Or.inr ?_⟩
      rcases d3 with ⟨e1, e2, e3, e4⟩ | ⟨e1, e2, e3, e4⟩
      · refine ⟨?_, phaseInit_of_kept g4 hs e2, e3.trans (g3.trans (e1.trans g2).symm), ?_⟩
        · rw [e1, g2]; exact List.mem_cons_self
        · rw [e4]; exact g5
      · refine ⟨List.mem_cons_of_mem _ e1, e2, e3, ?_⟩
        rcases e4 with e4 | e4
        · rw [e4]; exact g5
        · exact Or.inr e4
    · exact Or.inr d

theorem loaded_outcome (el : PathEl K) (rest : List (PathEl K)) (s : DashIt K) (seg : PathSeg K)
    (h : seg.start = s.last_pt) : s.InputOutcome (el :: rest) (s.loaded rest seg) :=
  Or.inr ⟨rfl, Nat.lt_succ_self _, rfl, Or.inl ⟨rfl, rfl, Or.inl ⟨h, ⟨rfl, rfl, rfl⟩, rfl, rfl⟩⟩⟩

theorem getInputList_outcome (b : Bool) (l : List (PathEl K)) (s : DashIt K) :
    s.InputOutcome l (getInputList b l s) := by
  induction l generalizing b s with
  | nil => exact Or.inl ⟨rfl, rfl, rfl⟩
  | cons el rest ih =>
    cases el with
    | MoveTo p =>
      rw [getInputList_moveTo]
      exact (ih true _).moveTo p (getInputList_phase true rest _).1 rfl rfl rfl ⟨rfl, rfl, rfl⟩ (movedTo_state s p rest)
    | LineTo p1 => exact loaded_outcome _ rest s _ rfl
    | QuadTo p1 p2 => exact loaded_outcome _ rest s _ rfl
    | CurveTo p1 p2 p3 => exact loaded_outcome _ rest s _ rfl
    | ClosePath =>
      rw [getInputList_closePath]
      split
      · exact DashIt.InputOutcome.cons _ (ih true ({ s with inner := rest } : DashIt K))
      · split
        · exact loaded_outcome _ rest ({ s with closepath_pending := true } : DashIt K) _ rfl
        · obtain ⟨f1, f2, f3, -⟩ := handle_closepath_fields
            ({ s with inner := rest, closepath_pending := true } : DashIt K)
          have g1 := handle_closepath_state ({ s with inner := rest, closepath_pending := true } : DashIt K)
          have g2 := handle_closepath_phaseInit ({ s with inner := rest, closepath_pending := true } : DashIt K)
          refine Or.inr ⟨f1, ?_, rfl, Or.inr ⟨g1, g2, f3⟩⟩
          exact lt_of_eq_of_lt (congrArg List.length f2) (Nat.lt_succ_self _)

theorem reset_phase_ixOk (s : DashIt K) (h : s.IxOk) : s.reset_phase.IxOk :=
  IxOk_of_phase h (reset_phase_sameInit s) (Or.inr (reset_phase_phaseInit s))

theorem handle_closepath_ixOk (s : DashIt K) (h : s.IxOk) : s.handle_closepath.IxOk :=
  IxOk_of_phase h (handle_closepath_sameInit s) (Or.inr (handle_closepath_phaseInit s))

theorem getInputList_moveTo_phaseInit (b : Bool) (p : Point K) (rest : List (PathEl K)) (s : DashIt K) :
    (getInputList b (.MoveTo p :: rest) s).PhaseInit := by
  rw [getInputList_moveTo]
  obtain ⟨h1, h2⟩ := getInputList_phase true rest (s.movedTo p rest)
  exact h2.elim (phaseInit_of_kept ⟨rfl, rfl, rfl⟩ h1) id

theorem getInputList_moveTo_closePath (b : Bool) (p : Point K) (rest : List (PathEl K)) (s : DashIt K) :
    getInputList b (.MoveTo p :: .ClosePath :: rest) s = getInputList b (.MoveTo p :: rest) s := by
  rw [getInputList_moveTo, getInputList_moveTo]
  rfl

theorem dashImpl_polyInv (inner : List (PathEl K)) (off : K) (dashes : Array K) (fuel : Nat) (it : DashIt K)
    (hp : ∀ el ∈ inner, el.isPoly = true) (h : dashImpl inner off dashes fuel = some it) : it.PolyInv := by
  unfold dashImpl at h
  split at h
  · cases h
  · split at h
    · cases h
    · cases h
      exact ⟨hp, ⟨_, rfl⟩, by intro el hel; simp at hel⟩

/-- a state of the iterator over `Rat` used as witness below: inside the segment (0,0)–(21,0), 1 unit done, pattern
    [1,5,2,5], in the first gap -/
def exWorking : DashIt Rat :=
  { inner := [.LineTo ⟨21, 5⟩], dashes := #[1, 5, 2, 5], dash_ix := 1, init_dash_ix := 0, init_dash_remaining := 1,
    init_is_active := true, is_active := false, state := .Working, current_seg := .Line ⟨⟨0, 0⟩, ⟨21, 0⟩⟩, t := 1 / 21,
    dash_remaining := 5, seg_remaining := 20, start_pt := ⟨0, 0⟩, last_pt := ⟨21, 0⟩ }

/-- first dash of a sub-path under way: state `ToStash`, the opening `MoveTo` already stashed -/
def exToStash : DashIt Rat :=
  { exWorking with state := .ToStash, stash := #[.MoveTo ⟨0, 0⟩], is_active := true, dash_ix := 0, dash_remaining := 1,
                   t := 0, seg_remaining := 21 }

/-- playing back a stashed first dash -/
def exFromStash : DashIt Rat :=
  { exWorking with state := .FromStash, stash := #[.MoveTo ⟨0, 0⟩, .LineTo ⟨1, 0⟩] }

def DashNext.el? : DashNext K → Option (PathEl K)
  | .some el _ => Option.some el
  | _ => Option.none

def DashRes.okList : DashRes K → Option (List (PathEl K))
  | .ok l => some l
  | _ => none

end Kurbo
