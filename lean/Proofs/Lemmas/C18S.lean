import Kurbo.Simplify
/-! The specification of the control skeleton of `simplify_bezpath` (model `Kurbo/Simplify.lean`) as structurally recursive
    functions (`simpChunks`, `simpSplitGo`, `simpStretchOut`, `simpChunkOut`), what is assumed of the fitter (`C18FitSpec`), and
    the master equation `c18s_loop_spec`: the loop computes exactly the specification.  Its induction follows `simpChunkTail`,
    what is still to be emitted for the current sub-path, through the step equations `c18s_chunkTail_*`.  Core Lean only;
    every statement holds for an arbitrary `[Scalar K]` (also `Float`): no arithmetic law is used. -/
set_option linter.unusedSectionVars false
namespace Kurbo
variable {K : Type} [Scalar K]

def PathEl.simpDraw : PathEl K → Bool
  | .LineTo _ | .QuadTo _ _ | .CurveTo _ _ _ => true
  | _ => false

def PathEl.simpClose : PathEl K → Bool
  | .ClosePath => true
  | _ => false

def PathEl.simpCurve : PathEl K → Bool
  | .CurveTo _ _ _ => true
  | _ => false

def simpLastEnd (els : List (PathEl K)) : Option (Point K) := els.getLast?.bind PathEl.end_point

/-- What the structure theorems assume of the curve fitter; the `MoveTo` point and the last end point it returns are the
    queue's own, bit for bit. -/
structure C18FitSpec (fit : List (PathEl K) → List (PathEl K)) : Prop where
  shape : ∀ (a : Point K) (ds : List (PathEl K)), (∀ e ∈ ds, e.simpDraw = true) → 2 ≤ ds.length →
    ∃ cs : List (PathEl K), fit (.MoveTo a :: ds) = .MoveTo a :: cs ∧ cs ≠ [] ∧ (∀ e ∈ cs, e.simpCurve = true) ∧
      simpLastEnd cs = simpLastEnd ds

/-- the segment the loop makes of a drawing element when the current point is `last`; `none` = skipped as degenerate
    (all its points equal `last` under `Point`'s `==`) or not a drawing element -/
def simpElSeg (last : Point K) : PathEl K → Option (PathSeg K)
  | .LineTo p => if last.peq p then none else some (.Line ⟨last, p⟩)
  | .QuadTo p1 p2 => if last.peq p1 && last.peq p2 then none else some (.Quad ⟨last, p1, p2⟩)
  | .CurveTo p1 p2 p3 => if last.peq p1 && last.peq p2 && last.peq p3 then none else some (.Cubic ⟨last, p1, p2, p3⟩)
  | _ => none

/-- the non-degenerate segments of the drawing elements at the head of the list (up to the first `MoveTo` / `ClosePath` /
    the end), the current point being `last` -/
def simpHeadSegs (last : Point K) : List (PathEl K) → List (PathSeg K)
  | [] => []
  | el :: r =>
    if el.simpDraw then
      match simpElSeg last el with
      | none => simpHeadSegs last r
      | some s => s :: simpHeadSegs s.end r
    else []

/-- is the first non-drawing element a `ClosePath`? -/
def simpHeadClosed : List (PathEl K) → Bool
  | [] => false
  | el :: r => if el.simpDraw then simpHeadClosed r else el.simpClose

/-- an input sub-path as the loop sees it: its start point, its non-degenerate segments, and whether a `ClosePath` ends it -/
structure SimpChunk (K : Type) where
  start : Point K
  segs : List (PathSeg K)
  closed : Bool
deriving DecidableEq

/-- the sub-paths that begin after the current one: a new one begins at every `MoveTo p` (start `p`) and after every
    `ClosePath` (start = the start of the sub-path just closed) -/
def simpTailChunks (start : Point K) : List (PathEl K) → List (SimpChunk K)
  | [] => []
  | .MoveTo p :: r => ⟨p, simpHeadSegs p r, simpHeadClosed r⟩ :: simpTailChunks p r
  | .ClosePath :: r => ⟨start, simpHeadSegs start r, simpHeadClosed r⟩ :: simpTailChunks start r
  | .LineTo _ :: r => simpTailChunks start r
  | .QuadTo _ _ :: r => simpTailChunks start r
  | .CurveTo _ _ _ :: r => simpTailChunks start r

/-- the sub-paths of a path that begins with `MoveTo` -/
def simpChunks : List (PathEl K) → List (SimpChunk K)
  | .MoveTo p :: r => ⟨p, simpHeadSegs p r, simpHeadClosed r⟩ :: simpTailChunks p r
  | _ => []

/-- number of `ClosePath`s at the head of the list -/
def simpLead : List (PathEl K) → Nat
  | .ClosePath :: r => simpLead r + 1
  | _ => 0

/-- split a run of segments into smooth stretches: a new stretch begins wherever `simpCorner` holds between two
    consecutive segments.  `pend` is the stretch under construction (empty at the start). -/
def simpSplitGo (th : K) : List (PathSeg K) → List (PathSeg K) → List (List (PathSeg K))
  | pend, [] => if pend.isEmpty then [] else [pend]
  | pend, s :: r =>
    match pend.getLast? with
    | some l => if simpCorner th l s then pend :: simpSplitGo th [s] r else simpSplitGo th (pend ++ [s]) r
    | none => simpSplitGo th [s] r

/-- the queue `add_seg` builds of a stretch -/
def simpQueue : List (PathSeg K) → List (PathEl K)
  | [] => []
  | s :: r => .MoveTo s.start :: (s :: r).map PathSeg.drawEl

/-- the drawing elements emitted for a stretch: a single segment verbatim, otherwise the fitter's output without its `MoveTo` -/
def simpStretchOut (fit : List (PathEl K) → List (PathEl K)) : List (PathSeg K) → List (PathEl K)
  | [] => []
  | [s] => [s.drawEl]
  | s :: s' :: r => (fit (simpQueue (s :: s' :: r))).drop 1

/-- what is still emitted for the current sub-path: `nm` = `needs_moveto`, `pend` = the queued stretch, `segs` = the
    segments still to come, `closed` = whether a `ClosePath` ends it -/
def simpChunkTail (fit : List (PathEl K) → List (PathEl K)) (th : K) (start : Point K) (nm : Bool)
    (pend segs : List (PathSeg K)) (closed : Bool) : List (PathEl K) :=
  (if nm && (!(simpSplitGo th pend segs).isEmpty || closed) then [.MoveTo start] else []) ++
    ((simpSplitGo th pend segs).map (simpStretchOut fit)).flatten ++ (if closed then [.ClosePath] else [])

def simpChunkOut (fit : List (PathEl K) → List (PathEl K)) (th : K) (c : SimpChunk K) : List (PathEl K) :=
  simpChunkTail fit th c.start true [] c.segs c.closed

theorem c18s_drawEl_draw (s : PathSeg K) : s.drawEl.simpDraw = true := by cases s <;> rfl
theorem c18s_drawEl_end (s : PathSeg K) : s.drawEl.end_point = some s.end := by cases s <;> rfl

theorem c18s_elSeg_start {last : Point K} {el : PathEl K} {s : PathSeg K} (h : simpElSeg last el = some s) :
    s.start = last := by
  cases el <;> simp only [simpElSeg] at h
  all_goals first
    | (split at h <;> first | (cases h; rfl) | cases h)
    | cases h

theorem c18s_elSeg_drawEl {last : Point K} {el : PathEl K} {s : PathSeg K} (h : simpElSeg last el = some s) :
    s.drawEl = el := by
  cases el <;> simp only [simpElSeg] at h
  all_goals first
    | (split at h <;> first | (cases h; rfl) | cases h)
    | cases h

theorem c18s_elSeg_end {last : Point K} {el : PathEl K} {s : PathSeg K} (h : simpElSeg last el = some s) :
    el.end_point = some s.end := by
  rw [← c18s_elSeg_drawEl h]; exact c18s_drawEl_end s

theorem c18s_tailChunks_draw (start : Point K) {el : PathEl K} (r : List (PathEl K)) (h : el.simpDraw = true) :
    simpTailChunks start (el :: r) = simpTailChunks start r := by
  cases el <;> first | rfl | cases h

theorem c18s_loop_nil (fit : List (PathEl K) → List (PathEl K)) (th : K) (l : SimpLoop K) :
    simplifyLoop fit th [] l = .ok (l.st.flush fit).result := by
  simp only [simplifyLoop]

/-- one iteration of the element loop as a state transformer (`none` = panic) -/
def simpStep (fit : List (PathEl K) → List (PathEl K)) (th : K) (l : SimpLoop K) (el : PathEl K) : Option (SimpLoop K) :=
  match el with
  | .MoveTo p =>
    some { l with st := { l.st.flush fit with needs_moveto := true }, last_pt := some p, start_pt := some p, last_seg := none }
  | .ClosePath =>
    let st := l.st.flush fit
    let st := if st.needs_moveto then
        match l.start_pt with
        | some p => { st with result := st.result ++ [.MoveTo p] }
        | none => st
      else st
    let st := { st with result := st.result ++ [.ClosePath], needs_moveto := true }
    some { l with st := st, last_seg := none, last_pt := l.start_pt }
  | el =>
    match l.last_pt with
    | none => none
    | some last =>
      match simpElSeg last el with
      | none => some l
      | some s => some (l.push fit th s)

theorem c18s_loop_cons (fit : List (PathEl K) → List (PathEl K)) (th : K) (l : SimpLoop K) (el : PathEl K)
    (r : List (PathEl K)) :
    simplifyLoop fit th (el :: r) l =
      match simpStep fit th l el with
      | none => .panic
      | some l' => simplifyLoop fit th r l' := by
  cases el with
  | MoveTo p => simp only [simplifyLoop, simpStep]
  | ClosePath => simp only [simplifyLoop]; rfl
  | _ =>
    simp only [simplifyLoop, simpStep, simpElSeg]
    cases l.last_pt with
    | none => rfl
    | some last => simp only []; split <;> rfl

theorem c18s_step_draw (fit : List (PathEl K) → List (PathEl K)) (th : K) (l : SimpLoop K) {el : PathEl K}
    (h : el.simpDraw = true) :
    simpStep fit th l el =
      match l.last_pt with
      | none => none
      | some last =>
        match simpElSeg last el with
        | none => some l
        | some s => some (l.push fit th s) := by
  cases el <;> first | rfl | cases h

theorem c18s_add_seg (pend : List (PathSeg K)) (res : List (PathEl K)) (nm : Bool) (s : PathSeg K) :
    SimpSt.add_seg ⟨simpQueue pend, res, nm⟩ s = ⟨simpQueue (pend ++ [s]), res, nm⟩ := by
  cases pend with
  | nil => simp [SimpSt.add_seg, simpQueue]
  | cons a r => simp [SimpSt.add_seg, simpQueue]

theorem c18s_add_seg_nil (res : List (PathEl K)) (nm : Bool) (s : PathSeg K) :
    SimpSt.add_seg ⟨[], res, nm⟩ s = ⟨simpQueue [s], res, nm⟩ := c18s_add_seg [] res nm s

theorem c18s_flush_nil (fit : List (PathEl K) → List (PathEl K)) (res : List (PathEl K)) (nm : Bool) :
    SimpSt.flush fit ⟨[], res, nm⟩ = ⟨[], res, nm⟩ := by
  simp [SimpSt.flush]

theorem c18s_queue_draw (pend : List (PathSeg K)) : ∀ e ∈ pend.map PathSeg.drawEl, e.simpDraw = true := by
  intro e he
  obtain ⟨s, -, rfl⟩ := List.mem_map.1 he
  exact c18s_drawEl_draw s

theorem c18s_flush_cons {fit : List (PathEl K) → List (PathEl K)} (hfit : C18FitSpec fit) (s : PathSeg K)
    (r : List (PathSeg K)) (res : List (PathEl K)) (nm : Bool) :
    SimpSt.flush fit ⟨simpQueue (s :: r), res, nm⟩ =
      ⟨[], res ++ ((if nm then [PathEl.MoveTo s.start] else []) ++ simpStretchOut fit (s :: r)), false⟩ := by
  cases r with
  | nil => cases nm <;> simp [SimpSt.flush, simpQueue, simpStretchOut]
  | cons s' r' =>
    obtain ⟨cs, h1, -, -, -⟩ := hfit.shape s.start ((s :: s' :: r').map PathSeg.drawEl) (c18s_queue_draw _) (by simp)
    have hq : simpQueue (s :: s' :: r') = .MoveTo s.start :: (s :: s' :: r').map PathSeg.drawEl := rfl
    have hne : ((PathEl.MoveTo s.start :: (s :: s' :: r').map PathSeg.drawEl).length == 2) = false := by simp
    simp only [SimpSt.flush, simpStretchOut, hq, h1, hne, List.isEmpty_cons, Bool.false_eq_true, if_false]
    cases nm <;> simp

/-- what `flush` appends to the result for the queued stretch `pend` -/
def simpFlushOut (fit : List (PathEl K) → List (PathEl K)) (start : Point K) (nm : Bool) (pend : List (PathSeg K)) :
    List (PathEl K) :=
  (if nm && !pend.isEmpty then [.MoveTo start] else []) ++ simpStretchOut fit pend

theorem c18s_flush_state {fit : List (PathEl K) → List (PathEl K)} (hfit : C18FitSpec fit) (start : Point K)
    (pend : List (PathSeg K)) (res : List (PathEl K)) (nm : Bool)
    (h2 : nm = true → ∀ s ∈ pend.head?, s.start = start) :
    SimpSt.flush fit ⟨simpQueue pend, res, nm⟩ =
      ⟨[], res ++ simpFlushOut fit start nm pend, if pend.isEmpty then nm else false⟩ := by
  cases pend with
  | nil => simp [simpQueue, c18s_flush_nil, simpFlushOut, simpStretchOut]
  | cons s r =>
    rw [c18s_flush_cons hfit]
    cases nm with
    | false => simp [simpFlushOut]
    | true =>
      have : s.start = start := h2 rfl s (by simp)
      simp [simpFlushOut, this]

theorem c18s_chunkTail_first (fit : List (PathEl K) → List (PathEl K)) (th : K) (start : Point K) (nm : Bool)
    (s : PathSeg K) (segs : List (PathSeg K)) (closed : Bool) :
    simpChunkTail fit th start nm [] (s :: segs) closed = simpChunkTail fit th start nm [s] segs closed := by
  rfl

theorem c18s_chunkTail_smooth (fit : List (PathEl K) → List (PathEl K)) {th : K} (start : Point K) (nm : Bool)
    {pend : List (PathSeg K)} {l s : PathSeg K} (segs : List (PathSeg K)) (closed : Bool)
    (hp : pend.getLast? = some l) (hc : ¬ simpCorner th l s = true) :
    simpChunkTail fit th start nm pend (s :: segs) closed = simpChunkTail fit th start nm (pend ++ [s]) segs closed := by
  simp only [simpChunkTail, simpSplitGo, hp, hc, Bool.false_eq_true, if_false]

theorem c18s_chunkTail_corner (fit : List (PathEl K) → List (PathEl K)) {th : K} (start : Point K) (nm : Bool)
    {pend : List (PathSeg K)} {l s : PathSeg K} (segs : List (PathSeg K)) (closed : Bool)
    (hp : pend.getLast? = some l) (hc : simpCorner th l s = true) :
    simpChunkTail fit th start nm pend (s :: segs) closed =
      simpFlushOut fit start nm pend ++ simpChunkTail fit th start false [s] segs closed := by
  have hie : pend.isEmpty = false := by
    cases pend with
    | nil => cases hp
    | cons _ _ => rfl
  simp only [simpChunkTail, simpFlushOut, simpSplitGo, hp, hc, if_true, hie, List.isEmpty_cons, Bool.not_false,
    Bool.true_or, Bool.and_true, Bool.false_and, Bool.false_eq_true, if_false, List.map_cons, List.flatten_cons,
    List.nil_append, List.append_assoc]

theorem c18s_chunkTail_open (fit : List (PathEl K) → List (PathEl K)) (th : K) (start : Point K) (nm : Bool)
    (pend : List (PathSeg K)) :
    simpChunkTail fit th start nm pend [] false = simpFlushOut fit start nm pend := by
  cases pend with
  | nil => simp [simpChunkTail, simpSplitGo, simpFlushOut, simpStretchOut]
  | cons s r => simp [simpChunkTail, simpSplitGo, simpFlushOut]

/-- the inner `if` is `needs_moveto` after `flush`: the `MoveTo` is still owed only if the sub-path had no segment -/
theorem c18s_chunkTail_closed (fit : List (PathEl K) → List (PathEl K)) (th : K) (start : Point K) (nm : Bool)
    (pend : List (PathSeg K)) :
    simpChunkTail fit th start nm pend [] true =
      simpFlushOut fit start nm pend ++ (if (if pend.isEmpty then nm else false) then [.MoveTo start] else []) ++
        [.ClosePath] := by
  cases pend with
  | nil => cases nm <;> simp [simpChunkTail, simpSplitGo, simpFlushOut, simpStretchOut]
  | cons s r => simp [simpChunkTail, simpSplitGo, simpFlushOut]

theorem c18s_loop_moveTo (fit : List (PathEl K) → List (PathEl K)) (th : K) (p : Point K) (r : List (PathEl K))
    (l : SimpLoop K) :
    simplifyLoop fit th (.MoveTo p :: r) l =
      simplifyLoop fit th r ⟨some p, some p, none, ⟨(l.st.flush fit).queue, (l.st.flush fit).result, true⟩⟩ := by
  simp only [simplifyLoop]

theorem c18s_loop_closePath (fit : List (PathEl K) → List (PathEl K)) (th : K) (start : Point K)
    (r : List (PathEl K)) (l : SimpLoop K) (hs : l.start_pt = some start) :
    simplifyLoop fit th (.ClosePath :: r) l =
      simplifyLoop fit th r ⟨some start, some start, none,
        ⟨(l.st.flush fit).queue,
         (l.st.flush fit).result ++ (if (l.st.flush fit).needs_moveto then [.MoveTo start] else []) ++ [.ClosePath],
         true⟩⟩ := by
  simp only [simplifyLoop, hs]
  cases (l.st.flush fit).needs_moveto <;> simp

/-- the master equation for the loop started in a state "inside a sub-path" -/
theorem c18s_loop_spec {fit : List (PathEl K) → List (PathEl K)} (hfit : C18FitSpec fit) (th : K) :
    ∀ (els : List (PathEl K)) (last start : Point K) (pend : List (PathSeg K)) (res : List (PathEl K)) (nm : Bool),
      (pend = [] → nm = true ∧ last = start) →
      (nm = true → ∀ s ∈ pend.head?, s.start = start) →
      simplifyLoop fit th els ⟨some last, some start, pend.getLast?, ⟨simpQueue pend, res, nm⟩⟩ =
        .ok (res ++ (simpChunkTail fit th start nm pend (simpHeadSegs last els) (simpHeadClosed els) ++
              ((simpTailChunks start els).map (simpChunkOut fit th)).flatten)) := by
  intro els
  induction els with
  | nil =>
    intro last start pend res nm h1 h2
    rw [c18s_loop_nil, c18s_flush_state hfit start pend res nm h2]
    simp only [simpHeadSegs, simpHeadClosed, simpTailChunks, c18s_chunkTail_open, List.map_nil, List.flatten_nil,
      List.append_nil]
  | cons el r ih =>
    intro last start pend res nm h1 h2
    by_cases hd : el.simpDraw = true
    · rw [c18s_loop_cons, c18s_step_draw fit th _ hd, c18s_tailChunks_draw start r hd]
      simp only [simpHeadSegs, simpHeadClosed, hd, if_true]
      cases hs : simpElSeg last el with
      | none => exact ih last start pend res nm h1 h2
      | some s =>
        simp only [SimpLoop.push]
        have hstart : s.start = last := c18s_elSeg_start hs
        cases hp : pend.getLast? with
        | none =>
          obtain rfl : pend = [] := List.getLast?_eq_none_iff.1 hp
          obtain ⟨-, hls⟩ := h1 rfl
          have := ih s.end start [s] res nm (fun h => nomatch h)
            (fun _ s' hs' => by cases hs'; exact hstart.trans hls)
          rw [List.getLast?_singleton] at this
          simp only [c18s_add_seg, List.nil_append]
          rw [this, c18s_chunkTail_first]
        | some lst =>
          by_cases hc : simpCorner th lst s = true
          · have hie : pend.isEmpty = false := by
              cases pend with
              | nil => cases hp
              | cons _ _ => rfl
            simp only [hc, if_true, c18s_flush_state hfit start pend res nm h2, hie, Bool.false_eq_true, if_false]
            have := ih s.end start [s] (res ++ simpFlushOut fit start nm pend) false (fun h => nomatch h)
              (fun h => nomatch h)
            rw [List.getLast?_singleton] at this
            rw [c18s_add_seg_nil, this, c18s_chunkTail_corner fit start nm _ _ hp hc]
            simp only [List.append_assoc]
          · simp only [hc, Bool.false_eq_true, if_false]
            have := ih s.end start (pend ++ [s]) res nm (fun h => absurd h (by simp))
              (fun hnm s' hs' => h2 hnm s' (by cases pend with
                | nil => cases hp
                | cons _ _ => exact hs'))
            simp only [List.getLast?_append, List.getLast?_singleton, Option.some_or] at this
            rw [c18s_add_seg, this, c18s_chunkTail_smooth fit start nm _ _ hp hc]
    · -- `MoveTo` and `ClosePath` end the sub-path: what is left of it is what `flush` emits (and the closing)
      have hnil : simpHeadSegs last (el :: r) = [] := by simp only [simpHeadSegs, hd, Bool.false_eq_true, if_false]
      cases el with
      | MoveTo p =>
        have := ih p p [] (res ++ simpFlushOut fit start nm pend) true (fun _ => ⟨rfl, rfl⟩) (fun _ _ h => nomatch h)
        rw [c18s_loop_moveTo, c18s_flush_state hfit start pend res nm h2, hnil]
        refine this.trans ?_
        simp only [simpHeadClosed, PathEl.simpDraw, PathEl.simpClose, simpTailChunks, c18s_chunkTail_open, simpChunkOut,
          Bool.false_eq_true, if_false, List.map_cons, List.flatten_cons, List.append_assoc]
      | ClosePath =>
        have := ih start start []
          (res ++ simpFlushOut fit start nm pend ++ (if (if pend.isEmpty then nm else false) then [.MoveTo start] else []) ++
            [.ClosePath]) true (fun _ => ⟨rfl, rfl⟩) (fun _ _ h => nomatch h)
        rw [c18s_loop_closePath fit th start r _ rfl, c18s_flush_state hfit start pend res nm h2, hnil]
        refine this.trans ?_
        simp only [simpHeadClosed, PathEl.simpDraw, PathEl.simpClose, simpTailChunks, c18s_chunkTail_closed, simpChunkOut,
          Bool.false_eq_true, if_false, List.map_cons, List.flatten_cons, List.append_assoc]
      | _ => exact absurd rfl hd

theorem c18s_loop_pre (fit : List (PathEl K) → List (PathEl K)) (th : K) :
    ∀ (els : List (PathEl K)) (res : List (PathEl K)) (nm : Bool),
      simplifyLoop fit th els ⟨none, none, none, ⟨[], res, nm⟩⟩ =
        match els.drop (simpLead els) with
        | [] => .ok (res ++ List.replicate (simpLead els) .ClosePath)
        | .MoveTo p :: r =>
          simplifyLoop fit th r ⟨some p, some p, none, ⟨[], res ++ List.replicate (simpLead els) .ClosePath, true⟩⟩
        | _ => .panic := by
  intro els
  induction els with
  | nil => intro res nm; simp [simplifyLoop, simpLead, c18s_flush_nil]
  | cons el r ih =>
    intro res nm
    cases el with
    | MoveTo p => simp [simplifyLoop, simpLead, c18s_flush_nil]
    | ClosePath =>
      have e : simplifyLoop fit th (PathEl.ClosePath :: r) ⟨none, none, none, ⟨[], res, nm⟩⟩ =
          simplifyLoop fit th r ⟨none, none, none, ⟨[], res ++ [.ClosePath], true⟩⟩ := by
        simp only [simplifyLoop, c18s_flush_nil]
        cases nm <;> rfl
      rw [e, ih]
      simp only [simpLead, List.drop_succ_cons, List.replicate_succ, List.append_assoc, List.singleton_append]
    | _ => simp [simplifyLoop, simpLead]

theorem c18s_bezpath_pre (fit : List (PathEl K) → List (PathEl K)) (th : K) (els : List (PathEl K)) :
    simplifyBezpath fit els th =
      match els.drop (simpLead els) with
      | [] => .ok (List.replicate (simpLead els) .ClosePath)
      | .MoveTo p :: r =>
        simplifyLoop fit th r ⟨some p, some p, none, ⟨[], List.replicate (simpLead els) .ClosePath, true⟩⟩
      | _ => .panic := by
  have h := c18s_loop_pre fit th els [] false
  simp only [List.nil_append] at h
  exact h

theorem c18s_loop_total (fit : List (PathEl K) → List (PathEl K)) (th : K) :
    ∀ (els : List (PathEl K)) (l : SimpLoop K), l.last_pt.isSome = true → l.start_pt.isSome = true →
      ∃ out, simplifyLoop fit th els l = .ok out := by
  intro els
  induction els with
  | nil => intro l _ _; exact ⟨_, c18s_loop_nil fit th l⟩
  | cons el r ih =>
    intro l h1 h2
    by_cases hd : el.simpDraw = true
    · rw [c18s_loop_cons, c18s_step_draw fit th l hd]
      cases hl : l.last_pt with
      | none => rw [hl] at h1; cases h1
      | some last =>
        simp only []
        cases simpElSeg last el with
        | none => exact ih l h1 h2
        | some s => exact ih _ rfl h2
    · cases el with
      | MoveTo p => simp only [simplifyLoop]; exact ih _ rfl rfl
      | ClosePath => simp only [simplifyLoop]; exact ih _ h2 h2
      | _ => exact absurd rfl hd

/-- the specification of `simplifyBezpath` as a whole -/
def simpSpec (fit : List (PathEl K) → List (PathEl K)) (th : K) (els : List (PathEl K)) : SimpRes K :=
  match els.drop (simpLead els) with
  | [] => .ok (List.replicate (simpLead els) .ClosePath)
  | .MoveTo p :: r =>
    .ok (List.replicate (simpLead els) .ClosePath ++ ((simpChunks (.MoveTo p :: r)).map (simpChunkOut fit th)).flatten)
  | _ => .panic

end Kurbo
