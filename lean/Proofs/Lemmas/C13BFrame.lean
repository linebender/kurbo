import Proofs.Lemmas.C13Open
import Proofs.Lemmas.C07Inst
/-! C13B (closed polyline sub-path), generic part: the `ClosePath` arm of `get_input`, the two forms of `handle_closepath`,
    playback of the stash when a `ClosePath` is pending. -/
set_option linter.unusedSectionVars false
namespace Kurbo
open DashSpec
variable {K : Type} [Field K] [LinearOrder K] [IsStrictOrderedRing K] [FloorRing K] [Scalar K] [LawfulScalar K]

theorem c13b_get_input_pending (s : DashIt K) (h : s.closepath_pending = true) :
    s.get_input = { s.handle_closepath with t := 0 } := by
  unfold DashIt.get_input
  rw [if_pos h]
  simp only [scalar_norm, Nat.cast_zero]

/-- the closing line is loaded: from `last_pt` to `start_pt`, and the `ClosePath` is pending -/
def DashIt.c13b_loadClose (s : DashIt K) (rest : List (PathEl K)) : DashIt K :=
  ({ s with closepath_pending := true } : DashIt K).loadLine s.start_pt rest

theorem c13b_get_input_close_ne (s : DashIt K) (rest : List (PathEl K)) (hcp : s.closepath_pending = false)
    (hin : s.inner = .ClosePath :: rest) (hne : s.last_pt ≠ s.start_pt) : s.get_input = s.c13b_loadClose rest := by
  have hp : s.last_pt.peq s.start_pt = false := by
    cases h : s.last_pt.peq s.start_pt
    · rfl
    · exact absurd ((peq_iff _ _).mp h) hne
  rw [get_input_of_not_pending s hcp, hin, getInputList_closePath]
  simp only [hp, Bool.false_eq_true, if_false, Bool.not_false, if_true]
  exact loaded_line ({ s with closepath_pending := true } : DashIt K) rest s.start_pt

theorem c13b_get_input_close_eq (s : DashIt K) (rest : List (PathEl K)) (hcp : s.closepath_pending = false)
    (hin : s.inner = .ClosePath :: rest) (heq : s.last_pt = s.start_pt) :
    s.get_input = { ({ s with inner := rest, closepath_pending := true } : DashIt K).handle_closepath with t := 0 } := by
  have hp : s.last_pt.peq s.start_pt = true := (peq_iff _ _).mpr heq
  rw [get_input_of_not_pending s hcp, hin, getInputList_closePath]
  simp only [hp, Bool.false_eq_true, if_false, Bool.not_true, scalar_norm, Nat.cast_zero]

/-- `handle_closepath` (and `t := 0`) when the first dash is over: playback from index 1 if the pattern is on -/
def DashIt.c13b_closedW (s : DashIt K) : DashIt K :=
  { s with stash_ix := if s.is_active then 1 else s.stash_ix, state := .FromStash, dash_ix := s.init_dash_ix,
           dash_remaining := s.init_dash_remaining, is_active := s.init_is_active, t := 0 }

theorem c13b_handle_working (s : DashIt K) (h : s.state = .Working) :
    ({ s.handle_closepath with t := (0 : K) } : DashIt K) = s.c13b_closedW := by
  unfold DashIt.handle_closepath DashIt.c13b_closedW DashIt.reset_phase
  rw [h]
  cases s.is_active <;> rfl

/-- `handle_closepath` (and `t := 0`) inside the first dash: `ClosePath` goes to the stash -/
def DashIt.c13b_closedS (s : DashIt K) : DashIt K :=
  { s with stash := s.stash.push .ClosePath, state := .FromStash, dash_ix := s.init_dash_ix,
           dash_remaining := s.init_dash_remaining, is_active := s.init_is_active, t := 0 }

theorem c13b_handle_toStash (s : DashIt K) (h : s.state = .ToStash) :
    ({ s.handle_closepath with t := (0 : K) } : DashIt K) = s.c13b_closedS := by
  unfold DashIt.handle_closepath DashIt.c13b_closedS DashIt.reset_phase
  rw [h]
  rfl

/-- the stash when the last segment of a closed sub-path ends inside the first dash: its end point, then the `ClosePath` -/
theorem c13b_closedS_stashEnd_toList (s : DashIt K) (p : Point K) :
    (s.stashEnd p).c13b_closedS.stash.toList = s.stash.toList ++ [.LineTo p, .ClosePath] := by
  simp [DashIt.c13b_closedS, DashIt.stashEnd]

/-- the state in which the next sub-path is fetched: stash cleared, `ClosePath` done, `NeedInput` -/
def DashIt.c13b_afterClose (s : DashIt K) : DashIt K :=
  { s with stash := #[], stash_ix := 0, closepath_pending := false, state := .NeedInput }

theorem RunN.replay_cp {s : DashIt K} {L : List (PathEl K)} (hs : s.state = .FromStash) (hd : s.input_done = false)
    (hcp : s.closepath_pending = true) (hL : s.stash.toList.drop s.stash_ix = L) :
    RunN (L.length + 1) s L s.drained.c13b_afterClose := by
  have h := (RunN.replay hs hL).trans (RunN.silent (s1 := s.drained.c13b_afterClose)
    (fun fuel => next_fromStash_cp s.drained fuel hs (drained_none s) hd hcp) (RunN.refl _))
  rwa [List.append_nil] at h

theorem c13b_stops_end (s : DashIt K) (hs : s.state = .NeedInput) (hd : s.input_done = false)
    (hcp : s.closepath_pending = false) (hin : s.inner = []) : s.Stops :=
  fun fuel => ⟨_, next_needInput_done s fuel hs hd (by rw [get_input_nil s hcp hin])⟩

end Kurbo
