import Proofs.KDefs
import Proofs.Lemmas.C07Inst
import Proofs.Lemmas.C07Path
/-! Sub-paths in the vocabulary of C01 / C02: `segsFrom`, the `Segments` iterator model without indices; the segments of a
    "curve body" (`IsBody`: `LineTo/QuadTo/CurveTo` only; `bodySegs`, `bodyEnd`) after a `MoveTo`; chains of segments; closed
    paths.  These are the notions of `Lemmas/C07Rev.lean` (`AllDraw`, `runEnd`) and `Lemmas/C07.lean` (`segsT`) under other names
    (`IsBody` is `AllDraw`, `bodyEnd` is `runEnd`, `bodySegs last` is `segsT (_, last)`, `segsFrom (some sl)` is `segsT sl`); the facts about one sub-path and
    its reversal are read off `Subpath`, `segs_render` and `reverseSubpaths_render` through these equations.  Everything
    holds for every `[Scalar K]` (`segChain_closeSegs`: with a lawful point equality).  Also the unfolding lemmas of the
    `Affine * _` operator instances. -/
set_option linter.unusedSectionVars false
namespace Kurbo

section affine_ops
variable {K : Type} [Scalar K]
theorem affine_mul_point (A : Affine K) (p : Point K) : A * p = Affine.mul_Point A p := rfl
theorem c02_affine_mul_line (A : Affine K) (p : Line K) : A * p = Affine.mul_Line A p := rfl
theorem c02_affine_mul_quad (A : Affine K) (p : QuadBez K) : A * p = Affine.mul_QuadBez A p := rfl
theorem c02_affine_mul_cubic (A : Affine K) (p : CubicBez K) : A * p = Affine.mul_CubicBez A p := rfl
theorem c02_affine_mul_pathSeg (A : Affine K) (p : PathSeg K) : A * p = Affine.mul_PathSeg A p := rfl
theorem c02_affine_mul_pathEl (A : Affine K) (p : PathEl K) : A * p = Affine.mul_PathEl A p := rfl
theorem affine_mul_affine (A B : Affine K) : A * B = Affine.mul_Affine A B := rfl
end affine_ops

section structural
variable {K : Type} [Scalar K]

/-- `segsIdxFrom` without the element indices -/
def segsFrom (st : SegSt K) : List (PathEl K) → Option (List (PathSeg K))
  | [] => some []
  | el :: rest =>
    match segStep st el with
    | none => none
    | some (st', out) =>
      match segsFrom st' rest with
      | none => none
      | some l => some (match out with | some s => s :: l | none => l)

theorem segsIdxFrom_map_snd (st : SegSt K) (ix : Nat) (els : List (PathEl K)) :
    (segsIdxFrom st ix els).map (·.map (·.2)) = segsFrom st els := by
  induction els generalizing st ix with
  | nil => rfl
  | cons el rest ih =>
    simp only [segsIdxFrom, segsFrom]
    cases h : segStep st el with
    | none => rfl
    | some r =>
      obtain ⟨st', out⟩ := r
      simp only
      rw [← ih st' (ix + 1)]
      cases segsIdxFrom st' (ix + 1) rest with
      | none => rfl
      | some l => cases out <;> rfl

theorem segs_eq_segsFrom (els : List (PathEl K)) : segs els = segsFrom none els :=
  segsIdxFrom_map_snd none 0 els

theorem segStep_moveTo (st : SegSt K) (p : Point K) : segStep st (.MoveTo p) = some (some (p, p), none) := by
  cases st <;> rfl

theorem segsFrom_moveTo (st : SegSt K) (p : Point K) (r : List (PathEl K)) :
    segsFrom st (.MoveTo p :: r) = segsFrom (some (p, p)) r := by
  simp only [segsFrom, segStep_moveTo]
  cases segsFrom (some (p, p)) r <;> rfl

theorem segsFrom_moveTo_any (st : SegSt K) (p : Point K) (r : List (PathEl K)) :
    segsFrom st (.MoveTo p :: r) = segsFrom none (.MoveTo p :: r) := by
  rw [segsFrom_moveTo, segsFrom_moveTo]

def IsCurveEl : PathEl K → Prop
  | .LineTo _ => True
  | .QuadTo _ _ => True
  | .CurveTo _ _ _ => True
  | _ => False

instance : DecidablePred (IsCurveEl (K := K)) := fun e => by
  cases e <;> simp only [IsCurveEl] <;> infer_instance

def IsBody (body : List (PathEl K)) : Prop := ∀ e ∈ body, IsCurveEl e

/-- the segments a body draws when the current point is `last` -/
def bodySegs (last : Point K) : List (PathEl K) → List (PathSeg K)
  | [] => []
  | .LineTo p :: r => .Line ⟨last, p⟩ :: bodySegs p r
  | .QuadTo p1 p2 :: r => .Quad ⟨last, p1, p2⟩ :: bodySegs p2 r
  | .CurveTo p1 p2 p3 :: r => .Cubic ⟨last, p1, p2, p3⟩ :: bodySegs p3 r
  | .MoveTo _ :: r => bodySegs last r
  | .ClosePath :: r => bodySegs last r

/-- the current point after a body -/
def bodyEnd (last : Point K) : List (PathEl K) → Point K
  | [] => last
  | el :: r => bodyEnd (el.end_point.getD last) r

instance (body : List (PathEl K)) : Decidable (IsBody body) :=
  inferInstanceAs (Decidable (∀ e ∈ body, IsCurveEl e))

theorem isBody_cons {e : PathEl K} {r : List (PathEl K)} : IsBody (e :: r) ↔ IsCurveEl e ∧ IsBody r := by
  simp [IsBody]

theorem segsFrom_some (sl : Point K × Point K) (els : List (PathEl K)) :
    segsFrom (some sl) els = some (segsT sl els) := by
  rw [← segsIdxFrom_map_snd _ 0, segsIdxFrom_some, Option.map_some, map_snd_segsIdxT]

/-- the first element initialises the state with its end point (`ClosePath` has none: the panic) -/
theorem segsFrom_none_cons (el : PathEl K) (r : List (PathEl K)) :
    segsFrom none (el :: r) = el.end_point.bind fun p => segsFrom (some (p, p)) (el :: r) := by
  simp only [segsFrom, segStep_none]
  cases el.end_point <;> rfl

theorem isBody_iff_allDraw {body : List (PathEl K)} : IsBody body ↔ AllDraw body :=
  forall₂_congr fun e _ => by cases e <;> simp [IsCurveEl, PathEl.isDraw]

theorem IsBody.allDraw {body : List (PathEl K)} (h : IsBody body) : AllDraw body := isBody_iff_allDraw.1 h

theorem bodyEnd_eq_runEnd (last : Point K) (body : List (PathEl K)) : bodyEnd last body = runEnd last body := by
  induction body generalizing last with
  | nil => rfl
  | cons e r ih => exact ih _

theorem bodySegs_eq_segsT (S : Point K) {body : List (PathEl K)} (hb : IsBody body) (last : Point K) :
    bodySegs last body = segsT (S, last) body := by
  induction body generalizing last with
  | nil => rfl
  | cons e r ih =>
    refine PathEl.cases_of_isDraw hb.allDraw.head ?_ ?_ ?_ <;> intros <;>
      exact congrArg (List.cons _) (ih (isBody_cons.1 hb).2 _)

/-- consecutive segments share their end/start point; the chain runs from `p` to `q` -/
def SegChain (p : Point K) : List (PathSeg K) → Point K → Prop
  | [], q => p = q
  | s :: r, q => s.start = p ∧ SegChain s.end r q

theorem reverse_start (s : PathSeg K) : s.reverse.start = s.end := by
  cases s with
  | Line l => cases l; rfl
  | Quad q => rfl
  | Cubic c => rfl
theorem reverse_end (s : PathSeg K) : s.reverse.end = s.start := by
  cases s with
  | Line l => cases l; rfl
  | Quad q => rfl
  | Cubic c => rfl

theorem segChain_append {p m q : Point K} {ss₁ ss₂ : List (PathSeg K)} :
    SegChain p ss₁ m → SegChain m ss₂ q → SegChain p (ss₁ ++ ss₂) q := by
  induction ss₁ generalizing p with
  | nil => intro h1 h2; simp only [SegChain] at h1; subst h1; simpa using h2
  | cons s r ih =>
    intro h1 h2
    exact ⟨h1.1, ih h1.2 h2⟩

theorem segChain_bodySegs : ∀ (body : List (PathEl K)) (last : Point K), IsBody body →
    SegChain last (bodySegs last body) (bodyEnd last body) := by
  intro body
  induction body with
  | nil => intro last _; rfl
  | cons el r ih =>
    intro last hb
    rw [isBody_cons] at hb
    cases el with
    | MoveTo p => exact hb.1.elim
    | ClosePath => exact hb.1.elim
    | _ => exact ⟨rfl, ih _ hb.2⟩

theorem bodySegs_map (A : Affine K) : ∀ (body : List (PathEl K)) (last : Point K), IsBody body →
    bodySegs (A * last) (body.map (fun e : PathEl K => A * e)) = (bodySegs last body).map (fun s : PathSeg K => A * s) := by
  intro body
  induction body with
  | nil => intro last _; rfl
  | cons el r ih =>
    intro last hb
    rw [isBody_cons] at hb
    cases el with
    | MoveTo p => exact hb.1.elim
    | ClosePath => exact hb.1.elim
    | _ => exact congrArg (List.cons _) (ih _ hb.2)

theorem bodyEnd_map (A : Affine K) : ∀ (body : List (PathEl K)) (last : Point K), IsBody body →
    bodyEnd (A * last) (body.map (fun e : PathEl K => A * e)) = A * bodyEnd last body := by
  intro body
  induction body with
  | nil => intro last _; rfl
  | cons el r ih =>
    intro last hb
    rw [isBody_cons] at hb
    cases el with
    | MoveTo p => exact hb.1.elim
    | ClosePath => exact hb.1.elim
    | _ => exact ih _ hb.2

theorem isBody_map (A : Affine K) {body : List (PathEl K)} (hb : IsBody body) : IsBody (body.map (fun e : PathEl K => A * e)) := by
  intro e he
  rw [List.mem_map] at he
  obtain ⟨e0, h0, rfl⟩ := he
  have := hb e0 h0
  cases e0 <;> first | exact this.elim | trivial


/-- `h2` holds e.g. when `els₂` starts with `MoveTo`; a panic in either part is a panic of the whole -/
theorem segsFrom_append_bind {els₂ : List (PathEl K)} (h2 : ∀ st, segsFrom st els₂ = segsFrom none els₂) :
    ∀ (els₁ : List (PathEl K)) (st : SegSt K),
      segsFrom st (els₁ ++ els₂)
        = (segsFrom st els₁).bind fun l1 => (segsFrom none els₂).map (l1 ++ ·) := by
  -- from an initialised state both parts are total; the first element of `els₁` initialises the state
  have hsome : ∀ (sl : Point K × Point K) (els₁ : List (PathEl K)),
      segsFrom (some sl) (els₁ ++ els₂)
        = (segsFrom (some sl) els₁).bind fun l1 => (segsFrom none els₂).map (l1 ++ ·) := by
    intro sl els₁
    rw [segsFrom_some, segsFrom_some, Option.bind_some, ← h2 (some (stAfterT sl els₁)), segsFrom_some,
      Option.map_some, segsT_append]
  intro els₁ st
  cases st with
  | some sl => exact hsome sl els₁
  | none =>
    cases els₁ with
    | nil =>
      show segsFrom none els₂ = (segsFrom none els₂).map ([] ++ ·)
      cases segsFrom none els₂ <;> rfl
    | cons el rest =>
      rw [List.cons_append, segsFrom_none_cons, segsFrom_none_cons]
      cases el.end_point with
      | none => rfl
      | some p => exact hsome (p, p) (el :: rest)

theorem Subpath.segs_eq_bodySegs (p : Point K) {body : List (PathEl K)} (hb : IsBody body) (c : Bool) :
    (Subpath.mk p body c).segs = bodySegs p body ++ (if c then closeSegs (bodyEnd p body) p else []) := by
  rw [Subpath.segs_eq _ hb.allDraw, bodySegs_eq_segsT p hb, bodyEnd_eq_runEnd, closingSeg_eq_closeSegs]

theorem segsFrom_closed_subpath (st : SegSt K) (p : Point K) (body : List (PathEl K)) (hb : IsBody body) :
    segsFrom st (.MoveTo p :: body ++ [.ClosePath]) = some (bodySegs p body ++ closeSegs (bodyEnd p body) p) := by
  rw [List.cons_append, segsFrom_moveTo_any, ← segs_eq_segsFrom, ← List.cons_append, ← render_closed, segs_render,
    Subpath.segs_eq_bodySegs p hb true]
  rfl

theorem segsFrom_open_subpath (st : SegSt K) (p : Point K) (body : List (PathEl K)) (hb : IsBody body) :
    segsFrom st (.MoveTo p :: body) = some (bodySegs p body) := by
  rw [segsFrom_moveTo_any, ← segs_eq_segsFrom, ← render_open, segs_render, Subpath.segs_eq_bodySegs p hb false]
  exact congrArg some (List.append_nil _)

/-- a list of closed sub-paths: each is `MoveTo p, body…, ClosePath`, or `MoveTo p, body…` with the body ending
    at `p` again (closed without `ClosePath`) -/
inductive ClosedPath : List (PathEl K) → Prop
  | nil : ClosedPath []
  | close (p : Point K) (body rest : List (PathEl K)) : IsBody body → ClosedPath rest →
      ClosedPath ((.MoveTo p :: body ++ [.ClosePath]) ++ rest)
  | implicit (p : Point K) (body rest : List (PathEl K)) : IsBody body → bodyEnd p body = p → ClosedPath rest →
      ClosedPath ((.MoveTo p :: body) ++ rest)

theorem ClosedPath.state_indep {els : List (PathEl K)} (h : ClosedPath els) :
    ∀ st, segsFrom st els = segsFrom none els := by
  intro st
  cases h with
  | nil => rfl
  | close p body rest _ _ => exact segsFrom_moveTo_any st p _
  | implicit p body rest _ _ _ => exact segsFrom_moveTo_any st p _

theorem map_subpath (A : Affine K) (p : Point K) (body tail : List (PathEl K)) :
    (PathEl.MoveTo p :: body ++ tail).map (fun e : PathEl K => A * e)
      = PathEl.MoveTo (A * p) :: body.map (fun e : PathEl K => A * e) ++ tail.map (fun e : PathEl K => A * e) := by
  rw [List.cons_append, List.map_cons, List.map_append]; rfl

theorem ClosedPath.map (A : Affine K) {els : List (PathEl K)} (h : ClosedPath els) :
    ClosedPath (els.map (fun e : PathEl K => A * e)) := by
  induction h with
  | nil => exact ClosedPath.nil
  | close p body rest hb _ ih =>
    rw [List.map_append, map_subpath]
    exact ClosedPath.close _ _ _ (isBody_map A hb) ih
  | implicit p body rest hb hend _ ih =>
    rw [List.map_append, List.map_cons]
    exact ClosedPath.implicit _ _ _ (isBody_map A hb) (by rw [bodyEnd_map A body p hb, hend]) ih

theorem isBody_revBody (p : Point K) {body : List (PathEl K)} (hb : IsBody body) : IsBody (revBody p body) :=
  isBody_iff_allDraw.2 (revBody_isDraw p body hb.allDraw)

theorem reverseSubpaths_closed_subpath (p : Point K) (body : List (PathEl K)) (hb : IsBody body) :
    reverseSubpaths (.MoveTo p :: body ++ [.ClosePath])
      = some (.MoveTo (bodyEnd p body) :: revBody p body ++ [.ClosePath]) := by
  rw [bodyEnd_eq_runEnd, ← render_closed, ← render_closed]
  exact reverseSubpaths_render ⟨p, body, true⟩ hb.allDraw

theorem reverseSubpaths_open_subpath (p : Point K) (body : List (PathEl K)) (hb : IsBody body) :
    reverseSubpaths (.MoveTo p :: body) = some (.MoveTo (bodyEnd p body) :: revBody p body) := by
  rw [bodyEnd_eq_runEnd, ← render_open, ← render_open]
  exact reverseSubpaths_render ⟨p, body, false⟩ hb.allDraw

theorem bodySegs_revBody (p : Point K) (body : List (PathEl K)) (hb : IsBody body) :
    bodySegs (bodyEnd p body) (revBody p body) = (bodySegs p body).reverse.map PathSeg.reverse ∧
    bodyEnd (bodyEnd p body) (revBody p body) = p := by
  rw [bodySegs_eq_segsT p (isBody_revBody p hb), bodySegs_eq_segsT p hb, bodyEnd_eq_runEnd, bodyEnd_eq_runEnd,
    segsT_revBody p p p body hb.allDraw]
  exact ⟨rfl, runEnd_revBody p body hb.allDraw⟩

theorem segsFrom_reverse_closed (st : SegSt K) (p : Point K) (body : List (PathEl K)) (hb : IsBody body) :
    segsFrom st (.MoveTo (bodyEnd p body) :: revBody p body ++ [.ClosePath])
      = some ((bodySegs p body).reverse.map PathSeg.reverse ++ closeSegs p (bodyEnd p body)) := by
  obtain ⟨h1, h2⟩ := bodySegs_revBody p body hb
  rw [segsFrom_closed_subpath st _ _ (isBody_revBody p hb), h1, h2]

theorem segsFrom_reverse_open (st : SegSt K) (p : Point K) (body : List (PathEl K)) (hb : IsBody body) :
    segsFrom st (.MoveTo (bodyEnd p body) :: revBody p body)
      = some ((bodySegs p body).reverse.map PathSeg.reverse) := by
  rw [segsFrom_open_subpath st _ _ (isBody_revBody p hb), (bodySegs_revBody p body hb).1]

theorem segChain_closeSegs [LawfulPeq K] (e p : Point K) : SegChain e (closeSegs e p) p := by
  by_cases h : e = p
  · rw [h, closeSegs_self]; rfl
  · rw [closeSegs_of_ne h]; exact ⟨rfl, rfl⟩

end structural

end Kurbo
