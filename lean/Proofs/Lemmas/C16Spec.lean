import Proofs.Lemmas.C16Loop
/-! Helper lemmas for C16 `getNumber_spec`: the lexer functions seen as functions of the remaining bytes (`Lx.rem`), the number
    grammar (`NumParts`), `getNumber` up to the end of the mantissa for arbitrary (also digit-free) input
    (`getNumber_mantissa_rem`), and from it `getNumber_spec_rem`. -/
namespace Kurbo

theorem ByteArray_toList_loop (bs : ByteArray) (i : Nat) (r : List UInt8) :
    ByteArray.toList.loop bs i r = r.reverse ++ bs.data.toList.drop i := by
  fun_induction ByteArray.toList.loop bs i r with
  | case1 i r h ih =>
    rw [ih]
    have h' : i < bs.data.toList.length := by simpa using h
    rw [List.drop_eq_getElem_cons h']
    simp [ByteArray.get!, getElem!_pos, h]
  | case2 i r h =>
    have : bs.data.toList.length ≤ i := by simpa using Nat.le_of_not_lt h
    rw [List.drop_eq_nil_of_le this]; simp

theorem ByteArray_toList (bs : ByteArray) : bs.toList = bs.data.toList := by
  simp [ByteArray.toList, ByteArray_toList_loop]

/-- the bytes still to be read -/
def Lx.rem (l : Lx) : List UInt8 := l.data.data.toList.drop l.ix

theorem Lx.rem_start (data : ByteArray) : Lx.rem ⟨data, 0⟩ = data.data.toList := rfl

theorem Lx.rem_nil {l : Lx} (h : l.rem = []) : getByte l = none := by
  rw [getByte_eq_none_iff]
  unfold Lx.rem at h
  have := List.drop_eq_nil_iff.mp h
  simpa using this

def Lx.adv (l : Lx) (n : Nat) : Lx := ⟨l.data, l.ix + n⟩

@[simp] theorem Lx.adv_zero (l : Lx) : l.adv 0 = l := rfl
theorem Lx.adv_adv (l : Lx) (a b : Nat) : (l.adv a).adv b = l.adv (a + b) := by
  simp [Lx.adv, Nat.add_assoc]
@[simp] theorem Lx.adv_data (l : Lx) (n : Nat) : (l.adv n).data = l.data := rfl
@[simp] theorem Lx.adv_ix (l : Lx) (n : Nat) : (l.adv n).ix = l.ix + n := rfl

theorem Lx.rem_adv {l : Lx} {xs r : List UInt8} (h : l.rem = xs ++ r) : (l.adv xs.length).rem = r := by
  unfold Lx.rem Lx.adv at *
  simp only
  rw [← List.drop_drop, h]; simp

theorem Lx.rem_adv_cons {l : Lx} {ws r : List UInt8} {c : UInt8} (h : l.rem = ws ++ c :: r) :
    (l.adv (ws.length + 1)).rem = r := by
  have : l.rem = (ws ++ [c]) ++ r := by rw [h]; simp
  simpa using Lx.rem_adv this

theorem Lx.getByte_cons {l : Lx} {c : UInt8} {r : List UInt8} (h : l.rem = c :: r) : getByte l = some (c, l.adv 1) := by
  unfold Lx.rem at h
  have hlt : l.ix < l.data.data.toList.length := by
    apply Nat.lt_of_not_le
    intro hle
    rw [List.drop_eq_nil_of_le hle] at h; simp at h
  rw [List.drop_eq_getElem_cons hlt] at h
  simp only [List.cons.injEq] at h
  have hlt' : l.ix < l.data.size := by simpa using hlt
  rw [getByte_eq_some hlt']
  simp only [Lx.adv, Option.some.injEq, Prod.mk.injEq, and_true]
  rw [← h.1]; simp [ByteArray.getElem_eq_getElem_data]

theorem Lx.rem_adv_one {l : Lx} {c : UInt8} {r : List UInt8} (h : l.rem = c :: r) : (l.adv 1).rem = r :=
  Lx.rem_adv (xs := [c]) h

theorem skipWs_eq (l : Lx) : skipWs l =
    match getByte l with
    | none => l
    | some (c, l') => if isWs c then skipWs l' else l := by
  rw [skipWs]
  unfold getByte
  split <;> rfl

/-- a list that is empty or starts with a byte satisfying `¬ p` -/
def StopsAt (p : UInt8 → Bool) (r : List UInt8) : Prop := ∀ c r', r = c :: r' → p c = false

theorem StopsAt.nil (p : UInt8 → Bool) : StopsAt p [] := fun c r h => by cases h
theorem StopsAt.cons {p : UInt8 → Bool} {c : UInt8} {r : List UInt8} (h : p c = false) : StopsAt p (c :: r) := by
  intro c' r' hc; simp only [List.cons.injEq] at hc; rw [← hc.1]; exact h

theorem skipWs_rem {l : Lx} {ws r : List UInt8} (h : l.rem = ws ++ r) (hws : ∀ c ∈ ws, isWs c = true)
    (hr : StopsAt isWs r) : skipWs l = l.adv ws.length := by
  induction ws generalizing l with
  | nil =>
    rw [skipWs_eq]
    cases r with
    | nil => rw [Lx.rem_nil h]; rfl
    | cons c r' => rw [Lx.getByte_cons h]; simp [hr c r' rfl]
  | cons w ws ih =>
    rw [skipWs_eq, Lx.getByte_cons h]
    simp only [hws w (List.mem_cons_self), if_true]
    rw [ih (Lx.rem_adv_one h) (fun c hc => hws c (List.mem_cons_of_mem _ hc)), Lx.adv_adv]
    simp [Nat.add_comm]

theorem digitsLoop_eq (l : Lx) (cnt : Nat) (seen : Bool) : digitsLoop l cnt seen =
    match getByte l with
    | none => .ok cnt l
    | some (c, l') =>
      if isDigit c then digitsLoop l' (cnt + 1) seen
      else if c == 46 && !seen then digitsLoop l' cnt true
      else .ok cnt l := by
  rw [digitsLoop]
  split
  · rename_i h; rw [h]
  · rename_i c l' h
    rw [h]; simp only [unget_after_getByte h]

theorem expDigits_eq (l : Lx) : expDigits l =
    match getByte l with
    | none => .ok () l
    | some (c, l') => if !isDigit c then .ok () l else expDigits l' := by
  rw [expDigits]
  split
  · rename_i h; rw [h]
  · rename_i c l' h
    rw [h]; simp only [unget_after_getByte h]

theorem digitsLoop_digits {l : Lx} {ds r : List UInt8} (cnt : Nat) (seen : Bool) (h : l.rem = ds ++ r)
    (hds : ∀ c ∈ ds, isDigit c = true) :
    digitsLoop l cnt seen = digitsLoop (l.adv ds.length) (cnt + ds.length) seen := by
  induction ds generalizing l cnt with
  | nil => rfl
  | cons d ds ih =>
    rw [digitsLoop_eq, Lx.getByte_cons h]
    simp only [hds d (List.mem_cons_self), if_true]
    rw [ih (cnt + 1) (Lx.rem_adv_one h) (fun c hc => hds c (List.mem_cons_of_mem _ hc)), Lx.adv_adv]
    simp [Nat.add_comm, Nat.add_left_comm]

theorem digitsLoop_stop_rem {l : Lx} {r : List UInt8} (cnt : Nat) (seen : Bool) (h : l.rem = r)
    (hr : StopsAt (fun c => isDigit c || (c == 46 && !seen)) r) : digitsLoop l cnt seen = .ok cnt l := by
  rw [digitsLoop_eq]
  cases r with
  | nil => rw [Lx.rem_nil h]
  | cons c r' =>
    rw [Lx.getByte_cons h]
    have := hr c r' rfl
    simp only [Bool.or_eq_false_iff] at this
    simp [this.1, this.2]

theorem expDigits_rem {l : Lx} {ds r : List UInt8} (h : l.rem = ds ++ r) (hds : ∀ c ∈ ds, isDigit c = true)
    (hr : StopsAt isDigit r) : expDigits l = .ok () (l.adv ds.length) := by
  induction ds generalizing l with
  | nil =>
    rw [expDigits_eq]
    cases r with
    | nil => rw [Lx.rem_nil h]; rfl
    | cons c r' => rw [Lx.getByte_cons h]; simp [hr c r' rfl]
  | cons d ds ih =>
    rw [expDigits_eq, Lx.getByte_cons h]
    simp only [hds d (List.mem_cons_self), Bool.not_true, Bool.false_eq_true, if_false]
    rw [ih (Lx.rem_adv_one h) (fun c hc => hds c (List.mem_cons_of_mem _ hc)), Lx.adv_adv]
    simp [Nat.add_comm]

/-- an optional sign -/
abbrev IsSign (s : List UInt8) : Prop := s = [] ∨ s = [43] ∨ s = [45]
abbrev AllDigits (ds : List UInt8) : Prop := ∀ c ∈ ds, isDigit c = true

theorem isDigit_ne {d : UInt8} (h : isDigit d = true) :
    d ≠ 43 ∧ d ≠ 45 ∧ d ≠ 46 ∧ d ≠ 101 ∧ d ≠ 69 ∧ isWs d = false := by
  refine ⟨?_, ?_, ?_, ?_, ?_, ?_⟩
  any_goals (rintro rfl; revert h; decide)
  unfold isDigit at h
  unfold isWs
  simp only [Bool.and_eq_true, decide_eq_true_eq] at h
  simp only [Bool.or_eq_false_iff, beq_eq_false_iff_ne, ne_eq]
  refine ⟨⟨⟨⟨?_, ?_⟩, ?_⟩, ?_⟩, ?_⟩ <;> (rintro rfl; revert h; decide)

structure NumParts where
  sign : List UInt8 := []
  ip : List UInt8          -- digits before the period
  dot : Bool := false
  fd : List UInt8 := []    -- digits after the period
  hasExp : Bool := false
  e : UInt8 := 101
  esign : List UInt8 := []
  ed : List UInt8 := []

def NumParts.mantBytes (p : NumParts) : List UInt8 := p.ip ++ (if p.dot then 46 :: p.fd else [])
def NumParts.expBytes (p : NumParts) : List UInt8 := if p.hasExp then p.e :: p.esign ++ p.ed else []
def NumParts.bytes (p : NumParts) : List UInt8 := p.sign ++ p.mantBytes ++ p.expBytes

/-- the token is in the language `[+-]? (d+ ('.' d*)? | '.' d+) ([eE] [+-]? d+)?` -/
structure NumParts.Valid (p : NumParts) : Prop where
  sign : IsSign p.sign
  ip : AllDigits p.ip
  fd : AllDigits p.fd
  fd_nil : p.dot = false → p.fd = []
  digits : 0 < p.ip.length + p.fd.length
  exp : p.hasExp = true → (p.e = 101 ∨ p.e = 69) ∧ IsSign p.esign ∧ AllDigits p.ed ∧ p.ed ≠ []

/-- `rest` is empty or starts with a byte that cannot continue the token: not a digit; after a mantissa without exponent
    also not `e`/`E` (would start an exponent) and, if no period was read yet, not a period -/
def NumParts.Stops (p : NumParts) (rest : List UInt8) : Prop :=
  ∀ c r, rest = c :: r → isDigit c = false ∧ (p.hasExp = false → c ≠ 101 ∧ c ≠ 69 ∧ (p.dot = false → c ≠ 46))

theorem digitsLoop_mantissa {l : Lx} {ip fd r : List UInt8} (dot : Bool)
    (h : l.rem = (ip ++ (if dot then 46 :: fd else [])) ++ r) (hip : AllDigits ip) (hfd : AllDigits fd)
    (hfdnil : dot = false → fd = []) (hr : StopsAt (fun c => isDigit c || (c == 46 && !dot)) r) :
    digitsLoop l 0 false = .ok (ip.length + fd.length) (l.adv (ip ++ (if dot then 46 :: fd else [])).length) := by
  rw [List.append_assoc] at h
  rw [digitsLoop_digits 0 false h hip]
  have h1 := Lx.rem_adv h
  cases dot with
  | false =>
    simp only [Bool.false_eq_true, if_false, List.nil_append, List.append_nil] at h1 ⊢
    rw [hfdnil rfl]
    simp only [List.length_nil, Nat.add_zero, Nat.zero_add]
    exact digitsLoop_stop_rem _ _ h1 hr
  | true =>
    simp only [if_true, List.cons_append] at h1 ⊢
    rw [digitsLoop_eq, Lx.getByte_cons h1]
    have h2 := Lx.rem_adv_one h1
    have : isDigit 46 = false := by decide
    simp only [this, Bool.false_eq_true, if_false, beq_self_eq_true, Bool.not_false, Bool.and_self, if_true]
    rw [digitsLoop_digits _ true h2 hfd]
    have h3 := Lx.rem_adv h2
    rw [digitsLoop_stop_rem _ _ h3 (by simpa [StopsAt] using hr)]
    simp only [Lx.adv_adv, List.length_append, List.length_cons]
    rw [show 0 + ip.length + fd.length = ip.length + fd.length by omega,
      show ip.length + 1 + fd.length = ip.length + (fd.length + 1) by omega]

theorem expPart_rem_none {l : Lx} {r : List UInt8} (h : l.rem = r) (hr : StopsAt (fun c => c == 101 || c == 69) r) :
    expPart l = .ok () l := by
  unfold expPart
  cases r with
  | nil => rw [Lx.rem_nil h]
  | cons c r' =>
    have hg := Lx.getByte_cons h
    rw [hg]
    have := hr c r' rfl
    simp only at this
    simp only [this, Bool.false_eq_true, if_false, unget_after_getByte hg]

theorem expPart_rem_some {l : Lx} {e : UInt8} {esign ed r : List UInt8} (h : l.rem = (e :: esign ++ ed) ++ r)
    (he : e = 101 ∨ e = 69) (hsign : IsSign esign) (hed : AllDigits ed) (hne : ed ≠ []) (hr : StopsAt isDigit r) :
    expPart l = .ok () (l.adv (e :: esign ++ ed).length) := by
  unfold expPart
  cases ed with
  | nil => exact absurd rfl hne
  | cons d ds =>
  have hd : isDigit d = true := hed d List.mem_cons_self
  have hds : AllDigits ds := fun c hc => hed c (List.mem_cons_of_mem _ hc)
  obtain ⟨hd43, hd45, -⟩ := isDigit_ne hd
  have hee : (e == 101 || e == 69) = true := by rcases he with rfl | rfl <;> decide
  rw [Lx.getByte_cons h]
  simp only [hee, if_true]
  rcases hsign with rfl | hsg
  · have h1 : (l.adv 1).rem = d :: (ds ++ r) := Lx.rem_adv_one h
    rw [Lx.getByte_cons h1]
    have h2 := Lx.rem_adv_one h1
    have : (d == 45 || d == 43) = false := by simp [hd43, hd45]
    simp only [this, Bool.false_eq_true, if_false, hd, Bool.not_true]
    rw [expDigits_rem h2 hds hr]
    simp only [Lx.adv_adv, List.length_cons, List.length_append, List.length_nil]
    congr 2; omega
  · obtain ⟨sg, rfl, hsg'⟩ : ∃ sg, esign = [sg] ∧ (sg == 45 || sg == 43) = true := by
      rcases hsg with rfl | rfl
      · exact ⟨43, rfl, by decide⟩
      · exact ⟨45, rfl, by decide⟩
    have h1 : (l.adv 1).rem = sg :: d :: (ds ++ r) := Lx.rem_adv_one h
    rw [Lx.getByte_cons h1]
    have h2 := Lx.rem_adv_one h1
    have h3 := Lx.rem_adv_one h2
    simp only [hsg', if_true]
    rw [Lx.getByte_cons h2]
    simp only [hd, Bool.not_true, Bool.false_eq_true, if_false]
    rw [expDigits_rem h3 hds hr]
    simp only [Lx.adv_adv, List.length_cons, List.length_append, List.length_nil]
    congr 2; omega

theorem extract_toList_rem {l : Lx} {tok rest : List UInt8} (h : l.rem = tok ++ rest) :
    (l.data.extract l.ix (l.ix + tok.length)).toList = tok := by
  rw [ByteArray_toList, ByteArray.data_extract, Array.toList_extract, List.extract_eq_take_drop]
  unfold Lx.rem at h
  rw [h]; simp

theorem NumParts.Valid.mant_head {p : NumParts} (hv : p.Valid) :
    ∃ c r, p.mantBytes = c :: r ∧ (isDigit c = true ∨ c = 46) := by
  unfold NumParts.mantBytes
  cases hip : p.ip with
  | cons d ds => exact ⟨d, _, rfl, .inl (hv.ip d (by rw [hip]; exact List.mem_cons_self))⟩
  | nil =>
    cases hdot : p.dot with
    | false =>
      have := hv.digits
      rw [hv.fd_nil hdot, hip] at this; simp at this
    | true => exact ⟨46, p.fd, by simp, .inr rfl⟩

theorem NumParts.Valid.mant_ne {p : NumParts} (hv : p.Valid) : p.ip ≠ [] ∨ p.dot = true := by
  by_cases h1 : p.ip = []
  · right
    cases hd : p.dot with
    | true => rfl
    | false => have := hv.digits; rw [hv.fd_nil hd, h1] at this; simp at this
  · exact .inl h1

section
variable {K : Type} [Scalar K]

theorem getNumber_mantissa_rem (l : Lx) (ws sign ip fd rest : List UInt8) (dot : Bool)
    (hws : ∀ c ∈ ws, isWs c = true) (hsign : IsSign sign) (hip : AllDigits ip) (hfd : AllDigits fd)
    (hfdnil : dot = false → fd = []) (hne : sign ≠ [] ∨ ip ≠ [] ∨ dot = true)
    (hr : StopsAt (fun c => isDigit c || (c == 46 && !dot)) rest)
    (hrem : l.rem = ws ++ (sign ++ ((ip ++ (if dot then 46 :: fd else [])) ++ rest))) :
    getNumber (K := K) l =
      match expPart (l.adv (ws.length + sign.length + (ip ++ (if dot then 46 :: fd else [])).length)) with
      | .panic => .panic
      | .err e => .err e
      | .ok _ l8 =>
        if ip.length + fd.length > 0 then
          .ok (tokValue (parseTok ((l8.data.extract (l.ix + ws.length) l8.ix).toList))) l8
        else .err .wrong := by
  have hm0 : sign = [] → ∃ m0 mr, (ip ++ (if dot then 46 :: fd else [])) = m0 :: mr ∧ m0 ≠ 43 ∧ m0 ≠ 45 ∧ isWs m0 = false := by
    intro hs
    cases ip with
    | cons d ds =>
      have := isDigit_ne (hip d List.mem_cons_self)
      exact ⟨d, _, rfl, this.1, this.2.1, this.2.2.2.2.2⟩
    | nil =>
      rcases hne with h | h | h
      · exact absurd hs h
      · exact absurd rfl h
      · rw [h]; exact ⟨46, fd, by simp, by decide, by decide, by decide⟩
  have hskip : skipWs l = l.adv ws.length := by
    apply skipWs_rem hrem hws
    intro c r' hc
    rcases hsign with hsg | hsg | hsg
    · obtain ⟨m0, mr, hm, -, -, hw⟩ := hm0 hsg
      rw [hsg, hm] at hc; simp only [List.nil_append, List.cons_append, List.cons.injEq] at hc
      rw [← hc.1]; exact hw
    · rw [hsg] at hc; simp only [List.cons_append, List.cons.injEq] at hc; rw [← hc.1]; decide
    · rw [hsg] at hc; simp only [List.cons_append, List.cons.injEq] at hc; rw [← hc.1]; decide
  have h0 : (l.adv ws.length).rem = sign ++ ((ip ++ (if dot then 46 :: fd else [])) ++ rest) := Lx.rem_adv hrem
  rw [getNumber_eq, hskip]
  have hsignstep : ∃ c l1, getByte (l.adv ws.length) = some (c, l1) ∧
      (if (c == 45 || c == 43) = true then l1 else l.adv ws.length) = (l.adv ws.length).adv sign.length := by
    rcases hsign with hsg | hsg | hsg
    · obtain ⟨m0, mr, hm, h43, h45, -⟩ := hm0 hsg
      rw [hsg, hm] at h0
      rw [hsg]
      exact ⟨m0, _, Lx.getByte_cons h0, by simp [h43, h45]⟩
    · rw [hsg] at h0 ⊢; exact ⟨43, _, Lx.getByte_cons h0, by simp⟩
    · rw [hsg] at h0 ⊢; exact ⟨45, _, Lx.getByte_cons h0, by simp⟩
  obtain ⟨c, l1, hg, hl2⟩ := hsignstep
  rw [hg]; simp only [hl2]
  have h1 : ((l.adv ws.length).adv sign.length).rem = (ip ++ (if dot then 46 :: fd else [])) ++ rest := Lx.rem_adv h0
  rw [digitsLoop_mantissa dot h1 hip hfd hfdnil hr]
  simp only [Lx.adv_adv, Lx.adv_ix]
  generalize expPart (l.adv (ws.length + sign.length + (ip ++ if dot = true then 46 :: fd else []).length)) = res
  cases res <;> rfl

theorem getNumber_spec_rem (l : Lx) (ws rest : List UInt8) (p : NumParts) (hv : p.Valid) (hs : p.Stops rest)
    (hws : ∀ c ∈ ws, isWs c = true) (hrem : l.rem = ws ++ p.bytes ++ rest) :
    getNumber (K := K) l = .ok (tokValue (parseTok p.bytes)) (l.adv (ws.length + p.bytes.length)) := by
  have hrem1 : l.rem = ws ++ (p.sign ++ ((p.ip ++ (if p.dot then 46 :: p.fd else [])) ++ (p.expBytes ++ rest))) := by
    rw [hrem]; simp [NumParts.bytes, NumParts.mantBytes]
  have hstop1 : StopsAt (fun c => isDigit c || (c == 46 && !p.dot)) (p.expBytes ++ rest) := by
    intro c r' hc
    unfold NumParts.expBytes at hc
    cases hexp : p.hasExp with
    | true =>
      rw [hexp] at hc
      simp only [if_true, List.cons_append, List.cons.injEq] at hc
      obtain ⟨he, -⟩ := hv.exp hexp
      rw [← hc.1]
      rcases he with he | he <;> rw [he] <;> simp <;> decide
    | false =>
      rw [hexp] at hc
      simp only [Bool.false_eq_true, if_false, List.nil_append] at hc
      obtain ⟨hd, hne⟩ := hs c r' hc
      obtain ⟨-, -, h46⟩ := hne hexp
      simp only [hd, Bool.false_or, Bool.and_eq_false_imp, beq_iff_eq, Bool.not_eq_eq_eq_not, Bool.not_false]
      intro hc46
      cases hdot : p.dot with
      | true => rfl
      | false => exact absurd hc46 (h46 hdot)
  rw [getNumber_mantissa_rem l ws p.sign p.ip p.fd (p.expBytes ++ rest) p.dot hws hv.sign hv.ip hv.fd hv.fd_nil
    (.inr hv.mant_ne) hstop1 hrem1]
  have h2 : (l.adv (ws.length + p.sign.length + (p.ip ++ (if p.dot then 46 :: p.fd else [])).length)).rem =
      p.expBytes ++ rest := by
    have := Lx.rem_adv (xs := ws ++ p.sign ++ (p.ip ++ (if p.dot then 46 :: p.fd else []))) (r := p.expBytes ++ rest)
      (by rw [hrem1]; simp)
    simpa [Nat.add_assoc] using this
  have hlen : ws.length + p.sign.length + (p.ip ++ (if p.dot then 46 :: p.fd else [])).length + p.expBytes.length =
      ws.length + p.bytes.length := by
    simp [NumParts.bytes, NumParts.mantBytes]; omega
  generalize ws.length + p.sign.length + (p.ip ++ (if p.dot then 46 :: p.fd else [])).length = n at h2 hlen ⊢
  have hexpP : expPart (l.adv n) = .ok () ((l.adv n).adv p.expBytes.length) := by
    unfold NumParts.expBytes at h2 ⊢
    cases hexp : p.hasExp with
    | true =>
      rw [hexp] at h2
      simp only [if_true] at h2 ⊢
      obtain ⟨he, hes, hed, hne⟩ := hv.exp hexp
      exact expPart_rem_some h2 he hes hed hne (fun c r' hc => (hs c r' hc).1)
    | false =>
      rw [hexp] at h2
      simp only [Bool.false_eq_true, if_false, List.nil_append, List.length_nil, Lx.adv_zero] at h2 ⊢
      apply expPart_rem_none h2
      intro c r' hc
      obtain ⟨-, hne⟩ := hs c r' hc
      obtain ⟨h101, h69, -⟩ := hne hexp
      simp [h101, h69]
  rw [hexpP]; simp only
  rw [if_pos hv.digits, Lx.adv_adv, hlen]
  have hext : ((l.adv (ws.length + p.bytes.length)).data.extract (l.ix + ws.length) (l.adv (ws.length + p.bytes.length)).ix).toList
      = p.bytes := by
    have h00 : (l.adv ws.length).rem = p.bytes ++ rest := Lx.rem_adv (by rw [hrem, List.append_assoc])
    have := extract_toList_rem h00
    simp only [Lx.adv_data, Lx.adv_ix] at this ⊢
    rw [← Nat.add_assoc]; exact this
  rw [hext]

end

end Kurbo
