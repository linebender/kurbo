import Proofs.Lemmas.C12SArc
import Mathlib.Data.Set.Image
/-! Helper definitions and lemmas for C12S: the point sets of ellipses, circles and arcs. -/
namespace Kurbo
open Real

section lawful
variable {K : Type} [Field K] [LinearOrder K] [IsStrictOrderedRing K] [FloorRing K] [Scalar K] [LawfulScalar K]

/-- the ideal point set of an `Ellipse`: the image of the unit circle under its affine map -/
def Ellipse.pts (e : Ellipse K) : Set (Point K) := {p | ∃ u : Point K, u.x ^ 2 + u.y ^ 2 = 1 ∧ p = e.inner * u}

def Circle.pts (c : Circle K) : Set (Point K) :=
  {p | (p.x - c.center.x) ^ 2 + (p.y - c.center.y) ^ 2 = c.radius ^ 2}

/-- `Ellipse::from(circle)` as `impl Mul<Circle> for Affine` builds it -/
def Circle.toEllipse (c : Circle K) : Ellipse K := Ellipse.new c.center ⟨c.radius, c.radius⟩ (@OfNat.ofNat K 0 Ops.instOfNat)

end lawful

theorem unit_circle_param (u : Point ℝ) (hu : u.x ^ 2 + u.y ^ 2 = 1) :
    u = ⟨cos (Complex.arg ⟨u.x, u.y⟩), sin (Complex.arg ⟨u.x, u.y⟩)⟩ := by
  obtain ⟨hc, hs⟩ := polar_arg zero_le_one (hu.trans (one_pow 2).symm)
  rw [one_mul] at hc hs
  rw [hc, hs]

section real
variable [Scalar ℝ] [LawfulScalar ℝ] [LawfulTrig] [LawfulReal]

/-- the point set described by `(center, radii, rotation)` of `Ellipse::radii_and_rotation` -/
def Ellipse.svdPts (e : Ellipse ℝ) : Set (Point ℝ) :=
  {p | ∃ θ : ℝ, p = e.center + sampleEllipse e.inner.svd.1 e.inner.svd.2 θ}

def Arc.pts (a : Arc ℝ) : Set (Point ℝ) :=
  {p | ∃ s : ℝ, 0 ≤ s ∧ s ≤ 1 ∧ p = a.pointAt (a.start_angle + s * a.sweep_angle)}

end real
end Kurbo
