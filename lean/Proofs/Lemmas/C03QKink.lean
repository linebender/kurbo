import Proofs.Lemmas.C03QReal
import Mathlib.Analysis.Convex.SpecificFunctions.Basic
import Mathlib.Analysis.Complex.ExponentialBounds
/-! Helper lemmas for `Proofs/C03Q.lean`, plain real analysis: the size of the logarithmic term that branch (3) drops. -/
namespace Kurbo

/-- `s ↦ s · log (1 + k / s)` is monotone on `(0, ∞)` (Bernoulli's inequality `(1 + x)^t ≤ 1 + t x`, `0 ≤ t ≤ 1`, at
    `x = k/s`, `t = s/b`) -/
theorem c03q_xlog_mono {s b k : ℝ} (hs : 0 < s) (hsb : s ≤ b) (hk : 0 ≤ k) :
    s * Real.log (1 + k / s) ≤ b * Real.log (1 + k / b) := by
  have hb : 0 < b := hs.trans_le hsb
  have hpos : 0 < 1 + k / s := add_pos_of_pos_of_nonneg one_pos (div_nonneg hk hs.le)
  have hbern := rpow_one_add_le_one_add_mul_self (s := k / s) (by linarith) (div_pos hs hb).le ((div_le_one hb).mpr hsb)
  rw [div_mul_div_cancel₀' hs.ne'] at hbern
  have hlog := Real.log_le_log (Real.rpow_pos_of_pos hpos (s / b)) hbern
  rw [Real.log_rpow hpos] at hlog
  calc s * Real.log (1 + k / s) = b * (s / b * Real.log (1 + k / s)) := by rw [← mul_assoc, mul_div_cancel₀ _ hb.ne']
    _ ≤ b * Real.log (1 + k / b) := mul_le_mul_of_nonneg_left hlog hb.le

theorem c03q_exp_27 : (1 + 446000000000 : ℝ) ≤ Real.exp 27 ∧ Real.exp 27 ≤ 1250000000000 := by
  rw [show Real.exp 27 = Real.exp 1 ^ 27 by rw [← Real.exp_nat_mul]; norm_num]
  exact ⟨le_trans (by norm_num) (pow_le_pow_left₀ (by norm_num) Real.exp_one_gt_d9.le 27),
    le_trans (pow_le_pow_left₀ (Real.exp_pos 1).le Real.exp_one_lt_d9.le 27) (by norm_num)⟩

/-- the logarithmic part in terms of `u = √A`, `r₀ = √C`, `β = ba_c2` (so `B = uβ − 2ur₀`) and `S = √(A+B+C)` -/
theorem c03q_logpart_eq_bac2 {A C : ℝ} (hA : 0 < A) (hC : 0 ≤ C) (B : ℝ) :
    A + B + C = (√A - √C) ^ 2 + √A * c03q_bac2 A B C ∧
    c03q_logpart A B C = 1 / 4 * (√A)⁻¹ * (c03q_bac2 A B C * (4 * √C - c03q_bac2 A B C)) *
      Real.log ((c03q_bac2 A B C + 2 * (√A + √(A + B + C) - √C)) / c03q_bac2 A B C) := by
  have hu : √A ≠ 0 := (Real.sqrt_pos.mpr hA).ne'
  have huu : √A ^ 2 = A := Real.sq_sqrt hA.le
  have hrr : √C ^ 2 = C := Real.sq_sqrt hC
  have hB : B = √A * c03q_bac2 A B C - 2 * √A * √C := by unfold c03q_bac2; field_simp; ring
  unfold c03q_logpart
  generalize c03q_bac2 A B C = β at hB ⊢
  generalize √(A + B + C) = S
  generalize √A = u at *
  generalize √C = r at *
  subst huu hrr hB
  rw [show (2 * u ^ 2 + (u * β - 2 * u * r)) * u⁻¹ + 2 * S = β + 2 * (u + S - r) by field_simp; ring,
    show 1 / 4 * u⁻¹ ^ 3 * (4 * r ^ 2 * u ^ 2 - (u * β - 2 * u * r) * (u * β - 2 * u * r))
      = 1 / 4 * u⁻¹ * (β * (4 * r - β)) by field_simp; ring]
  exact ⟨by ring, rfl⟩

/-- the size of the dropped term, in the variables of `c03q_logpart_eq_bac2`, for thresholds `ε` on `β / (2r₀)` and `Y` on `r₀ / u`:
    the coefficient is at most `(r₀/u) β`, the logarithm at most `log (1 + 4u/β)` (from `|u − r₀| ≤ S ≤ u + r₀`), and
    `s ↦ s log (1 + k/s)` is monotone, in `β` up to `2εr₀` and in `r₀/u` up to `Y` -/
theorem c03q_dropped_log_le {u r₀ β S ε Y : ℝ} (hu : 0 < u) (hr : 0 < r₀) (hβ : 0 < β) (hβε : β ≤ ε * (2 * r₀))
    (hβ4 : β ≤ 4 * r₀) (hy : r₀ / u ≤ Y) (hS0 : 0 ≤ S) (hS : S ^ 2 = (u - r₀) ^ 2 + u * β) :
    1 / 4 * u⁻¹ * (β * (4 * r₀ - β)) * Real.log ((β + 2 * (u + S - r₀)) / β)
      ∈ Set.Icc 0 (ε * (2 * r₀) * (Y * Real.log (1 + 2 / ε / Y))) := by
  have huβ : u * β ≤ u * (4 * r₀) := mul_le_mul_of_nonneg_left hβ4 hu.le
  have hS_le : S ≤ u + r₀ := (abs_le_of_sq_le_sq' (by rw [hS]; linarith) (by positivity)).2
  have hS_ge : r₀ - u ≤ S := (abs_le_of_sq_le_sq' (by rw [hS]; linarith [mul_pos hu hβ]) hS0).2
  have hNβ : β ≤ β + 2 * (u + S - r₀) := by linarith
  have hlog0 : 0 ≤ Real.log ((β + 2 * (u + S - r₀)) / β) := Real.log_nonneg ((one_le_div hβ).mpr hNβ)
  have hlog1 : Real.log ((β + 2 * (u + S - r₀)) / β) ≤ Real.log (1 + 4 * u / β) := by
    apply Real.log_le_log (div_pos (hβ.trans_le hNβ) hβ)
    rw [one_add_div hβ.ne']
    exact div_le_div_of_nonneg_right (by linarith) hβ.le
  have hc0 : 0 ≤ 1 / 4 * u⁻¹ * (β * (4 * r₀ - β)) := by
    have := sub_nonneg.2 hβ4
    positivity
  have hc1 : 1 / 4 * u⁻¹ * (β * (4 * r₀ - β)) ≤ r₀ / u * β := by
    rw [show r₀ / u * β = 1 / 4 * u⁻¹ * (β * (4 * r₀)) by ring]
    exact mul_le_mul_of_nonneg_left (mul_le_mul_of_nonneg_left (sub_le_self _ hβ.le) hβ.le) (by positivity)
  refine ⟨mul_nonneg hc0 hlog0, ?_⟩
  have hε : 0 < ε := pos_of_mul_pos_left (hβ.trans_le hβε) (by positivity)
  have hy0 : 0 < r₀ / u := div_pos hr hu
  have m1 := c03q_xlog_mono hβ hβε (show 0 ≤ 4 * u by positivity)
  have m2 := c03q_xlog_mono (k := 2 / ε) hy0 hy (by positivity)
  rw [show 4 * u / (ε * (2 * r₀)) = 2 / ε / (r₀ / u) by field_simp; ring] at m1
  calc _ ≤ r₀ / u * β * Real.log (1 + 4 * u / β) := mul_le_mul hc1 hlog1 hlog0 (by positivity)
    _ = r₀ / u * (β * Real.log (1 + 4 * u / β)) := mul_assoc _ _ _
    _ ≤ r₀ / u * (ε * (2 * r₀) * Real.log (1 + 2 / ε / (r₀ / u))) := mul_le_mul_of_nonneg_left m1 hy0.le
    _ = ε * (2 * r₀) * (r₀ / u * Real.log (1 + 2 / ε / (r₀ / u))) := by ring
    _ ≤ ε * (2 * r₀) * (Y * Real.log (1 + 2 / ε / Y)) := mul_le_mul_of_nonneg_left m2 (by positivity)

/-- `2.5e-10 ≥ 2e-13 · (10000/223) · log (1 + 4.46e11)`, from the model's thresholds `1e-13` and `5e-4 > (223/10000)²` -/
theorem c03q_logpart_bound {A B C : ℝ} (hC : 0 ≤ C) (hA : 5 / 10000 * C < A) (hD : 0 ≤ 4 * A * C - B ^ 2)
    (hβ : c03q_bac2 A B C ≤ 1 / 10000000000000 * (2 * √C)) :
    0 ≤ c03q_logpart A B C ∧ c03q_logpart A B C ≤ 25 / 100000000000 * √C := by
  have hApos : 0 < A := lt_of_le_of_lt (by positivity) hA
  have hr0 : 0 ≤ √C := Real.sqrt_nonneg _
  rcases c03q_bac2_pos_or_collinear hApos hD with hβpos | hD0
  swap
  · rw [c03q_logpart_collinear hD0]; exact ⟨le_refl _, by positivity⟩
  have hu : 0 < √A := Real.sqrt_pos.mpr hApos
  have hr : 0 < √C := by linarith only [hβpos, hβ]
  have hy : √C / √A ≤ 10000 / 223 := by
    rw [div_le_iff₀ hu]
    refine (abs_le_of_sq_le_sq' ?_ (by positivity)).2
    rw [mul_pow, Real.sq_sqrt hC, Real.sq_sqrt hApos.le]
    linarith only [hA, hC]
  obtain ⟨hS, hl⟩ := c03q_logpart_eq_bac2 hApos hC B
  obtain ⟨h0, h1⟩ := c03q_dropped_log_le hu hr hβpos hβ (by linarith only [hβ, hr0]) hy (Real.sqrt_nonneg (A + B + C))
    (by rw [Real.sq_sqrt (by rw [hS]; positivity), hS])
  rw [hl]
  refine ⟨h0, h1.trans ?_⟩
  rw [show (2 : ℝ) / (1 / 10000000000000) / (10000 / 223) = 446000000000 by norm_num]
  calc 1 / 10000000000000 * (2 * √C) * (10000 / 223 * Real.log (1 + 446000000000))
      ≤ 1 / 10000000000000 * (2 * √C) * (10000 / 223 * 27) :=
        mul_le_mul_of_nonneg_left (mul_le_mul_of_nonneg_left
          ((Real.log_le_iff_le_exp (by norm_num)).2 c03q_exp_27.1) (by norm_num)) (by positivity)
    _ ≤ 25 / 100000000000 * √C := by linarith only [hr0]

/-- `A = (21/20)², C = 1, B = −(21/10)·(n²−1)/(n²+1)` with `n = 5·10⁶` (the angle between `d1` and `−d2` is `≈ 4e-7`):
    `ba_c2 = 4/(n²+1) ≈ 1.6e-13` is below the threshold `2e-13`, and the dropped term is at least `4e-12` -/
theorem c03q_logpart_nearCusp :
    c03q_bac2 (441 / 400) (-(21 / 10) * (24999999999999 / 25000000000001)) 1 = 4 / 25000000000001 ∧
    (4 : ℝ) / 1000000000000 ≤ c03q_logpart (441 / 400) (-(21 / 10) * (24999999999999 / 25000000000001)) 1 := by
  have hu : √(441 / 400 : ℝ) = 21 / 20 := (Real.sqrt_eq_iff_mul_self_eq_of_pos (by norm_num)).2 (by norm_num)
  have hb : c03q_bac2 (441 / 400) (-(21 / 10) * (24999999999999 / 25000000000001)) 1 = 4 / 25000000000001 := by
    unfold c03q_bac2
    rw [hu, Real.sqrt_one]; norm_num
  refine ⟨hb, ?_⟩
  have hS : (1 / 20 : ℝ) ≤ √(441 / 400 + -(21 / 10) * (24999999999999 / 25000000000001) + 1) :=
    Real.le_sqrt_of_sq_le (by norm_num)
  rw [(c03q_logpart_eq_bac2 (by norm_num) zero_le_one _).2, hb, hu, Real.sqrt_one]
  generalize √(441 / 400 + -(21 / 10) * (24999999999999 / 25000000000001) + 1 : ℝ) = S at hS ⊢
  -- `S ≥ |u − r₀| = 1/20`, so the argument of the logarithm is at least `1 + (1/5)/β = 1.25e12 + 1.05 ≥ e²⁷`
  have hlog : 27 ≤ Real.log ((4 / 25000000000001 + 2 * (21 / 20 + S - 1)) / (4 / 25000000000001)) :=
    ((Real.le_log_iff_exp_le (by norm_num)).2 c03q_exp_27.2).trans
      (Real.log_le_log (by norm_num) (by rw [le_div_iff₀ (by norm_num)]; linarith))
  calc (4 : ℝ) / 1000000000000
      ≤ 1 / 4 * (21 / 20 : ℝ)⁻¹ * (4 / 25000000000001 * (4 * 1 - 4 / 25000000000001)) * 27 := by norm_num
    _ ≤ _ := mul_le_mul_of_nonneg_left hlog (by norm_num)

end Kurbo
