import Proofs.Lemmas.CurveExt
import Proofs.Lemmas.Calc
/-! C06 – evaluation, sub-segments, subdivision, derivative, reversal and degree raising agree.
    The accessors do no arithmetic (`*_start_end`, `pathSeg_toCubic_cubic` hold by definition; `pathSeg_start_end_stored`
    says so for every `Scalar`); the two `*_deriv_hasDerivAt` are over ℝ (`deriv` is the derivative of `eval`);
    `smoothstep_mono` is an inequality on `[0,1]`.  Every other statement is a polynomial identity over an arbitrary
    lawful scalar `K` (ℚ, ℝ, …): it holds for all control points and all parameters, with no ordering assumption on
    `t0, t1`. -/
set_option linter.unusedSectionVars false
namespace Kurbo
variable {K : Type} [Field K] [LinearOrder K] [IsStrictOrderedRing K] [FloorRing K] [Scalar K] [LawfulScalar K]

theorem line_start_end (l : Line K) : l.start = l.p0 ∧ l.end = l.p1 := ⟨rfl, rfl⟩
theorem quad_start_end (q : QuadBez K) : q.start = q.p0 ∧ q.end = q.p2 := ⟨rfl, rfl⟩
theorem cubic_start_end (c : CubicBez K) : c.start = c.p0 ∧ c.end = c.p3 := ⟨rfl, rfl⟩

/-- holds for *every* `Scalar` (also `Float`): the accessors do no arithmetic -/
theorem pathSeg_start_end_stored {K' : Type} [Scalar K'] (s : PathSeg K') :
    s.start = (match s with | .Line l => l.p0 | .Quad q => q.p0 | .Cubic c => c.p0) ∧
    s.end = (match s with | .Line l => l.p1 | .Quad q => q.p2 | .Cubic c => c.p3) := by
  cases s <;> exact ⟨rfl, rfl⟩

theorem line_eval_zero_one (l : Line K) : l.eval 0 = l.p0 ∧ l.eval 1 = l.p1 := by
  simp only [Point.ext_iff, Line.eval_xy]
  refine ⟨⟨?_, ?_⟩, ?_, ?_⟩ <;> ring
theorem quad_eval_zero_one (q : QuadBez K) : q.eval 0 = q.p0 ∧ q.eval 1 = q.p2 := by
  simp only [Point.ext_iff, QuadBez.eval_xy]
  refine ⟨⟨?_, ?_⟩, ?_, ?_⟩ <;> ring
theorem cubic_eval_zero_one (c : CubicBez K) : c.eval 0 = c.p0 ∧ c.eval 1 = c.p3 := by
  simp only [Point.ext_iff, CubicBez.eval_xy]
  refine ⟨⟨?_, ?_⟩, ?_, ?_⟩ <;> ring

theorem line_subsegment_eval (c : Line K) (t0 t1 u : K) :
    (c.subsegment ⟨t0, t1⟩).eval u = c.eval (t0 + u * (t1 - t0)) := c.subsegment_eval t0 t1 u
theorem quad_subsegment_eval (c : QuadBez K) (t0 t1 u : K) :
    (c.subsegment ⟨t0, t1⟩).eval u = c.eval (t0 + u * (t1 - t0)) := c.subsegment_eval t0 t1 u
theorem cubic_subsegment_eval (c : CubicBez K) (t0 t1 u : K) :
    (c.subsegment ⟨t0, t1⟩).eval u = c.eval (t0 + u * (t1 - t0)) := c.subsegment_eval t0 t1 u
theorem pathSeg_subsegment_eval (s : PathSeg K) (t0 t1 u : K) :
    (s.subsegment ⟨t0, t1⟩).eval u = s.eval (t0 + u * (t1 - t0)) := by
  cases s with
  | Line l => exact line_subsegment_eval l t0 t1 u
  | Quad q => exact quad_subsegment_eval q t0 t1 u
  | Cubic c => exact cubic_subsegment_eval c t0 t1 u

theorem quad_subdivide (q : QuadBez K) :
    q.subdivide = (q.subsegment ⟨0, 1/2⟩, q.subsegment ⟨1/2, 1⟩) := by
  -- the end points and the common middle point agree as they stand; left are the two inner control points
  simp only [QuadBez.subsegment_eq, QuadBez.subdivide, QuadBez.new, Prod.mk.injEq, QuadBez.mk.injEq,
    quad_eval_zero_one, sn_ofRat]
  push_cast
  simp only [true_and, and_true, Point.ext_iff, QuadBez.eval_xy, QuadBez.deriv_eval_xy, Point.midpoint, Point.new,
    scalar_norm]
  push_cast
  refine ⟨⟨?_, ?_⟩, ?_, ?_⟩ <;> ring
theorem cubic_subdivide (c : CubicBez K) :
    c.subdivide = (c.subsegment ⟨0, 1/2⟩, c.subsegment ⟨1/2, 1⟩) := by
  -- the end points and the common middle point agree as they stand; left are the four inner control points
  simp only [CubicBez.subsegment_eq, CubicBez.subdivide, CubicBez.new, Prod.mk.injEq, CubicBez.mk.injEq,
    cubic_eval_zero_one, sn_ofRat]
  push_cast
  simp only [true_and, and_true, Point.ext_iff, CubicBez.eval_xy, CubicBez.deriv_eval_xy, Point.midpoint, Point.new,
    Point.to_vec2, Vec2.to_point, vec2_add, vec2_mul, scalar_norm]
  push_cast
  refine ⟨⟨⟨?_, ?_⟩, ?_, ?_⟩, ⟨?_, ?_⟩, ?_, ?_⟩ <;> ring

/-- algebraic form (any lawful field): the difference quotient of `eval` is `deriv.eval` up to a term that
    vanishes with `h` -/
theorem cubic_deriv_diffquot (c : CubicBez K) (t h : K) :
    ((c.eval (t + h)).x - (c.eval t).x = h * ((c.deriv.eval t).x
        + h * (3 * ((c.p2.x - 2 * c.p1.x + c.p0.x) * (1 - t) + (c.p3.x - 2 * c.p2.x + c.p1.x) * t)
        + h * (c.p3.x - 3 * c.p2.x + 3 * c.p1.x - c.p0.x)))) ∧
    ((c.eval (t + h)).y - (c.eval t).y = h * ((c.deriv.eval t).y
        + h * (3 * ((c.p2.y - 2 * c.p1.y + c.p0.y) * (1 - t) + (c.p3.y - 2 * c.p2.y + c.p1.y) * t)
        + h * (c.p3.y - 3 * c.p2.y + 3 * c.p1.y - c.p0.y)))) := by
  constructor <;> simp only [CubicBez.eval_xy, CubicBez.deriv_eval_xy] <;> ring
theorem quad_deriv_diffquot (q : QuadBez K) (t h : K) :
    ((q.eval (t + h)).x - (q.eval t).x = h * ((q.deriv.eval t).x + h * (q.p2.x - 2 * q.p1.x + q.p0.x))) ∧
    ((q.eval (t + h)).y - (q.eval t).y = h * ((q.deriv.eval t).y + h * (q.p2.y - 2 * q.p1.y + q.p0.y))) := by
  constructor <;> simp only [QuadBez.eval_xy, QuadBez.deriv_eval_xy] <;> ring

end Kurbo

namespace Kurbo
section real
variable [Scalar ℝ] [LawfulScalar ℝ]

theorem cubic_deriv_hasDerivAt (c : CubicBez ℝ) (t : ℝ) :
    HasDerivAt (fun t => (c.eval t).x) (c.deriv.eval t).x t ∧
    HasDerivAt (fun t => (c.eval t).y) (c.deriv.eval t).y t := by
  simp only [CubicBez.eval_xy, CubicBez.deriv_eval_xy]
  exact ⟨hasDerivAt_poly3 _ _ _ _ t, hasDerivAt_poly3 _ _ _ _ t⟩

theorem quad_deriv_hasDerivAt (q : QuadBez ℝ) (t : ℝ) :
    HasDerivAt (fun t => (q.eval t).x) (q.deriv.eval t).x t ∧
    HasDerivAt (fun t => (q.eval t).y) (q.deriv.eval t).y t := by
  simp only [QuadBez.eval_xy, QuadBez.deriv_eval_xy]
  exact ⟨by simpa using hasDerivAt_poly3 q.p0.x _ _ 0 t, by simpa using hasDerivAt_poly3 q.p0.y _ _ 0 t⟩

end real
end Kurbo

namespace Kurbo
variable {K : Type} [Field K] [LinearOrder K] [IsStrictOrderedRing K] [FloorRing K] [Scalar K] [LawfulScalar K]

theorem pathSeg_reverse_eval (s : PathSeg K) (t : K) : s.reverse.eval t = s.eval (1 - t) := by
  cases s <;>
    simp only [PathSeg.reverse, PathSeg.eval, Line.new, QuadBez.new, CubicBez.new, Point.ext_iff, Line.eval_xy,
      QuadBez.eval_xy, CubicBez.eval_xy] <;>
    constructor <;> ring

theorem line_reversed_eval (l : Line K) (t : K) : l.reversed.eval t = l.eval (1 - t) :=
  pathSeg_reverse_eval (.Line l) t

theorem quad_raise_eval (q : QuadBez K) (t : K) : q.raise.eval t = q.eval t := by
  simp only [Point.ext_iff, QuadBez.raise, CubicBez.new, CubicBez.eval_xy, QuadBez.eval_xy, point_add_vec, point_sub,
    vec2_smul, scalar_norm]
  constructor <;> ring

theorem pathSeg_toCubic_quad_eval (q : QuadBez K) (t : K) : (PathSeg.Quad q).to_cubic.eval t = q.eval t :=
  quad_raise_eval q t

theorem pathSeg_toCubic_cubic (c : CubicBez K) : (PathSeg.Cubic c).to_cubic = c := rfl

/-- `PathSeg::Line(l).to_cubic()` is `(p0,p0,p1,p1)`: the same *points* in the same order, re-parametrised by the
    smoothstep `3t² − 2t³` (monotone on `[0,1]`, from `0` at `0` to `1` at `1`: next theorem) -/
theorem line_toCubic_eval (l : Line K) (t : K) :
    (PathSeg.Line l).to_cubic.eval t = l.eval (3 * t ^ 2 - 2 * t ^ 3) := by
  cases l
  simp only [Point.ext_iff, PathSeg.to_cubic, CubicBez.new, CubicBez.eval_xy, Line.eval_xy]
  constructor <;> ring

theorem smoothstep_mono (s t : K) (hs : 0 ≤ s) (hst : s ≤ t) (ht : t ≤ 1) :
    3 * s ^ 2 - 2 * s ^ 3 ≤ 3 * t ^ 2 - 2 * t ^ 3 ∧ (3 * (0:K) ^ 2 - 2 * 0 ^ 3 = 0) ∧ (3 * (1:K) ^ 2 - 2 * 1 ^ 3 = 1) := by
  refine ⟨?_, by norm_num, by norm_num⟩
  -- the difference factors as `(t − s)` times a sum of products of the nonnegative `s`, `t`, `1 − s`, `1 − t`
  have key : 3 * t ^ 2 - 2 * t ^ 3 - (3 * s ^ 2 - 2 * s ^ 3)
      = (t - s) * (2 * (t * (1 - t)) + 2 * (s * (1 - s)) + t * (1 - s) + s * (1 - t)) := by ring
  have ht0 : 0 ≤ t := hs.trans hst
  have hs1 : 0 ≤ 1 - s := sub_nonneg.mpr (hst.trans ht)
  have ht1 : 0 ≤ 1 - t := sub_nonneg.mpr ht
  have h := mul_nonneg (sub_nonneg.mpr hst) (add_nonneg (add_nonneg (add_nonneg
    (mul_nonneg zero_le_two (mul_nonneg ht0 ht1)) (mul_nonneg zero_le_two (mul_nonneg hs hs1)))
    (mul_nonneg ht0 hs1)) (mul_nonneg hs ht1))
  rw [← key] at h
  exact sub_nonneg.mp h

end Kurbo
