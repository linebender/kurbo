import Proofs.KDefs
import Proofs.Lemmas.C18S
import Proofs.Lemmas.C18T
import Proofs.Lemmas.C07Inst
/-! C18T – `PathSeg::tangents` (bezpath.rs) after the repair of its zero-chord fall-back (crate commit f4732a0), as transcribed in
    `Kurbo/Simplify.lean` (`PathSeg.tangents`, `Vec2.isZero`).  It is the function through which `simplify_bezpath` (corner test,
    `simpCorner`) and the stroker (`stroke_undashed`: `do_join` and `last_tan`; `do_linear`) see the direction of a curve at its ends.

    Before the repair a quadratic/cubic whose end points coincide and whose control arms are shorter than `1e-6` (squared length
    `<= EPS = 1e-12`) got the chord as its tangent, i.e. the zero vector (`Q (0,0) (1e-7,0) (0,0)`); the stroker then divided by
    its length.  After the repair the control arm is returned.

    What is proved (1–3 over a lawful ordered field, i.e. exact arithmetic; no hypothesis on the size of the segment –
    the `EPS` thresholds do not weaken the statement):
    1. `line_tangents_eq_zero_iff`, `quad_tangent_start_eq_zero_iff`, `quad_tangent_end_eq_zero_iff`,
       `cubic_tangent_start_eq_zero_iff`, `cubic_tangent_end_eq_zero_iff`: a returned tangent is the zero vector if and only if
       all control points of the segment are the same point.
    2. `tangents_eq_zero_iff_isPoint` (the same for a `PathSeg`, `PathSeg.IsPoint` = all control points equal) and the motivating
       form `tangents_ne_zero`: a segment that is not a single point has both tangents non-zero.
    3. `simplify_kept_segment_tangents_ne_zero`, `simplify_head_segments_tangents_ne_zero`: every segment the loop of
       `simplify_bezpath` keeps (it skips exactly those whose points all equal the current point) has non-zero tangents, so the
       corner test `simpCorner` never sees a zero vector.
    4. `tangents_eq_before_repair_of_open` (every `[Scalar K]`, also `Float`): on a segment whose end points differ (`==` of the
       chord with `Vec2::ZERO` is false) the function returns exactly what it returned before the repair
       (`PathSeg.tangentsOld`, the text before the repair, kept in `Proofs/Lemmas/C18T.lean` for this statement only).

    What is not proved / limits:
    * Nothing here is about binary64: over `Float` the squared length of a non-zero arm can underflow to `0.0` – this does not
      matter for the zero test (the comparisons with `Vec2::ZERO` are on the components, not on the squared length), but a
      tangent shorter than about `0.5·width/f64::MAX` still overflows the division in the stroker.
      The comparison crate = `Float` model is by replay (C18 `skeleton-closed-tiny`, C14 `stroke-tiny-closed`, `simplify-tiny-closed`, `flatten-tiny-closed`).
    * The tangent of a tiny closed curve is the control arm, which is the true tangent direction of the curve at that end only
      if the arm is non-zero; for `C p0 p0 p2 p0` the start tangent returned is `p2 − p0` (the true limit direction), for
      `C p0 p1 p0 p0` the end tangent returned is `p0 − p1` (also the limit direction).  That the returned vectors are the limit
      tangent directions in general is not shown. -/
namespace Kurbo
section lawful
variable {K : Type} [Field K] [LinearOrder K] [IsStrictOrderedRing K] [FloorRing K] [Scalar K] [LawfulScalar K]

theorem line_tangents_eq_zero_iff (l : Line K) :
    ((PathSeg.Line l).tangents.1 = ⟨0, 0⟩ ↔ l.p1 = l.p0) ∧ ((PathSeg.Line l).tangents.2 = ⟨0, 0⟩ ↔ l.p1 = l.p0) := by
  simp only [PathSeg.tangents, c18t_point_sub_eq_zero, and_self]

theorem quad_tangent_start_eq_zero_iff (q : QuadBez K) :
    (PathSeg.Quad q).tangents.1 = ⟨0, 0⟩ ↔ q.p1 = q.p0 ∧ q.p2 = q.p0 := by
  simp only [PathSeg.tangents]
  rw [c18t_quadPick c18t_eps_nonneg, c18t_point_sub_eq_zero, c18t_point_sub_eq_zero]

theorem quad_tangent_end_eq_zero_iff (q : QuadBez K) :
    (PathSeg.Quad q).tangents.2 = ⟨0, 0⟩ ↔ q.p1 = q.p0 ∧ q.p2 = q.p0 := by
  simp only [PathSeg.tangents]
  rw [c18t_quadPick c18t_eps_nonneg, c18t_point_sub_eq_zero, c18t_point_sub_eq_zero]
  constructor
  · rintro ⟨h1, h2⟩; exact ⟨h1.symm.trans h2, h2⟩
  · rintro ⟨h1, h2⟩; exact ⟨h2.trans h1.symm, h2⟩

theorem cubic_tangent_start_eq_zero_iff (c : CubicBez K) :
    (PathSeg.Cubic c).tangents.1 = ⟨0, 0⟩ ↔ c.p1 = c.p0 ∧ c.p2 = c.p0 ∧ c.p3 = c.p0 := by
  simp only [PathSeg.tangents]
  rw [c18t_cubicPick c18t_eps_nonneg, c18t_point_sub_eq_zero, c18t_point_sub_eq_zero, c18t_point_sub_eq_zero]

theorem cubic_tangent_end_eq_zero_iff (c : CubicBez K) :
    (PathSeg.Cubic c).tangents.2 = ⟨0, 0⟩ ↔ c.p1 = c.p0 ∧ c.p2 = c.p0 ∧ c.p3 = c.p0 := by
  simp only [PathSeg.tangents]
  rw [c18t_cubicPick c18t_eps_nonneg, c18t_point_sub_eq_zero, c18t_point_sub_eq_zero, c18t_point_sub_eq_zero]
  constructor
  · rintro ⟨h32, h31, h30⟩; exact ⟨h31.symm.trans h30, h32.symm.trans h30, h30⟩
  · rintro ⟨h1, h2, h3⟩; exact ⟨h3.trans h2.symm, h3.trans h1.symm, h3⟩

theorem tangents_eq_zero_iff_isPoint (s : PathSeg K) :
    (s.tangents.1 = ⟨0, 0⟩ ↔ s.IsPoint) ∧ (s.tangents.2 = ⟨0, 0⟩ ↔ s.IsPoint) := by
  cases s with
  | Line l => exact line_tangents_eq_zero_iff l
  | Quad q => exact ⟨quad_tangent_start_eq_zero_iff q, quad_tangent_end_eq_zero_iff q⟩
  | Cubic c => exact ⟨cubic_tangent_start_eq_zero_iff c, cubic_tangent_end_eq_zero_iff c⟩

/-- **A segment that is not a single point has two non-zero tangents** (what the repair is for). -/
theorem tangents_ne_zero (s : PathSeg K) (h : ¬ s.IsPoint) : s.tangents.1 ≠ ⟨0, 0⟩ ∧ s.tangents.2 ≠ ⟨0, 0⟩ :=
  ⟨fun h0 => h ((tangents_eq_zero_iff_isPoint s).1.mp h0), fun h0 => h ((tangents_eq_zero_iff_isPoint s).2.mp h0)⟩

/-- the input that failed before the repair: `Q (0,0) (1e-7,0) (0,0)` is not a point … -/
example : ¬ (PathSeg.Quad (K := Rat) ⟨⟨0,0⟩,⟨1/10000000,0⟩,⟨0,0⟩⟩).IsPoint := by
  simp [PathSeg.IsPoint]
/-- … and its tangents are the control arms (before the repair both `(0,0)`: the `tangentsOld` example below) -/
example : (PathSeg.Quad (K := Rat) ⟨⟨0,0⟩,⟨1/10000000,0⟩,⟨0,0⟩⟩).tangents = (⟨1/10000000,0⟩, ⟨-1/10000000,0⟩) := by
  decide +kernel
example : (PathSeg.Quad (K := Rat) ⟨⟨0,0⟩,⟨1/10000000,0⟩,⟨0,0⟩⟩).tangentsOld = (⟨0,0⟩, ⟨0,0⟩) := by
  decide +kernel
example : (PathSeg.Cubic (K := Rat) ⟨⟨0,0⟩,⟨1/10000000,0⟩,⟨0,1/10000000⟩,⟨0,0⟩⟩).tangents = (⟨1/10000000,0⟩, ⟨0,-1/10000000⟩) := by
  decide +kernel
/-- a closed cubic whose first arm is zero: the second control point gives the start tangent -/
example : (PathSeg.Cubic (K := Rat) ⟨⟨0,0⟩,⟨0,0⟩,⟨0,1/10000000⟩,⟨0,0⟩⟩).tangents = (⟨0,1/10000000⟩, ⟨0,-1/10000000⟩) := by
  decide +kernel
/-- tiny but open: the chord is used, as before the repair -/
example : (PathSeg.Quad (K := Rat) ⟨⟨0,0⟩,⟨1/10000000,0⟩,⟨0,1/10000000⟩⟩).tangents = (⟨0,1/10000000⟩, ⟨0,1/10000000⟩) := by
  decide +kernel
/-- the only segments with a zero tangent -/
example : (PathSeg.Cubic (K := Rat) ⟨⟨3,4⟩,⟨3,4⟩,⟨3,4⟩,⟨3,4⟩⟩).tangents = (⟨0,0⟩, ⟨0,0⟩) := by decide +kernel

/-- a drawing element that the loop does not skip (current point `last`) becomes a segment with non-zero tangents -/
theorem simplify_kept_segment_tangents_ne_zero (last : Point K) (el : PathEl K) (s : PathSeg K)
    (h : simpElSeg last el = some s) : s.tangents.1 ≠ ⟨0, 0⟩ ∧ s.tangents.2 ≠ ⟨0, 0⟩ := by
  apply tangents_ne_zero
  intro hp
  have hskip := c18t_elSeg_of_isPoint s hp
  rw [c18s_elSeg_start h, c18s_elSeg_drawEl h, h] at hskip
  cases hskip

/-- all segments of a sub-path as the loop sees them (`simpHeadSegs`, the lists the corner test runs over) have non-zero tangents -/
theorem simplify_head_segments_tangents_ne_zero (els : List (PathEl K)) (last : Point K) :
    ∀ s ∈ simpHeadSegs last els, s.tangents.1 ≠ ⟨0, 0⟩ ∧ s.tangents.2 ≠ ⟨0, 0⟩ := by
  induction els generalizing last with
  | nil => intro s hs; simp [simpHeadSegs] at hs
  | cons el r ih =>
    intro s hs
    unfold simpHeadSegs at hs
    by_cases hd : el.simpDraw = true
    · rw [if_pos hd] at hs
      cases hseg : simpElSeg last el with
      | none => rw [hseg] at hs; exact ih last s hs
      | some s' =>
        rw [hseg] at hs
        rcases List.mem_cons.mp hs with rfl | hs'
        · exact simplify_kept_segment_tangents_ne_zero last el _ hseg
        · exact ih _ s hs'
    · rw [if_neg hd] at hs; simp at hs

/-- the tiny closed quadratic after a line is kept, and is a corner against the line before it (before the repair its zero
    tangent made `0 < 0` false: no corner, the loop was fitted together with the line) -/
example : simpElSeg (K := Rat) ⟨0,0⟩ (.QuadTo ⟨1/10000000,0⟩ ⟨0,0⟩) = some (.Quad ⟨⟨0,0⟩,⟨1/10000000,0⟩,⟨0,0⟩⟩) := by
  decide +kernel
example : simpCorner (K := Rat) (Scalar.ofRat (1/1000)) (.Line ⟨⟨0,1⟩,⟨0,0⟩⟩) (.Quad ⟨⟨0,0⟩,⟨1/10000000,0⟩,⟨0,0⟩⟩) = true := by
  decide +kernel

end lawful

section structural
variable {K : Type} [Scalar K]

theorem tangents_eq_before_repair_of_open (s : PathSeg K) (h : (s.end - s.start : Vec2 K).isZero = false) :
    s.tangents = s.tangentsOld := by
  cases s with
  | Line l => rfl
  | Quad q =>
    have h' : (q.p2 - q.p0 : Vec2 K).isZero = false := h
    simp only [PathSeg.tangents, PathSeg.tangentsOld, h', Bool.or_false]
  | Cubic c =>
    have h' : (c.p3 - c.p0 : Vec2 K).isZero = false := h
    simp only [PathSeg.tangents, PathSeg.tangentsOld, h', Bool.not_false, if_true]

example : ((PathSeg.Quad (K := Rat) ⟨⟨0,0⟩,⟨1/10000000,0⟩,⟨0,1/10000000⟩⟩).end
    - (PathSeg.Quad (K := Rat) ⟨⟨0,0⟩,⟨1/10000000,0⟩,⟨0,1/10000000⟩⟩).start : Vec2 Rat).isZero = false := by decide +kernel

end structural
end Kurbo
