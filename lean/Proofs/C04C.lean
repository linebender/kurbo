import Proofs.Lemmas.C04CBevel
import Proofs.Lemmas.C04CSquare
import Proofs.Lemmas.C04COutline
import Proofs.Lemmas.C04Real
/-! C04C – stroke outline = offset region: COVERAGE theorems connecting the stroker model (`Kurbo/Stroke.lean`,
    `strokeUndashed`) with the winding model (`Kurbo/Curve.lean`, `pathWinding`).  (C04 proves structure and bounds the VERTICES
    of the outline; nothing there is about winding numbers.)

    Scalars: lawful ordered field with a lawful `hypot` (`C04HypotLaw`, inhabited by ℝ – `c04_exReal`); exact arithmetic.
    Notation: `t = p1 − p0`, `n = c04_norm w t = (w/2)/|t| · (−t.y, t.x)` the model's offset vector (left-hand normal of
    length `w/2`), `c04c_InRect p0 p1 w q`: `0 < (q − p0)·t < t·t` and `(t × (q − p0))² < (w/2)²·(t·t)`, i.e. the orthogonal
    projection of `q` on the supporting line is interior to the segment and `q` is closer than `w/2` to the line.

    PROVED
    1. One segment `[MoveTo p0, LineTo p1]`, `p0 ≠ p1`, `w > 0`, butt caps, any join, any tolerance:
       * `c04c_one_segment_butt_outline` – the model returns the single closed contour
         `MoveTo (p0 − n), LineTo (p1 − n), LineTo (p1 + n), LineTo (p0 + n), ClosePath` (counter-clockwise in y-up axes:
         right-hand side forward, end cap, left-hand side backward, `ClosePath` is the start cap).
       * `c04c_one_segment_butt_coverage` – every `q` with `c04c_InRect` has winding number exactly `1` (≠ 0).
       * `c04c_one_segment_butt_exclusion` – every `q` farther than `w/2` from every point of the segment has winding `0`.
       * `c04c_one_segment_butt_winding` – for every `q` on none of the four edges of the outline the winding number is
         `1` if `c04c_InRect` and `0` otherwise (the full "iff"); `c04c_one_segment_butt_nonzero_iff` restates it as `≠ 0 ↔`.
       * `c04c_one_segment_butt_nonneg` – at EVERY point (also on the outline) the winding number is `≥ 0`.
       * `c04c_inRect_of_params` – `q = p0 + s·t + u·n`, `0 < s < 1`, `−1 < u < 1` satisfies `c04c_InRect` (the parametrised form
         `{p0 + s(p1 − p0) + u'·n̂ : 0 < s < 1, |u'| < w/2}`).

    2. One segment, SQUARE caps (`start_cap = end_cap = 1`):
       * `c04c_one_segment_square_outline` – eight vertices `p0 − n, p1 − n, p1 − n + e, p1 + n + e, p1 + n, p0 + n, p0 + n − e,
         p0 − n − e` (`e = (n.y, −n.x)`, the tangent direction scaled to `w/2`); `p0 ∓ n`, `p1 ∓ n` are collinear with their
         neighbours (degenerate vertices on the long sides of the extended rectangle).
       * `c04c_one_segment_square_coverage` (winding `1` on the open rectangle extended by `w/2` at both ends, `c04c_InRectSq`),
         `c04c_one_segment_square_exclusion` (winding `0` farther than `√2·w/2` from the segment, stated with squares),
         `c04c_one_segment_square_winding` (indicator of the open extended rectangle off its four edges),
         `c04c_one_segment_square_nonneg`.
    3. Two segments `[MoveTo p0, LineTo p1, LineTo p2]`, non-collinear, BEVEL join made (`c04c_joinTest2 = true`;
       `c04c_two_segments_join_test_iff`: `dot ≤ 0 ∨ hypot(cross, dot)·(2·tol/w) ≤ |cross|`; always true for tolerance 0:
       `c04c_two_segments_join_test_zero_tolerance`), butt caps:
       * `c04c_two_segments_bevel_outline_left` / `_right` – the nine-vertex outline; the INNER side passes through the join point
         `p1` itself (`inner_join_pivot`), so the outline is non-convex and the two inner offset edges overlap the other rectangle.
       * `c04c_two_segments_bevel_coverage` – every point of the open swept rectangle of EITHER segment has winding number `≥ 1`
         (so non-zero; it is `2` where the two rectangles overlap – example below): at EVERY query point the crossing
         sum of the outline is `R1 + R2 + T` (rectangle 1, rectangle 2, bevel triangle `p1 ∓ n1, p1 ∓ n2, p1`), each `≥ 0`
         everywhere (also ON edges), and `Ri = 1` on the open rectangle.
       * `c04c_two_segments_bevel_nonneg` – winding `≥ 0` everywhere.

    NOT PROVED
    * Exclusion for the two-segment outline (no point farther than `w/2` from the polyline is covered): by `R1 + R2 + T` it needs
      "outside both closed rectangles and the closed triangle ⇒ 0" (`IsPara.quadSum_eq_zero` gives the rectangles; the triangle part and the
      distance bound for the triangle are not done).  Exact winding value (1 or 2) on the two-segment outline.
    * Anything for three or more segments, closed sub-paths, miter or round joins, round caps, mixed caps, `QuadTo`/`CurveTo`.
    * The case where the join-skip test fails: then coverage is FALSE as stated (example at the end of this file: tolerance 1/2,
      a 22.6° turn: a point of the open rectangle of the second segment with winding number 0); the crate accepts this within
      its tolerance.  Also the collinear case `cross = 0` (straight on or U-turn) is not covered by the theorems of part 3.
    * In `c04c_one_segment_square_winding` the "off the outline" hypothesis is stated for the four edges of the extended
      rectangle (equal as a point set to the union of the eight outline edges; that equality is not proved here).
    * Everything is exact arithmetic (`LawfulScalar` + `C04HypotLaw`); nothing about `Float` rounding (e.g. `n` is then only
      approximately of length `w/2`). -/
set_option linter.unusedSectionVars false
namespace Kurbo
open PathEl
section
variable {K : Type} [Field K] [LinearOrder K] [IsStrictOrderedRing K] [FloorRing K] [Scalar K] [LawfulScalar K]
  [C04HypotLaw K]

/-- the hypotheses on the scalar are satisfiable (ℝ with `hypot x y = √(x²+y²)`) -/
example : ∃ (_ : Scalar ℝ) (_ : LawfulScalar ℝ), C04HypotLaw ℝ := c04_exReal

/-- **The outline of one butt-capped segment** is the rectangle `p0 − n, p1 − n, p1 + n, p0 + n` (this order), one closed
    contour, whatever the join style and the tolerance. -/
theorem c04c_one_segment_butt_outline (p0 p1 : Point K) (style : StrokeStyle K) (tol : K) (hne : p0 ≠ p1)
    (hs : style.start_cap = 0) (he : style.end_cap = 0) :
    strokeUndashed [MoveTo p0, LineTo p1] style tol =
      .ok [MoveTo (p0 - c04_norm style.width (p1 - p0)), LineTo (p1 - c04_norm style.width (p1 - p0)),
           LineTo (p1 + c04_norm style.width (p1 - p0)), LineTo (p0 + c04_norm style.width (p1 - p0)), ClosePath] := by
  rw [c04c_strokeOne p0 p1 style tol ((peq_false_iff _ _).2 hne.symm), c04_endCap_butt _ _ _ _ he, c04_startCap_butt _ _ _ _ hs]
  rfl
example : (⟨0, 0⟩ : Point Rat) ≠ ⟨4, 3⟩ := by decide
/-- the same outline computed by the model over `Rat` (3-4-5 segment, width 10: `n = (−3, 4)`) -/
example : c04c_okOut (strokeUndashed ([MoveTo ⟨0, 0⟩, LineTo ⟨4, 3⟩] : List (PathEl Rat)) ⟨10, 0, 4, 0, 0⟩ (1/10)) =
    some [MoveTo ⟨3, -4⟩, LineTo ⟨7, -1⟩, LineTo ⟨1, 7⟩, LineTo ⟨-3, 4⟩, ClosePath] := by decide +kernel

/-- **Coverage.** Every point whose projection on the segment is interior and whose distance from it is `< w/2` has winding
    number `1` (in particular non-zero) with respect to the outline the model returns. -/
theorem c04c_one_segment_butt_coverage (p0 p1 : Point K) (style : StrokeStyle K) (tol : K) (hne : p0 ≠ p1)
    (hw : 0 < style.width) (hs : style.start_cap = 0) (he : style.end_cap = 0) (q : Point K)
    (hq : c04c_InRect p0 p1 style.width q) :
    ∃ out, strokeUndashed [MoveTo p0, LineTo p1] style tol = .ok out ∧ pathWinding out q = some 1 :=
  ⟨_, c04c_one_segment_butt_outline p0 p1 style tol hne hs he,
    (c04c_rectPath_winding p0 p1 q _).trans (congrArg some ((c04c_rectSum_counts style.width p0 p1 q hw hne).inside hq))⟩
example : c04c_InRect (⟨0, 0⟩ : Point Rat) ⟨4, 3⟩ 10 ⟨1, 3⟩ := by decide +kernel
example : pathWinding ([MoveTo ⟨3, -4⟩, LineTo ⟨7, -1⟩, LineTo ⟨1, 7⟩, LineTo ⟨-3, 4⟩, ClosePath] : List (PathEl Rat)) ⟨1, 3⟩
    = some 1 := by decide +kernel

/-- the parametrised form of the open rectangle: `q = p0 + s·(p1 − p0) + u·n` with `0 < s < 1`, `−1 < u < 1`
    (`n` has length `w/2`, so `u·n = u'·n̂` with `|u'| < w/2`) -/
theorem c04c_inRect_of_params (p0 p1 q : Point K) (w s u : K) (hne : p0 ≠ p1) (hw : 0 < w)
    (hs0 : 0 < s) (hs1 : s < 1) (hu0 : -1 < u) (hu1 : u < 1)
    (hx : q.x = p0.x + s * (p1.x - p0.x) + u * (c04_norm w (p1 - p0)).x)
    (hy : q.y = p0.y + s * (p1.y - p0.y) + u * (c04_norm w (p1 - p0)).y) : c04c_InRect p0 p1 w q := by
  obtain ⟨k, F⟩ := c04_seg_frame w p0 p1 hw hne
  rw [F.nx] at hx; rw [F.ny] at hy
  have hT := F.len_pos
  have hkT := mul_pos F.k_pos hT
  rw [c04c_inRect_iff F q]
  have e1 : (q.x - p0.x) * (p1.x - p0.x) + (q.y - p0.y) * (p1.y - p0.y)
      = s * ((p1.x - p0.x) * (p1.x - p0.x) + (p1.y - p0.y) * (p1.y - p0.y)) := by rw [hx, hy]; ring
  have e2 : (p1.x - p0.x) * (q.y - p0.y) - (p1.y - p0.y) * (q.x - p0.x)
      = u * (k * ((p1.x - p0.x) * (p1.x - p0.x) + (p1.y - p0.y) * (p1.y - p0.y))) := by rw [hx, hy]; ring
  rw [e1, e2]
  have hu := (mul_lt_iff_lt_one_left hkT).mpr hu1
  refine ⟨mul_pos hs0 hT, (mul_lt_iff_lt_one_left hT).mpr hs1, ?_, ?_⟩
  · rw [← add_one_mul]
    exact mul_pos (neg_lt_iff_pos_add.mp hu0) hkT
  · rw [mul_assoc, two_mul]
    exact add_lt_add_left hu _
example : (0 : Rat) < 1/2 ∧ (1/2 : Rat) < 1 ∧ (-1 : Rat) < 1/3 ∧ (1/3 : Rat) < 1 := by norm_num

/-- **Exclusion.** A point farther than `w/2` from every point `p0 + s·(p1 − p0)`, `0 ≤ s ≤ 1`, of the segment has winding
    number `0` (no hypothesis "off the outline" is needed: the outline is within `w/2` of the segment). -/
theorem c04c_one_segment_butt_exclusion (p0 p1 : Point K) (style : StrokeStyle K) (tol : K) (hne : p0 ≠ p1)
    (hw : 0 < style.width) (hs : style.start_cap = 0) (he : style.end_cap = 0) (q : Point K)
    (hfar : ∀ s : K, 0 ≤ s → s ≤ 1 → (style.width / 2) ^ 2 < (p0.lerp p1 s).distance_squared q) :
    ∃ out, strokeUndashed [MoveTo p0, LineTo p1] style tol = .ok out ∧ pathWinding out q = some 0 :=
  ⟨_, c04c_one_segment_butt_outline p0 p1 style tol hne hs he,
    (c04c_rectPath_winding p0 p1 q _).trans (congrArg some ((c04c_rectSum_counts style.width p0 p1 q hw hne).outside
      fun ⟨s, h0, h1, h⟩ => not_le.mpr (hfar s h0 h1) h))⟩
/-- `(9, 9)` is farther than `w/2 = 5` from the segment `(0,0)–(4,3)`: squared distance `(9−4s)² + (9−3s)² ≥ 61` on `[0,1]` -/
example : ∀ s : Rat, 0 ≤ s → s ≤ 1 →
    ((10 : Rat) / 2) ^ 2 < ((⟨0, 0⟩ : Point Rat).lerp ⟨4, 3⟩ s).distance_squared ⟨9, 9⟩ := by
  intro s h0 h1
  simp only [kdefs, scalar_norm]
  linarith [mul_self_nonneg (1 - s)]
example : pathWinding ([MoveTo ⟨3, -4⟩, LineTo ⟨7, -1⟩, LineTo ⟨1, 7⟩, LineTo ⟨-3, 4⟩, ClosePath] : List (PathEl Rat)) ⟨9, 9⟩
    = some 0 := by decide +kernel

/-- **Winding number of the outline = indicator of the open swept rectangle**, at every point on none of the four edges. -/
theorem c04c_one_segment_butt_winding (p0 p1 : Point K) (style : StrokeStyle K) (tol : K) (hne : p0 ≠ p1)
    (hw : 0 < style.width) (hs : style.start_cap = 0) (he : style.end_cap = 0) (q : Point K) :
    ∃ out ss, strokeUndashed [MoveTo p0, LineTo p1] style tol = .ok out ∧ segs out = some ss ∧
      ((∀ e ∈ ss, ¬ OnSeg e q) →
        pathWinding out q = some (if c04c_InRect p0 p1 style.width q then 1 else 0)) := by
  refine ⟨_, _, c04c_one_segment_butt_outline p0 p1 style tol hne hs he, segs_quadrilateral _ _ _ _, fun hoff => ?_⟩
  have h1 := hoff _ (List.mem_append_left _ (List.mem_cons_self))
  have h2 := hoff _ (List.mem_append_left _ (List.mem_cons_of_mem _ List.mem_cons_self))
  have h3 := hoff _ (List.mem_append_left _ (List.mem_cons_of_mem _ (List.mem_cons_of_mem _ List.mem_cons_self)))
  have h4 : ¬ OnSeg (.Line ⟨p0 + c04_norm style.width (p1 - p0), p0 - c04_norm style.width (p1 - p0)⟩) q := by
    by_cases hd : p0 + c04_norm style.width (p1 - p0) = p0 - c04_norm style.width (p1 - p0)
    · -- cannot happen (n ≠ 0), but then the edge is the single point `p0 − n`, which is on the first edge
      intro ⟨t, ht0, ht1, hev⟩
      apply h1
      refine ⟨0, le_refl _, zero_le_one, ?_⟩
      rw [← hev, hd]
      simp only [PathSeg.eval]
      cases p0; kring
    · exact hoff _ (List.mem_append_right _ (by rw [if_neg hd]; exact List.mem_cons_self))
  exact c04c_rect_winding style.width p0 p1 q hw hne _ rfl h1 h2 h3 h4

/-- the same as an equivalence: off the outline, `winding ≠ 0 ↔ q` is in the open swept rectangle -/
theorem c04c_one_segment_butt_nonzero_iff (p0 p1 : Point K) (style : StrokeStyle K) (tol : K) (hne : p0 ≠ p1)
    (hw : 0 < style.width) (hs : style.start_cap = 0) (he : style.end_cap = 0) (q : Point K) :
    ∃ out ss, strokeUndashed [MoveTo p0, LineTo p1] style tol = .ok out ∧ segs out = some ss ∧
      ((∀ e ∈ ss, ¬ OnSeg e q) →
        ∃ wn : Int, pathWinding out q = some wn ∧ (wn ≠ 0 ↔ c04c_InRect p0 p1 style.width q)) := by
  obtain ⟨out, ss, h1, h2, h3⟩ := c04c_one_segment_butt_winding p0 p1 style tol hne hw hs he q
  refine ⟨out, ss, h1, h2, fun hoff => ⟨_, h3 hoff, ?_⟩⟩
  by_cases hin : c04c_InRect p0 p1 style.width q
  · rw [if_pos hin]; exact ⟨fun _ => hin, fun _ => by decide⟩
  · rw [if_neg hin]; exact ⟨fun h => absurd rfl h, fun h => absurd h hin⟩
/-- `(1, 3)` is on none of the four edges of the 3-4-5 outline (each edge: the point is strictly on one side of its line) -/
example : ∀ e ∈ ([.Line ⟨⟨3, -4⟩, ⟨7, -1⟩⟩, .Line ⟨⟨7, -1⟩, ⟨1, 7⟩⟩, .Line ⟨⟨1, 7⟩, ⟨-3, 4⟩⟩, .Line ⟨⟨-3, 4⟩, ⟨3, -4⟩⟩] :
    List (PathSeg Rat)), ¬ OnSeg e ⟨1, 3⟩ := by
  intro e he
  simp only [List.mem_cons, List.not_mem_nil, or_false] at he
  rcases he with rfl | rfl | rfl | rfl <;> rw [onSeg_line_iff] <;> rintro ⟨t, _, _, hx, hy⟩ <;> simp only at hx hy <;> linarith

/-- at EVERY point – also on the outline – the winding number is `≥ 0` (the outline is positively oriented) -/
theorem c04c_one_segment_butt_nonneg (p0 p1 : Point K) (style : StrokeStyle K) (tol : K) (hne : p0 ≠ p1)
    (hw : 0 < style.width) (hs : style.start_cap = 0) (he : style.end_cap = 0) (q : Point K) :
    ∃ (out : List (PathEl K)) (wn : Int), strokeUndashed [MoveTo p0, LineTo p1] style tol = .ok out ∧ pathWinding out q = some wn ∧ 0 ≤ wn := by
  exact ⟨_, _, c04c_one_segment_butt_outline p0 p1 style tol hne hs he, c04c_rectPath_winding p0 p1 q _,
    (c04c_rectSum_counts style.width p0 p1 q hw hne).nonneg⟩

/-- **The outline of one square-capped segment**: eight vertices, `e = (n.y, −n.x)` is the tangent direction scaled to `w/2`:
    `p0 − n, p1 − n, p1 − n + e, p1 + n + e, p1 + n, p0 + n, p0 + n − e, p0 − n − e`.  The vertices `p1 ∓ n` and `p0 ∓ n` lie
    in the interior of edges of the extended rectangle (collinear triples – degenerate vertices of the polygon). -/
theorem c04c_one_segment_square_outline (p0 p1 : Point K) (style : StrokeStyle K) (tol : K) (hne : p0 ≠ p1)
    (hs : style.start_cap = 1) (he : style.end_cap = 1) :
    let n := c04_norm style.width (p1 - p0)
    strokeUndashed [MoveTo p0, LineTo p1] style tol =
      .ok [MoveTo (p0 - n), LineTo (p1 - n), LineTo ⟨p1.x - n.x + n.y, p1.y - n.y - n.x⟩,
           LineTo ⟨p1.x + n.x + n.y, p1.y + n.y - n.x⟩, LineTo ⟨p1.x + n.x, p1.y + n.y⟩, LineTo (p0 + n),
           LineTo ⟨p0.x + n.x - n.y, p0.y + n.y + n.x⟩, LineTo ⟨p0.x - n.x - n.y, p0.y - n.y + n.x⟩, ClosePath] := by
  rw [c04c_strokeOne p0 p1 style tol ((peq_false_iff _ _).2 hne.symm), c04_endCap_square _ _ _ _ (by omega) (by omega),
    c04_startCap_square _ _ _ _ (by omega) (by omega)]
  simp only [c04_squareCap_eq, Bool.false_eq_true, if_false, if_true, List.cons_append, List.nil_append]
  simp only [c04_endCap_vec, vec2_neg, sn_neg, sub_neg_eq_add, ← sub_eq_add_neg]
example : c04c_okOut (strokeUndashed ([MoveTo ⟨0, 0⟩, LineTo ⟨4, 3⟩] : List (PathEl Rat)) ⟨10, 0, 4, 1, 1⟩ (1/10)) =
    some [MoveTo ⟨3, -4⟩, LineTo ⟨7, -1⟩, LineTo ⟨11, 2⟩, LineTo ⟨5, 10⟩, LineTo ⟨1, 7⟩, LineTo ⟨-3, 4⟩, LineTo ⟨-7, 1⟩,
      LineTo ⟨-1, -7⟩, ClosePath] := by decide +kernel

/-- **Coverage, square caps.** Winding number `1` on the open rectangle extended by `w/2` at both ends (`c04c_InRectSq`). -/
theorem c04c_one_segment_square_coverage (p0 p1 : Point K) (style : StrokeStyle K) (tol : K) (hne : p0 ≠ p1)
    (hw : 0 < style.width) (hs : style.start_cap = 1) (he : style.end_cap = 1) (q : Point K)
    (hq : c04c_InRectSq p0 p1 style.width q) :
    ∃ out, strokeUndashed [MoveTo p0, LineTo p1] style tol = .ok out ∧ pathWinding out q = some 1 := by
  obtain ⟨s, h1, hc⟩ := c04c_sqPath_counts style.width p0 p1 q hw hne
  exact ⟨_, c04c_one_segment_square_outline p0 p1 style tol hne hs he, hc.inside hq ▸ h1⟩
/-- `(−2, −2)` is beyond the start point `(0,0)` of the 3-4-5 segment but inside the square start cap -/
example : c04c_InRectSq (⟨0, 0⟩ : Point Rat) ⟨4, 3⟩ 10 ⟨-2, -2⟩ ∧ ¬ c04c_InRect (⟨0, 0⟩ : Point Rat) ⟨4, 3⟩ 10 ⟨-2, -2⟩ := by
  decide +kernel
example : pathWinding ([MoveTo ⟨3, -4⟩, LineTo ⟨7, -1⟩, LineTo ⟨11, 2⟩, LineTo ⟨5, 10⟩, LineTo ⟨1, 7⟩, LineTo ⟨-3, 4⟩,
    LineTo ⟨-7, 1⟩, LineTo ⟨-1, -7⟩, ClosePath] : List (PathEl Rat)) ⟨-2, -2⟩ = some 1 := by decide +kernel

/-- **Exclusion, square caps.** Farther than `√2·w/2` from every point of the segment (squared: `2·(w/2)²`): winding `0`. -/
theorem c04c_one_segment_square_exclusion (p0 p1 : Point K) (style : StrokeStyle K) (tol : K) (hne : p0 ≠ p1)
    (hw : 0 < style.width) (hs : style.start_cap = 1) (he : style.end_cap = 1) (q : Point K)
    (hfar : ∀ s : K, 0 ≤ s → s ≤ 1 → 2 * (style.width / 2) ^ 2 < (p0.lerp p1 s).distance_squared q) :
    ∃ out, strokeUndashed [MoveTo p0, LineTo p1] style tol = .ok out ∧ pathWinding out q = some 0 := by
  obtain ⟨s, h1, hc⟩ := c04c_sqPath_counts style.width p0 p1 q hw hne
  exact ⟨_, c04c_one_segment_square_outline p0 p1 style tol hne hs he,
    hc.outside (fun ⟨s, h0, h1, h⟩ => not_le.mpr (hfar s h0 h1) h) ▸ h1⟩
example : ∀ s : Rat, 0 ≤ s → s ≤ 1 →
    2 * ((10 : Rat) / 2) ^ 2 < ((⟨0, 0⟩ : Point Rat).lerp ⟨4, 3⟩ s).distance_squared ⟨9, 9⟩ := by
  intro s h0 h1
  simp only [kdefs, scalar_norm]
  linarith [mul_self_nonneg (1 - s)]
example : pathWinding ([MoveTo ⟨3, -4⟩, LineTo ⟨7, -1⟩, LineTo ⟨11, 2⟩, LineTo ⟨5, 10⟩, LineTo ⟨1, 7⟩, LineTo ⟨-3, 4⟩,
    LineTo ⟨-7, 1⟩, LineTo ⟨-1, -7⟩, ClosePath] : List (PathEl Rat)) ⟨9, 9⟩ = some 0 := by decide +kernel

/-- **Winding number, square caps** = indicator of the open extended rectangle, at every point on none of the four edges of
    the extended rectangle `A B C D` (`A = p0 − n − e`, `B = p1 − n + e`, `C = p1 + n + e`, `D = p0 + n − e`; `AB` is the union
    of the outline edges `A (p0−n)`, `(p0−n)(p1−n)`, `(p1−n) B`, likewise `CD`; `BC`, `DA` are outline edges). -/
theorem c04c_one_segment_square_winding (p0 p1 : Point K) (style : StrokeStyle K) (tol : K) (hne : p0 ≠ p1)
    (hw : 0 < style.width) (hs : style.start_cap = 1) (he : style.end_cap = 1) (q : Point K) :
    let n := c04_norm style.width (p1 - p0)
    let A : Point K := ⟨p0.x - n.x - n.y, p0.y - n.y + n.x⟩
    let B : Point K := ⟨p1.x - n.x + n.y, p1.y - n.y - n.x⟩
    let C : Point K := ⟨p1.x + n.x + n.y, p1.y + n.y - n.x⟩
    let D : Point K := ⟨p0.x + n.x - n.y, p0.y + n.y + n.x⟩
    ¬ OnSeg (.Line ⟨A, B⟩) q → ¬ OnSeg (.Line ⟨B, C⟩) q → ¬ OnSeg (.Line ⟨C, D⟩) q → ¬ OnSeg (.Line ⟨D, A⟩) q →
    ∃ out, strokeUndashed [MoveTo p0, LineTo p1] style tol = .ok out ∧
      pathWinding out q = some (if c04c_InRectSq p0 p1 style.width q then 1 else 0) := by
  intro n A B C D h1 h2 h3 h4
  exact ⟨_, c04c_one_segment_square_outline p0 p1 style tol hne hs he, c04c_sq_winding style.width p0 p1 q hw hne n rfl h1 h2 h3 h4⟩

/-- at EVERY point the winding number of the square-capped outline is `≥ 0` -/
theorem c04c_one_segment_square_nonneg (p0 p1 : Point K) (style : StrokeStyle K) (tol : K) (hne : p0 ≠ p1)
    (hw : 0 < style.width) (hs : style.start_cap = 1) (he : style.end_cap = 1) (q : Point K) :
    ∃ (out : List (PathEl K)) (wn : Int), strokeUndashed [MoveTo p0, LineTo p1] style tol = .ok out ∧ pathWinding out q = some wn ∧ 0 ≤ wn := by
  obtain ⟨wn, h1, hc⟩ := c04c_sqPath_counts style.width p0 p1 q hw hne
  exact ⟨_, wn, c04c_one_segment_square_outline p0 p1 style tol hne hs he, h1, hc.nonneg⟩

/-- **Outline, left turn** (`(p1 − p0) × (p2 − p1) > 0`), join made (`c04c_joinTest2`, in ordinary arithmetic:
    `c04c_two_segments_join_test_iff`): nine vertices; the inner (left) side passes through the join point `p1` itself. -/
theorem c04c_two_segments_bevel_outline_left (p0 p1 p2 : Point K) (style : StrokeStyle K) (tol : K) (h01 : p0 ≠ p1)
    (h12 : p1 ≠ p2) (hj : style.join = 0) (hs : style.start_cap = 0) (he : style.end_cap = 0)
    (ht : c04c_joinTest2 p0 p1 p2 style.width tol = true) (hc : 0 < (p1 - p0).cross (p2 - p1)) :
    let n1 := c04_norm style.width (p1 - p0); let n2 := c04_norm style.width (p2 - p1)
    strokeUndashed [MoveTo p0, LineTo p1, LineTo p2] style tol =
      .ok [MoveTo (p0 - n1), LineTo (p1 - n1), LineTo (p1 - n2), LineTo (p2 - n2), LineTo (p2 + n2), LineTo (p1 + n2),
           LineTo p1, LineTo (p1 + n1), LineTo (p0 + n1), ClosePath] := by
  rw [c04c_strokeTwo_left p0 p1 p2 style tol ((peq_false_iff _ _).2 h01.symm) ((peq_false_iff _ _).2 h12.symm) hj ht
    (by simp only [scalar_norm, Nat.cast_zero, decide_eq_true_eq]; exact hc), c04_endCap_butt _ _ _ _ he,
    c04_startCap_butt _ _ _ _ hs]
  rfl
example : c04c_okOut (strokeUndashed ([MoveTo ⟨0, 0⟩, LineTo ⟨4, 0⟩, LineTo ⟨4, 3⟩] : List (PathEl Rat)) ⟨2, 0, 4, 0, 0⟩ (1/10)) =
    some [MoveTo ⟨0, -1⟩, LineTo ⟨4, -1⟩, LineTo ⟨5, 0⟩, LineTo ⟨5, 3⟩, LineTo ⟨3, 3⟩, LineTo ⟨3, 0⟩, LineTo ⟨4, 0⟩,
      LineTo ⟨4, 1⟩, LineTo ⟨0, 1⟩, ClosePath] := by decide +kernel

/-- **Outline, right turn** (`cross < 0`): the pivot `p1` is on the right-hand (forward) side. -/
theorem c04c_two_segments_bevel_outline_right (p0 p1 p2 : Point K) (style : StrokeStyle K) (tol : K) (h01 : p0 ≠ p1)
    (h12 : p1 ≠ p2) (hj : style.join = 0) (hs : style.start_cap = 0) (he : style.end_cap = 0)
    (ht : c04c_joinTest2 p0 p1 p2 style.width tol = true) (hc : (p1 - p0).cross (p2 - p1) < 0) :
    let n1 := c04_norm style.width (p1 - p0); let n2 := c04_norm style.width (p2 - p1)
    strokeUndashed [MoveTo p0, LineTo p1, LineTo p2] style tol =
      .ok [MoveTo (p0 - n1), LineTo (p1 - n1), LineTo p1, LineTo (p1 - n2), LineTo (p2 - n2), LineTo (p2 + n2),
           LineTo (p1 + n2), LineTo (p1 + n1), LineTo (p0 + n1), ClosePath] := by
  rw [c04c_strokeTwo_right p0 p1 p2 style tol ((peq_false_iff _ _).2 h01.symm) ((peq_false_iff _ _).2 h12.symm) hj ht
    (by simp only [scalar_norm, Nat.cast_zero, decide_eq_false_iff_not, not_lt]; exact hc.le)
    (by simp only [scalar_norm, Nat.cast_zero, decide_eq_true_eq]; exact hc), c04_endCap_butt _ _ _ _ he,
    c04_startCap_butt _ _ _ _ hs]
  rfl
example : c04c_okOut (strokeUndashed ([MoveTo ⟨0, 0⟩, LineTo ⟨4, 0⟩, LineTo ⟨4, -3⟩] : List (PathEl Rat)) ⟨2, 0, 4, 0, 0⟩ (1/10)) =
    some [MoveTo ⟨0, -1⟩, LineTo ⟨4, -1⟩, LineTo ⟨4, 0⟩, LineTo ⟨3, 0⟩, LineTo ⟨3, -3⟩, LineTo ⟨5, -3⟩, LineTo ⟨5, 0⟩,
      LineTo ⟨4, 1⟩, LineTo ⟨0, 1⟩, ClosePath] := by decide +kernel

/-- the join-skip test in ordinary arithmetic; with tolerance `0` a join is always made -/
theorem c04c_two_segments_join_test_iff (p0 p1 p2 : Point K) (w tol : K) :
    c04c_joinTest2 p0 p1 p2 w tol = true ↔
      ((p1 - p0).dot (p2 - p1) ≤ 0 ∨
        Scalar.hypot ((p1 - p0).cross (p2 - p1)) ((p1 - p0).dot (p2 - p1)) * (2 * tol / w) ≤ |(p1 - p0).cross (p2 - p1)|) := by
  simp only [c04c_joinTest2, scalar_norm, Bool.or_eq_true, decide_eq_true_eq]
  push_cast
  rfl
theorem c04c_two_segments_join_test_zero_tolerance (p0 p1 p2 : Point K) (w : K) :
    c04c_joinTest2 p0 p1 p2 w 0 = true := by
  rw [c04c_two_segments_join_test_iff]
  right
  rw [mul_zero, zero_div, mul_zero]
  exact abs_nonneg _

/-- **Coverage, two segments with a bevel join** (non-collinear, join made): every point of the open swept rectangle of either
    segment has winding number `≥ 1`, in particular NON-ZERO, with respect to the outline the model returns (`2` where the
    rectangles overlap: the winding number is `R1 + R2 + T`, `Lemmas/C04CBevel.lean`). -/
theorem c04c_two_segments_bevel_coverage (p0 p1 p2 : Point K) (style : StrokeStyle K) (tol : K) (h01 : p0 ≠ p1)
    (h12 : p1 ≠ p2) (hw : 0 < style.width) (hj : style.join = 0) (hs : style.start_cap = 0) (he : style.end_cap = 0)
    (ht : c04c_joinTest2 p0 p1 p2 style.width tol = true) (hc : (p1 - p0).cross (p2 - p1) ≠ 0) (q : Point K)
    (hq : c04c_InRect p0 p1 style.width q ∨ c04c_InRect p1 p2 style.width q) :
    ∃ (out : List (PathEl K)) (wn : Int), strokeUndashed [MoveTo p0, LineTo p1, LineTo p2] style tol = .ok out ∧
      pathWinding out q = some wn ∧ 1 ≤ wn ∧ wn ≠ 0 := by
  rcases lt_or_gt_of_ne hc with hneg | hpos
  · obtain ⟨wn, h1, _, h2⟩ := c04c_bevelR_bounds style.width p0 p1 p2 q hw h01 h12 hneg
    have := h2 hq
    exact ⟨_, wn, c04c_two_segments_bevel_outline_right p0 p1 p2 style tol h01 h12 hj hs he ht hneg, h1, this, by omega⟩
  · obtain ⟨wn, h1, _, h2⟩ := c04c_bevelL_bounds style.width p0 p1 p2 q hw h01 h12 hpos
    have := h2 hq
    exact ⟨_, wn, c04c_two_segments_bevel_outline_left p0 p1 p2 style tol h01 h12 hj hs he ht hpos, h1, this, by omega⟩
/-- hypotheses: right-angle left turn, width 2, tolerance 1/10; `(7/2, 1/2)` is in both rectangles (winding number 2),
    `(9/2, 2)` only in the second -/
example : (⟨0, 0⟩ : Point Rat) ≠ ⟨4, 0⟩ ∧ (⟨4, 0⟩ : Point Rat) ≠ ⟨4, 3⟩ ∧
    c04c_joinTest2 (⟨0, 0⟩ : Point Rat) ⟨4, 0⟩ ⟨4, 3⟩ 2 (1/10) = true ∧
    ((⟨4, 0⟩ : Point Rat) - (⟨0, 0⟩ : Point Rat)).cross ((⟨4, 3⟩ : Point Rat) - (⟨4, 0⟩ : Point Rat)) ≠ 0 ∧
    c04c_InRect (⟨0, 0⟩ : Point Rat) ⟨4, 0⟩ 2 ⟨7/2, 1/2⟩ ∧ c04c_InRect (⟨4, 0⟩ : Point Rat) ⟨4, 3⟩ 2 ⟨7/2, 1/2⟩ ∧
    c04c_InRect (⟨4, 0⟩ : Point Rat) ⟨4, 3⟩ 2 ⟨9/2, 2⟩ := by decide +kernel
example : pathWinding ([MoveTo ⟨0, -1⟩, LineTo ⟨4, -1⟩, LineTo ⟨5, 0⟩, LineTo ⟨5, 3⟩, LineTo ⟨3, 3⟩, LineTo ⟨3, 0⟩, LineTo ⟨4, 0⟩,
      LineTo ⟨4, 1⟩, LineTo ⟨0, 1⟩, ClosePath] : List (PathEl Rat)) ⟨7/2, 1/2⟩ = some 2 ∧
    pathWinding ([MoveTo ⟨0, -1⟩, LineTo ⟨4, -1⟩, LineTo ⟨5, 0⟩, LineTo ⟨5, 3⟩, LineTo ⟨3, 3⟩, LineTo ⟨3, 0⟩, LineTo ⟨4, 0⟩,
      LineTo ⟨4, 1⟩, LineTo ⟨0, 1⟩, ClosePath] : List (PathEl Rat)) ⟨9/2, 2⟩ = some 1 := by decide +kernel

/-- at EVERY point the winding number of the bevel-join outline is `≥ 0` -/
theorem c04c_two_segments_bevel_nonneg (p0 p1 p2 : Point K) (style : StrokeStyle K) (tol : K) (h01 : p0 ≠ p1)
    (h12 : p1 ≠ p2) (hw : 0 < style.width) (hj : style.join = 0) (hs : style.start_cap = 0) (he : style.end_cap = 0)
    (ht : c04c_joinTest2 p0 p1 p2 style.width tol = true) (hc : (p1 - p0).cross (p2 - p1) ≠ 0) (q : Point K) :
    ∃ (out : List (PathEl K)) (wn : Int), strokeUndashed [MoveTo p0, LineTo p1, LineTo p2] style tol = .ok out ∧
      pathWinding out q = some wn ∧ 0 ≤ wn := by
  rcases lt_or_gt_of_ne hc with hneg | hpos
  · obtain ⟨wn, h1, h2, _⟩ := c04c_bevelR_bounds style.width p0 p1 p2 q hw h01 h12 hneg
    exact ⟨_, wn, c04c_two_segments_bevel_outline_right p0 p1 p2 style tol h01 h12 hj hs he ht hneg, h1, h2⟩
  · obtain ⟨wn, h1, h2, _⟩ := c04c_bevelL_bounds style.width p0 p1 p2 q hw h01 h12 hpos
    exact ⟨_, wn, c04c_two_segments_bevel_outline_left p0 p1 p2 style tol h01 h12 hj hs he ht hpos, h1, h2⟩

end

/-! ## the join-test hypothesis cannot be dropped -/

/-- **Finding (by design of the crate, within its tolerance): with a positive tolerance a small forward turn gets NO join**
    (`c04c_strokeTwo_skipped`: the outline is the hexagon `p0 − n1, p1 − n1, p2 − n2, p2 + n2, p1 + n1, p0 + n1`), and then
    coverage FAILS near the outer corner: for `(0,0) → (4,0) → (16,5)`, width 2, tolerance 1/2 the point
    `q = (4 + 651/1300, −1123/1300)` is in the open swept rectangle of the second segment (distance `< 1` from it, projection
    interior) but has winding number `0`. -/
example :
    c04c_joinTest2 (⟨0, 0⟩ : Point Rat) ⟨4, 0⟩ ⟨16, 5⟩ 2 (1/2) = false ∧
    c04c_okOut (strokeUndashed ([MoveTo ⟨0, 0⟩, LineTo ⟨4, 0⟩, LineTo ⟨16, 5⟩] : List (PathEl Rat)) ⟨2, 0, 4, 0, 0⟩ (1/2)) =
      some [MoveTo ⟨0, -1⟩, LineTo ⟨4, -1⟩, LineTo ⟨16 + 5/13, 5 - 12/13⟩, LineTo ⟨16 - 5/13, 5 + 12/13⟩, LineTo ⟨4, 1⟩,
        LineTo ⟨0, 1⟩, ClosePath] ∧
    c04c_InRect (⟨4, 0⟩ : Point Rat) ⟨16, 5⟩ 2 ⟨4 + 651/1300, -1123/1300⟩ ∧
    pathWinding ([MoveTo ⟨0, -1⟩, LineTo ⟨4, -1⟩, LineTo ⟨16 + 5/13, 5 - 12/13⟩, LineTo ⟨16 - 5/13, 5 + 12/13⟩, LineTo ⟨4, 1⟩,
        LineTo ⟨0, 1⟩, ClosePath] : List (PathEl Rat)) ⟨4 + 651/1300, -1123/1300⟩ = some 0 := by decide +kernel

end Kurbo
