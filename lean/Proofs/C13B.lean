import Proofs.C13
import Proofs.Lemmas.C13BFrame
import Proofs.Lemmas.C13BClose
import Proofs.Lemmas.C13BTotal
import Proofs.Lemmas.C13BReal
/-! C13B – Dashing a closed polyline sub-path `M p0 L q L q₁ … L qₖ Z`, end to end (extends `Proofs/C13.lean`, which does
    one open sub-path).  Same setting: lawful `K`, `LawfulHypotSq K`, non-negative / positive pattern entries; everything is
    about the model `Kurbo/Dash.lean` as it is and conditional on `dash … = .ok out` (no fuel bound), except
    `dash_closed_short_returns`.  Specification side: `DashSpec.walk`/`walkList` of C13 over the perimeter
    `polyLens p0 (q :: (pts ++ [p0]))` = `|p0 q|, |q q₁|, …, |qₖ p0|`; when `qₖ = p0` the model adds no closing line and the
    last entry of that list is `0`, so both cases (`qₖ ≠ p0`, `qₖ = p0`) are covered by the same statements.
    `ph'` = the specification's pattern position at the closing point (`ph'.act` = "on at the closing point").
    Helper lemmas: `Proofs/Lemmas/C13BFrame.lean` (the `ClosePath` arm of `get_input`, playback with a pending `ClosePath`),
    `C13BClose.lean` (the iterator followed to `handle_closepath`, from `Working` and from `ToStash`), `C13BTotal.lean` (one
    closed sub-path as a run – `Run`, `Proofs/Lemmas/C13Open.lean` – from "ready" to "ready": `c13b_closed_subpath`),
    `C13BReal.lean` (forward execution, witness over ℝ).

    PROVED
    * `dash_closed_conserves`, `dash_closed_spec_onlength`: the total stroke length of `out` (`drawnLen`: sum of the
      lengths of the `LineTo` strokes; `MoveTo` moves the pen; `ClosePath` counts as nothing) equals the on-length of the
      pattern, started at the position of the offset, over one straight stretch of the length of the perimeter; it lies in
      `[0, perimeter]`.
    * `dash_closed_join`: pattern on at the offset, first dash shorter than the perimeter: `out = E ++ N` if the pattern is
      on at the closing point – `E` ends with `LineTo p0`, `N` (the stashed first dash without its `MoveTo`) consists of
      `LineTo`s only, of total length `it.dash_remaining` from `p0` (the first dash): no `MoveTo` between the last dash and
      the first, one contour – and `out = E ++ MoveTo p0 :: N` if it is off there.  Pattern off at the offset and on at
      the closing point: `out` ends with `LineTo p0`.
    * `dash_closed_whole`: the whole sub-path inside the first dash: `out` is the whole sub-path, in order, `ClosePath` last:
      `M p0, L q, …, L qₖ, L p0, Z` when `qₖ ≠ p0` (the closing line is made explicit) and `M p0, L q, …, L qₖ, Z` – the
      input itself – when `qₖ = p0`; `dash_closed_whole_closePath_last`: in both cases `out = MoveTo p0 :: ls ++ [ClosePath]`
      with `ls` consisting of `LineTo`s only.  (`DashIterator::step` pushes the last piece of a segment to the stash before
      `get_input` appends the `ClosePath`.  Checked on the model over `Rat` below.)
    * `dash_closed_phase_reset`: with arbitrary further input `rest` after the `ClosePath`, `collect()` passes through a
      state that is `NeedInput`, has `rest` as input, an empty stash, nothing pending, and the phase
      (`dash_ix`, `dash_remaining`, `is_active`) and `init_*` fields of the iterator that `dash_impl` built – having
      collected strokes of total length = the on-length so far.
    * `dash_two_closed_conserves`: consequence: two closed sub-paths in one path – the second is dashed like a first one
      (its on-length is computed from the same start position).
    * `dash_closed_short_returns`: `M p0 L q Z` inside the first dash: `dash` returns (unconditionally) `M p0 L q L p0 Z`.

    NOT PROVED
    * the arc-length interval of every single piece (as in C13): of `N` it is proved that it consists of `LineTo`s of total
      length `it.dash_remaining` starting at `p0`, of `E` its total length and its last element, not that the points of
      `N`/`E` are the path's vertices and switch points in order (per `step` this is `dash_step_line_switch` of C13);
    * that `dash` returns (a fuel/budget bound) beyond `dash_closed_short_returns`;
    * a closed sub-path preceded by an open one, or followed by an open one (C13's open-path theorem needs the end of the
      input); only closed ∘ closed is assembled (`dash_two_closed_conserves`; `c13b_closed_subpath` is the reusable step);
    * curves; patterns with entries `≤ 0`; `Rat` is not a `LawfulHypotSq` instance, so the join cases are witnessed by
      evaluating the model over `Rat` (axis-parallel squares, `hypot` exact) and the hypotheses of the theorems over ℝ
      only by the short closed path `M (0,0) L (1,0) Z`, pattern [4] (`c13b_exReal_closed_ok`). -/
namespace Kurbo
open DashSpec
variable {K : Type} [Field K] [LinearOrder K] [IsStrictOrderedRing K] [FloorRing K] [Scalar K] [LawfulScalar K]

/-- **`dash` on `M p0 L q L q₁ … L qₖ Z` conserves the on-length.**  `it` = the iterator `dash_impl` builds
    (`0 ≤ it.dash_remaining`: its `while` loop ended, `dash_impl_phase`), pattern non-negative; the specification walks the
    segment lengths of the perimeter (closing line included; its length is 0 when `qₖ = p0`) from the start position `it.ph`
    and covers the on-length `o`.  If `dash` returns `out`, the strokes of `out` have total length `o` (from whatever pen
    position), and `o` is the on-length of one straight stretch of the length of the perimeter. -/
theorem dash_closed_conserves [LawfulHypotSq K] (p0 q : Point K) (pts : List (Point K)) (off : K) (dashes : Array K)
    (budget : Nat) (it : DashIt K)
    (hit : dashImpl (.MoveTo p0 :: .LineTo q :: (pts.map .LineTo ++ [.ClosePath])) off dashes = some it)
    (hn : 0 < dashes.size) (h0 : 0 ≤ it.dash_remaining) (hpat : ∀ i, 0 ≤ cyc dashes i)
    (f : Nat) (o : K) (ph' : Ph K)
    (hw : walkList dashes.size (cyc dashes) f it.ph (polyLens p0 (q :: (pts ++ [p0]))) = some (o, ph'))
    (out : List (PathEl K))
    (hout : dash (.MoveTo p0 :: .LineTo q :: (pts.map .LineTo ++ [.ClosePath])) off dashes budget = .ok out) :
    (∀ pen, drawnLen pen out = o) ∧
    walk dashes.size (cyc dashes) (f * (pts.length + 2)) it.ph (polyLens p0 (q :: (pts ++ [p0]))).sum = some (o, ph') := by
  refine ⟨(c13b_dash_closed_out p0 q pts off dashes budget it hit hn h0 hpat f o ph' hw out hout).len, ?_⟩
  have := walkList_eq_walk dashes.size (cyc dashes) f (polyLens q (pts ++ [p0])) ((Line.mk p0 q).arclen 0) it.ph ph' o
    (polyLens_nonneg _ _) hw
  rw [polyLens_length, List.length_append, List.length_singleton] at this
  simpa [polyLens] using this

/-- **The same with the natural hypotheses only**: a non-empty pattern of positive entries, `steps` = the first entry of the
    repeated pattern that ends at or after the offset (`dash_impl_phase_exists`), and `dash` returned `out`: the strokes of
    `out` have total length = the on-length, over one straight stretch of the length of the perimeter, of the pattern started
    at the position of the offset; it lies between `0` and the perimeter. -/
theorem dash_closed_spec_onlength [LawfulHypotSq K] (p0 q : Point K) (pts : List (Point K)) (off : K)
    (dashes : Array K) (budget : Nat) (hn : 0 < dashes.size) (hpos : ∀ i, (h : i < dashes.size) → 0 < dashes[i])
    (steps : Nat) (hf : steps ≤ 100000) (hmin : ∀ k < steps, prefixSum dashes k < off)
    (hlast : off ≤ prefixSum dashes steps) (out : List (PathEl K))
    (hout : dash (.MoveTo p0 :: .LineTo q :: (pts.map .LineTo ++ [.ClosePath])) off dashes budget = .ok out) :
    ∃ (f : Nat) (o : K) (ph' : Ph K),
      walk dashes.size (cyc dashes) f ⟨steps % dashes.size, prefixSum dashes steps - off, decide (steps % 2 = 0)⟩
        (polyLens p0 (q :: (pts ++ [p0]))).sum = some (o, ph') ∧
      (∀ pen, drawnLen pen out = o) ∧ 0 ≤ o ∧ o ≤ (polyLens p0 (q :: (pts ++ [p0]))).sum := by
  obtain ⟨it, hit, e1, e2, e3, e4, -, -⟩ :=
    dash_impl_phase (.MoveTo p0 :: .LineTo q :: (pts.map .LineTo ++ [.ClosePath])) dashes hn off steps 100000 hf hmin hlast
  obtain ⟨m, hm0, hm⟩ := exists_pos_lower_bound dashes hn hpos
  have hpat : ∀ i, 0 ≤ cyc dashes i := fun i => le_trans hm0.le (hm i)
  have hnn := polyLens_nonneg p0 (q :: (pts ++ [p0]))
  obtain ⟨f, ⟨o, ph'⟩, hw⟩ :=
    walkList_exists dashes.size (cyc dashes) m hm0 hm (polyLens p0 (q :: (pts ++ [p0]))) hnn it.ph e3
  obtain ⟨c1, c2⟩ := dash_closed_conserves p0 q pts off dashes budget it hit hn e3 hpat f o ph' hw out hout
  have hph : it.ph = ⟨steps % dashes.size, prefixSum dashes steps - off, decide (steps % 2 = 0)⟩ := by
    unfold DashIt.ph; rw [e1, e2, e4]
  rw [hph] at c2
  have hb := walk_bounds dashes.size (cyc dashes) hpat _ _ ph' _ o (sub_nonneg.mpr hlast) (List.sum_nonneg hnn) c2
  exact ⟨_, o, ph', c2, c1, hb.1, hb.2.1⟩
/-- the hypotheses are satisfiable over ℝ (`c13b_exReal_closed_ok`: `M (0,0) L (1,0) Z`, pattern [4], offset 0, `steps = 0`;
    `dash` does return there, `dash_closed_short_returns`); the extra hypotheses of `dash_closed_conserves`,
    `dash_closed_join`, `dash_closed_whole` (`dashImpl … = some it`, `0 ≤ it.dash_remaining`, the specification's walk) are
    derived from these inside the proof above -/
example : ∃ (_ : Scalar ℝ) (_ : LawfulScalar ℝ) (_ : LawfulHypotSq ℝ) (p0 q : Point ℝ) (pts : List (Point ℝ)) (off : ℝ)
    (dashes : Array ℝ) (budget steps : Nat) (out : List (PathEl ℝ)),
    0 < dashes.size ∧ (∀ i, (h : i < dashes.size) → 0 < dashes[i]) ∧ steps ≤ 100000 ∧
    (∀ k < steps, prefixSum dashes k < off) ∧ off ≤ prefixSum dashes steps ∧
    dash (.MoveTo p0 :: .LineTo q :: (pts.map .LineTo ++ [.ClosePath])) off dashes budget = .ok out := by
  obtain ⟨i1, i2, i3, h1, h2, h3, h4⟩ := c13b_exReal_closed_ok
  exact ⟨i1, i2, i3, ⟨0, 0⟩, ⟨1, 0⟩, [], 0, #[4], 10, 0, _, by decide, h2, by omega, h3, h4, h1⟩
/-- the model on such input over `Rat`: unit square, pattern [3,1], offset 0 (`steps = 0`, on-length 3 of perimeter 4; the
    dash ends exactly at the corner (0,1), which yields a zero-length `LineTo`) -/
example : (∀ i, (h : i < (#[3, 1] : Array Rat).size) → 0 < (#[3, 1] : Array Rat)[i]) ∧
    (0 : Rat) ≤ prefixSum #[3, 1] 0 ∧
    walk 2 (cyc (#[3, 1] : Array Rat)) 3 ⟨0, 3, true⟩ 4 = some (3, ⟨1, 0, false⟩) ∧
    (dash [.MoveTo ⟨0, 0⟩, .LineTo ⟨1, 0⟩, .LineTo ⟨1, 1⟩, .LineTo ⟨0, 1⟩, .ClosePath] (0 : Rat) #[3, 1]).okList =
      some [.MoveTo ⟨0, 0⟩, .LineTo ⟨1, 0⟩, .LineTo ⟨1, 1⟩, .LineTo ⟨0, 1⟩, .LineTo ⟨0, 1⟩] := by
  decide +kernel

/-- **Join.**  Hypotheses as in `dash_closed_conserves`.
    * Pattern on at the offset (`it.is_active`): there are `N` (what the first dash put on the stash after its `MoveTo p0`)
      and `E` (what was emitted after the first dash) with `length(N from p0) + length(E) = o`; if the first dash is shorter
      than the perimeter, `N` consists of `LineTo`s only, of total length `it.dash_remaining` (the first dash), and
      - pattern on at the closing point: `out = E ++ N` and `E` ends with `LineTo p0`: the last dash runs through `p0` into
        the first dash, no `MoveTo` in between (the stash is replayed from index 1);
      - pattern off at the closing point: `out = E ++ MoveTo p0 :: N` (the stash is replayed with its `MoveTo`).
    * Pattern off at the offset and on at the closing point: `out` ends with `LineTo p0`. -/
theorem dash_closed_join [LawfulHypotSq K] (p0 q : Point K) (pts : List (Point K)) (off : K) (dashes : Array K)
    (budget : Nat) (it : DashIt K)
    (hit : dashImpl (.MoveTo p0 :: .LineTo q :: (pts.map .LineTo ++ [.ClosePath])) off dashes = some it)
    (hn : 0 < dashes.size) (h0 : 0 ≤ it.dash_remaining) (hpat : ∀ i, 0 ≤ cyc dashes i)
    (f : Nat) (o : K) (ph' : Ph K)
    (hw : walkList dashes.size (cyc dashes) f it.ph (polyLens p0 (q :: (pts ++ [p0]))) = some (o, ph'))
    (out : List (PathEl K))
    (hout : dash (.MoveTo p0 :: .LineTo q :: (pts.map .LineTo ++ [.ClosePath])) off dashes budget = .ok out) :
    (it.is_active = true → ∃ N E, (∀ pen, drawnLen p0 N + drawnLen pen E = o) ∧
      (it.dash_remaining < (polyLens p0 (q :: (pts ++ [p0]))).sum →
        (∀ el ∈ N, ∃ p, el = PathEl.LineTo p) ∧
        (ph'.act = true → out = E ++ N ∧ ∃ E', E = E' ++ [.LineTo p0]) ∧
        (ph'.act = false → out = E ++ .MoveTo p0 :: N) ∧ drawnLen p0 N = it.dash_remaining)) ∧
    (it.is_active = false → ph'.act = true → ∃ E', out = E' ++ [.LineTo p0]) := by
  have hO := c13b_dash_closed_out p0 q pts off dashes budget it hit hn h0 hpat f o ph' hw out hout
  refine ⟨fun ha => ?_, hO.off⟩
  obtain ⟨N, E, d1, d2, -⟩ := hO.on ha
  refine ⟨N, E, d1, fun hlt => ?_⟩
  obtain ⟨e1, e2, e3, e4⟩ := d2 hlt
  exact ⟨e1, fun hp => ⟨(e2 hp).1, (e2 hp).2.2⟩, e3, e4⟩
/-- the model over `Rat`, unit square.  Pattern [1,2], offset 0: on [0,1] and [3,4]: on at the offset and at the closing
    point – joined: one contour (0,1)–(0,0)–(1,0), no `MoveTo` at (0,0).  Offset 1/2: on [0,1/2] and [5/2,7/2], off at the
    closing point: the first dash comes back with its `MoveTo (0,0)`.  Offset 3/2 (`steps = 1`): off at the offset. -/
example : (dash [.MoveTo ⟨0, 0⟩, .LineTo ⟨1, 0⟩, .LineTo ⟨1, 1⟩, .LineTo ⟨0, 1⟩, .ClosePath] (0 : Rat) #[1, 2]).okList =
      some [.MoveTo ⟨0, 1⟩, .LineTo ⟨0, 0⟩, .LineTo ⟨1, 0⟩, .LineTo ⟨1, 0⟩] ∧
    (dash [.MoveTo ⟨0, 0⟩, .LineTo ⟨1, 0⟩, .LineTo ⟨1, 1⟩, .LineTo ⟨0, 1⟩, .ClosePath] (1 / 2 : Rat) #[1, 2]).okList =
      some [.MoveTo ⟨1 / 2, 1⟩, .LineTo ⟨0, 1⟩, .LineTo ⟨0, 1 / 2⟩, .MoveTo ⟨0, 0⟩, .LineTo ⟨1 / 2, 0⟩] ∧
    (dash [.MoveTo ⟨0, 0⟩, .LineTo ⟨1, 0⟩, .LineTo ⟨1, 1⟩, .LineTo ⟨0, 1⟩, .ClosePath] (3 / 2 : Rat) #[1, 2]).okList =
      some [.MoveTo ⟨1, 1 / 2⟩, .LineTo ⟨1, 1⟩, .LineTo ⟨1 / 2, 1⟩] ∧
    (dashImpl ([] : List (PathEl Rat)) 0 #[1, 2]).map (fun it => (it.is_active, decide (it.dash_remaining < 4)))
      = some (true, true) ∧
    walk 2 (cyc (#[1, 2] : Array Rat)) 3 ⟨0, 1, true⟩ 4 = some (2, ⟨0, 0, true⟩) ∧
    walk 2 (cyc (#[1, 2] : Array Rat)) 4 ⟨0, 1 / 2, true⟩ 4 = some (3 / 2, ⟨1, 3 / 2, false⟩) := by
  decide +kernel

/-- **The whole sub-path inside the first dash** (pattern on at the offset, first dash not shorter than the perimeter): the
    output is the whole closed contour in order, `ClosePath` last:
    `M p0, L q, …, L qₖ, L p0, Z` if `qₖ ≠ p0` (with the closing line), and `M p0, L q, …, L qₖ, Z` (the input) if `qₖ = p0`. -/
theorem dash_closed_whole [LawfulHypotSq K] (p0 q : Point K) (pts : List (Point K)) (off : K) (dashes : Array K)
    (budget : Nat) (it : DashIt K)
    (hit : dashImpl (.MoveTo p0 :: .LineTo q :: (pts.map .LineTo ++ [.ClosePath])) off dashes = some it)
    (hn : 0 < dashes.size) (h0 : 0 ≤ it.dash_remaining) (hpat : ∀ i, 0 ≤ cyc dashes i)
    (f : Nat) (o : K) (ph' : Ph K)
    (hw : walkList dashes.size (cyc dashes) f it.ph (polyLens p0 (q :: (pts ++ [p0]))) = some (o, ph'))
    (out : List (PathEl K))
    (hout : dash (.MoveTo p0 :: .LineTo q :: (pts.map .LineTo ++ [.ClosePath])) off dashes budget = .ok out)
    (hact : it.is_active = true) (hge : ¬ it.dash_remaining < (polyLens p0 (q :: (pts ++ [p0]))).sum) :
    ((q :: pts).getLast (List.cons_ne_nil q pts) ≠ p0 →
      out = .MoveTo p0 :: ((q :: pts).map .LineTo ++ [.LineTo p0, .ClosePath])) ∧
    ((q :: pts).getLast (List.cons_ne_nil q pts) = p0 →
      out = .MoveTo p0 :: ((q :: pts).map .LineTo ++ [.ClosePath])) := by
  obtain ⟨N, E, -, -, d3⟩ :=
    (c13b_dash_closed_out p0 q pts off dashes budget it hit hn h0 hpat f o ph' hw out hout).on hact
  obtain ⟨-, e2, e3⟩ := d3 hge
  rw [e3, e2, c13b_wholeN_eq, c13b_lastPt_eq_getLast]
  constructor
  · intro h
    rw [if_neg (fun hp => h ((peq_iff _ _).mp hp))]
  · intro h
    rw [if_pos ((peq_iff _ _).mpr h)]
/-- the model over `Rat`: unit square inside the dash of pattern [5,1] (also with the perimeter exactly: [4,1]); the same
    with an explicit last `LineTo (0,0)` (`qₖ = p0`): the output is the input -/
example : (dash [.MoveTo ⟨0, 0⟩, .LineTo ⟨1, 0⟩, .LineTo ⟨1, 1⟩, .LineTo ⟨0, 1⟩, .ClosePath] (0 : Rat) #[5, 1]).okList =
      some [.MoveTo ⟨0, 0⟩, .LineTo ⟨1, 0⟩, .LineTo ⟨1, 1⟩, .LineTo ⟨0, 1⟩, .LineTo ⟨0, 0⟩, .ClosePath] ∧
    (dash [.MoveTo ⟨0, 0⟩, .LineTo ⟨1, 0⟩, .LineTo ⟨1, 1⟩, .LineTo ⟨0, 1⟩, .ClosePath] (0 : Rat) #[4, 1]).okList =
      some [.MoveTo ⟨0, 0⟩, .LineTo ⟨1, 0⟩, .LineTo ⟨1, 1⟩, .LineTo ⟨0, 1⟩, .LineTo ⟨0, 0⟩, .ClosePath] ∧
    (dash [.MoveTo ⟨0, 0⟩, .LineTo ⟨1, 0⟩, .LineTo ⟨1, 1⟩, .LineTo ⟨0, 1⟩, .LineTo ⟨0, 0⟩, .ClosePath] (0 : Rat)
        #[5, 1]).okList =
      some [.MoveTo ⟨0, 0⟩, .LineTo ⟨1, 0⟩, .LineTo ⟨1, 1⟩, .LineTo ⟨0, 1⟩, .LineTo ⟨0, 0⟩, .ClosePath] ∧
    (dashImpl ([] : List (PathEl Rat)) 0 #[5, 1]).map (fun it => (it.is_active, decide (it.dash_remaining < 4)))
      = some (true, false) := by
  decide +kernel

/-- **… without case distinction**: the output is `MoveTo p0`, then `LineTo`s only, then the `ClosePath` – one closed
    contour, `ClosePath` last (so a consumer draws every stroke from the end of the previous one); the strokes have the total
    length `o` of `dash_closed_conserves`. -/
theorem dash_closed_whole_closePath_last [LawfulHypotSq K] (p0 q : Point K) (pts : List (Point K)) (off : K)
    (dashes : Array K) (budget : Nat) (it : DashIt K)
    (hit : dashImpl (.MoveTo p0 :: .LineTo q :: (pts.map .LineTo ++ [.ClosePath])) off dashes = some it)
    (hn : 0 < dashes.size) (h0 : 0 ≤ it.dash_remaining) (hpat : ∀ i, 0 ≤ cyc dashes i)
    (f : Nat) (o : K) (ph' : Ph K)
    (hw : walkList dashes.size (cyc dashes) f it.ph (polyLens p0 (q :: (pts ++ [p0]))) = some (o, ph'))
    (out : List (PathEl K))
    (hout : dash (.MoveTo p0 :: .LineTo q :: (pts.map .LineTo ++ [.ClosePath])) off dashes budget = .ok out)
    (hact : it.is_active = true) (hge : ¬ it.dash_remaining < (polyLens p0 (q :: (pts ++ [p0]))).sum) :
    ∃ ls : List (Point K), out = .MoveTo p0 :: (ls.map .LineTo ++ [.ClosePath]) ∧
      (∀ pen, drawnLen pen out = o) ∧
      (ls = q :: pts ∨ ls = (q :: pts) ++ [p0]) := by
  obtain ⟨h1, h2⟩ := dash_closed_whole p0 q pts off dashes budget it hit hn h0 hpat f o ph' hw out hout hact hge
  have hlen := (dash_closed_conserves p0 q pts off dashes budget it hit hn h0 hpat f o ph' hw out hout).1
  by_cases h : (q :: pts).getLast (List.cons_ne_nil q pts) = p0
  · exact ⟨q :: pts, h2 h, hlen, Or.inl rfl⟩
  · refine ⟨(q :: pts) ++ [p0], ?_, hlen, Or.inr rfl⟩
    rw [h1 h]
    simp
/-- `M p0 L q Z` (`q ≠ p0`) inside the first dash: `dash` does return, for every lawful scalar (no fuel or budget
    problem), namely `M p0, L q, L p0, Z`. -/
theorem dash_closed_short_returns (p0 q : Point K) (off : K) (dashes : Array K) (budget : Nat) (it : DashIt K)
    (hit : dashImpl [.MoveTo p0, .LineTo q, .ClosePath] off dashes = some it) (hn : 0 < dashes.size) (hne : q ≠ p0)
    (hact : it.is_active = true) (hge1 : ¬ it.dash_remaining < (Line.mk p0 q).arclen 0)
    (hge2 : ¬ it.dash_remaining - (Line.mk p0 q).arclen 0 < (Line.mk q p0).arclen 0) (hb : 5 ≤ budget) :
    dash [.MoveTo p0, .LineTo q, .ClosePath] off dashes budget = .ok [.MoveTo p0, .LineTo q, .LineTo p0, .ClosePath] :=
  c13b_dash_closed_short p0 q off dashes budget it hit hn hne hact hge1 hge2 hb
example : (dashImpl [.MoveTo ⟨0, 0⟩, .LineTo ⟨1, 0⟩, .ClosePath] (0 : Rat) #[4]).map
      (fun it => (it.is_active, decide (it.dash_remaining < (Line.mk (⟨0, 0⟩ : Point Rat) ⟨1, 0⟩).arclen 0),
        decide (it.dash_remaining - (Line.mk (⟨0, 0⟩ : Point Rat) ⟨1, 0⟩).arclen 0
          < (Line.mk (⟨1, 0⟩ : Point Rat) ⟨0, 0⟩).arclen 0)))
    = some (true, false, false) ∧ (⟨1, 0⟩ : Point Rat) ≠ ⟨0, 0⟩ := by decide +kernel

/-- **Phase reset.**  Input `M p0 L q … L qₖ Z` followed by arbitrary `rest`.  If `dash` returns `out`, then `collect()`
    (`collectFrom`: `collect()` seen from inside a `next` call, `Proofs/Lemmas/C13Open.lean`) passes through a state `sE`,
    having collected `O` (strokes of total length `o`), such that `sE` is in state `NeedInput` with `rest` as remaining
    input, an empty stash, no pending `ClosePath`, and the same phase and `init_*` fields as the iterator `it` that
    `dash_impl` built: `sE` differs from `{ it with inner := rest }` only in `current_seg`, `t`, `seg_remaining`,
    `start_pt`, `last_pt`, which the next `MoveTo`/segment overwrites – a following sub-path is dashed like a first one. -/
theorem dash_closed_phase_reset [LawfulHypotSq K] (p0 q : Point K) (pts : List (Point K)) (rest : List (PathEl K))
    (off : K) (dashes : Array K) (budget : Nat) (it : DashIt K)
    (hit : dashImpl (.MoveTo p0 :: .LineTo q :: (pts.map .LineTo ++ .ClosePath :: rest)) off dashes = some it)
    (hn : 0 < dashes.size) (h0 : 0 ≤ it.dash_remaining) (hpat : ∀ i, 0 ≤ cyc dashes i)
    (f : Nat) (o : K) (ph' : Ph K)
    (hw : walkList dashes.size (cyc dashes) f it.ph (polyLens p0 (q :: (pts ++ [p0]))) = some (o, ph'))
    (out : List (PathEl K))
    (hout : dash (.MoveTo p0 :: .LineTo q :: (pts.map .LineTo ++ .ClosePath :: rest)) off dashes budget = .ok out) :
    ∃ n fuel sE O, collectFrom n fuel sE O.reverse = .ok out ∧ (∀ pen, drawnLen pen O = o) ∧
      sE.inner = rest ∧ sE.state = .NeedInput ∧ sE.stash = #[] ∧ sE.stash_ix = 0 ∧ sE.closepath_pending = false ∧
      sE.input_done = false ∧
      sE.dash_ix = it.dash_ix ∧ sE.dash_remaining = it.dash_remaining ∧ sE.is_active = it.is_active ∧
      sE.dashes = it.dashes ∧ sE.init_dash_ix = it.init_dash_ix ∧ sE.init_dash_remaining = it.init_dash_remaining ∧
      sE.init_is_active = it.init_is_active := by
  obtain ⟨n, fuel, sE, O, c1, hnext, hO⟩ :=
    c13b_dash_closed_reach p0 q pts rest off dashes budget it hit hn h0 hpat f o ph' hw out hout
  obtain ⟨-, -, -, -, r5⟩ := dashImpl_ready _ off dashes it hit hn h0
  have c2 := hnext.ready
  have c4 := hnext.init
  have c5 := hnext.phase
  exact ⟨n, fuel, sE, O, c1, hO.len, hnext.inner, c2.state, c2.stash, c2.stash_ix, c2.cp, c2.done,
    c5.1.trans (c4.2.1.trans r5.1.symm), c5.2.1.trans (c4.2.2.1.trans r5.2.1.symm),
    c5.2.2.trans (c4.2.2.2.trans r5.2.2.symm), c4.1, c4.2.1, c4.2.2.1, c4.2.2.2⟩

/-- **Two closed sub-paths in one path.**  The second one is dashed like a first one: the total stroke length of `out` is
    the on-length of the first perimeter plus the on-length of the second, both computed from the same start position
    `it.ph` (the pattern restarts after the `ClosePath`). -/
theorem dash_two_closed_conserves [LawfulHypotSq K] (p0 q : Point K) (pts : List (Point K)) (p0' q' : Point K)
    (pts' : List (Point K)) (off : K) (dashes : Array K) (budget : Nat) (it : DashIt K)
    (hit : dashImpl (.MoveTo p0 :: .LineTo q :: (pts.map .LineTo ++ .ClosePath ::
      (.MoveTo p0' :: .LineTo q' :: (pts'.map .LineTo ++ [.ClosePath])))) off dashes = some it)
    (hn : 0 < dashes.size) (h0 : 0 ≤ it.dash_remaining) (hpat : ∀ i, 0 ≤ cyc dashes i)
    (f : Nat) (o : K) (ph' : Ph K)
    (hw : walkList dashes.size (cyc dashes) f it.ph (polyLens p0 (q :: (pts ++ [p0]))) = some (o, ph'))
    (f₂ : Nat) (o₂ : K) (ph₂ : Ph K)
    (hw₂ : walkList dashes.size (cyc dashes) f₂ it.ph (polyLens p0' (q' :: (pts' ++ [p0']))) = some (o₂, ph₂))
    (out : List (PathEl K))
    (hout : dash (.MoveTo p0 :: .LineTo q :: (pts.map .LineTo ++ .ClosePath ::
      (.MoveTo p0' :: .LineTo q' :: (pts'.map .LineTo ++ [.ClosePath])))) off dashes budget = .ok out) :
    ∀ pen, drawnLen pen out = o + o₂ := by
  obtain ⟨n, fuel, sE, O, c1, hnext, hO⟩ :=
    c13b_dash_closed_reach p0 q pts _ off dashes budget it hit hn h0 hpat f o ph' hw out hout
  obtain ⟨-, -, r3, r4, -⟩ := dashImpl_ready _ off dashes it hit hn h0
  have c4 := hnext.init
  have hd : sE.dashes = dashes := c4.1.trans r3
  have hph : sE.initPh = it.ph := by
    rw [← r4]
    unfold DashIt.initPh
    rw [c4.2.1, c4.2.2.1, c4.2.2.2]
  obtain ⟨sE₂, O₂, d1, hnext₂, hO₂⟩ := c13b_closed_subpath p0' q' pts' [] sE hnext.ready hnext.inner
    (by rw [hd]; exact hpat) f₂ o₂ ph₂ (by rw [hd, hph]; exact hw₂)
  have := Finishes.out
    ⟨sE₂, d1, c13b_stops_end sE₂ hnext₂.ready.state hnext₂.ready.done hnext₂.ready.cp hnext₂.inner⟩ c1
  rw [List.reverse_reverse] at this
  intro pen
  rw [this, drawnLen_append, hO.len, hO₂.len]
/-- the model over `Rat`: two unit squares, pattern [1,2]: the second square comes out exactly like the first
    (on-length 2 + 2; each joined at its start point) -/
example : (dash [.MoveTo ⟨0, 0⟩, .LineTo ⟨1, 0⟩, .LineTo ⟨1, 1⟩, .LineTo ⟨0, 1⟩, .ClosePath,
      .MoveTo ⟨2, 0⟩, .LineTo ⟨3, 0⟩, .LineTo ⟨3, 1⟩, .LineTo ⟨2, 1⟩, .ClosePath] (0 : Rat) #[1, 2]).okList =
    some [.MoveTo ⟨0, 1⟩, .LineTo ⟨0, 0⟩, .LineTo ⟨1, 0⟩, .LineTo ⟨1, 0⟩,
          .MoveTo ⟨2, 1⟩, .LineTo ⟨2, 0⟩, .LineTo ⟨3, 0⟩, .LineTo ⟨3, 0⟩] := by decide +kernel

end Kurbo
