import Kurbo.Arclen
import Kurbo.Dash
import Proofs.C15
import Proofs.C17
import Proofs.C16
import Proofs.Lemmas.C13
/-! # C14 – core algorithms terminate after a bounded amount of work

What a theorem can carry for this property is the *bookkeeping* of the loops: how often a loop body runs, how deep a recursion
goes, how long an output is, and, for the SVG parser and the ITP solver, that the fuel argument of the hand-written model is not
what ends the loop (so that the fuel cannot hide non-termination of the Rust loop).  For `fit_inside`, whose recursion in the
crate has no depth bound, only this: more fuel never changes a positive answer (at fuel `0` the model answers `false`).  Nothing is
said about the fuel of `dashInitLoop` (at fuel `0` it returns `some`): `dashImpl_panics_iff_empty` is about the index panic only, not about the
termination of the `while dash_remaining < 0.0` loop.  NaN freedom of the stroker and the termination of `fit_to_bezpath_rec`, which
uses floating-point granularity (`t == start || t == end`), are decided by the budgeted replay on the crate built with the work
counters (`--cfg kurbo_verif`), see DESIGN.md; the cost model `arclenRecCalls` (`Kurbo/Arclen.lean`) is tied to that counter by correspondence
(op `cubic.arclen_work`). -/
set_option linter.unusedSectionVars false
namespace Kurbo

section structural
open Ops
variable {K : Type} [Scalar K]

/-- `arclen_rec` is activated at most `2^(fuel+1) − 1` times: the `depth >= 20` guard bounds the binary recursion, whatever the
    error estimates are (also NaN: every comparison is then false and the recursion goes to full depth – but not further) -/
theorem arclenRecCalls_le (fuel : Nat) (c : CubicBez K) (acc : K) : arclenRecCalls fuel c acc + 1 ≤ 2 ^ (fuel + 1) := by
  induction fuel generalizing c acc with
  | zero => unfold arclenRecCalls; simp only []; split_ifs <;> simp
  | succ n ih =>
    unfold arclenRecCalls; simp only []
    have h2 : 1 + 1 ≤ 2 ^ (n + 1 + 1) := Nat.pow_le_pow_right (Nat.succ_pos 1) (Nat.le_add_left 1 (n + 1))
    split_ifs
    · exact h2
    · exact h2
    · exact h2
    · have h1 := ih c.subdivide.1 (acc * (Scalar.ofRat (1/2) : K))
      have h3 := ih c.subdivide.2 (acc * (Scalar.ofRat (1/2) : K))
      rw [pow_succ 2 (n + 1)]
      omega

/-- `CubicBez::arclen`: at most `2^21 − 1 = 2097151` activations – below the replay budget of `10^7` -/
theorem cubic_arclen_work_bounded (c : CubicBez K) (acc : K) : c.arclenCalls acc ≤ 2097151 := by
  have := arclenRecCalls_le 20 c acc
  unfold CubicBez.arclenCalls; norm_num at this; omega

/-- where the Gauss-8 error estimate is below the accuracy (the first test of `arclen_rec`) the recursion ends at once -/
theorem arclenRecCalls_leaf (fuel : Nat) (c : CubicBez K) (acc : K)
    (h : ((smin (spowi (arclenEst c).2.2.2.1 3 * (Scalar.ofRat (25/10000000) : K)) (Scalar.ofRat (3/100) : K) * (arclenEst c).2.2.2.2) <. acc) = true) :
    arclenRecCalls fuel c acc = 1 := by
  unfold arclenRecCalls; simp only []; rw [if_pos h]

theorem solvers_output_bounded (c0 c1 c2 c3 : K) :
    (solveQuadratic c0 c1 c2).length ≤ 2 ∧ (solveCubic c0 c1 c2 c3).length ≤ 3 :=
  ⟨solveQuadratic_length_le c0 c1 c2, solveCubic_length_le c0 c1 c2 c3⟩

/-- `to_quads` yields exactly `toQuadsN` pieces (the iterator is finite by construction; `toQuadsN` is a `usize`, no
    numeric bound on it is stated) -/
theorem toQuads_output_bounded (c : CubicBez K) (a : K) : (c.to_quads a).length = toQuadsN c a := (toQuads_length c a).1

theorem dashInitLoop_no_panic (dashes : Array K) (h : 0 < dashes.size) (fuel ix : Nat) (rem : K) (act : Bool) :
    dashInitLoop dashes fuel ix rem act ≠ none := by
  obtain ⟨r, hr, -⟩ := dashInitLoop_ok dashes h fuel ix rem act
  rw [hr]
  exact Option.some_ne_none r

/-- `dash_impl` panics exactly on the empty pattern (index `dashes[0]`), never elsewhere in the initial phase loop -/
theorem dashImpl_panics_iff_empty (inner : List (PathEl K)) (off : K) (dashes : Array K) (fuel : Nat) :
    dashImpl inner off dashes fuel = none ↔ dashes.size = 0 := by
  constructor
  · intro h
    by_contra hne
    obtain ⟨it, hit, -⟩ := dashImpl_ok inner off dashes fuel (Nat.pos_of_ne_zero hne)
    cases hit.symm.trans h
  · intro h
    have : dashes[0]? = none := by simp [h]
    simp [dashImpl, dashAt, this]

/-- `BezPath::from_svg` never panics and its loop always ends: the model parser (bit-identical to the crate on every corpus
    string) never reaches the `panic` outcome, which also stands for fuel exhaustion of `svgLoop` (fuel `len + 1`) – every loop
    iteration consumes at least one byte (C16 `loop_iteration_progress`) -/
theorem svg_parse_total (data : ByteArray) : fromSvgBytes (K := K) data ≠ .panic := from_svg_total data

/-- more fuel than `len + 1` changes nothing: the fuel is not what ends the parser loop -/
theorem svg_parse_fuel_irrelevant (f1 f2 : Nat) (st : SvgSt K) (l : Lx) (hwf : l.ix ≤ l.data.size) (hinv : st.Inv)
    (h1 : l.data.size - l.ix < f1) (h2 : l.data.size - l.ix < f2) : svgLoop f1 st l = svgLoop f2 st l :=
  svgLoop_fuel_irrelevant f1 f2 st l hwf hinv h1 h2

end structural

section lawful
variable {K : Type} [Field K] [LinearOrder K] [IsStrictOrderedRing K] [FloorRing K] [Scalar K] [LawfulScalar K]

/-- fuel beyond `n + 1` is never consumed by the ITP loop (`n = nmax` in `solve_itp`): with any fuel above `n` it returns what
    it returns with fuel `n + 1`, so the body runs at most `n + 1` times and the fuel of the model is not what ends the loop
    (C15 `itp_iterations`) -/
theorem itp_work_bounded (f : K → K) (ε k1 : K) (hk : 0 ≤ k1) (fuel n : Nat) (st : ItpSt K) (hI : ItpInv f st)
    (hse : st.scaled_epsilon = ε * 2 ^ n) (hw : st.b - st.a ≤ 2 * st.scaled_epsilon) (hn : n < fuel) :
    itpLoop f ε k1 fuel st = itpLoop f ε k1 (n + 1) st := itp_iterations f ε k1 hk fuel n st hI hse hw hn

/-- `fit_inside` (cubic → quadratic spline containment test): more fuel never changes a positive answer -/
theorem fitInside_fuel_irrelevant (c : CubicBez K) (d : K) (fuel fuel' : Nat) (hle : fuel ≤ fuel')
    (h : c.fit_inside d fuel = true) : c.fit_inside d fuel' = true := fitInside_fuel_mono c d fuel fuel' hle h

end lawful

-- non-vacuity: a cubic whose arc length needs subdivision, evaluated in exact rationals
example : (⟨⟨0, 0⟩, ⟨0, 100⟩, ⟨100, -100⟩, ⟨100, 0⟩⟩ : CubicBez Rat).arclenCalls (1 / 1000000000) > 1 := by decide +kernel

end Kurbo
