import Proofs.Lemmas.C07M
/-! # C07M – the `BezPath` mutators as a state machine (builder histories)

Model: `Kurbo/PathMut.lean` – the state of a `BezPath` is its element list; the constructors and `&mut self` methods transcribe
bezpath.rs including the `debug_assert!`s (outcome `MutRes.panic msg`; the crate is observed with debug assertions on); `mutStep` /
`mutRun` run one step / a history (`MutOp`), collecting the values returned by `pop`.  Tied to the crate by the op `path.mut`
(stratum `mutators` of `gen/c07.py`: implementation == model for `Float` and `Rat`, exactly, including which assertion fires).  All
theorems are structural: arbitrary `[Scalar K]`, hence verbatim for `Float`.

## Proved
1. **Refinement** – `mutStep_refines`, `mutRun_refines`: a history that does not panic leaves the state equal to the obvious list
   function of the history (`mutSpec`: `push` = append one, `pop` = `dropLast`, `truncate n` = `take n`, `extend` = append,
   `new`/`with_capacity` = `[]`, `from_vec v` = `v`, the drawing methods = append that element, `apply_affine a` = `map (a * ·)`), and
   the values returned by its `pop`s are the last elements under that semantics (`popValues`).  `mutRun_append`: histories compose.
   `builder_history_irrelevant`: `segments` / `get_seg` / `elements` / `is_empty` after a history are those of the list
   `ops.foldl mutSpec s` (trivial once the state is the list; this is item 7 of `Proofs/C07.lean`); `same_list_same_segments`: two
   histories with the same list semantics build the same path.
2. **Algebra of the mutators** – `pop_push` (`pop` after a successful `push` returns the element and restores the state),
   `truncate_len` (`truncate (len)` and any larger bound is the identity), `truncate_extend` (`extend` then `truncate` to the old length
   restores), `pop_eq_truncate` (`pop` = `truncate (len − 1)` + the last element), `extend_nil`, `pop_empty`, `history_push_pop` (the
   same as histories).
3. **When do the assertions fire** – `push_panics_iff`, `from_vec_panics_iff`: exact conditions (`push_panic_msg`: `push` has one
   message only); `drawing_panics_iff`: `line_to` / `quad_to` / `curve_to` / `close_path` panic with "uninitialized subpath" exactly on
   the empty path (on a non-empty path that does not start with `MoveTo` they panic through `push`, with its message).  `mutStep_inv`: the invariant `PathInv` (empty, or first element `MoveTo`) is preserved by every non-panicking step
   except `extend` (`extend_breaks_inv`: `extend` has no assertion, so `new` + `extend [LineTo]` is a `BezPath` that violates the
   invariant – the next `push` of whatever element panics, `push_after_bad_extend`).
4. **No panic for builder use** – `growing_never_panics`: from a state that starts with a `MoveTo`, any history made of the drawing
   methods, `push`, `extend`, `apply_affine` never panics, never returns a value, and ends in `state ++ …` starting with `MoveTo`;
   `drawing_from_move_to_never_panics`: in particular `new` followed by `move_to p` and any drawing methods builds exactly the
   element list `MoveTo p :: appended elements` without panic.

## NOT proved
* Capacity (`with_capacity`, reallocation) is not modelled; `elements_mut`, `FromIterator`, `IntoIterator` are not part of `MutOp`
  (`FromIterator` = `from_vec ∘ collect`).
* After a panic the model has no state (the history ends); in the crate `push` has already appended the element when its assertion
  fires (observable only through `catch_unwind` on a `&mut BezPath`, which the harness does not do).
* Nothing here is about `Float` arithmetic: `apply_affine` is `map (Affine.mul_PathEl a)`, whatever `*` and `+` do.
-/
set_option linter.unusedSectionVars false
namespace Kurbo
variable {K : Type} [Scalar K]

theorem mutStep_refines {s s' : BezPath K} {op : MutOp K} {out : Option (Option (PathEl K))}
    (h : mutStep s op = .ok (s', out)) :
    s' = mutSpec s op ∧ out = (match op with | .pop => some s.getLast? | _ => none) := by
  have happ : ∀ el : PathEl K, op.appended = some el → s' = s ++ [el] ∧ out = none := fun el ha =>
    ⟨(push_ok (mutStep_appended ha h).1).2, (mutStep_appended ha h).2⟩
  cases op with
  | new | with_capacity n | pop | truncate n | extend els | apply_affine a =>
    simp only [mutStep, BezPath.pop, MutRes.ok.injEq, Prod.mk.injEq] at h; exact ⟨h.1.symm, h.2.symm⟩
  | from_vec v =>
    simp only [mutStep, BezPath.from_vec] at h
    split at h
    · rename_i p hp
      split at hp
      · injection hp with hp; injection h with h; injection h with h1 h2; exact ⟨by rw [← h1, ← hp]; rfl, h2.symm⟩
      · cases hp
    · cases h
  | _ => exact happ _ rfl

/-- **any history that does not panic leaves the state equal to the obvious list function of the history**, and its `pop`s
    return what the list semantics says -/
theorem mutRun_refines (ops : List (MutOp K)) {s s' : BezPath K} {outs : List (Option (PathEl K))}
    (h : mutRun s ops = .ok (s', outs)) : s' = ops.foldl mutSpec s ∧ outs = popValues s ops := by
  induction ops generalizing s s' outs with
  | nil => simp only [mutRun, MutRes.ok.injEq, Prod.mk.injEq] at h; exact ⟨h.1.symm, h.2.symm⟩
  | cons op ops ih =>
    cases hst : mutStep s op with
    | panic m => rw [mutRun_cons_panic ops hst] at h; cases h
    | ok r =>
      obtain ⟨p, out⟩ := r
      rw [mutRun_cons_ok ops hst] at h
      cases hr : mutRun p ops with
      | panic m => rw [hr] at h; cases h
      | ok r' =>
        obtain ⟨q, outs'⟩ := r'
        rw [hr] at h
        simp only [MutRes.ok.injEq, Prod.mk.injEq] at h
        obtain ⟨hp, hout⟩ := mutStep_refines hst
        obtain ⟨hq, houts⟩ := ih hr
        subst hp
        refine ⟨by rw [← h.1, hq]; rfl, ?_⟩
        rw [← h.2, houts, hout]
        cases op <;> rfl

theorem mutRun_append (s : BezPath K) (ops₁ ops₂ : List (MutOp K)) :
    mutRun s (ops₁ ++ ops₂) = (match mutRun s ops₁ with
      | .panic m => .panic m
      | .ok (p, outs₁) => match mutRun p ops₂ with
        | .panic m => .panic m
        | .ok (q, outs₂) => .ok (q, outs₁ ++ outs₂)) := by
  induction ops₁ generalizing s with
  | nil =>
    simp only [List.nil_append, mutRun]
    cases mutRun s ops₂ with
    | panic m => rfl
    | ok r => obtain ⟨q, o⟩ := r; simp
  | cons op ops ih =>
    cases hst : mutStep s op with
    | panic m => rw [List.cons_append, mutRun_cons_panic _ hst, mutRun_cons_panic _ hst]
    | ok r =>
      obtain ⟨p, out⟩ := r
      rw [List.cons_append, mutRun_cons_ok _ hst, mutRun_cons_ok _ hst, ih p]
      cases mutRun p ops with
      | panic m => rfl
      | ok r1 =>
        obtain ⟨p1, o1⟩ := r1
        dsimp only
        cases mutRun p1 ops₂ with
        | panic m => rfl
        | ok r2 => obtain ⟨p2, o2⟩ := r2; simp

/-- the observations after a history depend on the final element list only, and that list is the fold of `mutSpec`:
    `segments`, `get_seg`, `elements`, `iter`, `is_empty` of the built path are those of `ops.foldl mutSpec s` -/
theorem builder_history_irrelevant (ops : List (MutOp K)) {s s' : BezPath K} {outs : List (Option (PathEl K))}
    (h : mutRun s ops = .ok (s', outs)) :
    BezPath.segments s' = segs (ops.foldl mutSpec s) ∧ (∀ ix, BezPath.get_seg s' ix = getSeg (ops.foldl mutSpec s) ix) ∧
    BezPath.elements s' = ops.foldl mutSpec s ∧ BezPath.iter s' = ops.foldl mutSpec s ∧
    BezPath.is_empty s' = BezPath.is_empty (ops.foldl mutSpec s) := by
  rw [(mutRun_refines ops h).1]
  exact ⟨rfl, fun _ => rfl, rfl, rfl, rfl⟩

theorem same_list_same_segments (ops₁ ops₂ : List (MutOp K)) {s s₁ s₂ : BezPath K} {o₁ o₂ : List (Option (PathEl K))}
    (h₁ : mutRun s ops₁ = .ok (s₁, o₁)) (h₂ : mutRun s ops₂ = .ok (s₂, o₂)) (h : ops₁.foldl mutSpec s = ops₂.foldl mutSpec s) :
    s₁ = s₂ ∧ BezPath.segments s₁ = BezPath.segments s₂ := by
  have : s₁ = s₂ := by rw [(mutRun_refines ops₁ h₁).1, (mutRun_refines ops₂ h₂).1, h]
  exact ⟨this, by rw [this]⟩

/-- a history with every kind of step, run by the model: final state and popped values (no arithmetic: `decide`) -/
example :
    mutRun (K := Rat) BezPath.new
      [.move_to ⟨1, 2⟩, .line_to ⟨3, 4⟩, .push .ClosePath, .pop, .quad_to ⟨0, 0⟩ ⟨1, 1⟩, .extend [.LineTo ⟨5, 6⟩, .ClosePath],
       .truncate 3, .pop, .pop, .pop, .pop, .with_capacity 4, .from_vec [.MoveTo ⟨7, 8⟩], .curve_to ⟨1, 1⟩ ⟨2, 2⟩ ⟨3, 3⟩, .close_path] =
    .ok ([.MoveTo ⟨7, 8⟩, .CurveTo ⟨1, 1⟩ ⟨2, 2⟩ ⟨3, 3⟩, .ClosePath],
         [some .ClosePath, some (.QuadTo ⟨0, 0⟩ ⟨1, 1⟩), some (.LineTo ⟨3, 4⟩), some (.MoveTo ⟨1, 2⟩), none]) := by decide +kernel

theorem pop_push {s s' : BezPath K} {el : PathEl K} (h : s.push el = .ok s') : s'.pop = (some el, s) := by
  rw [(push_ok h).2]
  simp [BezPath.pop]

theorem pop_empty : (BezPath.new : BezPath K).pop = (none, BezPath.new) := rfl

theorem truncate_len (s : BezPath K) (n : Nat) (h : s.length ≤ n) : s.truncate n = s := List.take_of_length_le h

theorem truncate_extend (s : BezPath K) (els : List (PathEl K)) : (s.extend els).truncate s.length = s := by
  simp [BezPath.truncate, BezPath.extend]

theorem pop_eq_truncate (s : BezPath K) : s.pop = (s.getLast?, s.truncate (s.length - 1)) := by
  simp [BezPath.pop, BezPath.truncate, List.dropLast_eq_take]

theorem extend_nil (s : BezPath K) : s.extend [] = s := by simp [BezPath.extend]

theorem history_push_pop (s : BezPath K) (el : PathEl K) (hs : BezPath.firstIsMoveTo s = true) :
    mutRun s [.push el, .pop] = .ok (s, [some el]) ∧
    mutRun s [.extend [el, el], .truncate s.length] = .ok (s, []) := by
  have h1 := push_ok_of_first hs el
  constructor
  · simp only [mutRun, mutStep, h1, BezPath.pop]
    simp
  · simp only [mutRun, mutStep, truncate_extend]
    rfl

example : BezPath.firstIsMoveTo ([.MoveTo ⟨0, 0⟩, .LineTo ⟨1, 1⟩] : BezPath Rat) = true := rfl

/-- `push` panics – with "BezPath must begin with MoveTo" – exactly when the path is empty and the element is not a `MoveTo`, or
    the path is non-empty and (by earlier abuse of `extend`) does not start with a `MoveTo` -/
theorem push_panics_iff (s : BezPath K) (el : PathEl K) :
    (∃ m, s.push el = .panic m) ↔ (s = [] ∧ BezPath.firstIsMoveTo [el] = false) ∨ (s ≠ [] ∧ BezPath.firstIsMoveTo s = false) := by
  have hm : ∀ b : Bool, (∃ m, (if b then MutRes.ok (s ++ [el]) else MutRes.panic PanicMsg.mustBeginWithMoveTo) = .panic m) ↔ b = false := by
    intro b; cases b <;> simp
  rw [push_eq, hm]
  cases s with
  | nil => simp
  | cons e r => rw [firstIsMoveTo_append_of_ne_nil (by simp)]; simp

theorem push_panic_msg {s : BezPath K} {el : PathEl K} {m : PanicMsg} (h : s.push el = .panic m) : m = .mustBeginWithMoveTo := by
  rw [push_eq] at h
  split at h
  · cases h
  · injection h with h; exact h.symm

theorem from_vec_panics_iff (v : List (PathEl K)) :
    (∃ m, BezPath.from_vec v = .panic m) ↔ (v ≠ [] ∧ BezPath.firstIsMoveTo v = false) := by
  unfold BezPath.from_vec
  cases v with
  | nil => simp
  | cons e r => cases h : BezPath.firstIsMoveTo (e :: r) <;> simp

theorem drawing_panics_iff (s : BezPath K) (p p1 p2 p3 : Point K) :
    (s.line_to p = .panic .uninitializedSubpath ↔ s = []) ∧ (s.quad_to p1 p2 = .panic .uninitializedSubpath ↔ s = []) ∧
    (s.curve_to p1 p2 p3 = .panic .uninitializedSubpath ↔ s = []) ∧ (s.close_path = .panic .uninitializedSubpath ↔ s = []) := by
  have key : ∀ el : PathEl K, ((if s.isEmpty then MutRes.panic PanicMsg.uninitializedSubpath else s.push el) =
      .panic .uninitializedSubpath ↔ s = []) := by
    intro el
    cases s with
    | nil => simp
    | cons e r =>
      simp only [List.isEmpty_cons, Bool.false_eq_true, if_false, reduceCtorEq, iff_false]
      intro h
      have := push_panic_msg h
      cases this
  exact ⟨key _, key _, key _, key _⟩

theorem mutStep_inv {s s' : BezPath K} {op : MutOp K} {out : Option (Option (PathEl K))} (hs : PathInv s)
    (h : mutStep s op = .ok (s', out)) (hop : ∀ els, op ≠ .extend els) : PathInv s' := by
  cases op with
  | new | with_capacity n => simp only [mutStep, MutRes.ok.injEq, Prod.mk.injEq] at h; exact .inl h.1.symm
  | from_vec v =>
    have hv : (v.isEmpty || BezPath.firstIsMoveTo v) = true := by
      cases hc : (v.isEmpty || BezPath.firstIsMoveTo v) with
      | true => rfl
      | false => simp [mutStep, BezPath.from_vec, hc] at h
    have hs' := (mutStep_refines h).1
    simp only [mutSpec] at hs'
    subst hs'
    cases s' with
    | nil => exact .inl rfl
    | cons e r => exact .inr (by simpa using hv)
  | pop =>
    simp only [mutStep, BezPath.pop, MutRes.ok.injEq, Prod.mk.injEq] at h
    rw [← h.1, List.dropLast_eq_take]
    exact hs.take _
  | truncate n =>
    simp only [mutStep, BezPath.truncate, MutRes.ok.injEq, Prod.mk.injEq] at h
    rw [← h.1]
    exact hs.take n
  | extend els => exact absurd rfl (hop els)
  | apply_affine a =>
    simp only [mutStep, BezPath.apply_affine, MutRes.ok.injEq, Prod.mk.injEq] at h
    rw [← h.1]
    rcases hs with hs | hs
    · exact .inl (by rw [hs]; rfl)
    · exact .inr (by rw [firstIsMoveTo_map]; exact hs)
  | _ => exact .inr (push_ok (mutStep_appended rfl h).1).1

/-- `extend` has no assertion: it can build a path that violates the invariant … -/
theorem extend_breaks_inv (p : Point K) : ¬ PathInv ((BezPath.new : BezPath K).extend [.LineTo p]) := by
  intro h
  rcases h with h | h
  · cases h
  · cases h

/-- … and then every later `push` (so every drawing method, `move_to` included) panics -/
theorem push_after_bad_extend {s : BezPath K} (hs : ¬ PathInv s) (el : PathEl K) : s.push el = .panic .mustBeginWithMoveTo := by
  have hne : s ≠ [] := fun h => hs (.inl h)
  have hf : BezPath.firstIsMoveTo s = false := by
    cases h : BezPath.firstIsMoveTo s with
    | false => rfl
    | true => exact absurd (.inr h) hs
  rw [push_eq, firstIsMoveTo_append_of_ne_nil hne, hf]
  rfl

example : mutRun (K := Rat) BezPath.new [.extend [.LineTo ⟨1, 2⟩], .move_to ⟨0, 0⟩] = .panic .mustBeginWithMoveTo := by decide +kernel
example : mutRun (K := Rat) BezPath.new [.move_to ⟨0, 0⟩, .pop, .line_to ⟨1, 1⟩] = .panic .uninitializedSubpath := by decide +kernel
example : mutRun (K := Rat) BezPath.new [.from_vec [.ClosePath]] = .panic .mustBeginWithMoveTo := by decide +kernel

/-- from a path that starts with a `MoveTo`, a history of drawing methods, `push`, `extend`, `apply_affine` never panics, returns no
    value, and ends in the fold of `mutSpec`, which still starts with a `MoveTo` -/
theorem growing_never_panics (ops : List (MutOp K)) {s : BezPath K} (hs : BezPath.firstIsMoveTo s = true)
    (hops : ∀ op ∈ ops, op.isGrowing = true) :
    mutRun s ops = .ok (ops.foldl mutSpec s, []) ∧ BezPath.firstIsMoveTo (ops.foldl mutSpec s) = true := by
  induction ops generalizing s with
  | nil => exact ⟨rfl, hs⟩
  | cons op ops ih =>
    obtain ⟨h1, h2⟩ := mutStep_growing hs op (hops op List.mem_cons_self)
    obtain ⟨h3, h4⟩ := ih h2 (fun o ho => hops o (List.mem_cons_of_mem _ ho))
    refine ⟨?_, h4⟩
    rw [mutRun_cons_ok ops h1, h3]
    rfl

/-- **a path built only with `move_to` / `line_to` / `quad_to` / `curve_to` / `close_path`, starting with `move_to`, never panics**;
    its elements are the appended elements in order -/
theorem drawing_from_move_to_never_panics (p : Point K) (ops : List (MutOp K)) (hops : ∀ op ∈ ops, op.isDrawing = true) :
    mutRun BezPath.new (.move_to p :: ops) = .ok (.MoveTo p :: ops.filterMap MutOp.appended, []) := by
  have hst : mutStep (BezPath.new : BezPath K) (.move_to p) = .ok ([.MoveTo p], none) := rfl
  have hg : ∀ op ∈ ops, op.isGrowing = true := by
    intro op hop
    have := hops op hop
    cases op <;> first | rfl | cases this
  have hfold : ∀ (ops : List (MutOp K)) (s : BezPath K), (∀ op ∈ ops, op.isDrawing = true) →
      ops.foldl mutSpec s = s ++ ops.filterMap MutOp.appended := by
    intro ops
    induction ops with
    | nil => intro s _; simp
    | cons op ops ih =>
      intro s h
      have h1 := h op List.mem_cons_self
      rw [List.foldl_cons, ih _ (fun o ho => h o (List.mem_cons_of_mem _ ho))]
      cases op <;> first | (simp only [MutOp.isDrawing, Bool.false_eq_true] at h1; done) | simp [mutSpec, MutOp.appended]
  rw [mutRun_cons_ok ops hst, (growing_never_panics ops (s := [.MoveTo p]) rfl hg).1, hfold ops _ hops]
  rfl

/-- the hypotheses on a concrete history; the element list that is built -/
example :
    let ops : List (MutOp Rat) := [.line_to ⟨1, 0⟩, .quad_to ⟨1, 1⟩ ⟨0, 1⟩, .close_path, .move_to ⟨2, 2⟩, .curve_to ⟨3, 3⟩ ⟨4, 4⟩ ⟨5, 5⟩]
    (∀ op ∈ ops, op.isDrawing = true) ∧
    mutRun BezPath.new (.move_to ⟨0, 0⟩ :: ops) =
      .ok ([.MoveTo ⟨0, 0⟩, .LineTo ⟨1, 0⟩, .QuadTo ⟨1, 1⟩ ⟨0, 1⟩, .ClosePath, .MoveTo ⟨2, 2⟩, .CurveTo ⟨3, 3⟩ ⟨4, 4⟩ ⟨5, 5⟩], []) :=
  ⟨by decide, by decide +kernel⟩

end Kurbo
