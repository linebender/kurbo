import Proofs.C04
import Proofs.Lemmas.C04RStruct
import Proofs.Lemmas.C04RReal
import Proofs.Lemmas.C04RJoin
import Proofs.Lemmas.C04RCap
import Proofs.Lemmas.C04COutline
/-! C04R – the geometry of ROUND joins and caps of the polyline stroker (`round_join`, `round_join_rev`, `round_cap` of
    stroke.rs; model `roundJoin`, `roundJoinRev`, `roundCap`, `roundJoinWith` of `Kurbo/Stroke.lean`, exactly as they are).
    The tolerance of the unit arc is `join_thresh = 2·tolerance/width`.

    What the code does.  `round_join(T, center, norm, angle)` outlines the UNIT circle about the origin from the angle `π − angle`
    through the sweep `angle` (so every such arc ends at the angle `π`, the point `(−1, 0)`) with `Arc::to_cubic_beziers` at the
    tolerance `T`, and maps each `CurveTo` by the affine map `[norm.x, norm.y, −norm.y, norm.x, center]`, i.e.
    `(x, y) ↦ center + x·norm + y·rot90(norm)` (`c04rAff`).  `round_join_rev` uses `[norm.x, norm.y, norm.y, −norm.x, center]`, i.e.
    `(x, y) ↦ center + x·norm − y·rot90(norm)` (`c04rAffRev`); `round_cap(T, center, norm) = round_join(T, center, norm, π)`.
    `do_join` and `finish` pass `T = self.join_thresh`.  `c04rN T angle`, `c04rPiece T angle k`, `c04rPt T angle k` are the number of
    pieces, piece `k` (a cubic) and the `k`-th division point of that unit arc (`Lemmas/C04RStruct.lean`).

    PROVED, part A (any `[Scalar K]`, also `Float`): structure.
    * `roundJoin_structure`, `roundJoinRev_structure`, `roundCap_structure`: the element list is `c04rN T angle` `CurveTo`s, element
      `k` is the image of the three points of piece `k` of the unit arc; drawn with the pen on the image of the arc's start point
      its segments are the images `A * c04rPiece T angle k`, joined end to end (`segs` does not panic).
    * `single_segment_round_caps_outline`: the outline of `MoveTo p0, LineTo p1` (`p1 != p0`) with round caps is
      `M(p0−n) L(p1−n) round_cap(T, p1, p1−(p1+n)) L(p0+n) round_cap(T, p0, n)`, `n = c04_norm w (p1−p0)`, `T = 2·tol/w`; no `ClosePath`.
    PROVED, part B (lawful scalars; ℝ with `LawfulTrig`, `LawfulCount`, the law classes of C10/C10A; where `atan2`/`hypot` enter
    also `LawfulReal`, `C04HypotLaw`).
    * `round_maps_similarity`: both affine maps multiply distances from `center` by `|norm|` (any lawful scalar).
    * `round_unit_arc`: for `T > 0` the unit arc's pieces are in the band `1 ≤ |B(t)| ≤ 1 + T` (C10A with `R = 1`), it starts at
      `(−cos angle, sin angle)`, ends at `(−1, 0)`, has no piece only for `angle = 0`.
    * `roundJoin_pieces_within`, `roundJoinRev_pieces_within`, `roundCap_pieces_within`: for `T > 0` every point `B(t)`,
      `t ∈ [0,1]`, of every cubic piece satisfies `|norm| ≤ |B(t) − center| ≤ |norm|·(1 + T)`.
      `round_pieces_within_stroke`: with `T = 2τ/w` (what the stroker passes; `w > 0` the width, `τ > 0` the stroke tolerance) and
      `|norm|² = (w/2)²` a number `d` in the band satisfies `w/2 ≤ d ≤ w/2 + τ`, the bound of the property: a round join/cap
      never enters the disc of radius `w/2` about the join point and leaves it by at most the tolerance.  (The theorem is this
      arithmetic step; the instance `T = join_thresh`, `norm = c04_norm w t` of the three theorems before it is not stated.)
    * `round_start_points`, `roundJoin_ends`, `roundJoinRev_ends`, `roundCap_ends` (every `T`): the start point of the
      image arc is `center − R(−angle)·norm` for `round_join`, `center − R(angle)·norm` for `round_join_rev`, `center + norm` for
      `round_cap` (`R(φ)` the rotation by `φ`); all three end exactly at `center − norm`.  In `do_join` the calls are
      `round_join(p0, norm, angle)` on the forward path (ends at `p0 − norm`, where `do_line` continues) and
      `round_join_rev(p0, −norm, −angle)` on the backward path (ends at `p0 + norm`).
    * `c04_do_join_round`, `roundJoin_starts_at_previous_offset`: the round branch of `do_join` written out (tolerance
      `c.join_thresh`); for `angle = atan2(ab × cd, ab · cd)` and `norm = c04_norm w cd`, the start point of `round_join(p0, norm, angle)`
      is `p0 − c04_norm w ab` and that of `round_join_rev(p0, −norm, −angle)` is `p0 + c04_norm w ab`: where the previous offset
      segment ended.
    * `roundCap_end_cap_returns`: the end cap `round_cap(last_pt, last_pt − return_p)` of `finish` ends exactly at `return_p`.
    * `c04_round_start_contour_returns`, `c04_finish_round_contour_returns` (independent of the tolerance): a contour of a polyline
      stroke with a round start cap returns to its `MoveTo` point: in the contour
      `MoveTo q, mid, round_cap T s n` the last element is a `CurveTo` whose end point is exactly `q`.
    * `round_cap_pieces`: a round cap has `n = c04rN T π ≥ 2` pieces of `π/n ≤ π/2` each, arm `4/3·tan(π/4n)` (`n` follows
      the tolerance).
    * `roundCap_beyond_end` (`T > 0`): every point `X` of a round cap satisfies `(X − center)·rot90(norm) ≥ 0` (control polygon of
      each piece): the cap stays on the far side of the line through `center ± norm`.
    * `single_segment_round_caps_band`: for `p1 ≠ p0`, `w > 0`, `τ > 0` the outline of
      `MoveTo p0, LineTo p1` with round caps has `2 + 2n` segments and every point `X` of every one of them is at distance
      `≤ w/2 + τ` from some point of the source segment and at distance `≥ w/2` from every point of the source segment (squared
      distances): the outline lies in the band `w/2 ≤ dist(·, segment) ≤ w/2 + τ`.

    NOT PROVED
    * the coverage claim proper for round joins/caps (non-zero winding number for every point closer than `w/2`; with round joins and
      caps the filled region being exactly the `w/2`-neighbourhood): only the band statement above, for one segment; nothing about
      winding numbers of the curved outline, and for polylines with round joins only the per-join statements.  For more than one
      segment the upper bound of the band (`≤ w/2 + τ` from some point of the source) is not stated; the lower bound (`≥ w/2`
      from every point of the source) is false there: on the inner side of a join the outline goes through the join point
      itself (`c04_inner_pivot_on_path`).
    * that the polar angle of `B(t)` stays between the end angles of its piece for a general `angle` (as in C10A: "within T of the
      circle", not "of the arc"); for the round cap the half-plane statement `roundCap_beyond_end` is proved.
    * that in a full `stroke_undashed` run the pen is on the start point of each round join / end cap when it is drawn.  (`do_line`
      appends last to both paths, so after every segment they end at `last_pt ∓ c04_norm w last_tan` – `c04_stepLine_empty`,
      `c04_stepLine_nonempty` – but no theorem states this for the loop.)  It is shown for the calls themselves
      (`roundJoin_starts_at_previous_offset`, `roundCap_end_cap_returns`) and, completely, for the one-segment path.  (The
      closure statement `c04_round_start_contour_returns` does not depend on it.)
    * `T ≤ 0` (zero/negative tolerance or width: `Arc::append_iter` divides by the tolerance), negative widths (`w < 0` makes `norm`
      point to the other side and the caps point inwards); anything about `Float` beyond part A. -/
set_option linter.unusedSectionVars false
namespace Kurbo

section structure_
variable {K : Type} [Scalar K]

/-- **`round_join` is the image of the unit arc.**  `A = c04rAff center norm`. -/
theorem roundJoin_structure (T : K) (center : Point K) (norm : Vec2 K) (angle : K) :
    (roundJoin T center norm angle).length = c04rN T angle ∧
    (∀ k, k < c04rN T angle → (roundJoin T center norm angle)[k]? = some (PathEl.CurveTo (c04rAff center norm * c04rC1 T angle k)
        (c04rAff center norm * c04rC2 T angle k) (c04rAff center norm * c04rPt T angle (k + 1)))) ∧
    segs (PathEl.MoveTo (c04rAff center norm * c04rPt T angle 0) :: roundJoin T center norm angle)
      = some ((List.range (c04rN T angle)).map fun k => PathSeg.Cubic (c04rAff center norm * c04rPiece T angle k)) :=
  ⟨roundJoinWith_length _ _ _, roundJoinWith_getElem? _ _ _, roundJoinWith_segs _ _ _⟩

/-- **`round_join_rev`**, `A = c04rAffRev center norm`. -/
theorem roundJoinRev_structure (T : K) (center : Point K) (norm : Vec2 K) (angle : K) :
    (roundJoinRev T center norm angle).length = c04rN T angle ∧
    (∀ k, k < c04rN T angle → (roundJoinRev T center norm angle)[k]? = some (PathEl.CurveTo (c04rAffRev center norm * c04rC1 T angle k)
        (c04rAffRev center norm * c04rC2 T angle k) (c04rAffRev center norm * c04rPt T angle (k + 1)))) ∧
    segs (PathEl.MoveTo (c04rAffRev center norm * c04rPt T angle 0) :: roundJoinRev T center norm angle)
      = some ((List.range (c04rN T angle)).map fun k => PathSeg.Cubic (c04rAffRev center norm * c04rPiece T angle k)) :=
  ⟨roundJoinWith_length _ _ _, roundJoinWith_getElem? _ _ _, roundJoinWith_segs _ _ _⟩

/-- **`round_cap`** is `round_join` with `angle = π`. -/
theorem roundCap_structure (T : K) (center : Point K) (norm : Vec2 K) :
    roundCap T center norm = roundJoin T center norm (Scalar.pi : K) ∧
    (roundCap T center norm).length = c04rN T (Scalar.pi : K) ∧
    segs (PathEl.MoveTo (c04rAff center norm * c04rPt T (Scalar.pi : K) 0) :: roundCap T center norm)
      = some ((List.range (c04rN T (Scalar.pi : K))).map fun k =>
          PathSeg.Cubic (c04rAff center norm * c04rPiece T (Scalar.pi : K) k)) :=
  ⟨rfl, roundJoinWith_length _ _ _, roundJoinWith_segs _ _ _⟩

-- non-vacuity: over ℚ (whose `sin x = x`, `cos x = 1`, `powf x _ = x`) a join of angle 1 has pieces
example : c04rN (1 / 100 : ℚ) (1 : ℚ) ≠ 0 := by decide +kernel

end structure_

section similarity
variable {K : Type} [Field K] [LinearOrder K] [IsStrictOrderedRing K] [FloorRing K] [Scalar K] [LawfulScalar K]

/-- **Both maps are similarities with factor `|norm|` about `center`** (squared form, any lawful scalar), and act as
    `(x, y) ↦ center + x·norm ± y·rot90(norm)`. -/
theorem round_maps_similarity (c : Point K) (n : Vec2 K) (p : Point K) :
    c04rAff c n * p = ⟨c.x + (n.x * p.x - n.y * p.y), c.y + (n.y * p.x + n.x * p.y)⟩ ∧
    c04rAffRev c n * p = ⟨c.x + (n.x * p.x + n.y * p.y), c.y + (n.y * p.x - n.x * p.y)⟩ ∧
    ((c04rAff c n * p).x - c.x) ^ 2 + ((c04rAff c n * p).y - c.y) ^ 2 = (n.x ^ 2 + n.y ^ 2) * (p.x ^ 2 + p.y ^ 2) ∧
    ((c04rAffRev c n * p).x - c.x) ^ 2 + ((c04rAffRev c n * p).y - c.y) ^ 2 = (n.x ^ 2 + n.y ^ 2) * (p.x ^ 2 + p.y ^ 2) :=
  ⟨c04rAff_act c n p, c04rAffRev_act c n p, c04rAff_dist_sq c n p, c04rAffRev_dist_sq c n p⟩

end similarity

section real
variable [Scalar ℝ] [LawfulScalar ℝ] [LawfulTrig] [LawfulCount]

-- the class assumptions are satisfiable
example : @LawfulScalar ℝ _ _ _ _ realScalar ∧ @LawfulTrig realScalar ∧ @LawfulCount realScalar :=
  ⟨realScalar_lawful, realScalar_lawfulTrig, realScalar_lawfulCount⟩

/-- the unit arc at tolerance `T > 0`: every point of every piece is in the band `1 ≤ |B(t)| ≤ 1 + T`; it starts at
    `(−cos angle, sin angle)`, ends at `(−1, 0)`, and has no piece only for `angle = 0` -/
theorem round_unit_arc (T : ℝ) (hT : 0 < T) (angle : ℝ) :
    (∀ k t, 0 ≤ t → t ≤ 1 →
      1 ≤ Real.sqrt (((c04rPiece T angle k).eval t).x ^ 2 + ((c04rPiece T angle k).eval t).y ^ 2) ∧
      Real.sqrt (((c04rPiece T angle k).eval t).x ^ 2 + ((c04rPiece T angle k).eval t).y ^ 2) ≤ 1 + T) ∧
    c04rPt T angle 0 = ⟨-Real.cos angle, Real.sin angle⟩ ∧ c04rPt T angle (c04rN T angle) = ⟨-1, 0⟩ ∧
    (c04rN T angle = 0 → angle = 0) :=
  ⟨fun k t h0 h1 => c04rPiece_band T hT angle k t h0 h1, c04rPt_zero T angle, c04rPt_last T angle, c04rN_eq_zero T angle⟩
example : (0 : ℝ) < 1 / 100 := by norm_num

/-- **Start points.**  The image of the unit arc's start point `(−cos angle, sin angle)`:
    `center − R(−angle)·norm` for `round_join`, `center − R(angle)·norm` for `round_join_rev`, `center + norm` for `round_cap`. -/
theorem round_start_points (T : ℝ) (c : Point ℝ) (n : Vec2 ℝ) (angle : ℝ) :
    c04rAff c n * c04rPt T angle 0
      = ⟨c.x - (n.x * Real.cos angle + n.y * Real.sin angle), c.y - (n.y * Real.cos angle - n.x * Real.sin angle)⟩ ∧
    c04rAffRev c n * c04rPt T angle 0
      = ⟨c.x - (n.x * Real.cos angle - n.y * Real.sin angle), c.y - (n.y * Real.cos angle + n.x * Real.sin angle)⟩ ∧
    c04rAff c n * c04rPt T (Scalar.pi : ℝ) 0 = c + n := by
  refine ⟨?_, ?_, ?_⟩
  · rw [c04rPt_zero, c04rAff_act]; simp only [Point.mk.injEq]; constructor <;> ring
  · rw [c04rPt_zero, c04rAffRev_act]; simp only [Point.mk.injEq]; constructor <;> ring
  · rw [c04rPt_zero, LawfulTrig.pi_eq, Real.cos_pi, Real.sin_pi, neg_neg, c04rAff_one]

/-- **Round join within the band.**  Drawn from its start point `center − R(−angle)·norm`, `round_join(center, norm,
    angle)` is `c04rN T angle` cubics and every point of every one of them is at a distance between `|norm|` and
    `|norm|·(1 + T)` from `center`. -/
theorem roundJoin_pieces_within (T : ℝ) (hT : 0 < T) (c : Point ℝ) (n : Vec2 ℝ) (angle : ℝ) :
    ∃ ss, segs (PathEl.MoveTo ⟨c.x - (n.x * Real.cos angle + n.y * Real.sin angle),
          c.y - (n.y * Real.cos angle - n.x * Real.sin angle)⟩ :: roundJoin T c n angle) = some ss ∧
      ss.length = c04rN T angle ∧ ∀ s ∈ ss, ∃ q, s = PathSeg.Cubic q ∧ ∀ t : ℝ, 0 ≤ t → t ≤ 1 →
        Real.sqrt (n.x ^ 2 + n.y ^ 2) ≤ Real.sqrt (((q.eval t).x - c.x) ^ 2 + ((q.eval t).y - c.y) ^ 2) ∧
        Real.sqrt (((q.eval t).x - c.x) ^ 2 + ((q.eval t).y - c.y) ^ 2) ≤ Real.sqrt (n.x ^ 2 + n.y ^ 2) * (1 + T) := by
  rw [← (round_start_points T c n angle).1]
  exact c04r_with_pieces_within T hT c n _ (c04rAff_dist_sq c n) angle

/-- **… `round_join_rev`**, drawn from its start point `center − R(angle)·norm`. -/
theorem roundJoinRev_pieces_within (T : ℝ) (hT : 0 < T) (c : Point ℝ) (n : Vec2 ℝ) (angle : ℝ) :
    ∃ ss, segs (PathEl.MoveTo ⟨c.x - (n.x * Real.cos angle - n.y * Real.sin angle),
          c.y - (n.y * Real.cos angle + n.x * Real.sin angle)⟩ :: roundJoinRev T c n angle) = some ss ∧
      ss.length = c04rN T angle ∧ ∀ s ∈ ss, ∃ q, s = PathSeg.Cubic q ∧ ∀ t : ℝ, 0 ≤ t → t ≤ 1 →
        Real.sqrt (n.x ^ 2 + n.y ^ 2) ≤ Real.sqrt (((q.eval t).x - c.x) ^ 2 + ((q.eval t).y - c.y) ^ 2) ∧
        Real.sqrt (((q.eval t).x - c.x) ^ 2 + ((q.eval t).y - c.y) ^ 2) ≤ Real.sqrt (n.x ^ 2 + n.y ^ 2) * (1 + T) := by
  rw [← (round_start_points T c n angle).2.1]
  exact c04r_with_pieces_within T hT c n _ (c04rAffRev_dist_sq c n) angle

/-- **… `round_cap`**, drawn from its start point `center + norm`; it has at least one piece. -/
theorem roundCap_pieces_within (T : ℝ) (hT : 0 < T) (c : Point ℝ) (n : Vec2 ℝ) :
    ∃ ss, segs (PathEl.MoveTo (c + n) :: roundCap T c n) = some ss ∧ ss ≠ [] ∧
      ∀ s ∈ ss, ∃ q, s = PathSeg.Cubic q ∧ ∀ t : ℝ, 0 ≤ t → t ≤ 1 →
        Real.sqrt (n.x ^ 2 + n.y ^ 2) ≤ Real.sqrt (((q.eval t).x - c.x) ^ 2 + ((q.eval t).y - c.y) ^ 2) ∧
        Real.sqrt (((q.eval t).x - c.x) ^ 2 + ((q.eval t).y - c.y) ^ 2) ≤ Real.sqrt (n.x ^ 2 + n.y ^ 2) * (1 + T) := by
  rw [← (round_start_points T c n 0).2.2]
  obtain ⟨ss, h1, h2, h3⟩ := c04r_with_pieces_within T hT c n _ (c04rAff_dist_sq c n) (Scalar.pi : ℝ)
  exact ⟨ss, h1, fun h0 => c04rN_pi_ne_zero T (by rw [← h2, h0, List.length_nil]), h3⟩

/-- **The band in terms of the stroke width and the stroke tolerance** (an arithmetic step; no term of the stroker occurs).  The
    stroker passes `T = join_thresh = 2·τ/w` (`τ` the tolerance given to `stroke`, `w` the width) for the unit arc, and
    `|norm|² = (w/2)²` (`c04_norm_spec`).  A distance `d` in the band `|norm| ≤ d ≤ |norm|·(1 + T)` of `roundJoin_pieces_within`,
    `roundJoinRev_pieces_within`, `roundCap_pieces_within` then satisfies `w/2 ≤ d ≤ w/2 + τ`, the bound of the property: not
    inside the disc of radius `w/2` about the join point, outside it by at most the stroke tolerance. -/
theorem round_pieces_within_stroke (n : Vec2 ℝ) (w τ d : ℝ) (hw : 0 < w) (hτ : 0 < τ) (hn : n.x ^ 2 + n.y ^ 2 = (w / 2) ^ 2)
    (h : Real.sqrt (n.x ^ 2 + n.y ^ 2) ≤ d ∧ d ≤ Real.sqrt (n.x ^ 2 + n.y ^ 2) * (1 + 2 * τ / w)) :
    0 < 2 * τ / w ∧ w / 2 ≤ d ∧ d ≤ w / 2 + τ := by
  rw [hn, Real.sqrt_sq (div_nonneg hw.le two_pos.le)] at h
  refine ⟨div_pos (mul_pos two_pos hτ) hw, h.1, ?_⟩
  rw [c04r_half_width_tol w τ hw.ne'] at h
  exact h.2
example : (0 : ℝ) < 10 ∧ (0 : ℝ) < 1 / 10 ∧ (⟨3, 4⟩ : Vec2 ℝ).x ^ 2 + (⟨3, 4⟩ : Vec2 ℝ).y ^ 2 = ((10 : ℝ) / 2) ^ 2 := by
  norm_num

/-- **`round_join` ends exactly at `center − norm`**: drawn from its start point (also when `angle = 0` and there
    is no piece: then start and end coincide); and, when `angle ≠ 0`, wherever the pen was and whatever was drawn before, the
    last element is a `CurveTo` ending at `center − norm`.  In `do_join` this is `p0 − norm`, the point from which `do_line`
    continues the forward path. -/
theorem roundJoin_ends (T : ℝ) (c : Point ℝ) (n : Vec2 ℝ) (angle : ℝ) :
    penAfter (c04rAff c n * c04rPt T angle 0) (roundJoin T c n angle) = c - n ∧
    (angle ≠ 0 → ∀ p mid, penAfter p (mid ++ roundJoin T c n angle) = c - n) ∧
    (angle ≠ 0 → ∃ e, (roundJoin T c n angle).getLast? = some e ∧ e.end_point = some (c - n)) :=
  c04r_with_ends T _ _ (c04rAff_end c n) angle
example : (1 : ℝ) ≠ 0 := one_ne_zero

/-- **`round_join_rev` ends exactly at `center − norm`** too; `do_join` calls it as `round_join_rev(p0, −norm, −angle)` on the
    backward path, so that it ends at `p0 + norm`, the point from which `do_line` continues the backward path. -/
theorem roundJoinRev_ends (T : ℝ) (c : Point ℝ) (n : Vec2 ℝ) (angle : ℝ) :
    penAfter (c04rAffRev c n * c04rPt T angle 0) (roundJoinRev T c n angle) = c - n ∧
    (angle ≠ 0 → ∀ p mid, penAfter p (mid ++ roundJoinRev T c n angle) = c - n) ∧
    (angle ≠ 0 → ∀ p mid, penAfter p (mid ++ roundJoinRev T c (-n) angle) = c + n) := by
  refine ⟨(c04r_with_ends T _ _ (c04rAffRev_end c n) angle).1, (c04r_with_ends T _ _ (c04rAffRev_end c n) angle).2.1,
    fun ha p mid => ?_⟩
  rw [roundJoinRev_eq_with, (c04r_with_ends T _ _ (c04rAffRev_end c (-n)) angle).2.1 ha]
  cases c; cases n; kring

/-- **`round_cap` goes from `center + norm` to `center − norm`**: it always has a piece, and wherever the pen was and whatever
    was drawn before, its last element is a `CurveTo` ending exactly at `center − norm`. -/
theorem roundCap_ends (T : ℝ) (c : Point ℝ) (n : Vec2 ℝ) :
    (∀ p mid, penAfter p (mid ++ roundCap T c n) = c - n) ∧
    (∃ e, (roundCap T c n).getLast? = some e ∧ e.end_point = some (c - n)) ∧ roundCap T c n ≠ [] := by
  have hpi : (Scalar.pi : ℝ) ≠ 0 := by rw [LawfulTrig.pi_eq]; exact Real.pi_ne_zero
  obtain ⟨-, h2, h3⟩ := c04r_with_ends T _ _ (c04rAff_end c n) (Scalar.pi : ℝ)
  refine ⟨h2 hpi, h3 hpi, fun h0 => ?_⟩
  have := roundJoinWith_length T (c04rAff c n) (Scalar.pi : ℝ)
  rw [← roundCap_eq_with, h0] at this
  exact c04rN_pi_ne_zero T this.symm

/-- **The end cap of `finish`** is `round_cap(last_pt, last_pt − return_p)`, `return_p` the end of the backward path: it starts
    at `last_pt + (last_pt − return_p)` (the mirror image of `return_p`, which is where the forward path ends when both paths end
    at `last_pt ∓ norm`) and ends exactly at `return_p`, where the reversed backward path starts. -/
theorem roundCap_end_cap_returns (T : ℝ) (lp rp : Point ℝ) :
    (∀ p mid, penAfter p (mid ++ roundCap T lp (lp - rp)) = rp) ∧
    c04rAff lp (lp - rp) * c04rPt T (Scalar.pi : ℝ) 0 = lp + (lp - rp) := by
  refine ⟨fun p mid => ?_, (round_start_points T lp (lp - rp) 0).2.2⟩
  rw [(roundCap_ends T lp (lp - rp)).1]
  cases lp; cases rp; kring

/-- **A contour that `finish` closes with a round START cap returns to its `MoveTo` point.**  Under the context invariant of C04
    with a sub-path in progress and `start_cap = Round`, the contour appended by `finish` is `MoveTo q :: (mid ++ round_cap …)`,
    not empty after the `MoveTo`, and the pen ends exactly on `q`. -/
theorem c04_finish_round_contour_returns (style : StrokeStyle ℝ) (c : StrokeCtx ℝ) (h : C04Inv c) (hne : c.forward_path ≠ [])
    (h2 : style.start_cap = 2) :
    ∃ q rest, c.finish style = some { c with output := c.output ++ PathEl.MoveTo q :: rest, forward_path := [], backward_path := [] } ∧
      (∀ e ∈ rest, c04_isSeg e = true) ∧ penAfter q rest = q ∧
      ∃ e, rest.getLast? = some e ∧ e.end_point = some q := by
  obtain ⟨x, hx, -, hr⟩ := c04_finish_one_contour style c h hne
  obtain ⟨q, mid, rfl, hmid, hq⟩ := hr h2
  have hq' := hq c04_peqSound
  refine ⟨q, _, hx, ?_, ?_, ?_⟩
  · exact c04_Segs_append hmid (c04_Segs_of_curves (c04_roundCap_curves _ _ _))
  · rw [(roundCap_ends _ _ _).1, hq']
  · obtain ⟨e, h1, h3⟩ := (roundCap_ends c.join_thresh c.start_pt c.start_norm).2.1
    refine ⟨e, ?_, by rw [h3, hq']⟩
    rw [List.getLast?_append, h1]; rfl

/-- the hypotheses are satisfiable: the context after `MoveTo (0,0), LineTo (4,0)` with round joins and caps -/
example : ∃ (style : StrokeStyle ℝ) (c : StrokeCtx ℝ), C04Inv c ∧ c.forward_path ≠ [] ∧ style.start_cap = 2 := by
  let c0 : StrokeCtx ℝ :=
    { start_pt := ⟨0, 0⟩, start_norm := ⟨0, 0⟩, start_tan := ⟨0, 0⟩, last_pt := ⟨0, 0⟩, last_tan := ⟨0, 0⟩, join_thresh := 1 }
  have h0 : C04Inv c0 := .of_empty rfl rfl fun _ => rfl
  exact ⟨⟨2, 2, 4, 2, 2⟩, _, c04_stepLine_inv ⟨2, 2, 4, 2, 2⟩ c0 ⟨4, 0⟩ h0, (c04_stepLine_fields _ c0 _).1, rfl⟩

/-- **Every contour of a polyline stroke returns to its start, also with a round start cap.**  The output of a polyline source is a concatenation of contours; each is `MoveTo p, LineTo/CurveTo…, ClosePath`
    or (round start cap, open sub-path) `MoveTo q, LineTo/CurveTo…` with no `ClosePath`, whose last element is a `CurveTo` of
    the start cap ending exactly on `q` (`penAfter q rest = q`). -/
theorem c04_round_start_contour_returns (els : List (PathEl ℝ)) (style : StrokeStyle ℝ) (tolerance : ℝ)
    (hp : ∀ e ∈ els, c04_isPoly e = true) :
    ∃ cs : List (List (PathEl ℝ)), strokeUndashed els style tolerance = .ok cs.flatten ∧
      ∀ x ∈ cs, (∃ p mid, x = .MoveTo p :: (mid ++ [.ClosePath]) ∧ ∀ e ∈ mid, c04_isSeg e = true) ∨
        (style.start_cap = 2 ∧ ∃ q rest, x = .MoveTo q :: rest ∧ (∀ e ∈ rest, c04_isSeg e = true) ∧ penAfter q rest = q ∧
          ∃ e p1 p2, rest.getLast? = some e ∧ e = .CurveTo p1 p2 q) := by
  obtain ⟨cs, h, hg⟩ := c04_stroke_contours_round_start els style tolerance hp
  refine ⟨cs, h, fun x hx => ?_⟩
  rcases hg x hx with hc | ⟨h2, q, tl, s, n, mid, rfl, hm, hcv, hq⟩
  · exact Or.inl hc
  · have hq' := hq c04_peqSound
    refine Or.inr ⟨h2, q, _, rfl, c04_Segs_append hm (c04_Segs_of_curves hcv), ?_, ?_⟩
    · rw [(roundCap_ends _ _ _).1, hq']
    · obtain ⟨e, h1, h3⟩ := (roundCap_ends tl s n).2.1
      have hl : (mid ++ roundCap tl s n).getLast? = some e := by rw [List.getLast?_append, h1]; rfl
      have hc := hcv e (List.mem_of_getLast? h1)
      cases e with
      | CurveTo p1 p2 p3 =>
        simp only [PathEl.end_point, Option.some.injEq] at h3
        exact ⟨_, p1, p2, hl, by rw [h3, hq']⟩
      | MoveTo _ => cases hc
      | LineTo _ => cases hc
      | QuadTo _ _ => cases hc
      | ClosePath => cases hc
-- non-vacuity: an open polyline with a round start cap (style: width 2, round joins, round caps)
example : ∀ e ∈ ([.MoveTo ⟨0, 0⟩, .LineTo ⟨4, 0⟩, .LineTo ⟨4, 3⟩] : List (PathEl ℝ)), c04_isPoly e = true := by
  intro e he
  simp only [List.mem_cons, List.not_mem_nil, or_false] at he
  rcases he with rfl | rfl | rfl <;> rfl

end real

section turning
variable [Scalar ℝ] [LawfulScalar ℝ] [LawfulTrig] [LawfulCount] [LawfulReal] [C04HypotLaw ℝ]

-- the class assumptions are satisfiable together
example : @LawfulScalar ℝ _ _ _ _ realScalar ∧ @LawfulTrig realScalar ∧ @LawfulCount realScalar ∧ @LawfulReal realScalar ∧
    @C04HypotLaw ℝ _ _ realScalar :=
  ⟨realScalar_lawful, realScalar_lawfulTrig, realScalar_lawfulCount, realScalar_lawfulReal, c04_realScalar_hypotLaw⟩

/-- **The round join starts exactly where the previous offset segment ended.**  `ab`, `cd` the (non-zero) tangents before and
    after the join point `p0`, `angle = atan2(ab × cd, ab · cd)` the turning angle that `do_join` computes, `norm = c04_norm w cd`
    the new offset vector: `round_join(p0, norm, angle)` starts at `p0 − c04_norm w ab` (the end of the previous forward offset
    segment) and `round_join_rev(p0, −norm, −angle)` at `p0 + c04_norm w ab` (the end of the previous backward one); by
    `roundJoin_ends`, `roundJoinRev_ends` they end at `p0 − norm`, `p0 + norm`, where `do_line` continues. -/
theorem roundJoin_starts_at_previous_offset (T w : ℝ) (p0 : Point ℝ) (ab cd : Vec2 ℝ) (hab : ab.x ≠ 0 ∨ ab.y ≠ 0)
    (hcd : cd.x ≠ 0 ∨ cd.y ≠ 0) :
    c04rAff p0 (c04_norm w cd) * c04rPt T (Scalar.atan2 (ab.cross cd) (ab.dot cd)) 0 = p0 - c04_norm w ab ∧
    c04rAffRev p0 (-(c04_norm w cd)) * c04rPt T (-(Scalar.atan2 (ab.cross cd) (ab.dot cd))) 0 = p0 + c04_norm w ab := by
  obtain ⟨r1, r2⟩ := c04r_rotate_norm w ab cd hab hcd
  generalize Scalar.atan2 (ab.cross cd) (ab.dot cd) = φ at r1 r2 ⊢
  constructor
  · rw [(round_start_points T p0 (c04_norm w cd) _).1, r1, r2]
    cases p0; kring
  · rw [(round_start_points T p0 (-(c04_norm w cd)) _).2.1, Real.cos_neg, Real.sin_neg]
    rw [c04_vec2_neg_x, c04_vec2_neg_y]
    cases p0
    simp only [kdefs, scalar_norm, Point.mk.injEq]
    constructor
    · rw [← r1]; ring
    · rw [← r2]; ring
example : ((⟨4, 0⟩ : Vec2 ℝ).x ≠ 0 ∨ (⟨4, 0⟩ : Vec2 ℝ).y ≠ 0) ∧ ((⟨0, 3⟩ : Vec2 ℝ).x ≠ 0 ∨ (⟨0, 3⟩ : Vec2 ℝ).y ≠ 0) :=
  ⟨Or.inl (by norm_num), Or.inr (by norm_num)⟩

/-- **`do_join` with round joins** (sub-path in progress, join not skipped, `angle = atan2(cross, dot)`): for `angle > 0` (then
    `cross ≥ 0`: a left turn or a reversal) the forward path gets exactly the `CurveTo`s of `round_join(last_pt, norm, angle)`
    (no pivot there) and the backward path the pivot (if `cross > 0`) and the new offset point; otherwise (`cross ≤ 0`) the
    backward path gets exactly `round_join_rev(last_pt, −norm, −angle)` and the forward path the pivot (if `cross < 0`) and the
    new offset point. -/
theorem c04_do_join_round (c : StrokeCtx ℝ) (style : StrokeStyle ℝ) (tan0 : Vec2 ℝ) (hne : c.forward_path ≠ [])
    (hj0 : style.join ≠ 0) (hj1 : style.join ≠ 1) (ht : c04_joinTest c tan0 = true) :
    (0 < Scalar.atan2 (c.last_tan.cross tan0) (c.last_tan.dot tan0) →
      0 ≤ c.last_tan.cross tan0 ∧
      c.do_join style tan0 = { c with
        forward_path := c.forward_path ++
          roundJoin c.join_thresh c.last_pt (c04_norm style.width tan0) (Scalar.atan2 (c.last_tan.cross tan0) (c.last_tan.dot tan0)),
        backward_path := c.backward_path ++
          (c04_pivotB c.last_pt (c.last_tan.cross tan0) ++ [.LineTo (c.last_pt + c04_norm style.width tan0)]) }) ∧
    (¬ 0 < Scalar.atan2 (c.last_tan.cross tan0) (c.last_tan.dot tan0) →
      c.last_tan.cross tan0 ≤ 0 ∧
      c.do_join style tan0 = { c with
        forward_path := c.forward_path ++
          (c04_pivotF c.last_pt (c.last_tan.cross tan0) ++ [.LineTo (c.last_pt - c04_norm style.width tan0)]),
        backward_path := c.backward_path ++
          roundJoinRev c.join_thresh c.last_pt (-(c04_norm style.width tan0))
            (-(Scalar.atan2 (c.last_tan.cross tan0) (c.last_tan.dot tan0))) }) := by
  obtain ⟨s1, s2⟩ := c04r_turn_sign c.last_tan tan0
  rw [c04_do_join_nonempty c style tan0 hne, c04r_joinApp_round c style tan0 hj0 hj1 ht]
  refine ⟨fun h => ⟨s1 h, ?_⟩, fun h => ⟨s2 h, ?_⟩⟩
  · rw [if_pos h]
    have hp : c04_pivotF c.last_pt (c.last_tan.cross tan0) = [] := by
      rcases (s1 h).eq_or_lt with h0 | h0
      · rw [← h0]; exact (c04_pivot_zero _).1
      · exact (c04_pivot_pos _ _ h0).1
    rw [hp]; rfl
  · rw [if_neg h]
    have hp : c04_pivotB c.last_pt (c.last_tan.cross tan0) = [] := by
      rcases (s2 h).eq_or_lt with h0 | h0
      · rw [h0]; exact (c04_pivot_zero _).2
      · exact (c04_pivot_neg _ _ h0).2
    rw [hp]; rfl
-- non-vacuity: round joins; after `(0,0) → (4,0)`, going on to `(4,3)`: dot = 0 ≤ 0, so the join is made (`c04_join_test_iff`)
example : (⟨2, 2, 4, 2, 2⟩ : StrokeStyle ℝ).join ≠ 0 ∧ (⟨2, 2, 4, 2, 2⟩ : StrokeStyle ℝ).join ≠ 1 ∧
    (⟨4, 0⟩ : Vec2 ℝ).dot ⟨0, 3⟩ ≤ 0 := by
  refine ⟨by decide, by decide, ?_⟩
  simp only [Vec2.dot, scalar_norm]; norm_num

end turning

section cap
variable [Scalar ℝ] [LawfulScalar ℝ] [LawfulTrig] [LawfulCount]

/-- **The pieces of a round cap.**  For every unit tolerance `T` a round cap has `n = c04rN T π ≥ 2` cubics (`n_err ≥ 3.999999`
    in `Arc::append_iter`), each spanning `π/n ≤ π/2`, with arm `4/3·tan(π/(4n))`.  (`n` grows as `join_thresh = 2τ/w`
    shrinks.) -/
theorem round_cap_pieces (T : ℝ) (c : Point ℝ) (n : Vec2 ℝ) :
    (roundCap T c n).length = c04rN T (Scalar.pi : ℝ) ∧ 2 ≤ c04rN T (Scalar.pi : ℝ) ∧
    c04rStep T (Scalar.pi : ℝ) = Real.pi / (c04rN T (Scalar.pi : ℝ) : ℝ) ∧ 0 < c04rStep T (Scalar.pi : ℝ) ∧
    c04rStep T (Scalar.pi : ℝ) ≤ Real.pi / 2 ∧
    c04rArm T (Scalar.pi : ℝ) = 4 / 3 * Real.tan (c04rStep T (Scalar.pi : ℝ) / 2 / 2) :=
  ⟨(roundCap_structure T c n).2.1, (c04r_cap_params T).1, (c04r_cap_params T).2.1, (c04r_cap_params T).2.2.1,
    (c04r_cap_params T).2.2.2, arc_arm_eq_tan (c04rArc (Scalar.pi : ℝ)) T⟩

/-- **The round cap stays beyond the end of the segment.**  Every point `X` of the cubics of `round_cap(T, c, n)`, `T > 0` (drawn
    from `c + n`) satisfies `|n|² ≤ |X − c|² ≤ |n|²·(1 + T)²` and `(X − c)·rot90(n) ≥ 0`, `rot90(n) = (−n.y, n.x)` – which for the
    end cap `round_cap(p1, −norm)` is the forward tangent direction and for the start cap `round_cap(p0, norm)` the backward
    one (`norm = (w/2)/|tan|·rot90(tan)`, `tan` the tangent, `w ≥ 0`).  (Control polygon of each piece: it spans at most a quarter turn inside `[0, π]`.) -/
theorem roundCap_beyond_end (T : ℝ) (hT : 0 < T) (c : Point ℝ) (n : Vec2 ℝ) :
    ∃ ss, segs (PathEl.MoveTo (c + n) :: roundCap T c n) = some ss ∧ ss.length = c04rN T (Scalar.pi : ℝ) ∧
      ∀ s ∈ ss, ∃ q, s = PathSeg.Cubic q ∧ ∀ t : ℝ, 0 ≤ t → t ≤ 1 →
        (n.x ^ 2 + n.y ^ 2 ≤ ((q.eval t).x - c.x) ^ 2 + ((q.eval t).y - c.y) ^ 2 ∧
          ((q.eval t).x - c.x) ^ 2 + ((q.eval t).y - c.y) ^ 2 ≤ (n.x ^ 2 + n.y ^ 2) * (1 + T) ^ 2) ∧
        0 ≤ -((q.eval t).x - c.x) * n.y + ((q.eval t).y - c.y) * n.x := by
  rw [← (round_start_points T c n 0).2.2]
  refine ⟨_, (roundCap_structure T c n).2.2, by simp, ?_⟩
  intro s hs
  obtain ⟨k, hk, rfl⟩ := List.mem_map.mp hs
  rw [List.mem_range] at hk
  exact ⟨_, rfl, fun t h0 h1 => c04r_cap_point T hT c n k hk t h0 h1⟩
example : (0 : ℝ) < 1 / 100 := by norm_num

/-- **The outline of one segment with round caps** (any scalar; `p1 != p0` in the crate's sense): forward offset edge, end cap
    about `p1` with the vector `p1 − (p1 + n)`, backward offset edge reversed, start cap about `p0` with `n`; no `ClosePath`.
    Both caps are drawn with the unit tolerance `c04rJt w tol = 2·tol/w` (= `join_thresh`). -/
theorem single_segment_round_caps_outline {K : Type} [Scalar K] (p0 p1 : Point K) (style : StrokeStyle K) (tol : K)
    (h : p1.peq p0 = false) (hs : style.start_cap = 2) (he : style.end_cap = 2) :
    strokeUndashed [.MoveTo p0, .LineTo p1] style tol
      = .ok ([.MoveTo (p0 - c04_norm style.width (p1 - p0)), .LineTo (p1 - c04_norm style.width (p1 - p0))]
          ++ roundCap (c04rJt style.width tol) p1 (p1 - (p1 + c04_norm style.width (p1 - p0)))
          ++ [.LineTo (p0 + c04_norm style.width (p1 - p0))]
          ++ roundCap (c04rJt style.width tol) p0 (c04_norm style.width (p1 - p0))) := by
  rw [c04c_strokeOne p0 p1 style tol h, c04_endCap_round _ style _ _ he, c04_startCap_round _ style _ _ hs]
  rfl
example : (⟨4, 3⟩ : Point ℚ).peq ⟨0, 0⟩ = false := by decide

/-- **One segment, round caps: the outline lies within the tolerance of the ideal outline**, the bound of the property.  For `p1 ≠ p0`, width `w > 0` and stroke tolerance `τ > 0` the outline of `MoveTo p0, LineTo p1` with
    round caps has `2 + 2n` segments (offset edge, `n` cap cubics, offset edge, `n` cap cubics; `n = c04rN (2τ/w) π ≥ 2`), and
    every point `X` of every one of them satisfies, with `Y(s) = p0 + s·(p1 − p0)` the points of the source segment:
    `|X − Y(s)|² ≤ (w/2 + τ)²` for some `s ∈ [0,1]` (no point of the outline is farther from the segment than `w/2 + τ`), and
    `(w/2)² ≤ |X − Y(s)|²` for every `s ∈ [0,1]` (no point of the outline is closer than `w/2`). -/
theorem single_segment_round_caps_band [C04HypotLaw ℝ] (p0 p1 : Point ℝ) (style : StrokeStyle ℝ) (τ : ℝ) (hne : p1 ≠ p0)
    (hs : style.start_cap = 2) (he : style.end_cap = 2) (hw : 0 < style.width) (hτ : 0 < τ) :
    ∃ out ss, strokeUndashed [.MoveTo p0, .LineTo p1] style τ = .ok out ∧ segs out = some ss ∧
      ss.length = 2 + 2 * c04rN (2 * τ / style.width) (Scalar.pi : ℝ) ∧
      ∀ sg ∈ ss, ∀ t : ℝ, 0 ≤ t → t ≤ 1 →
        (∃ s : ℝ, 0 ≤ s ∧ s ≤ 1 ∧
          ((sg.eval t).x - (p0.x + s * (p1.x - p0.x))) ^ 2 + ((sg.eval t).y - (p0.y + s * (p1.y - p0.y))) ^ 2
            ≤ (style.width / 2 + τ) ^ 2) ∧
        (∀ s : ℝ, 0 ≤ s → s ≤ 1 → (style.width / 2) ^ 2
            ≤ ((sg.eval t).x - (p0.x + s * (p1.x - p0.x))) ^ 2 + ((sg.eval t).y - (p0.y + s * (p1.y - p0.y))) ^ 2) := by
  have hpeq : p1.peq p0 = false := (peq_false_iff _ _).2 hne
  have hT0 : 0 < 2 * τ / style.width := div_pos (mul_pos two_pos hτ) hw
  -- `n = k·rot90(p1 − p0)` with `k > 0`, `|n|² = (w/2)²`; `d = −n` is the vector of the end cap
  obtain ⟨k, F⟩ := c04_seg_frame style.width p0 p1 hw hne.symm
  have hnx := F.nx
  have hny := F.ny
  have hout := single_segment_round_caps_outline p0 p1 style τ hpeq hs he
  rw [c04rJt_eq, c04_endCap_vec] at hout
  simp only [List.cons_append, List.nil_append, List.append_assoc, roundCap_eq_with] at hout
  generalize c04_norm style.width (p1 - p0) = n at hnx hny hout
  have hR : n.x ^ 2 + n.y ^ 2 = (style.width / 2) ^ 2 := by rw [hnx, hny]; linear_combination F.sq
  obtain ⟨d, hd⟩ : ∃ d, d = -n := ⟨_, rfl⟩
  have hdx : d.x = -n.x := by rw [hd, c04_vec2_neg_x]
  have hdy : d.y = -n.y := by rw [hd, c04_vec2_neg_y]
  rw [← hd] at hout
  have hRd : d.x ^ 2 + d.y ^ 2 = (style.width / 2) ^ 2 := by rw [hdx, hdy, neg_sq, neg_sq, hR]
  have hU : (style.width / 2) ^ 2 * (1 + 2 * τ / style.width) ^ 2 = (style.width / 2 + τ) ^ 2 := by
    rw [← mul_pow, c04r_half_width_tol _ τ hw.ne']
  have hRU : (style.width / 2) ^ 2 ≤ (style.width / 2 + τ) ^ 2 :=
    pow_le_pow_left₀ (div_nonneg hw.le two_pos.le) (le_add_of_nonneg_right hτ.le) 2
  -- the two line ends are the images of the unit arc's start point, and the end cap ends at `p1 + n`
  have h1 : p1 - n = c04rAff p1 d * c04rPt (2 * τ / style.width) (Scalar.pi : ℝ) 0 := by
    rw [(round_start_points _ p1 d 0).2.2, hd]
    cases p1; cases n; kring
  have h2 : p0 + n = c04rAff p0 n * c04rPt (2 * τ / style.width) (Scalar.pi : ℝ) 0 := ((round_start_points _ p0 n 0).2.2).symm
  have hpen : penAfter (c04rAff p1 d * c04rPt (2 * τ / style.width) (Scalar.pi : ℝ) 0)
      (roundJoinWith (2 * τ / style.width) (c04rAff p1 d) (Scalar.pi : ℝ)) = p1 + n := by
    have := (roundCap_ends (2 * τ / style.width) p1 d).1 (c04rAff p1 d * c04rPt (2 * τ / style.width) (Scalar.pi : ℝ) 0) []
    rw [List.nil_append, roundCap_eq_with] at this
    rw [this, hd]
    cases p1; cases n; kring
  have hsegs := c04r_outline_segs (2 * τ / style.width) (p0 - n) (c04rAff p1 d) (c04rAff p0 n) (Scalar.pi : ℝ)
  rw [hpen, ← h1, ← h2] at hsegs
  refine ⟨_, _, hout, hsegs, ?_, ?_⟩
  · simp only [List.length_cons, List.length_append, List.length_map, List.length_range]; omega
  · intro sg hsg t h0 h1'
    simp only [List.mem_cons, List.mem_append, List.mem_map, List.mem_range] at hsg
    rcases hsg with rfl | ⟨j, hj, rfl⟩ | rfl | ⟨j, hj, rfl⟩
    · -- forward offset edge: the foot of `X` is `Y(t)`, `X − Y(t) = −n ⟂ p1 − p0`
      refine c04r_band_foot p0 p1 _ t (-n.x) (-n.y) _ _ h0 h1' ?_ ?_ (by rw [neg_sq, neg_sq, hR]) (by rw [neg_sq, neg_sq, hR]; exact hRU)
        (fun s _ _ => by rw [hnx, hny]; exact le_of_eq (by ring))
      · rw [c04r_line_eval]; simp only [kdefs, scalar_norm]; ring
      · rw [c04r_line_eval]; simp only [kdefs, scalar_norm]; ring
    · -- end cap about `p1 = Y(1)`: `X − p1` points forwards
      obtain ⟨⟨b1, b2⟩, b3⟩ := c04r_cap_point _ hT0 p1 d j hj t h0 h1'
      rw [hRd] at b1
      rw [hRd, hU] at b2
      rw [hdx, hdy, hnx, hny] at b3
      rw [show (PathSeg.Cubic (c04rAff p1 d * c04rPiece (2 * τ / style.width) (Scalar.pi : ℝ) j)).eval t
        = (c04rAff p1 d * c04rPiece (2 * τ / style.width) (Scalar.pi : ℝ) j).eval t from rfl]
      generalize (c04rAff p1 d * c04rPiece (2 * τ / style.width) (Scalar.pi : ℝ) j).eval t = X at b1 b2 b3 ⊢
      have hD : 0 ≤ (X.x - p1.x) * (p1.x - p0.x) + (X.y - p1.y) * (p1.y - p0.y) :=
        nonneg_of_mul_nonneg_right (le_of_le_of_eq b3 (by ring)) F.k_pos
      exact c04r_band_foot p0 p1 X 1 _ _ _ _ zero_le_one le_rfl (by ring) (by ring) b1 b2
        (fun s _ hs1 => mul_nonneg (sub_nonneg.2 hs1) hD)
    · -- backward offset edge, reversed: the foot of `X` is `Y(1 − t)`, `X − Y(1 − t) = n`
      refine c04r_band_foot p0 p1 _ (1 - t) n.x n.y _ _ (sub_nonneg.2 h1') (sub_le_self _ h0) ?_ ?_ (le_of_eq hR.symm)
        (by rw [hR]; exact hRU) (fun s _ _ => by rw [hnx, hny]; exact le_of_eq (by ring))
      · rw [c04r_line_eval]; simp only [kdefs, scalar_norm]; ring
      · rw [c04r_line_eval]; simp only [kdefs, scalar_norm]; ring
    · -- start cap about `p0 = Y(0)`: `X − p0` points backwards
      obtain ⟨⟨b1, b2⟩, b3⟩ := c04r_cap_point _ hT0 p0 n j hj t h0 h1'
      rw [hR] at b1
      rw [hR, hU] at b2
      rw [hnx, hny] at b3
      rw [show (PathSeg.Cubic (c04rAff p0 n * c04rPiece (2 * τ / style.width) (Scalar.pi : ℝ) j)).eval t
        = (c04rAff p0 n * c04rPiece (2 * τ / style.width) (Scalar.pi : ℝ) j).eval t from rfl]
      generalize (c04rAff p0 n * c04rPiece (2 * τ / style.width) (Scalar.pi : ℝ) j).eval t = X at b1 b2 b3 ⊢
      have hD : 0 ≤ -((X.x - p0.x) * (p1.x - p0.x) + (X.y - p0.y) * (p1.y - p0.y)) :=
        nonneg_of_mul_nonneg_right (le_of_le_of_eq b3 (by ring)) F.k_pos
      exact c04r_band_foot p0 p1 X 0 _ _ _ _ le_rfl zero_le_one (by ring) (by ring) b1 b2
        (fun s hs0 _ => le_of_le_of_eq (mul_nonneg hs0 hD) (by ring))
-- non-vacuity: the segment (0,0) → (4,3), width 2, round caps, tolerance 1/10
example : (⟨4, 3⟩ : Point ℝ) ≠ ⟨0, 0⟩ ∧ (⟨2, 2, 4, 2, 2⟩ : StrokeStyle ℝ).start_cap = 2 ∧
    (⟨2, 2, 4, 2, 2⟩ : StrokeStyle ℝ).end_cap = 2 ∧ (0 : ℝ) < (⟨2, 2, 4, 2, 2⟩ : StrokeStyle ℝ).width ∧ (0 : ℝ) < 1 / 10 := by
  refine ⟨?_, rfl, rfl, by norm_num, by norm_num⟩
  intro h
  have := congrArg Point.x h
  norm_num at this

end cap
end Kurbo
