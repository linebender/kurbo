import Proofs.Lemmas.C19
/-! C19 – results do not depend on the floating-point back end.
    Proved (finite table, decided by the kernel): for every row of `define_float_funcs!` – re-extracted from kurbo/src/common.rs on every run
    and proved equal to the committed table in `Proofs/GenEquivFF.lean` – the `libm` function denotes the same mathematical function as the
    `std` method (`ln ↦ log`, `abs ↦ fabs`, `mul_add(a, b) ↦ fma(self, a, b)`, `powi ↦ pow` with the integer cast, `sin_cos ↦ sincos`), the
    row declares the argument types and the result type of that `std` method, and the f32 name is the f64 name + `f` (`rowOk`; what each
    name denotes and the signature of each `std` method is the hand-written vocabulary `stdSpec` / `libmSpec` of `Proofs/Lemmas/C19.lean`;
    that the macro passes `self` and then the arguments in order to `libm`, and `libm`'s own signatures, are not in the table); all 19 non-core float methods the crate calls (the list `usedMethods`, kept by hand) have a row, none twice;
    the body of the hand-written `signum` in `impl FloatFuncs for f64` is, byte for byte, `signumBodyPinned`: NaN passed through, otherwise
    `1.0.copysign(self)` (the `f32` impl is in no table).
    Not proved: numerical closeness of the two back ends – compared op by op on a seeded corpus by gen/c19.py. -/
namespace Kurbo
open Kurbo.FF

theorem float_funcs_table_correct : floatFuncRows.all rowOk = true := by decide +kernel
theorem float_funcs_coverage : coverageOk floatFuncRows = true := by decide +kernel
theorem float_funcs_count : floatFuncRows.length = 20 := by decide
theorem signum_body : floatSignumBody = signumBodyPinned := by decide +kernel

/-- swapped mappings are rejected by `rowOk` (the check is not vacuous) -/
example : rowOk { method := [102, 108, 111, 111, 114], args := [], ret := [83, 101, 108, 102], libm64 := [99, 101, 105, 108], libm32 := [99, 101, 105, 108, 102] } = false := by
  decide +kernel

end Kurbo
