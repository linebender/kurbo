import Proofs.C16
import Proofs.C16A
import Proofs.Lemmas.C16G
/-! C16G – what an elliptical-arc command appends to the path (glue of C16, C16A and C10; over ℝ).

    Property text (C16): "an elliptical arc command produces a curve from the current point to the stated end point with the
    requested sweep direction and large-arc choice".

    Pieces glued here
    * `Proofs/C16.lean` (`cmd_arc`, any `Scalar`): the `A`/`a` branch of `svgCommand` lexes `rx ry rot fl fs x y` and appends
      `arcElements last_pt p radii rot fl fs`, then sets `last_pt := p`.
    * `Proofs/C16A.lean` (ℝ): the `Arc` returned by `Arc.from_svg_arc` starts at `from`, ends at `to`, sweep sign = sweep flag,
      `|sweep| > π` iff large-arc (radii fit).
    * C10 (ℝ; `Lemmas/C10Struct.lean`, `Lemmas/C10Real.lean`): `Arc.append_iter` is `n` `CurveTo`s, piece `k` from ellipse point `k` to ellipse point `k+1`.

    Model objects, exactly as they are: `svgCommand`/`arcToCubics` (`Kurbo/Svg.lean`), `Arc.from_svg_arc`, `Arc.append_iter`,
    `Arc.appendParams`, `sampleEllipse` (`Kurbo/Shapes.lean`).  `arcCommandEls arc` (`Lemmas/C16G.lean`) is literally the
    `added` of the arc branch: `match Arc.from_svg_arc arc with | some a => arcToCubics a | none => [LineTo arc.to]`, and
    `arcElements f t radii rot la sw` of C16's `cmd_arc` is `arcCommandEls ⟨f, t, radii.to_vec2, toRadians rot, la, sw⟩` by `rfl`
    (`arc_command_elements`).  `segsT (s, l) els` / `stAfterT` (C07) are the `Segments` iterator started with sub-path start `s` and
    pen `l`; `penAfter l els` (`Lemmas/C10Struct.lean`) is the pen after drawing `els` from `l`.

    Vocabulary for the arc `a` of a command (definitions in `Lemmas/C16G.lean`, spelled out by `cmd_vocabulary` below):
    `a.cmdN` = number of pieces `(a.appendParams 0.1).1`; `a.cmdAngle k = start + k·sweep/n`; `a.cmdPt k` = the ellipse point
    `center + sampleEllipse radii x_rotation (cmdAngle k)`; `a.cmdC1 k`, `a.cmdC2 k` = the two inner control points of piece `k`
    (`arcC1`, `arcC2` of `Lemmas/C10Struct.lean`; `Proofs/C10.lean` says of them: `arc_piece_p1`, `arc_piece_p2`, tangent to the ellipse by `arc_arms_tangent`).

    Scalars: ℝ with any `Scalar ℝ` structure satisfying `LawfulScalar`, `LawfulReal`, `LawfulRealAngle` (as C16A) and `LawfulTrig`,
    `LawfulCount` (as C10; `LawfulTrig` repeats `sin`/`cos`/`pi` and adds `tan`; `LawfulCount`: `as usize = ⌊·⌋₊`, `powf = rpow`).
    All five are inhabited together by `realScalar` (example at the end).

    PROVED
    1. `svg_arc_command_curves` – for a command with `is_straight_line = false` (⇔ `|rx|,|ry| > 10⁻⁵`, `from ≠ to`), `a` the arc
       of `from_svg_arc`: the appended list is exactly the `n = a.cmdN ≥ 1` elements `CurveTo (C1 k) (C2 k) (P (k+1))`, `k < n`
       (nothing else: no `MoveTo`, no `LineTo`); `P 0 = from` (the first cubic is drawn from the pen = current point, which is the
       arc's own start point: no gap), `P n = to`; drawn from `from`, the `Segments` iterator gives the `n` cubics
       `⟨P k, C1 k, C2 k, P (k+1)⟩` – each starts where the previous ended – and leaves the pen on `to`.
       Exactness of the last end point: `append_iter` does not emit the stated end point; the last `CurveTo` ends at the computed
       `center + sampleEllipse(start + step + … + step)` (`n` additions).  What is proved is that over ℝ this equals
       `center + sampleEllipse(start + sweep)` (C10) which equals `to` (C16A).  The parser separately sets `last_pt := p` (the
       stated end point): over ℝ the two agree (`svg_arc_command_pen`); in `f64` they differ by rounding (see NOT PROVED).
    2. `svg_arc_command_on_ellipse` – every appended end point lies on the ellipse with centre `a.center`, radii `a.radii` (both
       `> 0`), rotation `arc.x_rotation`; element `k` ends at the ellipse point of angle `θ_{k+1}`, `θ_k = start + k·sweep/n`,
       `θ_0 = start`, `θ_n = start + sweep`; the angles are strictly increasing when the sweep flag is set and strictly decreasing
       when it is clear; each step is `|sweep|/n ≤ 2π/3.999999`; the total turning `|θ_n − θ_0| = |sweep|` is `< 2π`, is `> π` iff
       the large-arc flag is set when the radii fit strictly (`rf < 1`), and in all cases flag set ⇒ `≥ π`, clear ⇒ `≤ π`
       (for `rf ≥ 1` it is exactly `π` for both flag values: C16A `svg_arc_half_turn`).
    3. `svg_arc_command_straight` (any `Scalar`, also `Float`) – `is_straight_line = true` ⇒ exactly one `LineTo to` is appended,
       it is the segment `from → to`, the pen ends on `to`.  `svg_arc_straight_iff` (ℝ): `is_straight_line` ⇔ `|rx| ≤ 10⁻⁵` or
       `|ry| ≤ 10⁻⁵` or `from = to`.  So for `from = to` (where SVG says the segment is omitted) the model – and the crate – emit a
       zero-length `LineTo` (`svg_arc_same_point`); for a zero radius a straight line as SVG demands; the threshold `10⁻⁵` (instead
       of `0`) is kurbo's.
       `svg_arc_command_pen`: in every case the pen after the appended elements, drawn from `from`, is `to` – which is what the
       parser stores as `last_pt`.
    4. Parser level: `parse_moveTo_arc` (any `Scalar`): the text `ws* M x0 y0 ws* A rx ry rot fl fs x y ws*` (arbitrary white
       space, separators, number spellings; chunks as in C16) parses to `MoveTo (x0,y0) :: arcCommandEls ⟨(x0,y0), (x,y), (rx,ry),
       toRadians rot, fl, fs⟩`.  About that path: `moveTo_arc_segs` (ℝ): for a non-degenerate command its `Segments` are the
       `n ≥ 1` cubics of 1, from `(x0,y0)` to `(x,y)`; `moveTo_arc_straight` (any `Scalar`): otherwise `[MoveTo, LineTo (x,y)]`,
       one line segment.

    5. `svg_arc_command_count`: for sanitized radii `max(rx, ry) ≤ 366` the number of cubics is `⌈3.999999·|sweep|/(2π)⌉ ≤ 4`,
       and exactly `2` for a half turn (`rf ≥ 1`, e.g. every command whose radii had to be scaled up).

    NOT PROVED
    * Floating point.  Everything in 1, 2 and `moveTo_arc_segs` is over ℝ.  In `f64` the first control polygon starts at the
      pen (exactly `from`) while `C1 0` is computed from the arc's own start `center + sampleEllipse(start)` which only
      approximates `from`; the last `CurveTo` ends at a computed point that only approximates `to`, while `last_pt := to` exactly –
      so a following relative command is offset from `to`, whereas the next segment starts at the computed end point (difference:
      rounding of the centre/angle computation, not bounded here).  Parts 3 and `parse_moveTo_arc`, `moveTo_arc_straight` hold for `Float`.
    * That the cubics stay within the tolerance `0.1` of the ellipse between the knots: C10/C10A prove this only for circular arcs
      (radii `(R, R)`, no rotation); for genuinely elliptical arcs only knots and tangent directions are exact (see C10's header).
    * `as usize` saturation (not in `LawfulCount`), so astronomically large radii (n > usize::MAX) are outside the statement.
    * The parser lift is for one arc command after a `MoveTo` with the letter spelled; implicit repetition of `A` and arbitrary
      command lists are not composed here (the step lemmas `cmd_arc`, `step_letter`, `step_implicit` of C16 are what is needed).
    No input class was found where the model violates the clause. -/
namespace Kurbo
open Real SvgArcR

/-- `arcElements` of C16's `cmd_arc` is `arcCommandEls` of the `SvgArc` the parser builds; `arcCommandEls` is the `added` of the
    arc branch -/
theorem arc_command_elements {K : Type} [Scalar K] (f t radii : Point K) (xrot : K) (la sw : Bool) (arc : SvgArc K) :
    arcElements f t radii xrot la sw = arcCommandEls ⟨f, t, radii.to_vec2, toRadians xrot, la, sw⟩ ∧
    arcCommandEls arc = (match Arc.from_svg_arc arc with
      | some a => a.append_iter (Scalar.ofRat (1/10) : K)
      | none => [.LineTo arc.to]) := ⟨rfl, rfl⟩

section count
variable [Scalar ℝ] [LawfulScalar ℝ] [LawfulTrig] [LawfulCount]

/-- the `cmd…` names spelled out; the tolerance literal of the model is `1/10` -/
theorem cmd_vocabulary (a : Arc ℝ) (k : ℕ) :
    (Scalar.ofRat (1/10) : ℝ) = 1/10 ∧
    a.cmdN = (a.appendParams (1/10)).1 ∧
    a.cmdAngle k = a.start_angle + k * (a.sweep_angle / (a.cmdN : ℝ)) ∧
    a.cmdPt k = a.center + sampleEllipse a.radii a.x_rotation (a.cmdAngle k) ∧
    a.cmdC1 k = arcC1 a.center a.radii a.x_rotation (a.appendParams (1/10)).2.1 (a.appendParams (1/10)).2.2 a.start_angle k ∧
    a.cmdC2 k = arcC2 a.center a.radii a.x_rotation (a.appendParams (1/10)).2.1 (a.appendParams (1/10)).2.2 a.start_angle k :=
  ⟨arcTol_real, rfl, rfl, rfl, rfl, rfl⟩

end count

theorem svg_arc_command_straight {K : Type} [Scalar K] (arc : SvgArc K) (h : arc.is_straight_line = true) (s : Point K) :
    arcCommandEls arc = [.LineTo arc.to] ∧
    segsT (s, arc.from) (arcCommandEls arc) = [.Line ⟨arc.from, arc.to⟩] ∧
    stAfterT (s, arc.from) (arcCommandEls arc) = (s, arc.to) ∧
    penAfter arc.from (arcCommandEls arc) = arc.to := by
  rw [arcCommandEls_straight arc h]
  exact ⟨rfl, rfl, rfl, rfl⟩

section real
variable [Scalar ℝ] [LawfulScalar ℝ] [LawfulReal] [LawfulRealAngle]

/-- what `is_straight_line` means over ℝ -/
theorem svg_arc_straight_iff (arc : SvgArc ℝ) :
    arc.is_straight_line = true ↔ (|arc.radii.x| ≤ 1/100000 ∨ |arc.radii.y| ≤ 1/100000 ∨ arc.from = arc.to) := by
  rw [← not_iff_not, Bool.not_eq_true, is_straight_line_false_iff]
  simp only [not_or, not_le]

/-- `from = to`: a zero-length `LineTo` (SVG would omit the segment) -/
theorem svg_arc_same_point (arc : SvgArc ℝ) (h : arc.from = arc.to) (s : Point ℝ) :
    arcCommandEls arc = [.LineTo arc.from] ∧ segsT (s, arc.from) (arcCommandEls arc) = [.Line ⟨arc.from, arc.from⟩] := by
  have hs := (svg_arc_straight_iff arc).mpr (.inr (.inr h))
  obtain ⟨h1, h2, -⟩ := svg_arc_command_straight arc hs s
  rw [h2, h1, ← h]; exact ⟨rfl, rfl⟩

-- the hypothesis of `svg_arc_same_point` on the arc of `"M1 2 A3 4 0 1 0 1 2"`
example : (⟨⟨1, 2⟩, ⟨1, 2⟩, ⟨3, 4⟩, 0, true, false⟩ : SvgArc ℝ).from = (⟨⟨1, 2⟩, ⟨1, 2⟩, ⟨3, 4⟩, 0, true, false⟩ : SvgArc ℝ).to :=
  rfl
/-- a zero radius: `is_straight_line` -/
example : (⟨⟨0, 0⟩, ⟨2, 0⟩, ⟨0, 1⟩, 0, false, true⟩ : SvgArc ℝ).is_straight_line = true := by
  rw [svg_arc_straight_iff]; left; norm_num

end real

section glue
variable [Scalar ℝ] [LawfulScalar ℝ] [LawfulReal] [LawfulRealAngle] [LawfulTrig] [LawfulCount]

theorem svg_arc_command_curves (arc : SvgArc ℝ) (h : arc.is_straight_line = false) (s : Point ℝ) :
    ∃ a, Arc.from_svg_arc arc = some a ∧ 1 ≤ a.cmdN ∧
      arcCommandEls arc = (List.range a.cmdN).map (fun k => PathEl.CurveTo (a.cmdC1 k) (a.cmdC2 k) (a.cmdPt (k + 1))) ∧
      (arcCommandEls arc).length = a.cmdN ∧
      a.cmdPt 0 = arc.from ∧ a.cmdPt a.cmdN = arc.to ∧
      segsT (s, arc.from) (arcCommandEls arc)
        = (List.range a.cmdN).map (fun k => PathSeg.Cubic ⟨a.cmdPt k, a.cmdC1 k, a.cmdC2 k, a.cmdPt (k + 1)⟩) ∧
      stAfterT (s, arc.from) (arcCommandEls arc) = (s, arc.to) ∧
      penAfter arc.from (arcCommandEls arc) = arc.to := by
  obtain ⟨a, ha, h0, hn, -, h1, -, -, -⟩ := svg_arc_exists arc h
  have hels := arcCommandEls_eq_curveEls ha
  refine ⟨a, ha, h1, hels, ?_, h0, hn, ?_, ?_, ?_⟩
  · rw [hels, curveEls_length]
  · rw [hels, ← h0, segsT_curveEls]
    simp only [curveSegs, chainStart_cmd]
  · rw [hels, ← h0, stAfterT_curveEls, chainStart_cmd, hn]
  · rw [hels, ← h0, penAfter_curveEls, chainStart_cmd, hn]

/-- in every case the pen after the appended elements is the stated end point – the parser's new `last_pt` -/
theorem svg_arc_command_pen (arc : SvgArc ℝ) (s : Point ℝ) :
    penAfter arc.from (arcCommandEls arc) = arc.to ∧ stAfterT (s, arc.from) (arcCommandEls arc) = (s, arc.to) := by
  cases h : arc.is_straight_line
  · obtain ⟨a, -, -, -, -, -, -, -, h1, h2⟩ := svg_arc_command_curves arc h s
    exact ⟨h2, h1⟩
  · obtain ⟨-, -, h1, h2⟩ := svg_arc_command_straight arc h s
    exact ⟨h2, h1⟩

theorem svg_arc_command_on_ellipse (arc : SvgArc ℝ) (h : arc.is_straight_line = false) :
    ∃ a, Arc.from_svg_arc arc = some a ∧ 0 < a.radii.x ∧ 0 < a.radii.y ∧ a.x_rotation = arc.x_rotation ∧
      (∀ el ∈ arcCommandEls arc, ∃ p, el.end_point = some p ∧ OnEllipse a.center a.radii.x a.radii.y arc.x_rotation p) ∧
      (∀ k, k < a.cmdN → ((arcCommandEls arc)[k]?.bind PathEl.end_point) = some (a.cmdPt (k + 1))) ∧
      a.cmdAngle 0 = a.start_angle ∧ a.cmdAngle a.cmdN = a.start_angle + a.sweep_angle ∧
      (arc.sweep = true → ∀ k, a.cmdAngle k < a.cmdAngle (k + 1)) ∧
      (arc.sweep = false → ∀ k, a.cmdAngle (k + 1) < a.cmdAngle k) ∧
      (∀ k, |a.cmdAngle (k + 1) - a.cmdAngle k| = |a.sweep_angle| / (a.cmdN : ℝ) ∧
            |a.cmdAngle (k + 1) - a.cmdAngle k| ≤ 2 * π / (3999999 / 1000000)) ∧
      |a.cmdAngle a.cmdN - a.cmdAngle 0| = |a.sweep_angle| ∧ |a.sweep_angle| < 2 * π ∧
      (rfR arc < 1 → (π < |a.sweep_angle| ↔ arc.large_arc = true)) ∧
      (arc.large_arc = true → π ≤ |a.sweep_angle|) ∧ (arc.large_arc = false → |a.sweep_angle| ≤ π) := by
  obtain ⟨a, ha, -, -, -, h1, hx, hy, hrot⟩ := svg_arc_exists arc h
  have hn0 : a.cmdN ≠ 0 := Nat.one_le_iff_ne_zero.mp h1
  have hnpos : (0 : ℝ) < (a.cmdN : ℝ) := Nat.cast_pos.mpr (Nat.pos_of_ne_zero hn0)
  have hels := arcCommandEls_eq_curveEls ha
  obtain ⟨d1, d2⟩ := svg_arc_sweep_direction arc a h ha
  obtain ⟨-, -, habs⟩ := svg_arc_sweep_iff arc a h ha
  obtain ⟨w1, w2⟩ := svg_arc_large_arc_weak arc a h ha
  refine ⟨a, ha, hx, hy, hrot, ?_, ?_, cmdAngle_zero a, cmdAngle_last a, ?_, ?_, ?_, ?_, habs, ?_, w1, w2⟩
  · rw [arcCommandEls_some arc a ha, ← hrot]
    exact append_iter_forall_sample a _ fun _ => center_add_onEllipse _ _ _ _ hx.ne' hy.ne'
  · intro k hk
    rw [hels, curveEls_getElem? _ _ _ _ _ hk]; rfl
  · intro hs k
    exact sub_pos.mp (by rw [cmdAngle_succ_sub]; exact div_pos (d1 hs).1 hnpos)
  · intro hs k
    exact sub_neg.mp (by rw [cmdAngle_succ_sub]; exact div_neg_of_neg_of_pos (d2 hs).2 hnpos)
  · intro k
    rw [cmdAngle_succ_sub]
    exact ⟨by rw [abs_div, abs_of_pos hnpos], cmd_step_le a hn0⟩
  · rw [cmdAngle_zero, cmdAngle_last, add_sub_cancel_left]
  · intro hrf
    exact (svg_arc_large_arc arc a h ha hrf).1

/-- how many cubics: for sanitized radii up to 366 (error-based count below the minimum `3.999999` per turn) the count is
    `⌈3.999999·|sweep|/(2π)⌉ ∈ {1,…,4}`; a half turn (in particular every command whose radii were too small, `rf ≥ 1`) is drawn
    with exactly two cubics -/
theorem svg_arc_command_count (arc : SvgArc ℝ) (h : arc.is_straight_line = false) :
    ∃ a, Arc.from_svg_arc arc = some a ∧
      (max a.radii.x a.radii.y ≤ 366 →
        (a.cmdN : ℝ) = (⌈3999999 / 1000000 * |a.sweep_angle| * (1 / (2 * π))⌉ : ℝ) ∧ a.cmdN ≤ 4 ∧
        (1 ≤ rfR arc → a.cmdN = 2)) := by
  obtain ⟨a, ha, -, -, -, -, hx, hy, -⟩ := svg_arc_exists arc h
  have h0 : 0 ≤ max a.radii.x a.radii.y := le_max_of_le_left hx.le
  exact ⟨a, ha, fun hr => ⟨cmdN_small a h0 hr, cmdN_le_four a h0 hr (svg_arc_sweep_iff arc a h ha).2.2,
    fun hrf => cmdN_half_turn a h0 hr ((svg_arc_half_turn arc a h ha).1.mpr hrf)⟩⟩

example : exFit.is_straight_line = false ∧ exBig.is_straight_line = false ∧ exSmall.is_straight_line = false :=
  ⟨exFit_ok, exBig_ok, exSmall_ok⟩

/-- `A 1 1 0 0 1 2 0` from `(0,0)`: `n ≥ 1` cubics, the first starts at `(0,0)`, the pen ends at `(2,0)`, counter-clockwise in
    the y-up reading (angles increase), a half turn -/
example (s : Point ℝ) : ∃ a, Arc.from_svg_arc exFit = some a ∧ 1 ≤ a.cmdN ∧ a.cmdPt 0 = ⟨0, 0⟩ ∧ a.cmdPt a.cmdN = ⟨2, 0⟩ ∧
    penAfter ⟨0, 0⟩ (arcCommandEls exFit) = ⟨2, 0⟩ ∧ (∀ k, a.cmdAngle k < a.cmdAngle (k + 1)) ∧ |a.sweep_angle| = π := by
  have h : exFit.is_straight_line = false := exFit_ok
  obtain ⟨a, ha, hn, -, -, h0, h1, -, -, hp⟩ := svg_arc_command_curves exFit h s
  obtain ⟨a', ha', -, -, -, -, -, -, -, hinc, -, -, -, -, -, -, -⟩ := svg_arc_command_on_ellipse exFit h
  obtain rfl : a' = a := Option.some.inj (ha'.symm.trans ha)
  have hrf : rfR exFit = 1 := rfR_exFit
  exact ⟨a', ha, hn, h0, h1, hp, hinc rfl, (svg_arc_half_turn exFit a' h ha).1.mpr hrf.ge⟩

/-- `A 2 -2 0 1 0 2 0` from `(0,0)`: angles decrease, total turning between `π` and `2π` -/
example : ∃ a, Arc.from_svg_arc exBig = some a ∧ (∀ k, a.cmdAngle (k + 1) < a.cmdAngle k) ∧
    π < |a.cmdAngle a.cmdN - a.cmdAngle 0| ∧ |a.cmdAngle a.cmdN - a.cmdAngle 0| < 2 * π := by
  have h : exBig.is_straight_line = false := exBig_ok
  have hrf : rfR exBig < 1 := by rw [rfR_exBig]; norm_num
  obtain ⟨a, ha, -, -, -, -, -, -, -, -, hdec, -, htot, hlt, hla, -, -⟩ := svg_arc_command_on_ellipse exBig h
  refine ⟨a, ha, hdec rfl, ?_, ?_⟩
  · rw [htot]; exact (hla hrf).mpr rfl
  · rw [htot]; exact hlt

/-- `A .5 .5 0 0 1 2 0` from `(0,0)`: radii too small, scaled; still from `(0,0)` to `(2,0)` -/
example (s : Point ℝ) : ∃ a, Arc.from_svg_arc exSmall = some a ∧ 1 ≤ a.cmdN ∧
    penAfter ⟨0, 0⟩ (arcCommandEls exSmall) = ⟨2, 0⟩ := by
  have h : exSmall.is_straight_line = false := exSmall_ok
  obtain ⟨a, ha, hn, -, -, -, -, -, -, hp⟩ := svg_arc_command_curves exSmall h s
  exact ⟨a, ha, hn, hp⟩

/-- `exFit` (radii `(1,1)`, half turn) is drawn with exactly 2 cubics -/
example : ∃ a, Arc.from_svg_arc exFit = some a ∧ a.cmdN = 2 := by
  have h : exFit.is_straight_line = false := exFit_ok
  have hrf : rfR exFit = 1 := rfR_exFit
  obtain ⟨a, ha, hc⟩ := svg_arc_command_count exFit h
  obtain ⟨r1, -⟩ := svg_arc_radii exFit a h ha
  have hr : max a.radii.x a.radii.y ≤ 366 := by rw [r1 hrf.le]; norm_num [exFit]
  exact ⟨a, ha, (hc hr).2.2 hrf.ge⟩

end glue

section parse
variable {K : Type} [Scalar K]

/-- `ws* M x0 y0 ws* A rx ry rot fl fs x y ws*` parses to the `MoveTo` followed by what the arc command appends -/
theorem parse_moveTo_arc (data : ByteArray) (ws0 ws1 ws2 : List UInt8) (q0 : PtChunk)
    (qr : PtChunk) (kx : NumChunk) (f1 f2 : FlagChunk) (qp : PtChunk)
    (hdata : data.data.toList
      = ws0 ++ 77 :: (q0.bytes ++ (ws1 ++ 65 :: (qr.bytes ++ (kx.bytes ++ (f1.bytes ++ (f2.bytes ++ (qp.bytes ++ ws2))))))))
    (hws0 : ∀ b ∈ ws0, isWs b = true) (hws1 : ∀ b ∈ ws1, isWs b = true) (hws2 : ∀ b ∈ ws2, isWs b = true)
    (hq0 : q0.Ok (ws1 ++ 65 :: (qr.bytes ++ (kx.bytes ++ (f1.bytes ++ (f2.bytes ++ (qp.bytes ++ ws2)))))))
    (hqr : qr.Ok (kx.bytes ++ (f1.bytes ++ (f2.bytes ++ (qp.bytes ++ ws2))))) (hkx : kx.Ok (f1.bytes ++ (f2.bytes ++ (qp.bytes ++ ws2))))
    (hf1 : f1.Ok (f2.bytes ++ (qp.bytes ++ ws2))) (hf2 : f2.Ok (qp.bytes ++ ws2)) (hqp : qp.Ok ws2) :
    fromSvgBytes (K := K) data
      = .ok (.MoveTo q0.value ::
          arcCommandEls ⟨q0.value, qp.value, (qr.value : Point K).to_vec2, toRadians kx.value, f1.value, f2.value⟩) := by
  set tailA := qr.bytes ++ (kx.bytes ++ (f1.bytes ++ (f2.bytes ++ (qp.bytes ++ ws2)))) with htailA
  have hsize : data.size = (ws0 ++ 77 :: (q0.bytes ++ (ws1 ++ 65 :: tailA))).length := by
    rw [← hdata, Array.length_toList, ByteArray.size_data]
  obtain ⟨f, hf⟩ : ∃ f, data.size + 1 = f + 1 + 1 + 1 := ⟨ws0.length + q0.bytes.length + ws1.length + tailA.length, by
    rw [hsize]; simp only [List.length_append, List.length_cons]; ring⟩
  unfold fromSvgBytes
  rw [hf]
  have hrem0 : Lx.rem ⟨data, 0⟩ = ws0 ++ 77 :: (q0.bytes ++ (ws1 ++ 65 :: tailA)) := (Lx.rem_start data).trans hdata
  rw [step_moveTo _ _ _ ws0 _ 77 (.inr rfl) q0 hrem0 hws0 hq0]
  have hrem1 : (Lx.adv ⟨data, 0⟩ (ws0.length + 1 + q0.bytes.length)).rem = ws1 ++ 65 :: tailA := by
    have : Lx.rem ⟨data, 0⟩ = (ws0 ++ 77 :: q0.bytes) ++ (ws1 ++ 65 :: tailA) := by
      rw [hrem0, List.append_assoc, List.cons_append]
    have h := Lx.rem_adv this
    rw [show (ws0 ++ 77 :: q0.bytes).length = ws0.length + 1 + q0.bytes.length by
      simp only [List.length_append, List.length_cons]; ring] at h
    exact h
  simp only [relPt_upper (c := 77) (by decide)]
  have hrem2 : ((Lx.adv ⟨data, 0⟩ (ws0.length + 1 + q0.bytes.length)).adv (ws1.length + 1)).rem = tailA := by
    have h := Lx.rem_adv (xs := ws1 ++ [65]) (r := tailA) (by rw [hrem1, List.append_assoc, List.cons_append, List.nil_append])
    simpa only [List.length_append, List.length_cons, List.length_nil, zero_add] using h
  have hcmd := fun (st : SvgSt K) hp =>
    cmd_arc (K := K) st _ ws2 65 (.inr rfl) qr kx f1 f2 qp hrem2 hqr hkx hf1 hf2 hqp hp
  refine (step_letter _ _ _ hrem1 hws1 (by decide) (hcmd _ (List.cons_ne_nil _ _))).trans ?_
  have hrem3 := Lx.rem_adv (xs := qr.bytes ++ (kx.bytes ++ (f1.bytes ++ (f2.bytes ++ qp.bytes)))) (r := ws2)
    (by rw [hrem2, htailA]; simp only [List.append_assoc])
  simp only [List.length_append, ← Nat.add_assoc] at hrem3
  rw [step_end _ _ _ ws2 hrem3 hws2]
  simp only [List.nil_append, SvgSt.flushed_of_none, relPt_upper (c := 65) (by decide), arcElements_eq_cmd,
    List.cons_append]

/-- the string `"M0 0 A1 1 0 0 1 2 0"` meets the hypotheses of `parse_moveTo_arc` -/
example :
    let n (d : UInt8) (sep : List UInt8) : NumChunk := { p := { ip := [d] }, sep := sep }
    let q0 : PtChunk := { x := n 48 [32], y := n 48 [32] }
    let qr : PtChunk := { x := n 49 [32], y := n 49 [32] }
    let kx : NumChunk := n 48 [32]
    let f1 : FlagChunk := { flag := 48, sep := [32] }
    let f2 : FlagChunk := { flag := 49, sep := [32] }
    let qp : PtChunk := { x := n 50 [32], y := n 48 [] }
    "M0 0 A1 1 0 0 1 2 0".toUTF8.data.toList
      = [] ++ 77 :: (q0.bytes ++ ([] ++ 65 :: (qr.bytes ++ (kx.bytes ++ (f1.bytes ++ (f2.bytes ++ (qp.bytes ++ []))))))) ∧
    q0.Ok ([] ++ 65 :: (qr.bytes ++ (kx.bytes ++ (f1.bytes ++ (f2.bytes ++ (qp.bytes ++ [])))))) ∧
    qr.Ok (kx.bytes ++ (f1.bytes ++ (f2.bytes ++ (qp.bytes ++ [])))) ∧ kx.Ok (f1.bytes ++ (f2.bytes ++ (qp.bytes ++ []))) ∧
    f1.Ok (f2.bytes ++ (qp.bytes ++ [])) ∧ f2.Ok (qp.bytes ++ []) ∧ qp.Ok [] ∧
    (q0.value : Point Rat) = ⟨0, 0⟩ ∧ (qp.value : Point Rat) = ⟨2, 0⟩ ∧ (qr.value : Point Rat) = ⟨1, 1⟩ := by
  exact ⟨by decide,
    ⟨.digit_blank (by decide) (by decide) _, .digit_blank (by decide) (by decide) _⟩,
    ⟨.digit_blank (by decide) (by decide) _, .digit_blank (by decide) (by decide) _⟩,
    .digit_blank (by decide) (by decide) _, .blank (.inl rfl) (by decide) _, .blank (.inr rfl) (by decide) _,
    ⟨.digit_blank (by decide) (by decide) _,
      ⟨by decide, by decide, by decide, SepOk.ws (by decide) (by decide)⟩⟩,
    by decide +kernel, by decide +kernel, by decide +kernel⟩

/-- over `Rat` that text cannot be evaluated through `from_svg_arc` (`sqrt`, `atan2` are not rational functions); a degenerate
    command can: radius `0` gives the straight line -/
example : fromSvg (K := Rat) "M0 0 A0 1 0 0 1 2 0" = .ok [.MoveTo ⟨0, 0⟩, .LineTo ⟨2, 0⟩] := by decide +kernel
/-- `from = to`: a zero-length `LineTo` -/
example : fromSvg (K := Rat) "M1 2 A3 4 0 1 0 1 2" = .ok [.MoveTo ⟨1, 2⟩, .LineTo ⟨1, 2⟩] := by decide +kernel

/-- degenerate command after `MoveTo from`: the path `[MoveTo from, LineTo to]`, one line segment (any scalar) -/
theorem moveTo_arc_straight (arc : SvgArc K) (h : arc.is_straight_line = true) :
    PathEl.MoveTo arc.from :: arcCommandEls arc = [.MoveTo arc.from, .LineTo arc.to] ∧
    segs (PathEl.MoveTo arc.from :: arcCommandEls arc) = some [.Line ⟨arc.from, arc.to⟩] := by
  rw [arcCommandEls_straight _ h, segs_moveTo]
  exact ⟨rfl, rfl⟩

end parse

section parseReal
variable [Scalar ℝ] [LawfulScalar ℝ] [LawfulReal] [LawfulRealAngle] [LawfulTrig] [LawfulCount]

/-- non-degenerate command after `MoveTo from` (the path `parse_moveTo_arc` returns, `from = (x0,y0)`, `to = (x,y)`): the
    `Segments` of the path are the `n ≥ 1` cubics from `from` to `to`, and the pen ends on `to` -/
theorem moveTo_arc_segs (arc : SvgArc ℝ) (h : arc.is_straight_line = false) :
    ∃ a, Arc.from_svg_arc arc = some a ∧ 1 ≤ a.cmdN ∧ a.cmdPt 0 = arc.from ∧ a.cmdPt a.cmdN = arc.to ∧
      segs (PathEl.MoveTo arc.from :: arcCommandEls arc) = some ((List.range a.cmdN).map
        (fun k => PathSeg.Cubic ⟨a.cmdPt k, a.cmdC1 k, a.cmdC2 k, a.cmdPt (k + 1)⟩)) ∧
      penAfter arc.from (PathEl.MoveTo arc.from :: arcCommandEls arc) = arc.to := by
  obtain ⟨a, ha, hn, he, hlen, h0, h1, hs, -, hp⟩ := svg_arc_command_curves arc h arc.from
  refine ⟨a, ha, hn, h0, h1, ?_, ?_⟩
  · rw [segs_moveTo]; exact congrArg some hs
  · have hne : arcCommandEls arc ≠ [] := List.ne_nil_of_length_pos (by rw [hlen]; exact hn)
    unfold penAfter at hp ⊢
    rw [List.getLast?_cons_of_ne_nil hne]
    exact hp

end parseReal

/-- all five law classes are inhabited together: ℝ with the Mathlib functions -/
example : ∃ (_ : Scalar ℝ) (_ : LawfulScalar ℝ) (_ : LawfulReal) (_ : LawfulRealAngle) (_ : LawfulTrig), LawfulCount :=
  ⟨realScalar, realScalar_lawful, realScalar_lawfulReal, realScalar_lawfulRealAngle, realScalar_lawfulTrig,
    realScalar_lawfulCount⟩

end Kurbo
