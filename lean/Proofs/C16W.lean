import Proofs.C16
import Proofs.C16B
import Proofs.Lemmas.C16W
import Proofs.Lemmas.C16WSegs
import Proofs.Lemmas.C07Inst
/-! # C16W – `BezPath::write_to` / `to_svg` in the model, and the round trip through the model parser

`Kurbo/SvgWrite.lean` (model, Mathlib-free) transcribes svg.rs `write_to`: `svgWriteEl` = the `match *el { … write!(…) }`,
`svgWrite spell els` = the `enumerate` loop that writes one space in front of every element but the first.  The number printer
(`{}` = Rust's `Display for f64`) is the parameter `spell : K → List UInt8`.  The writer is tied to the crate by the correspondence
stratum `writer` of `gen/c16.py` (op `svg.write`: the model writer, handed the numerals of the crate's text, must write the crate's
bytes exactly; every numeral must be of the form `-?digits(.digits)?` and denote exactly its coordinate).

## Proved (arbitrary `[Scalar K]`, no arithmetic law used – verbatim for the `Float` instantiation)
1. `c16b_write_eq_svgWrite`: the proof-side format `c16b_write` of C16B (a definition in the proof tree) is the model writer:
   `c16b_write spell els = svgWrite (fun x => (spell x).bytes) els`.  Hence every theorem of C16B about `c16b_write` is a theorem
   about the model writer.  `svgWrite_eq_intercalate'`: the written text is the elements joined by single spaces.
   `svgWrite_roundtrip_parts`: the round trip with the printer given as `NumParts` (the form of C16B).
2. `svgWrite_parse`: the text written for a list that is empty or starts with `MoveTo` parses – no panic, no error – to the
   meaning of its `M L Q C Z` commands; `svgWrite_roundtrip`: **`fromSvgBytes (svgWrite spell els) = ok els`** if moreover every
   `ClosePath` is followed by a `MoveTo` or the end; `svgWrite_parse_count`: in general the result has one element per element
   plus one (the implicit `MoveTo`) per non-`MoveTo` element directly after a `ClosePath` – between `n` and `2n`;
   `svgWrite_parse_explicit`: the result is exactly `reparse first_pt false els` (that `MoveTo first_pt` inserted);
   **`svgWrite_same_segments`** (`[LawfulPeq K]`): `segs` of the result = `segs els` – the general "same segments" half of C16,
   which C16B states only as an element count.
   Hypothesis on the printer, only for the coordinates that occur: `SpellsNumber (spell x) x` – `spell x` is a number token of the
   grammar of `get_number` and `tokValue (parseTok (spell x)) = x`.
3. `svgWrite_roundtrip_display`: the same round trip with the hypothesis in the form the correspondence judge checks on every
   numeral of the crate's text: `IsDisplayNumeral (spell x)` (`-?digits(.digits)?`, what `Display for f64` prints for finite
   numbers: no exponent, no `+`, a digit in front of the period) and value `x`.  (`display_numeral_is_token`.)
4. `svgWrite_uninitialized`: a non-empty list that does not start with a `MoveTo` (it violates the invariant `BezPath::from_vec` /
   `push` debug-assert – `FromIterator` goes through `from_vec` – but `Extend` and `elements_mut` produce it without any check;
   `truncate` keeps a prefix and cannot) is written as a text the parser rejects with `UninitializedPath` – whatever the printer.
5. `svgWrite_congr'`: the writer uses `spell` only on the coordinates that occur.

## NOT proved
* Nothing about Rust's `Display for f64` itself: that it prints a numeral of the form `-?digits(.digits)?` whose correctly rounded
  value is the number printed is exactly the hypothesis `IsDisplayNumeral (spell x) ∧ tokValue (parseTok (spell x)) = x`; it is
  checked numeral by numeral in the correspondence runs (it fails, as it must, for NaN / ±inf: `NaN`, `inf` are not numerals).
* "Same segments" (`svgWrite_same_segments`) is proved for scalars with a lawful point equality (`LawfulPeq`, e.g. `Rat`, every
  `LawfulScalar`), not for `Float`, where it is false in the letter: after `M0,0 L-0,-0 Z L1,1` the crate's next segment starts at
  `(-0,-0)`, after the round trip (implicit `MoveTo(0,0)` inserted) at `(0,0)` – equal as `f64` values (`==`), not as bit patterns
  (the correspondence judge compares segments with `-0 == +0`).
* `write_to` to a writer that can fail (`io::Error` propagation by `?`) is not modelled: the model writes into a byte list.
-/
set_option linter.unusedSectionVars false
namespace Kurbo
variable {K : Type} [Scalar K]

/-- the format `c16b_write` (defined in the proof tree for C16B) coincides with the model writer `svgWrite` -/
theorem c16b_write_eq_svgWrite (spell : K → NumParts) (els : List (PathEl K)) :
    c16b_write spell els = svgWrite (fun x => (spell x).bytes) els :=
  c16b_write_eq_svgWrite_aux spell els

/-- the loop of `write_to` = the elements joined by single spaces -/
theorem svgWrite_eq_intercalate' (spell : K → List UInt8) (els : List (PathEl K)) :
    svgWrite spell els = [32].intercalate (els.map (svgWriteEl spell)) :=
  svgWrite_eq_intercalate spell els

/-- the writer uses the printer only on the coordinates that occur -/
theorem svgWrite_congr' (f g : K → List UInt8) (els : List (PathEl K)) (h : ∀ e ∈ els, ∀ x ∈ e.coords, f x = g x) :
    svgWrite f els = svgWrite g els :=
  svgWrite_congr f g els h

/-- C16B's `parse_write_format_roundtrip`, read as a statement about the model writer (printer with values in `NumParts`) -/
theorem svgWrite_roundtrip_parts (spell : K → NumParts) (els : List (PathEl K)) (hm : StartsWithMoveTo els)
    (hcm : CloseThenMoveTo els)
    (hspell : ∀ e ∈ els, ∀ x ∈ e.coords, (spell x).Valid ∧ tokValue (parseTok (spell x).bytes) = x) :
    fromSvgBytes (K := K) ⟨(svgWrite (fun x => (spell x).bytes) els).toArray⟩ = .ok els := by
  rw [← c16b_write_eq_svgWrite]
  exact parse_write_format_roundtrip spell els ((c16w_startsWithMove els).2 hm) ((c16w_closeThenMove els).2 hcm)
    (fun e he x hx => hspell e he x (by rwa [c16w_coords] at hx))

example : StartsWithMoveTo c16b_exEls ∧ CloseThenMoveTo c16b_exEls ∧
    (∀ e ∈ c16b_exEls, ∀ x ∈ e.coords, (c16b_exSpell x).Valid ∧ tokValue (parseTok (c16b_exSpell x).bytes) = x) :=
  ⟨by decide, by decide, by decide +kernel⟩

/-- the text written for a list that is empty or starts with `MoveTo` parses to the meaning of its commands `M L Q C Z` -/
theorem svgWrite_parse (spell : K → List UInt8) (els : List (PathEl K)) (hm : StartsWithMoveTo els)
    (hspell : ∀ e ∈ els, ∀ x ∈ e.coords, SpellsNumber (spell x) x) :
    fromSvgBytes (K := K) ⟨(svgWrite spell els).toArray⟩ = .ok (c16b_run svgInit (els.map c16b_ofEl)).path := by
  obtain ⟨hw, hp⟩ := c16w_to_c16b spell els hspell
  rw [hw]
  exact parse_write_format _ els ((c16w_startsWithMove els).2 hm) hp

/-- **write → parse round trip of the model**: an element list that starts with a `MoveTo` (or is empty) and in which every
    `ClosePath` is followed by a `MoveTo` or the end is read back identically from the bytes `svgWrite` writes, provided the
    printer writes, for every coordinate `x` that occurs, a number token whose parsed value is `x` -/
theorem svgWrite_roundtrip (spell : K → List UInt8) (els : List (PathEl K)) (hm : StartsWithMoveTo els)
    (hcm : CloseThenMoveTo els) (hspell : ∀ e ∈ els, ∀ x ∈ e.coords, SpellsNumber (spell x) x) :
    fromSvgBytes (K := K) ⟨(svgWrite spell els).toArray⟩ = .ok els := by
  obtain ⟨hw, hp⟩ := c16w_to_c16b spell els hspell
  rw [hw]
  exact parse_write_format_roundtrip _ els ((c16w_startsWithMove els).2 hm) ((c16w_closeThenMove els).2 hcm) hp

/-- without the condition on `ClosePath`: one extra element (the implicit `MoveTo`) per non-`MoveTo` element directly after a
    `ClosePath`; so between `n` and `2n` elements, and `n` under the condition -/
theorem svgWrite_parse_count (spell : K → List UInt8) (els : List (PathEl K)) (hm : StartsWithMoveTo els)
    (hspell : ∀ e ∈ els, ∀ x ∈ e.coords, SpellsNumber (spell x) x) :
    ∃ els', fromSvgBytes (K := K) ⟨(svgWrite spell els).toArray⟩ = .ok els' ∧
      els'.length = reparsedCount false els ∧ els.length ≤ els'.length ∧ els'.length ≤ 2 * els.length := by
  obtain ⟨hw, hp⟩ := c16w_to_c16b spell els hspell
  obtain ⟨els', h1, h2⟩ := parse_write_format_count _ els ((c16w_startsWithMove els).2 hm) hp
  rw [c16w_elemCount] at h2
  have hb := c16b_elemCount_bounds false (els.map c16b_ofEl)
  rw [c16w_elemCount, List.length_map] at hb
  exact ⟨els', by rw [hw]; exact h1, h2, by omega, by omega⟩

/-- the result of parsing the written text, explicitly: `reparse` = the list with a `MoveTo first_pt` inserted in front of every
    non-`MoveTo` element that directly follows a `ClosePath` -/
theorem svgWrite_parse_explicit (spell : K → List UInt8) (els : List (PathEl K)) (hm : StartsWithMoveTo els)
    (hspell : ∀ e ∈ els, ∀ x ∈ e.coords, SpellsNumber (spell x) x) :
    fromSvgBytes (K := K) ⟨(svgWrite spell els).toArray⟩ = .ok (reparse (svgInit (K := K)).first_pt false els) := by
  rw [svgWrite_parse spell els hm hspell, c16w_run_reparse els svgInit false rfl, svgInit_path, List.nil_append]

/-- **write → parse keeps the segments** of every element list that starts with a `MoveTo`, whatever follows a `ClosePath`
    (scalars with a lawful point equality, e.g. every `LawfulScalar`; for `Float` this is false in the letter: `0.0 == -0.0`) -/
theorem svgWrite_same_segments [LawfulPeq K] (spell : K → List UInt8) (els : List (PathEl K)) (hm : StartsWithMoveTo els)
    (hspell : ∀ e ∈ els, ∀ x ∈ e.coords, SpellsNumber (spell x) x) :
    ∃ els', fromSvgBytes (K := K) ⟨(svgWrite spell els).toArray⟩ = .ok els' ∧ segs els' = segs els := by
  refine ⟨_, svgWrite_parse_explicit spell els hm hspell, ?_⟩
  cases els with
  | nil => rfl
  | cons e tl =>
    cases e with
    | MoveTo p => exact segs_reparse _ p tl
    | _ => cases hm

/-- the hypothesis `LawfulPeq` holds for `Rat` (`Proofs/Lemmas/C07Inst.lean`); a concrete list: the examples on `c16w_exEls` below -/
example : LawfulPeq Rat := inferInstance

/-- a numeral of the form `-?digits(.digits)?` is a number token of the parser's grammar -/
theorem display_numeral_is_token {bs : List UInt8} (h : IsDisplayNumeral bs) : ∃ p : NumParts, p.Valid ∧ p.bytes = bs :=
  h.parts

/-- the round trip with the hypothesis as checked per numeral by the stratum `writer`: every coordinate is printed as
    `-?digits(.digits)?` and that numeral denotes the coordinate -/
theorem svgWrite_roundtrip_display (spell : K → List UInt8) (els : List (PathEl K)) (hm : StartsWithMoveTo els)
    (hcm : CloseThenMoveTo els)
    (hspell : ∀ e ∈ els, ∀ x ∈ e.coords, IsDisplayNumeral (spell x) ∧ tokValue (parseTok (spell x)) = x) :
    fromSvgBytes (K := K) ⟨(svgWrite spell els).toArray⟩ = .ok els :=
  svgWrite_roundtrip spell els hm hcm (fun e he x hx => ⟨(hspell e he x hx).1.parts, (hspell e he x hx).2⟩)

/-- a printer for the examples: the integers `-9 … 9` as one digit with `-` for the negative ones, the halves `n + 1/2` as `n.5` -/
def c16w_exSpell (x : Rat) : List UInt8 :=
  (if x < 0 then [45] else []) ++ [48 + x.num.natAbs.toUInt8 / x.den.toUInt8] ++ (if x.den = 1 then [] else [46, 53])

/-- `M1,2 L3.5,-4 Z Z L5,6 Q0,-0.5 7,8` – starts with `MoveTo`, but `ClosePath` is followed by `ClosePath` and by `LineTo` -/
def c16w_exEls : List (PathEl Rat) :=
  [.MoveTo ⟨1, 2⟩, .LineTo ⟨7/2, -4⟩, .ClosePath, .ClosePath, .LineTo ⟨5, 6⟩, .QuadTo ⟨0, -1/2⟩ ⟨7, 8⟩]

/-- the hypotheses of `svgWrite_roundtrip_display` on a concrete list (with a fraction and negative numbers) – of the printer
    hypothesis the value half; numerals of the form `IsDisplayNumeral`: next example –, what is written, and the round trip by
    evaluation -/
example :
    let els : List (PathEl Rat) := [.MoveTo ⟨1, 2⟩, .LineTo ⟨7/2, -4⟩, .ClosePath, .MoveTo ⟨0, -1/2⟩, .CurveTo ⟨1, 2⟩ ⟨3, 4⟩ ⟨5, 6⟩]
    StartsWithMoveTo els ∧ CloseThenMoveTo els ∧
    (∀ e ∈ els, ∀ x ∈ e.coords, tokValue (K := Rat) (parseTok (c16w_exSpell x)) = x) ∧
    (⟨(svgWrite c16w_exSpell els).toArray⟩ : ByteArray) = "M1,2 L3.5,-4 Z M0,-0.5 C1,2 3,4 5,6".toUTF8 ∧
    fromSvgBytes (K := Rat) ⟨(svgWrite c16w_exSpell els).toArray⟩ = .ok els :=
  ⟨by decide, by decide, by decide +kernel, by decide +kernel, by decide +kernel⟩

/-- `IsDisplayNumeral` on concrete numerals: `-3.5`, `0` -/
example : IsDisplayNumeral [45, 51, 46, 53] ∧ IsDisplayNumeral [48] :=
  ⟨⟨true, [51], [53], by decide, by decide, by decide, by decide⟩, ⟨false, [48], [], by decide, by decide, by decide, by decide⟩⟩

/-- `ClosePath` followed by `ClosePath` / `LineTo`: 6 elements are read back as 8 (`svgWrite_parse_count`), by direct evaluation -/
example : (⟨(svgWrite c16w_exSpell c16w_exEls).toArray⟩ : ByteArray) = "M1,2 L3.5,-4 Z Z L5,6 Q0,-0.5 7,8".toUTF8 ∧
    reparsedCount false c16w_exEls = 8 ∧ ¬ CloseThenMoveTo c16w_exEls ∧
    fromSvgBytes (K := Rat) ⟨(svgWrite c16w_exSpell c16w_exEls).toArray⟩ =
      .ok [.MoveTo ⟨1, 2⟩, .LineTo ⟨7/2, -4⟩, .ClosePath, .MoveTo ⟨1, 2⟩, .ClosePath, .MoveTo ⟨1, 2⟩, .LineTo ⟨5, 6⟩,
           .QuadTo ⟨0, -1/2⟩ ⟨7, 8⟩] :=
  ⟨by decide +kernel, by decide, by decide, by decide +kernel⟩

/-- … `reparse` on that list, and the segments (by evaluation): the same 4 segments before and after -/
example : reparse (svgInit (K := Rat)).first_pt false c16w_exEls =
      [.MoveTo ⟨1, 2⟩, .LineTo ⟨7/2, -4⟩, .ClosePath, .MoveTo ⟨1, 2⟩, .ClosePath, .MoveTo ⟨1, 2⟩, .LineTo ⟨5, 6⟩, .QuadTo ⟨0, -1/2⟩ ⟨7, 8⟩] ∧
    segs (reparse (svgInit (K := Rat)).first_pt false c16w_exEls) = segs c16w_exEls ∧
    (segs c16w_exEls).map List.length = some 4 ∧
    StartsWithMoveTo c16w_exEls ∧ (∀ e ∈ c16w_exEls, ∀ x ∈ e.coords, tokValue (K := Rat) (parseTok (c16w_exSpell x)) = x) :=
  ⟨by decide +kernel, by decide +kernel, by decide +kernel, by decide, by decide +kernel⟩

/-- a non-empty element list that does not start with a `MoveTo` is written as a text `from_svg` rejects with
    `UninitializedPath` (for every printer): such a list never round-trips -/
theorem svgWrite_uninitialized (spell : K → List UInt8) (e : PathEl K) (es : List (PathEl K)) (h : e.isMove = false) :
    fromSvgBytes (K := K) ⟨(svgWrite spell (e :: es)).toArray⟩ = .err .uninitializedPath := by
  obtain ⟨r, hr⟩ := svgWrite_head spell e es
  have hl := c16b_letter_isLetter (c16b_ofEl e)
  have hne : (c16b_ofEl e).letter ≠ 109 ∧ (c16b_ofEl e).letter ≠ 77 := by
    cases e with
    | MoveTo p => cases h
    | _ => simp [c16b_ofEl, C16Cmd.letter]
  exact parse_errors_uninitialized _ _ _ (c16w_first_byte _ _ r (by simpa using hr) (isLetter_not_ws hl)) hl hne.1 hne.2

example : fromSvgBytes (K := Rat) ⟨(svgWrite c16w_exSpell [.LineTo ⟨1, 2⟩, .MoveTo ⟨3, 4⟩]).toArray⟩ = .err .uninitializedPath := by
  decide +kernel

end Kurbo
