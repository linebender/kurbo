import Proofs.Lemmas.C07
import Proofs.Lemmas.C07Rev
import Proofs.Lemmas.C07Path
import Proofs.Lemmas.C07Inst
/-! # C07 – the element view and the segment view of a path are coherent

Theorems about the hand-written model `Kurbo/Path.lean` (`segStep/segsIdxFrom/segsIdx/segs`, `subpathStart`,
`getSeg`, `fromPathSegments`, `reverseSubpath`, `reverseSubpaths`), exactly as it is defined there.

Scalars.  Purely structural theorems hold for every `[Scalar K]` (also `Float`).  Theorems that depend on the
outcome of the point comparison `Point.peq` assume `[LawfulPeq K]` (`a.peq b = true ↔ a = b`, defined in
`Proofs/Lemmas/C07.lean`); `Proofs/Lemmas/C07Inst.lean` proves `LawfulPeq K` for every `LawfulScalar K`, hence for
`Rat`.  `Float` is NOT an instance (`NaN ≠ NaN`, `0.0 == -0.0`): for `Float` only the `[Scalar K]` theorems apply.

What is proved (all for arbitrary lists / arbitrary length):
* 1 `segs_total`, `segs_nil`, `segs_closePath_first`, `segs_eq_none_iff`: `segments` panics iff the first element is `ClosePath`.
* 2 `segsIdxFrom_append`, `segStateAfter_append`, `segs_append`, `segsIdxFrom_eq_none_iff`: fold law (state after a prefix = `segStateAfter`).
* 3 `close_contributes_iff`: `ClosePath` emits `Line(last,start)` iff `last ≠ start`; the new current point is `start`.
* 4 `segState_invariant`, `getSeg_spec`: for every path starting with `MoveTo` and every index `ix`,
    `getSeg els ix` is the segment the iterator emits while consuming element `ix` (none if it emits none);
    `segs_eq_filterMap_getSeg`: `segs els = (List.range els.length).filterMap (getSeg els)`.
* 5 `segs_fromPathSegments`, `fromPathSegments_moves`.
* 6a `reverseSubpath_block`, `reverseSubpath_isSome_iff`: block level (run of drawing elements): reversed
    segments in reverse order, ends at the old start, reversing twice restores the run; panics iff the run
    contains a `MoveTo`/`ClosePath`.
* 6b path level, for every path starting with `MoveTo` (any number of sub-paths, implicit sub-paths after
    `ClosePath`, lone `MoveTo`s, doubled `ClosePath`s …), via the sub-path decomposition `subpaths`
    (`Proofs/Lemmas/C07Path.lean`; a sub-path = start point, run of drawing elements, closed flag):
    `reverseSubpaths_spec` (never panics; output = each sub-path reversed, same order, closedness kept),
    `segs_subpaths` (segments of a path = concatenation of its sub-paths' segments, so `subpaths` is faithful),
    `subpath_segs_render`, `subpaths_bodies`, `subpaths_render` (writing sub-paths out and decomposing again is the identity),
    `subpath_rev_rev`, `subpath_rev_closed`, `subpath_rev_segs_open`, `subpath_rev_segs_closed`, `subpath_rev_segs_rotate`
    (closed sub-path: the reversed closing line comes last instead of first, i.e. rotation by one, because the
    reversed sub-path starts at the last point of the body), `reverse_segs`, `reverse_reverse_els`,
    `reverse_reverse_segs`; and, in terms of the model functions only, the single-sub-path cases
    `reverse_single_open` (`MoveTo p :: body`) and `reverse_single_closed` (`MoveTo p :: body ++ [ClosePath]`).
* 7 builder histories: `segs`, `getSeg`, … are functions of the final element list only, so there is nothing to prove in
    this file; the builder operations with their debug assertions are modelled as a state machine in `Kurbo/PathMut.lean`,
    and `Proofs/C07M.lean` proves that every non-panicking history computes the obvious list function
    (`mutRun_refines`, `builder_history_irrelevant`).
* "the Shape segment iterator agrees": in the crate `Shape::path_segments` is `segments(self.path_elements(tol))`
    and `BezPath::path_elements` iterates the element vector, i.e. it is the very function modelled by `segs`;
    there is no second definition to compare with in this model.
* Remark on `getSeg`: it transcribes `get_seg` as it stands in /repo, where after a `ClosePath` the current point is the
    start of the sub-path (DESIGN.md 5.b); `getSeg_spec` holds without any side condition on element `ix−1`
    or on degenerate sub-paths (`M p Z`, `M … Z M q Z`), see the two `example`s there.

What is NOT proved here:
* Nothing about `Float` beyond the statements that assume `[Scalar K]` only (items 1, 2, 6a, `reverseSubpaths_spec`,
    `reverse_reverse_els`, …).
* Paths that do not start with `MoveTo` (the crate's debug assertion excludes them): `getSeg_spec`, and the
    path-level reversal theorems assume a leading `MoveTo` (without it `reverseSubpaths` skips element 0 and
    starts from the default point (0,0), while `segs` uses the end point of element 0 as start).
* `pathArea` (`Segments::area`) is not part of this property.
-/
set_option linter.unusedSectionVars false
namespace Kurbo
variable {K : Type} [Scalar K]

/-- `segments` does not panic unless the very first element is `ClosePath` (any `Scalar`, also `Float`) -/
theorem segs_total (el : PathEl K) (rest : List (PathEl K)) (h : el ≠ .ClosePath) :
    segs (el :: rest) ≠ none := by
  rw [segs_cons]
  cases el with
  | ClosePath => exact absurd rfl h
  | _ => exact Option.some_ne_none _
example : (PathEl.MoveTo (⟨0, 0⟩ : Point Rat)) ≠ .ClosePath := by decide

theorem segs_nil : segs ([] : List (PathEl K)) = some [] := rfl

/-- "Can't start a segment on a ClosePath" -/
theorem segs_closePath_first (rest : List (PathEl K)) : segs (.ClosePath :: rest) = none := rfl

theorem segs_eq_none_iff (els : List (PathEl K)) : segs els = none ↔ ∃ rest, els = .ClosePath :: rest := by
  cases els with
  | nil => exact ⟨fun h => (nomatch h), fun ⟨_, h⟩ => (nomatch h)⟩
  | cons el rest =>
    rw [segs_cons]
    cases el <;> simp [PathEl.end_point]

/-- consuming `a ++ b` = consuming `a`, then `b` from the state reached (`segStateAfter`), indices shifted -/
theorem segsIdxFrom_append (st : SegSt K) (ix : Nat) (a b : List (PathEl K)) :
    segsIdxFrom st ix (a ++ b) =
      match segStateAfter st a, segsIdxFrom st ix a with
      | some st', some la => (segsIdxFrom st' (ix + a.length) b).map (la ++ ·)
      | _, _ => none := by
  induction a generalizing st ix with
  | nil => simp [segStateAfter, segsIdxFrom]
  | cons el rest ih =>
    simp only [List.cons_append, segsIdxFrom, segStateAfter]
    cases h : segStep st el with
    | none => rfl
    | some r =>
      obtain ⟨st', out⟩ := r
      simp only [ih, List.length_cons]
      have e : ix + 1 + rest.length = ix + (rest.length + 1) := by omega
      rw [e]
      cases segStateAfter st' rest <;> cases segsIdxFrom st' (ix + 1) rest <;> try rfl
      dsimp only
      cases segsIdxFrom _ (ix + (rest.length + 1)) b <;> cases out <;> rfl

theorem segStateAfter_append (st : SegSt K) (a b : List (PathEl K)) :
    segStateAfter st (a ++ b) = (segStateAfter st a).bind fun st' => segStateAfter st' b := by
  induction a generalizing st with
  | nil => rfl
  | cons el rest ih =>
    simp only [List.cons_append, segStateAfter]
    cases segStep st el with
    | none => rfl
    | some r => exact ih r.1

theorem segs_append (p : Point K) (a b : List (PathEl K)) :
    ∃ sl, segStateAfter none (.MoveTo p :: a) = some (some sl) ∧
      segs (.MoveTo p :: a ++ b)
        = (segs (.MoveTo p :: a)).bind fun sa => (segsIdxFrom (some sl) 0 b).map fun lb => sa ++ lb.map (·.2) := by
  refine ⟨stAfterT (p, p) a, segStateAfter_moveTo p a, ?_⟩
  rw [List.cons_append, segs_moveTo, segs_moveTo, segsT_append, segsIdxFrom_some, Option.bind_some,
    Option.map_some, map_snd_segsIdxT]

theorem segsIdxFrom_eq_none_iff (st : SegSt K) (ix : Nat) (a : List (PathEl K)) :
    segsIdxFrom st ix a = none ↔ segStateAfter st a = none := by
  induction a generalizing st ix with
  | nil => simp [segsIdxFrom, segStateAfter]
  | cons el rest ih =>
    simp only [segsIdxFrom, segStateAfter]
    cases segStep st el with
    | none => simp
    | some r =>
      obtain ⟨st', out⟩ := r
      simp only
      rw [← ih st' (ix + 1)]
      cases segsIdxFrom st' (ix + 1) rest <;> simp

/-- In state `(start, last)` a `ClosePath` never panics, makes `start` the current point, and emits the closing
    line `Line(last, start)` exactly when `last ≠ start` (nothing otherwise). -/
theorem close_contributes_iff [LawfulPeq K] (start last : Point K) :
    ∃ out, segStep (some (start, last)) .ClosePath = some (some (start, start), out) ∧
      (out = some (.Line ⟨last, start⟩) ↔ last ≠ start) ∧ (out = none ↔ last = start) := by
  by_cases h : last = start
  · subst h
    refine ⟨none, ?_, by simp, by simp⟩
    simp [segStep]
  · refine ⟨some (.Line ⟨last, start⟩), ?_, by simp [h], by simp [h]⟩
    simp [segStep, (peq_false_iff last start).2 h]

/-- Invariant of the iterator: after consuming a non-empty prefix `MoveTo p0 :: t` of a path, the state is
    `(S, L)` where `S` is what `subpathStart` finds for the next index and `L` is the end point of the last
    consumed element, or `S` if that element is `ClosePath`. -/
theorem segState_invariant [LawfulPeq K] (p0 : Point K) (t post : List (PathEl K)) :
    ∃ S, subpathStart (.MoveTo p0 :: t ++ post) (t.length + 1) = some S ∧
      segStateAfter none (.MoveTo p0 :: t)
        = some (some (S, (((PathEl.MoveTo p0 :: t).getLast?.bind PathEl.end_point).getD S))) := by
  refine ⟨(stAfterT (p0, p0) t).1, ?_, ?_⟩
  · have ht : (PathEl.MoveTo p0 :: t ++ post).take (t.length + 1) = .MoveTo p0 :: t := by
      rw [List.take_left' (by simp)]
    rw [subpathStart_eq, ht, stAfterT_start, List.reverse_cons, List.findSome?_append]
    cases t.reverse.findSome? mvPt <;> rfl
  · rw [segStateAfter_moveTo]
    congr 2
    refine Prod.ext rfl ?_
    induction t using snoc_induction with
    | nil => rfl
    | snoc t' prev _ =>
      rw [← List.cons_append, List.getLast?_concat, stAfterT_snoc, stepT_last, stepT_start]
      cases prev <;> rfl

/-- **`get_seg` agrees with `segments`**: for a path starting with `MoveTo` and every `ix` (in or out of range),
    `getSeg els ix` is the segment that the iterator emits while consuming element `ix` – `none` if it emits
    none there (`MoveTo`, `ClosePath` on an already closed sub-path, `ix` out of range). -/
theorem getSeg_spec [LawfulPeq K] (p0 : Point K) (tl : List (PathEl K)) (ix : Nat) :
    getSeg (.MoveTo p0 :: tl) ix
      = (((segsIdx (.MoveTo p0 :: tl)).getD []).find? (fun q => decide (q.1 = ix))).map (·.2) :=
  getSeg_spec_aux p0 tl ix
example : getSeg (K := Rat) [.MoveTo ⟨0,0⟩, .LineTo ⟨1,0⟩, .ClosePath, .LineTo ⟨1,1⟩] 3
    = some (.Line ⟨⟨0,0⟩,⟨1,1⟩⟩) := by decide +kernel
example : getSeg (K := Rat) [.MoveTo ⟨0,0⟩, .ClosePath, .MoveTo ⟨5,5⟩, .ClosePath] 3 = none := by decide +kernel

/-- **iterating = looking up every index**: the list produced by `segments` is the list of the `get_seg ix`
    that are `Some`, for `ix = 0, 1, …, len-1` in order -/
theorem segs_eq_filterMap_getSeg [LawfulPeq K] (p0 : Point K) (tl : List (PathEl K)) :
    segs (.MoveTo p0 :: tl)
      = some ((List.range (tl.length + 1)).filterMap (getSeg (.MoveTo p0 :: tl))) := by
  have hg : getSeg (.MoveTo p0 :: tl) = fun i =>
      ((segsIdxT (p0, p0) 0 (.MoveTo p0 :: tl)).find? (fun q => q.1 == i)).map (·.2) := by
    funext i
    rw [getSeg_spec_aux, segsIdx_moveTo, Option.getD_some]
  rw [hg, List.range_eq_range', ← List.length_cons (a := PathEl.MoveTo p0),
    ← map_snd_segsIdxT_eq_filterMap]
  unfold segs
  rw [segsIdx_moveTo, Option.map_some]

/-- rebuilding a path from any list of segments yields exactly these segments (no segment is lost or altered) -/
theorem segs_fromPathSegments [LawfulPeq K] (ss : List (PathSeg K)) : segs (fromPathSegments ss) = some ss := by
  cases ss with
  | nil => rfl
  | cons s rest =>
    show segs (PathEl.MoveTo s.start :: s.as_path_el :: fromPathSegmentsAux (some s.end) rest) = _
    rw [segs_moveTo]
    simp only [segsT, stepT_as_path_el, segsT_fromPathSegmentsAux]
    rfl

/-- … with the same connectivity: one `MoveTo` at the beginning and one per discontinuity
    (`adjacentPairs ss = ss.zip ss.tail`), no spurious breaks -/
theorem fromPathSegments_moves [LawfulPeq K] [DecidableEq K] (ss : List (PathSeg K)) :
    (fromPathSegments ss).countP PathEl.isMoveTo
      = if ss = [] then 0 else 1 + (adjacentPairs ss).countP (fun p => decide (p.1.end ≠ p.2.start)) := by
  cases ss with
  | nil => rfl
  | cons s rest =>
    rw [if_neg (List.cons_ne_nil _ _), ← countP_fromPathSegmentsAux]
    show (PathEl.MoveTo s.start :: s.as_path_el :: fromPathSegmentsAux (some s.end) rest).countP _ = _
    rw [List.countP_cons, List.countP_cons, isMoveTo_as_path_el]
    simp [PathEl.isMoveTo]; omega
example : (fromPathSegments (K := Rat) [.Line ⟨⟨0,0⟩,⟨1,0⟩⟩, .Line ⟨⟨1,0⟩,⟨1,1⟩⟩, .Line ⟨⟨2,2⟩,⟨0,0⟩⟩])
    = [.MoveTo ⟨0,0⟩, .LineTo ⟨1,0⟩, .LineTo ⟨1,1⟩, .MoveTo ⟨2,2⟩, .LineTo ⟨0,0⟩] := by decide +kernel

/-- `reverse_subpath` panics exactly when the run contains a `MoveTo` or a `ClosePath` (any `Scalar`) -/
theorem reverseSubpath_isSome_iff (start_pt : Point K) (body : List (PathEl K)) :
    (reverseSubpath start_pt body).isSome = true ↔ AllDraw body := by
  constructor
  · intro h
    apply Classical.byContradiction
    intro hn
    rw [reverseSubpath_none _ _ hn] at h
    cases h
  · intro h
    rw [reverseSubpath_eq _ _ h]; rfl

/-- **Block level.**  For a run `body` of drawing elements drawn from `start_pt` (any `Scalar`, also `Float`: no point
    comparison is involved) `reverse_subpath` returns `MoveTo endp :: rev`, where `rev`, drawn from `endp`, ends at
    `start_pt` and yields the reversed segments of `body` in reverse order; reversing `rev` from `endp` gives back
    `MoveTo start_pt :: body`. -/
theorem reverseSubpath_block (start_pt : Point K) (body : List (PathEl K)) (h : AllDraw body) :
    ∃ endp rev, reverseSubpath start_pt body = some (.MoveTo endp :: rev) ∧ AllDraw rev ∧
      rev.length = body.length ∧
      segStateAfter none (.MoveTo start_pt :: body) = some (some (start_pt, endp)) ∧
      segStateAfter none (.MoveTo endp :: rev) = some (some (endp, start_pt)) ∧
      segs (.MoveTo endp :: rev)
        = (segs (.MoveTo start_pt :: body)).map (fun ss => ss.reverse.map PathSeg.reverse) ∧
      reverseSubpath endp rev = some (.MoveTo start_pt :: body) := by
  have hr := revBody_isDraw start_pt body h
  refine ⟨runEnd start_pt body, revBody start_pt body, reverseSubpath_eq _ _ h, hr, ?_, ?_, ?_, ?_, ?_⟩
  · clear hr h
    induction body generalizing start_pt with
    | nil => rfl
    | cons e es ih => simp only [revBody, List.length_append, ih, List.length_cons, List.length_nil]
  · rw [segStateAfter_moveTo, stAfterT_draw _ _ _ h]
  · rw [segStateAfter_moveTo, stAfterT_draw _ _ _ hr, runEnd_revBody _ _ h]
  · rw [segs_moveTo, segs_moveTo, segsT_revBody start_pt _ _ _ h, Option.map_some]
  · rw [reverseSubpath_eq _ _ hr, runEnd_revBody _ _ h, revBody_revBody _ _ h]
example : AllDraw (K := Rat) [.LineTo ⟨1,0⟩, .QuadTo ⟨1,1⟩ ⟨0,1⟩] := by
  intro e he; simp at he; rcases he with rfl | rfl <;> rfl
example : reverseSubpath (K := Rat) ⟨0,0⟩ [.LineTo ⟨1,0⟩, .QuadTo ⟨1,1⟩ ⟨0,1⟩, .CurveTo ⟨0,2⟩ ⟨0,3⟩ ⟨0,4⟩]
    = some [.MoveTo ⟨0,4⟩, .CurveTo ⟨0,3⟩ ⟨0,2⟩ ⟨0,1⟩, .QuadTo ⟨1,1⟩ ⟨1,0⟩, .LineTo ⟨0,0⟩] := by decide +kernel

/-! `subpaths els` (Lemmas/C07Path.lean) cuts an element list that starts with `MoveTo` into sub-paths
`⟨start, body, closed⟩`: a sub-path starts at a `MoveTo`, or implicitly (at the previous start point) after a
`ClosePath`; it ends with `ClosePath` (closed) or at the next `MoveTo` / the end of the list (open).  An implicit
open sub-path without drawing elements is not recorded; a lone `MoveTo` is.
`Subpath.render b = MoveTo b.start :: b.body ++ [ClosePath if closed]`,
`Subpath.segs b` = the segments of `b.render`,
`Subpath.rev b = ⟨end point of the body, reversed body, same closed flag⟩`. -/

/-- the decomposition is faithful to `segments`: the segments of a path are those of its sub-paths, in order -/
theorem segs_subpaths [LawfulPeq K] (p0 : Point K) (tl : List (PathEl K)) :
    segs (.MoveTo p0 :: tl) = some ((subpaths (.MoveTo p0 :: tl)).flatMap Subpath.segs) :=
  segs_eq_subpaths p0 tl

theorem subpath_segs_render (b : Subpath K) : segs b.render = some b.segs := segs_render b

theorem subpaths_bodies (els : List (PathEl K)) : ∀ b ∈ subpaths els, AllDraw b.body := subpaths_allDraw els

/-- writing sub-paths out and decomposing again is the identity (so `subpaths` loses nothing but implicit starts) -/
theorem subpaths_render (bs : List (Subpath K)) (h : ∀ b ∈ bs, AllDraw b.body) :
    subpaths (bs.flatMap Subpath.render) = bs := subpaths_flatMap_render bs h

/-- **`reverse_subpaths` never panics on a path that starts with `MoveTo` and reverses it sub-path by sub-path**:
    same number and order of sub-paths, each one replaced by its reversal (start ↦ end point of its body, body ↦
    `reverse_subpath` of it, closed flag unchanged), every sub-path written with an explicit `MoveTo`.
    Any `Scalar` (also `Float`). -/
theorem reverseSubpaths_spec (p0 : Point K) (tl : List (PathEl K)) :
    reverseSubpaths (.MoveTo p0 :: tl)
        = some (((subpaths (.MoveTo p0 :: tl)).map Subpath.rev).flatMap Subpath.render) ∧
      ∀ r, reverseSubpaths (.MoveTo p0 :: tl) = some r →
        subpaths r = (subpaths (.MoveTo p0 :: tl)).map Subpath.rev := by
  refine ⟨reverseSubpaths_eq_revOut p0 tl, ?_⟩
  intro r hr
  rw [reverseSubpaths_eq_revOut] at hr
  cases hr
  exact subpaths_revOut _ (subpaths_allDraw _)

example : ∀ b ∈ subpaths (K := Rat) [.MoveTo ⟨0,0⟩, .LineTo ⟨1,0⟩, .ClosePath, .LineTo ⟨1,1⟩], AllDraw b.body :=
  subpaths_bodies _
example : (subpaths (K := Rat) [.MoveTo ⟨0,0⟩, .LineTo ⟨1,0⟩, .ClosePath, .LineTo ⟨1,1⟩, .MoveTo ⟨2,2⟩]).length = 3 := by
  decide +kernel

theorem subpath_rev_closed (b : Subpath K) : b.rev.closed = b.closed := rfl

theorem subpath_rev_rev (b : Subpath K) (h : AllDraw b.body) : b.rev.rev = b := b.rev_rev h

/-- open sub-path: the reversed sub-path has the reversed segments in reverse order -/
theorem subpath_rev_segs_open [LawfulPeq K] (b : Subpath K) (h : AllDraw b.body) (ho : b.closed = false) :
    b.rev.segs = b.segs.reverse.map PathSeg.reverse := by
  rw [Subpath.segs_rev b h, Subpath.segs_eq b h, ho]
  simp

/-- closed sub-path, with `d` the segments of the body, `e` its end point and `c` the closing line (`[Line(e,start)]` if
    `e ≠ start`, else `[]`): the reversed sub-path starts at `e` and emits the reversed closing line last (by its own
    `ClosePath`), not first. -/
theorem subpath_rev_segs_closed [LawfulPeq K] (b : Subpath K) (h : AllDraw b.body) (hc : b.closed = true) :
    let d := segsT (b.start, b.start) b.body
    let e := runEnd b.start b.body
    let c := closingSeg b.start e
    b.segs = d ++ c ∧ b.rev.segs = d.reverse.map PathSeg.reverse ++ c.map PathSeg.reverse ∧
      b.rev.start = e ∧ (e = b.start → c = []) ∧ (e ≠ b.start → c = [.Line ⟨e, b.start⟩]) := by
  refine ⟨?_, ?_, rfl, ?_, ?_⟩
  · rw [Subpath.segs_eq b h, hc]; rfl
  · rw [Subpath.segs_rev b h, hc]; rfl
  · intro he; rw [he, closingSeg_eq_closeSegs, closeSegs_self]
  · intro he; rw [closingSeg_eq_closeSegs, closeSegs_of_ne he]

/-- both cases in one formula: the reversed sub-path's segments are the reversed segments in reverse order,
    rotated left by the number of closing lines (0 or 1) – "up to the choice of the starting vertex" -/
theorem subpath_rev_segs_rotate [LawfulPeq K] (b : Subpath K) (h : AllDraw b.body) :
    b.rev.segs = (b.segs.reverse.map PathSeg.reverse).rotateLeft
      (if b.closed then (closingSeg b.start (runEnd b.start b.body)).length else 0) := by
  rw [Subpath.segs_rev b h, Subpath.segs_eq b h]
  cases hc : b.closed with
  | false => simp [List.rotateLeft]
  | true =>
    simp only [if_true]
    generalize hcl : closingSeg b.start (runEnd b.start b.body) = cl
    have hl : cl.length ≤ 1 := by rw [← hcl, closingSeg_eq_closeSegs]; exact closeSegs_length_le _ _
    match cl, hl with
    | [], _ => simp [List.rotateLeft]
    | [c], _ =>
      simp only [List.reverse_append, List.reverse_singleton, List.map_append, List.map_cons, List.map_nil,
        List.length_singleton, rotateLeft_singleton_append]

/-- segments of the reversed path = concatenation, in the original sub-path order, of the segments of the reversed
    sub-paths -/
theorem reverse_segs [LawfulPeq K] (p0 : Point K) (tl : List (PathEl K)) :
    (reverseSubpaths (.MoveTo p0 :: tl)).bind segs
      = some ((subpaths (.MoveTo p0 :: tl)).flatMap fun b => b.rev.segs) :=
  reverse_segs_aux _ (Or.inr ⟨p0, tl, rfl⟩)

/-- reversing twice gives the path back in normal form: its sub-paths written out with explicit `MoveTo`s
    (element level; any `Scalar`, also `Float`) -/
theorem reverse_reverse_els (p0 : Point K) (tl : List (PathEl K)) :
    (reverseSubpaths (.MoveTo p0 :: tl)).bind reverseSubpaths
      = some ((subpaths (.MoveTo p0 :: tl)).flatMap Subpath.render) :=
  reverse_reverse_els_aux _ (Or.inr ⟨p0, tl, rfl⟩)

/-- **reversing twice restores the segment sequence exactly** -/
theorem reverse_reverse_segs [LawfulPeq K] (p0 : Point K) (tl : List (PathEl K)) :
    ((reverseSubpaths (.MoveTo p0 :: tl)).bind reverseSubpaths).bind segs = segs (.MoveTo p0 :: tl) :=
  reverse_reverse_segs_aux _ (Or.inr ⟨p0, tl, rfl⟩)

theorem reverse_single_open (p : Point K) (body : List (PathEl K)) (h : AllDraw body) :
    reverseSubpaths (.MoveTo p :: body) = reverseSubpath p body ∧
    (reverseSubpaths (.MoveTo p :: body)).bind segs
      = (segs (.MoveTo p :: body)).map (fun ss => ss.reverse.map PathSeg.reverse) := by
  have h1 : reverseSubpaths (.MoveTo p :: body) = reverseSubpath p body := by
    rw [reverseSubpath_eq _ _ h, ← render_open, ← render_open]
    exact reverseSubpaths_render ⟨p, body, false⟩ h
  refine ⟨h1, ?_⟩
  rw [h1, reverseSubpath_eq _ _ h, Option.bind_some, segs_moveTo, segs_moveTo, segsT_revBody p _ _ _ h,
    Option.map_some]

/-- a path that is a single closed sub-path `MoveTo p :: body ++ [ClosePath]`: the reversed path starts at the
    end point `endp` of `body`; if `endp ≠ p` the closing line `Line(endp,p)` is the last segment of the path and
    its reverse `Line(p,endp)` is again the last segment of the reversed path (so the segment list of the
    reversed path is the reversed list rotated by one); if `endp = p` there is no closing line on either side. -/
theorem reverse_single_closed [LawfulPeq K] (p : Point K) (body : List (PathEl K)) (h : AllDraw body) :
    ∃ endp rev d, reverseSubpath p body = some (.MoveTo endp :: rev) ∧
      reverseSubpaths (.MoveTo p :: body ++ [.ClosePath]) = some (.MoveTo endp :: rev ++ [.ClosePath]) ∧
      segs (.MoveTo p :: body) = some d ∧
      (endp = p → segs (.MoveTo p :: body ++ [.ClosePath]) = some d ∧
        segs (.MoveTo endp :: rev ++ [.ClosePath]) = some (d.reverse.map PathSeg.reverse)) ∧
      (endp ≠ p → segs (.MoveTo p :: body ++ [.ClosePath]) = some (d ++ [.Line ⟨endp, p⟩]) ∧
        segs (.MoveTo endp :: rev ++ [.ClosePath])
          = some (d.reverse.map PathSeg.reverse ++ [.Line ⟨p, endp⟩])) := by
  have e1 : segs (.MoveTo p :: body ++ [.ClosePath]) = some (segsT (p, p) body ++ closingSeg p (runEnd p body)) :=
    (segs_render ⟨p, body, true⟩).trans (congrArg some (Subpath.segs_eq ⟨p, body, true⟩ h))
  have e2 : segs (.MoveTo (runEnd p body) :: revBody p body ++ [.ClosePath])
      = some ((segsT (p, p) body).reverse.map PathSeg.reverse ++ (closingSeg p (runEnd p body)).map PathSeg.reverse) :=
    (segs_render (Subpath.rev ⟨p, body, true⟩)).trans
      (congrArg some (Subpath.segs_rev ⟨p, body, true⟩ h))
  refine ⟨runEnd p body, revBody p body, segsT (p, p) body, reverseSubpath_eq _ _ h,
    reverseSubpaths_render ⟨p, body, true⟩ h, segs_moveTo _ _, ?_, ?_⟩
  · intro he
    rw [e1, e2, he, closingSeg_eq_closeSegs, closeSegs_self]
    exact ⟨by rw [List.append_nil], by rw [List.map_nil, List.append_nil]⟩
  · intro he
    rw [e1, e2, closingSeg_eq_closeSegs, closeSegs_of_ne he]
    exact ⟨rfl, rfl⟩

/-! concrete behaviour on a closed triangle whose last point differs from its start (`Rat`) -/
example : reverseSubpaths (K := Rat) [.MoveTo ⟨0,0⟩, .LineTo ⟨1,0⟩, .LineTo ⟨1,1⟩, .ClosePath]
    = some [.MoveTo ⟨1,1⟩, .LineTo ⟨1,0⟩, .LineTo ⟨0,0⟩, .ClosePath] := by decide +kernel
example : segs (K := Rat) [.MoveTo ⟨0,0⟩, .LineTo ⟨1,0⟩, .LineTo ⟨1,1⟩, .ClosePath]
    = some [.Line ⟨⟨0,0⟩,⟨1,0⟩⟩, .Line ⟨⟨1,0⟩,⟨1,1⟩⟩, .Line ⟨⟨1,1⟩,⟨0,0⟩⟩] := by decide +kernel
example : segs (K := Rat) [.MoveTo ⟨1,1⟩, .LineTo ⟨1,0⟩, .LineTo ⟨0,0⟩, .ClosePath]
    = some [.Line ⟨⟨1,1⟩,⟨1,0⟩⟩, .Line ⟨⟨1,0⟩,⟨0,0⟩⟩, .Line ⟨⟨0,0⟩,⟨1,1⟩⟩] := by decide +kernel
/-- implicit sub-path after `ClosePath`: reversing twice makes its `MoveTo` explicit, segments unchanged -/
example : ((reverseSubpaths (K := Rat) [.MoveTo ⟨0,0⟩, .LineTo ⟨1,0⟩, .ClosePath, .LineTo ⟨1,1⟩]).bind
      reverseSubpaths)
    = some [.MoveTo ⟨0,0⟩, .LineTo ⟨1,0⟩, .ClosePath, .MoveTo ⟨0,0⟩, .LineTo ⟨1,1⟩] := by decide +kernel

end Kurbo
