import Proofs.Lemmas.C03QGauss
import Proofs.Lemmas.C03QEx
import Proofs.Lemmas.C03QKink
/-! C03 (quadratic part) – the closed form of `QuadBez::arclen` is the arc length integral.

    Notation (defined in `Proofs/Lemmas/C03Q.lean`, plain Mathlib arithmetic on the control points):
      `c03q_A q = |p0 − 2 p1 + p2|²`, `c03q_B q = 2 (p0 − 2 p1 + p2)·(p1 − p0)`, `c03q_C q = |p1 − p0|²`   (the model's `a b c`),
      `c03q_gauss q` = the three `hypot`s of the 3-point Gauss–Legendre branch,
    and (in `Proofs/Lemmas/C03QReal.lean`, functions of three reals)
      `c03q_bac2 A B C = B (√A)⁻¹ + 2 √C`                                                             (the model's `ba_c2`),
      `c03q_v0 A B C = ¼ (√A)⁻¹ (√A)⁻¹ B (2 √(A+B+C) − 2 √C) + √(A+B+C)`                             (the model's `v0`),
      `c03q_logpart A B C = ¼ ((√A)⁻¹)³ (4 C A − B B) log (((2A+B)(√A)⁻¹ + 2 √(A+B+C)) / c03q_bac2 A B C)`.

    Proved here:
    * `quad_speed_sq` (any lawful field): `|q.deriv.eval t|² = 4 (A t² + B t + C)` for the model's own `deriv`/`eval`;
      `quad_speed_hypot2`: the same with the model's `Vec2.hypot2`.
    * `quad_arclen_branches` (ℝ, `Scalar.sqrt/hypot/ln/powf` = the real functions): `QuadBez.arclen` written out in Mathlib
      arithmetic with its three branches; this pins down what "the model takes branch (k)" means in the theorems below.
    * `quad_arclen_closed_form`: whenever the model takes branch (2) (`¬ A ≤ 5e-4 C` and `¬ ba_c2 ≤ 1e-13 · 2√C`), the returned value
      is `∫₀¹ ‖q′(t)‖ dt`.  No further hypothesis: the regularity of the curve on `[0,1]` that the fundamental theorem needs is a
      consequence of the two branch conditions (`quad_arclen_branch2_regular`), and so are `0 < A` and `0 < ba_c2`.
    * `quad_arclen_kink_branch`: in branch (3) the value is `v0 = √(A+B+C) + B/(2A) (√(A+B+C) − √C)`, which is twice the
      non-logarithmic part `[(2At+B)/(4A) √Q(t)]₀¹` of the antiderivative.
    * `quad_arclen_integral_formula`: for every quadratic with `A > 0`: `∫₀¹ ‖q′(t)‖ dt = v0 + logpart` (regular or with a cusp).
    * `quad_arclen_kink_branch_error`: in branch (3) `∫₀¹ ‖q′(t)‖ dt − q.arclen = logpart ∈ [0, 2.5e-10 · √C]`, `√C = |p1 − p0|`
      (the constant: `2e-13 · (1/0.0223) · log(1 + 4.46e11)`, from the two thresholds `5e-4` and `1e-13` of the model; not sharp:
      numerically the supremum is about `5.3e-12 · √C`, near `|p0 − 2p1 + p2| ≈ 1.05 |p1 − p0|`).
    * `quad_arclen_kink_branch_error_attained`: a concrete near-cusp (rational control points, `|p1 − p0| = 1`, length ≈ 0.955) on which
      branch (3) is taken and the returned value is too small by at least `4e-12` (> the documented 1e-13).
    * `quad_arclen_kink_branch_collinear`: if moreover `4AC = B²` (control points collinear: the exact cusp/kink, where the dropped
      logarithmic term has coefficient 0) the value of branch (3) is again exactly `∫₀¹ ‖q′(t)‖ dt` (cusp inside `[0,1]` included).
    * `quad_arclen_gauss_branch_on_lines`: for `p1 = (p0+p2)/2` (constant speed; then `A = 0` and branch (1) is taken)
      the value is `|β p2 − α p0| + γ |p2 − p0| + |α p2 − β p0|` with `α = 0.2777777777777775, β = 0.2777777777777777,
      γ = 0.4444444444444444`: not exactly `|p2 − p0|`; `quad_arclen_gauss_branch_defect` bounds the difference by
      `6e-16 |p2 − p0| + 2e-16 (|p0| + |p2|)` and `quad_arclen_gauss_branch_from_origin` gives the exact factor
      `0.9999999999999996` for `p0 = 0`.

    That `q.deriv.eval t` is the derivative of `q.eval` at `t` is `quad_deriv_hasDerivAt` in `Proofs/C06.lean`.

    Not proved: anything about branch (1) for a curved quadratic (the accuracy of the 3-point rule when `0 < A ≤ 5e-4 C`); anything
    about Float rounding/cancellation (all statements are over ℝ with exact `√ log rpow`).  The `_accuracy` argument is ignored by the
    model (as by the crate): the error in branch (3) (≤ 2.5e-10 |p1 − p0|) and in branch (1) does not depend on it. -/
set_option linter.unusedSectionVars false
namespace Kurbo
open intervalIntegral

section field
variable {K : Type} [Field K] [LinearOrder K] [IsStrictOrderedRing K] [FloorRing K] [Scalar K] [LawfulScalar K]

/-- the squared speed of the model's own derivative curve is `4 (A t² + B t + C)` -/
theorem quad_speed_sq (q : QuadBez K) (t : K) :
    (q.deriv.eval t).x ^ 2 + (q.deriv.eval t).y ^ 2 = 4 * (c03q_A q * t ^ 2 + c03q_B q * t + c03q_C q) := by
  unfold c03q_A c03q_B c03q_C
  kring

theorem quad_speed_hypot2 (q : QuadBez K) (t : K) :
    (q.deriv.eval t).to_vec2.hypot2 = 4 * (c03q_A q * t ^ 2 + c03q_B q * t + c03q_C q) := by
  rw [← quad_speed_sq, sq, sq]
  simp only [Vec2.hypot2, Vec2.dot, Point.to_vec2, scalar_norm]

end field

section real
variable [Scalar ℝ] [LawfulScalar ℝ] [C03QRealLaws]

/-- the model in Mathlib arithmetic: branch (1) Gauss–Legendre, branch (3) `v0`, branch (2) `v0 +` logarithmic part -/
theorem quad_arclen_branches (q : QuadBez ℝ) (acc : ℝ) :
    q.arclen acc =
      if c03q_A q ≤ 5 / 10000 * c03q_C q then c03q_gauss q
      else if c03q_bac2 (c03q_A q) (c03q_B q) (c03q_C q) ≤ 1 / 10000000000000 * (2 * √(c03q_C q)) then
        c03q_v0 (c03q_A q) (c03q_B q) (c03q_C q)
      else c03q_v0 (c03q_A q) (c03q_B q) (c03q_C q) + c03q_logpart (c03q_A q) (c03q_B q) (c03q_C q) := by
  -- `hA`–`hS`: the model's `a`, `b`, `c`, `a + b + c` in the form `simp only [kdefs, scalar_norm]` leaves them in
  -- (`c03q_gauss` is written in that form too: the closing `rfl`s)
  have hA : (q.p0.x - q.p1.x * 2 + q.p2.x) * (q.p0.x - q.p1.x * 2 + q.p2.x) +
      (q.p0.y - q.p1.y * 2 + q.p2.y) * (q.p0.y - q.p1.y * 2 + q.p2.y) = c03q_A q := by
    unfold c03q_A; ring
  have hB : 2 * ((q.p0.x - q.p1.x * 2 + q.p2.x) * (q.p1.x - q.p0.x) +
      (q.p0.y - q.p1.y * 2 + q.p2.y) * (q.p1.y - q.p0.y)) = c03q_B q := by
    unfold c03q_B; ring
  have hC : (q.p1.x - q.p0.x) * (q.p1.x - q.p0.x) + (q.p1.y - q.p0.y) * (q.p1.y - q.p0.y) = c03q_C q := by
    unfold c03q_C; ring
  have hS : (q.p2.x - q.p1.x) ^ 2 + (q.p2.y - q.p1.y) ^ 2 = c03q_A q + c03q_B q + c03q_C q := by
    unfold c03q_A c03q_B c03q_C; ring
  unfold QuadBez.arclen
  simp only [kdefs, scalar_norm, Vec2.hypot, C03QRealLaws.sqrt_eq, C03QRealLaws.hypot_eq, C03QRealLaws.ln_eq]
  push_cast
  simp only [hA, hB, hC, hS, decide_eq_true_eq]
  by_cases h1 : c03q_A q ≤ 5 / 10000 * c03q_C q
  · rw [if_pos h1, if_pos h1]; rfl
  · rw [if_neg h1, if_neg h1]
    have hApos := c03q_A_pos (by norm_num) h1
    -- the model's `a.powf(-0.5)`
    rw [C03QRealLaws.powf_eq _ _ hApos, Real.rpow_neg hApos.le, ← Real.sqrt_eq_rpow]
    rfl

/-- both non-Gauss branches at once: for every quadratic with `A > 0` (`p1` not the midpoint of `p0 p2`) the arc length is
    `v0 + logpart` – the formula is right even where the model does not use it (if `ba_c2 = 0` then `4AC = B²` and `logpart = 0`) -/
theorem quad_arclen_integral_formula (q : QuadBez ℝ) (hA : 0 < c03q_A q) :
    ∫ t in (0:ℝ)..1, √((q.deriv.eval t).x ^ 2 + (q.deriv.eval t).y ^ 2)
      = c03q_v0 (c03q_A q) (c03q_B q) (c03q_C q) + c03q_logpart (c03q_A q) (c03q_B q) (c03q_C q) := by
  rw [← c03q_two_integral_eq hA (c03q_disc_nonneg q), ← integral_const_mul]
  refine integral_congr fun t _ => ?_
  simp only [quad_speed_sq]
  exact c03q_sqrt_four_mul _

/-- in branch (2) the curve is regular on `[0, ∞)`, in particular on `[0, 1]`: the hypothesis
    `∀ t ∈ [0,1], 0 < A t² + B t + C` of the fundamental theorem is implied by the branch conditions -/
theorem quad_arclen_branch2_regular (q : QuadBez ℝ)
    (h1 : ¬ c03q_A q ≤ 5 / 10000 * c03q_C q)
    (h2 : ¬ c03q_bac2 (c03q_A q) (c03q_B q) (c03q_C q) ≤ 1 / 10000000000000 * (2 * √(c03q_C q)))
    {t : ℝ} (ht : 0 ≤ t) : 0 < c03q_A q * t ^ 2 + c03q_B q * t + c03q_C q :=
  have hA := c03q_A_pos (by norm_num) h1
  have hD := c03q_disc_nonneg q
  c03q_Q_pos hA hD (c03q_L_pos hA hD (c03q_L_zero_pos hA (c03q_bac2_pos (by norm_num) h2)) ht)

/-- in branch (2) the model returns the arc length `∫₀¹ ‖q′(t)‖ dt`, `‖q′(t)‖ = √(x′(t)² + y′(t)²)` -/
theorem quad_arclen_closed_form (q : QuadBez ℝ) (acc : ℝ)
    (h1 : ¬ c03q_A q ≤ 5 / 10000 * c03q_C q)
    (h2 : ¬ c03q_bac2 (c03q_A q) (c03q_B q) (c03q_C q) ≤ 1 / 10000000000000 * (2 * √(c03q_C q))) :
    q.arclen acc = ∫ t in (0:ℝ)..1, √((q.deriv.eval t).x ^ 2 + (q.deriv.eval t).y ^ 2) := by
  rw [quad_arclen_branches, if_neg h1, if_neg h2, quad_arclen_integral_formula q (c03q_A_pos (by norm_num) h1)]

/-- in branch (3) the model returns `v0`, twice the non-logarithmic part `c03q_Fnl` of the antiderivative between 0 and 1 -/
theorem quad_arclen_kink_branch (q : QuadBez ℝ) (acc : ℝ)
    (h1 : ¬ c03q_A q ≤ 5 / 10000 * c03q_C q)
    (h2 : c03q_bac2 (c03q_A q) (c03q_B q) (c03q_C q) ≤ 1 / 10000000000000 * (2 * √(c03q_C q))) :
    q.arclen acc = √(c03q_A q + c03q_B q + c03q_C q)
        + c03q_B q / (2 * c03q_A q) * (√(c03q_A q + c03q_B q + c03q_C q) - √(c03q_C q)) ∧
    q.arclen acc = 2 * ((2 * c03q_A q * 1 + c03q_B q) / (4 * c03q_A q) * √(c03q_Q (c03q_A q) (c03q_B q) (c03q_C q) 1)
        - (2 * c03q_A q * 0 + c03q_B q) / (4 * c03q_A q) * √(c03q_Q (c03q_A q) (c03q_B q) (c03q_C q) 0)) := by
  rw [quad_arclen_branches, if_neg h1, if_pos h2]
  exact ⟨c03q_v0_eq (c03q_A_pos (by norm_num) h1) _ _, c03q_v0_eq_Fnl (c03q_A_pos (by norm_num) h1) _ _⟩

/-- the exact case of branch (3): when moreover the control points are collinear (`4AC = B²`, the exact kink: a cusp of the curve at
    `t = −B/(2A)`, possibly inside `[0,1]`) the value of branch (3) is again the arc length -/
theorem quad_arclen_kink_branch_collinear (q : QuadBez ℝ) (acc : ℝ)
    (h1 : ¬ c03q_A q ≤ 5 / 10000 * c03q_C q)
    (h2 : c03q_bac2 (c03q_A q) (c03q_B q) (c03q_C q) ≤ 1 / 10000000000000 * (2 * √(c03q_C q)))
    (hcol : 4 * c03q_A q * c03q_C q = c03q_B q ^ 2) :
    q.arclen acc = ∫ t in (0:ℝ)..1, √((q.deriv.eval t).x ^ 2 + (q.deriv.eval t).y ^ 2) := by
  rw [quad_arclen_branches, if_neg h1, if_pos h2, quad_arclen_integral_formula q (c03q_A_pos (by norm_num) h1),
    c03q_logpart_collinear (sub_eq_zero.2 hcol), add_zero]

/-- error of branch (3): the model drops exactly the logarithmic term, so it under-estimates the arc length, by at most
    `2.5e-10 · |p1 − p0|` -/
theorem quad_arclen_kink_branch_error (q : QuadBez ℝ) (acc : ℝ)
    (h1 : ¬ c03q_A q ≤ 5 / 10000 * c03q_C q)
    (h2 : c03q_bac2 (c03q_A q) (c03q_B q) (c03q_C q) ≤ 1 / 10000000000000 * (2 * √(c03q_C q))) :
    (∫ t in (0:ℝ)..1, √((q.deriv.eval t).x ^ 2 + (q.deriv.eval t).y ^ 2)) - q.arclen acc
        = c03q_logpart (c03q_A q) (c03q_B q) (c03q_C q) ∧
    0 ≤ (∫ t in (0:ℝ)..1, √((q.deriv.eval t).x ^ 2 + (q.deriv.eval t).y ^ 2)) - q.arclen acc ∧
    (∫ t in (0:ℝ)..1, √((q.deriv.eval t).x ^ 2 + (q.deriv.eval t).y ^ 2)) - q.arclen acc
        ≤ 25 / 100000000000 * √(c03q_C q) := by
  have hb := c03q_logpart_bound (c03q_C_nonneg q) (not_le.mp h1) (c03q_disc_nonneg q) h2
  have he : (∫ t in (0:ℝ)..1, √((q.deriv.eval t).x ^ 2 + (q.deriv.eval t).y ^ 2)) - q.arclen acc
      = c03q_logpart (c03q_A q) (c03q_B q) (c03q_C q) := by
    rw [quad_arclen_integral_formula q (c03q_A_pos (by norm_num) h1), quad_arclen_branches, if_neg h1, if_pos h2]; ring
  rw [he]
  exact ⟨rfl, hb.1, hb.2⟩

/-- the error of branch (3) is really there: on `c03q_exNearCusp` (rational control points, `|p1 − p0| = 1`, length `≈ 0.9548`) the
    model takes branch (3) and returns a value that is too small by at least `4e-12` – the crate documents "Accuracy should be better
    than 1e-13 over the entire range" -/
theorem quad_arclen_kink_branch_error_attained (acc : ℝ) :
    (4 : ℝ) / 1000000000000
      ≤ (∫ t in (0:ℝ)..1, √((c03q_exNearCusp.deriv.eval t).x ^ 2 + (c03q_exNearCusp.deriv.eval t).y ^ 2))
          - c03q_exNearCusp.arclen acc := by
  obtain ⟨h1, h2, h3⟩ := c03q_exNearCusp_branch3
  rw [(quad_arclen_kink_branch_error c03q_exNearCusp acc h1 h2).1]
  exact h3

/-- on a uniformly parametrised straight segment (`p0 − 2 p1 + p2 = 0`, i.e. `A = 0`, constant speed) the model takes
    branch (1) and returns `|β p2 − α p0| + γ |p2 − p0| + |α p2 − β p0|` (`c03q_hyp x y = √(x² + y²)`) with
    `α = 0.2777777777777775`, `β = 0.2777777777777777`, `γ = 0.4444444444444444` – not exactly `|p2 − p0|` -/
theorem quad_arclen_gauss_branch_on_lines (q : QuadBez ℝ) (acc : ℝ)
    (hx : q.p0.x - 2 * q.p1.x + q.p2.x = 0) (hy : q.p0.y - 2 * q.p1.y + q.p2.y = 0) :
    q.arclen acc =
      c03q_hyp (2777777777777777 / 10000000000000000 * q.p2.x - 2777777777777775 / 10000000000000000 * q.p0.x)
               (2777777777777777 / 10000000000000000 * q.p2.y - 2777777777777775 / 10000000000000000 * q.p0.y)
      + 4444444444444444 / 10000000000000000 * c03q_hyp (q.p2.x - q.p0.x) (q.p2.y - q.p0.y)
      + c03q_hyp (2777777777777775 / 10000000000000000 * q.p2.x - 2777777777777777 / 10000000000000000 * q.p0.x)
                 (2777777777777775 / 10000000000000000 * q.p2.y - 2777777777777777 / 10000000000000000 * q.p0.y) := by
  have hA : c03q_A q = 0 := by unfold c03q_A; rw [hx, hy]; ring
  have hb : c03q_A q ≤ 5 / 10000 * c03q_C q := by
    rw [hA]; have := c03q_C_nonneg q; positivity
  rw [quad_arclen_branches, if_pos hb, c03q_gauss_midpoint q hx hy]

/-- the true relative defect when the segment starts at the origin: the three weights sum to `0.9999999999999996` -/
theorem quad_arclen_gauss_branch_from_origin (q : QuadBez ℝ) (acc : ℝ)
    (h0x : q.p0.x = 0) (h0y : q.p0.y = 0)
    (hx : q.p0.x - 2 * q.p1.x + q.p2.x = 0) (hy : q.p0.y - 2 * q.p1.y + q.p2.y = 0) :
    q.arclen acc = 9999999999999996 / 10000000000000000 * c03q_hyp (q.p2.x - q.p0.x) (q.p2.y - q.p0.y) := by
  rw [quad_arclen_gauss_branch_on_lines q acc hx hy, h0x, h0y]
  simp only [mul_zero, sub_zero]
  rw [c03q_hyp_scale (by norm_num), c03q_hyp_scale (by norm_num)]
  ring

/-- in general the defect on a uniformly parametrised segment is at most `6e-16 |p2 − p0| + 2e-16 (|p0| + |p2|)`
    (the second term: the coefficients of `v0`/`v2` sum to `±2e-16`, not 0, so the rule is not translation invariant) -/
theorem quad_arclen_gauss_branch_defect (q : QuadBez ℝ) (acc : ℝ)
    (hx : q.p0.x - 2 * q.p1.x + q.p2.x = 0) (hy : q.p0.y - 2 * q.p1.y + q.p2.y = 0) :
    |q.arclen acc - c03q_hyp (q.p2.x - q.p0.x) (q.p2.y - q.p0.y)|
      ≤ 6 / 10000000000000000 * c03q_hyp (q.p2.x - q.p0.x) (q.p2.y - q.p0.y)
        + 2 / 10000000000000000 * (c03q_hyp q.p0.x q.p0.y + c03q_hyp q.p2.x q.p2.y) := by
  rw [quad_arclen_gauss_branch_on_lines q acc hx hy]
  refine (c03q_gauss_defect (by norm_num) (by norm_num) _ _ _ _ _).trans_eq ?_
  rw [abs_of_nonpos (by norm_num)]
  norm_num

end real

section C03QExamples

-- the class assumptions are satisfiable (ℝ with Mathlib's `√`, `log`, `rpow`)
example : ∃ (S : Scalar ℝ) (_ : @LawfulScalar ℝ _ _ _ _ S), @C03QRealLaws S :=
  ⟨c03q_realScalar, c03q_realScalar_lawful, c03q_realScalar_laws⟩

-- example data (`Proofs/Lemmas/C03QEx.lean`): `c03q_exArch = ⟨(0,0), (1,2), (3,0)⟩` has `A = 17, B = −14, C = 5`
example : c03q_A c03q_exArch = 17 ∧ c03q_B c03q_exArch = -14 ∧ c03q_C c03q_exArch = 5 := c03q_exArch_coeffs
-- … the hypothesis of `quad_arclen_integral_formula`
example : 0 < c03q_A c03q_exArch := by rw [c03q_exArch_coeffs.1]; norm_num
-- … and meets the hypotheses of `quad_arclen_closed_form` / `quad_arclen_branch2_regular` (branch (2))
example : ¬ c03q_A c03q_exArch ≤ 5 / 10000 * c03q_C c03q_exArch ∧
    ¬ c03q_bac2 (c03q_A c03q_exArch) (c03q_B c03q_exArch) (c03q_C c03q_exArch)
        ≤ 1 / 10000000000000 * (2 * √(c03q_C c03q_exArch)) := c03q_exArch_branch2

-- `c03q_exCusp = ⟨(0,0), (2,0), (1,0)⟩` (`A = 9, B = −12, C = 4`, cusp at `t = 2/3`) meets the hypotheses of
-- `quad_arclen_kink_branch` and `quad_arclen_kink_branch_collinear` (branch (3))
example : ¬ c03q_A c03q_exCusp ≤ 5 / 10000 * c03q_C c03q_exCusp ∧
    c03q_bac2 (c03q_A c03q_exCusp) (c03q_B c03q_exCusp) (c03q_C c03q_exCusp)
        ≤ 1 / 10000000000000 * (2 * √(c03q_C c03q_exCusp)) ∧
    4 * c03q_A c03q_exCusp * c03q_C c03q_exCusp = c03q_B c03q_exCusp ^ 2 := c03q_exCusp_branch3
-- … and the model returns 5/3 on it: the point runs from 0 up to 4/3 and back to 1
example : @QuadBez.arclen ℝ c03q_realScalar c03q_exCusp 0 = 5 / 3 := by
  let _ := c03q_realScalar
  have := c03q_realScalar_lawful
  have := c03q_realScalar_laws
  obtain ⟨h1, h2, _⟩ := c03q_exCusp_branch3
  rw [(quad_arclen_kink_branch c03q_exCusp 0 h1 h2).1]
  obtain ⟨hA, hB, hC⟩ := c03q_exCusp_coeffs
  rw [hA, hB, hC, c03q_sqrt_four, show (9:ℝ) + -12 + 4 = 1 by norm_num, Real.sqrt_one]
  norm_num

-- `c03q_exNearCusp` meets the hypotheses of `quad_arclen_kink_branch` / `_error` with `4AC ≠ B²` (the logarithmic term is `≥ 4e-12`)
example : ¬ c03q_A c03q_exNearCusp ≤ 5 / 10000 * c03q_C c03q_exNearCusp ∧
    c03q_bac2 (c03q_A c03q_exNearCusp) (c03q_B c03q_exNearCusp) (c03q_C c03q_exNearCusp)
        ≤ 1 / 10000000000000 * (2 * √(c03q_C c03q_exNearCusp)) :=
  ⟨c03q_exNearCusp_branch3.1, c03q_exNearCusp_branch3.2.1⟩

-- `c03q_exLine = ⟨(1,1), (2,3), (3,5)⟩` meets the hypotheses of `quad_arclen_gauss_branch_on_lines` / `_defect`,
-- `c03q_exLine0 = ⟨(0,0), (1,2), (2,4)⟩` those of `quad_arclen_gauss_branch_from_origin`
example : c03q_exLine.p0.x - 2 * c03q_exLine.p1.x + c03q_exLine.p2.x = 0 ∧
    c03q_exLine.p0.y - 2 * c03q_exLine.p1.y + c03q_exLine.p2.y = 0 := by
  unfold c03q_exLine; norm_num
example : c03q_exLine0.p0.x = 0 ∧ c03q_exLine0.p0.y = 0 ∧
    c03q_exLine0.p0.x - 2 * c03q_exLine0.p1.x + c03q_exLine0.p2.x = 0 ∧
    c03q_exLine0.p0.y - 2 * c03q_exLine0.p1.y + c03q_exLine0.p2.y = 0 := by
  unfold c03q_exLine0; norm_num

end C03QExamples
end Kurbo
