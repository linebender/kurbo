import Proofs.Lemmas.CurveExt
import Proofs.KDefs
import Proofs.Lemmas.C12
import Proofs.Lemmas.C12Path
import Proofs.Lemmas.C20
/-! C12 – affine maps act as the documented matrices.  Model = the kernel definitions `Affine.*`, `TranslateScale.*`
    of `Kurbo/Kernel.lean` (translator output) and `segs` of `Kurbo/Path.lean`; all algebraic statements are for an
    arbitrary lawful scalar `K`, the "by definition" ones for an arbitrary `Scalar`.

    Proved
    1. `(A*B)*p = A*(B*p)`, associativity, `Affine.scale 1` is the two-sided unit and acts trivially; closed forms of
       the action of every generator (scale, scale_non_uniform, translate, skew, rotate, scale_about, rotate_about) and
       `X_about c = translate c * X * translate (-c)`.
    2. `det (A*B) = det A * det B`, determinants of the generators.
    3. `det A ≠ 0`: `A * A.inverse = A.inverse * A = scale 1`, action version, injectivity, `det A⁻¹ = 1 / det A`.
    4. every `pre_X` is `self * X`, every `then_X` is `X * self` (11 members; `then_translate`, which is implemented by
       mutating the last column, needs arithmetic, the others are definitional), plus the action form;
       `translation`/`with_translation`.
    5. `scale_about`/`rotate_about` fix their centre (`sin`/`cos` arbitrary); `reflect p d` fixes `p` and every point
       `p + t·d` of its axis *whatever `Scalar.hypot` returns*; with `hypot² = d.x²+d.y² ≠ 0` it flips the normal
       direction, is an involution and has determinant −1.
    6. `(A * s).eval t = A * s.eval t` for Line/QuadBez/CubicBez/PathSeg, sub-segments commute, start/end/`as_path_el`/
       `end_point` commute, `A * PathSeg`/`A * PathEl` keep the kind and map the points; for `det A ≠ 0` the segments of
       the mapped element list are the mapped segments (`path_segments_commute`, `path_eval_commutes`).
    7. `TranslateScale`: action, product, inverse (`scale ≠ 0`), `translate`, `from_scale_about`, `add_Vec2`/`sub_Vec2`,
       `mul_Line/QuadBez/CubicBez` all agree with `to_affine`; `mul_Rect = to_affine.transform_rect_bbox` for every scale
       (also negative and zero) and every corner order; `T.mul_Rect r` contains `T * p` for every `p` of the closed `r`, and for
       `scale ≠ 0` exactly those (`ts_mul_rect_image`).
    8. `transform_rect_bbox r` contains the image of every point of the closed rectangle `r` (corners in any order), in
       particular of the four corners; it is tight (each side passes through a corner image) and non-negative.

    Not proved / out of scope of this file
    * nothing about `sin`/`cos` themselves: `Affine.rotate th` is treated as the matrix `[c s; -s c]` for arbitrary values
      `s = Scalar.sin th`, `c = Scalar.cos th` (so "rotate is an isometry", `rotate a * rotate b = rotate (a+b)` are not stated).
    * `reflect` being the *metric* reflection needs `Scalar.hypot` to be the Euclidean norm; that is a hypothesis of
      `reflect_flips_normal`/`reflect_involution`, not a theorem (a lawful `K` need not have square roots).
    * `path_segments_commute` is false for singular maps (a collapsed closing line is no longer emitted – `example` below);
      it is proved for `det ≠ 0` only.
    * `Affine * Ellipse/Circle/Arc` and `svd` are the subject of `Proofs/C12S.lean`; `Affine * RoundedRect` and
      `BezPath::apply_affine` as a mutation (here: `List.map`) are not covered. -/
namespace Kurbo
variable {K : Type} [Field K] [LinearOrder K] [IsStrictOrderedRing K] [FloorRing K] [Scalar K] [LawfulScalar K]

/-! ### composition is a monoid acting on points; `Affine.scale 1` is the identity -/

theorem affine_mul_action (A B : Affine K) (p : Point K) : (A * B) * p = A * (B * p) := Affine.mul_act A B p
theorem affine_mul_assoc (A B C : Affine K) : (A * B) * C = A * (B * C) :=
  Affine.ext_act fun p => by rw [affine_mul_action, affine_mul_action, affine_mul_action, affine_mul_action]
theorem affine_one_act (p : Point K) : Affine.scale (1 : K) * p = p := Affine.one_act p
theorem affine_one_mul (A : Affine K) : Affine.scale (1 : K) * A = A :=
  Affine.ext_act fun p => by rw [affine_mul_action, affine_one_act]
theorem affine_mul_one (A : Affine K) : A * Affine.scale (1 : K) = A :=
  Affine.ext_act fun p => by rw [affine_mul_action, affine_one_act]

/-! ### the generators act as the documented matrices -/

theorem affine_act_formula (A : Affine K) (p : Point K) :
    A * p = ⟨A.c0 * p.x + A.c2 * p.y + A.c4, A.c1 * p.x + A.c3 * p.y + A.c5⟩ := Affine.act_eq A p
theorem scale_act (s : K) (p : Point K) : Affine.scale s * p = ⟨s * p.x, s * p.y⟩ := by
  simp only [Affine.scale_eq, Affine.act_eq, zero_mul, add_zero, zero_add]
theorem scale_non_uniform_act (sx sy : K) (p : Point K) : Affine.scale_non_uniform sx sy * p = ⟨sx * p.x, sy * p.y⟩ := by
  simp only [Affine.scale_non_uniform_eq, Affine.act_eq, zero_mul, add_zero, zero_add]
theorem translate_act (v : Vec2 K) (p : Point K) : Affine.translate v * p = p + v := by
  simp only [Affine.translate_eq, Affine.act_eq, point_add_vec, sn_add, one_mul, zero_mul, add_zero, zero_add]
theorem skew_act (kx ky : K) (p : Point K) : Affine.skew kx ky * p = ⟨p.x + kx * p.y, ky * p.x + p.y⟩ := by
  simp only [Affine.skew_eq, Affine.act_eq, one_mul, add_zero]
theorem rotate_act (th : K) (p : Point K) :
    Affine.rotate th * p = ⟨Scalar.cos th * p.x - Scalar.sin th * p.y, Scalar.sin th * p.x + Scalar.cos th * p.y⟩ := by
  simp only [Affine.rotate_eq, Affine.act_eq, Point.mk.injEq]
  constructor <;> ring
theorem scale_about_act (s : K) (c p : Point K) :
    Affine.scale_about s c * p = ⟨c.x + s * (p.x - c.x), c.y + s * (p.y - c.y)⟩ := by
  show (Affine.scale s * Affine.translate (-c.to_vec2)).then_translate c.to_vec2 * p = _
  simp only [Affine.about_eq, Affine.scale_eq, Affine.act_eq, Point.mk.injEq]
  constructor <;> ring
theorem rotate_about_act (th : K) (c p : Point K) :
    Affine.rotate_about th c * p =
      ⟨c.x + (Scalar.cos th * (p.x - c.x) - Scalar.sin th * (p.y - c.y)),
       c.y + (Scalar.sin th * (p.x - c.x) + Scalar.cos th * (p.y - c.y))⟩ := by
  show (Affine.rotate th * Affine.translate (-c.to_vec2)).then_translate c.to_vec2 * p = _
  simp only [Affine.about_eq, Affine.rotate_eq, Affine.act_eq, Point.mk.injEq]
  constructor <;> ring
theorem scale_about_decomp (s : K) (c : Point K) :
    Affine.scale_about s c = Affine.translate c.to_vec2 * Affine.scale s * Affine.translate (-c.to_vec2) := by
  rw [affine_mul_assoc, Affine.translate_mul]
  rfl
theorem rotate_about_decomp (th : K) (c : Point K) :
    Affine.rotate_about th c = Affine.translate c.to_vec2 * Affine.rotate th * Affine.translate (-c.to_vec2) := by
  rw [affine_mul_assoc, Affine.translate_mul]
  rfl

/-! ### the determinant is multiplicative -/

theorem affine_det_mul (A B : Affine K) : (A * B).determinant = A.determinant * B.determinant := Affine.det_mul A B
theorem affine_det_scale (s : K) : (Affine.scale s).determinant = s * s := by
  simp only [Affine.scale_eq, Affine.determinant_eq, mul_zero, sub_zero]
theorem affine_det_scale_non_uniform (sx sy : K) : (Affine.scale_non_uniform sx sy).determinant = sx * sy := by
  simp only [Affine.scale_non_uniform_eq, Affine.determinant_eq, mul_zero, sub_zero]
theorem affine_det_translate (v : Vec2 K) : (Affine.translate v).determinant = 1 := Affine.det_translate v
theorem affine_det_skew (kx ky : K) : (Affine.skew kx ky).determinant = 1 - kx * ky := by
  simp only [Affine.skew_eq, Affine.determinant_eq]
  ring
theorem affine_det_rotate (th : K) :
    (Affine.rotate th).determinant = Scalar.cos th * Scalar.cos th + Scalar.sin th * Scalar.sin th := by
  simp only [Affine.rotate_eq, Affine.determinant_eq]
  ring

/-! ### `inverse` is the two-sided inverse of a non-singular map -/

theorem affine_inverse_act (A : Affine K) (h : A.determinant ≠ 0) (p : Point K) :
    A.inverse * (A * p) = p ∧ A * (A.inverse * p) = p := Affine.inverse_act A h p

theorem affine_mul_inverse (A : Affine K) (h : A.determinant ≠ 0) :
    A * A.inverse = Affine.scale (1 : K) ∧ A.inverse * A = Affine.scale (1 : K) :=
  ⟨Affine.ext_act fun p => by rw [affine_mul_action, (affine_inverse_act A h p).2, affine_one_act],
   Affine.ext_act fun p => by rw [affine_mul_action, (affine_inverse_act A h p).1, affine_one_act]⟩

theorem affine_act_injective (A : Affine K) (h : A.determinant ≠ 0) (p q : Point K) (e : A * p = A * q) : p = q := by
  rw [← (affine_inverse_act A h p).1, e, (affine_inverse_act A h q).1]

theorem affine_inverse_det (A : Affine K) (h : A.determinant ≠ 0) :
    A.inverse.determinant = 1 / A.determinant := by
  have e := affine_det_mul A A.inverse
  rw [(affine_mul_inverse A h).1, affine_det_scale, mul_one] at e
  exact eq_one_div_of_mul_eq_one_right e.symm

example : (Affine.mk (2 : Rat) 1 (-3) 5 7 (-1)).determinant ≠ 0 := by decide +kernel

/-! ### every `pre_*` is `self * T`, every `then_*` is `T * self` -/

section structural
/-! by definition (no arithmetic law used; holds for every `Scalar`, also `Float`) -/
variable {K' : Type} [Scalar K']
theorem pre_translate_spec (A : Affine K') (v : Vec2 K') : A.pre_translate v = A * Affine.translate v := rfl
theorem pre_scale_spec (A : Affine K') (s : K') : A.pre_scale s = A * Affine.scale s := rfl
theorem pre_scale_non_uniform_spec (A : Affine K') (sx sy : K') :
    A.pre_scale_non_uniform sx sy = A * Affine.scale_non_uniform sx sy := rfl
theorem pre_rotate_spec (A : Affine K') (th : K') : A.pre_rotate th = A * Affine.rotate th := rfl
theorem pre_rotate_about_spec (A : Affine K') (th : K') (c : Point K') :
    A.pre_rotate_about th c = A * Affine.rotate_about th c := rfl
theorem then_scale_spec (A : Affine K') (s : K') : A.then_scale s = Affine.scale s * A := rfl
theorem then_scale_non_uniform_spec (A : Affine K') (sx sy : K') :
    A.then_scale_non_uniform sx sy = Affine.scale_non_uniform sx sy * A := rfl
theorem then_rotate_spec (A : Affine K') (th : K') : A.then_rotate th = Affine.rotate th * A := rfl
theorem then_rotate_about_spec (A : Affine K') (th : K') (c : Point K') :
    A.then_rotate_about th c = Affine.rotate_about th c * A := rfl
theorem then_scale_about_spec (A : Affine K') (s : K') (c : Point K') :
    A.then_scale_about s c = Affine.scale_about s c * A := rfl
end structural

/-- `then_translate` is implemented by adding to the last column; that *is* left multiplication by the translation -/
theorem then_translate_spec (A : Affine K) (v : Vec2 K) : A.then_translate v = Affine.translate v * A :=
  (Affine.translate_mul v A).symm

theorem pre_then_act (A : Affine K) (p : Point K) (v : Vec2 K) (s sx sy th : K) (c : Point K) :
    A.pre_translate v * p = A * (Affine.translate v * p) ∧ A.then_translate v * p = Affine.translate v * (A * p) ∧
    A.pre_scale s * p = A * (Affine.scale s * p) ∧ A.then_scale s * p = Affine.scale s * (A * p) ∧
    A.pre_scale_non_uniform sx sy * p = A * (Affine.scale_non_uniform sx sy * p) ∧
    A.then_scale_non_uniform sx sy * p = Affine.scale_non_uniform sx sy * (A * p) ∧
    A.pre_rotate th * p = A * (Affine.rotate th * p) ∧ A.then_rotate th * p = Affine.rotate th * (A * p) ∧
    A.pre_rotate_about th c * p = A * (Affine.rotate_about th c * p) ∧
    A.then_rotate_about th c * p = Affine.rotate_about th c * (A * p) ∧
    A.then_scale_about s c * p = Affine.scale_about s c * (A * p) := by
  rw [then_translate_spec]
  exact ⟨affine_mul_action _ _ _, affine_mul_action _ _ _, affine_mul_action _ _ _, affine_mul_action _ _ _,
    affine_mul_action _ _ _, affine_mul_action _ _ _, affine_mul_action _ _ _, affine_mul_action _ _ _,
    affine_mul_action _ _ _, affine_mul_action _ _ _, affine_mul_action _ _ _⟩

theorem map_unit_square_act (r : Rect K) (u v : K) :
    Affine.map_unit_square r * (⟨u, v⟩ : Point K) = ⟨r.x0 + u * (r.x1 - r.x0), r.y0 + v * (r.y1 - r.y0)⟩ := by
  simp only [Affine.map_unit_square, Rect.width, Rect.height, Affine.act_eq, scalar_norm, Nat.cast_zero, Point.mk.injEq]
  constructor <;> ring

theorem translation_spec (A : Affine K) : A.translation = (A * (⟨0, 0⟩ : Point K)).to_vec2 := by
  simp only [Affine.translation, Affine.act_eq, Point.to_vec2, mul_zero, zero_add]
theorem with_translation_spec (A : Affine K) (v : Vec2 K) :
    (A.with_translation v).translation = v ∧
    A.with_translation v = Affine.translate (v - A.translation) * A := by
  constructor
  · rfl
  · simp only [Affine.translate_mul, Affine.then_translate_eq, Affine.with_translation, Affine.translation, vec2_sub,
      sn_sub, add_sub_cancel]

theorem scale_about_fixes_center (s : K) (c : Point K) : Affine.scale_about s c * c = c := by
  rw [scale_about_act]
  simp only [sub_self, mul_zero, add_zero]
theorem rotate_about_fixes_center (th : K) (c : Point K) : Affine.rotate_about th c * c = c := by
  rw [rotate_about_act]
  simp only [sub_self, mul_zero, add_zero]

/-! ### reflection about the line through `p` with direction `d`
    `Affine.reflect` normalises the normal `(d.y, -d.x)` with `Scalar.hypot`, which a lawful scalar does not interpret. -/

theorem reflect_fixes_point (p : Point K) (d : Vec2 K) : Affine.reflect p d * p = p := by
  rw [Affine.reflect_eq, Affine.mirror_act]
  simp only [sub_self, mul_zero, add_zero, zero_mul, sub_zero]
theorem reflect_fixes_axis (p : Point K) (d : Vec2 K) (t : K) :
    Affine.reflect p d * (p + t * d) = p + t * d := by
  rw [Affine.reflect_eq, Affine.mirror_act]
  simp only [Vec2.normalize, vec2_div, vec2_smul, point_add_vec, scalar_norm]
  congr 1 <;> ring

theorem reflect_flips_normal (p : Point K) (d : Vec2 K) (t : K)
    (hh : Scalar.hypot d.y (-d.x) ^ 2 = d.x ^ 2 + d.y ^ 2) (hd : d.x ^ 2 + d.y ^ 2 ≠ 0) :
    Affine.reflect p d * (p + t * (⟨d.y, -d.x⟩ : Vec2 K)) = p - t * (⟨d.y, -d.x⟩ : Vec2 K) := by
  obtain ⟨hn, hr⟩ := c12_normal_unit d hh hd
  rw [Affine.reflect_eq, Affine.mirror_act, hn]
  simp only [vec2_smul, point_add_vec, point_sub_vec, scalar_norm]
  generalize 1 / Scalar.hypot d.y (-d.x) = r at hr
  congr 1
  · linear_combination (-2 * t * d.y) * hr
  · linear_combination (2 * t * d.x) * hr

theorem reflect_involution (p : Point K) (d : Vec2 K)
    (hh : Scalar.hypot d.y (-d.x) ^ 2 = d.x ^ 2 + d.y ^ 2) (hd : d.x ^ 2 + d.y ^ 2 ≠ 0) :
    Affine.reflect p d * Affine.reflect p d = Affine.scale (1 : K) ∧ (Affine.reflect p d).determinant = -1 := by
  obtain ⟨hn, hr⟩ := c12_normal_unit d hh hd
  rw [Affine.reflect_eq]
  apply Affine.mirror_involution
  rw [hn]
  linear_combination hr

example : Scalar.hypot (4 : Rat) (-3) ^ 2 = (3 : Rat) ^ 2 + 4 ^ 2 ∧ (3 : Rat) ^ 2 + 4 ^ 2 ≠ 0 := by decide +kernel

/-! ### transforming and then evaluating = evaluating and then transforming -/

theorem line_eval_commutes (A : Affine K) (l : Line K) (t : K) : (A * l).eval t = A * (l.eval t) :=
  (affine_lerp A l.p0 l.p1 t).symm
theorem quad_eval_commutes (A : Affine K) (q : QuadBez K) (t : K) : (A * q).eval t = A * (q.eval t) := by
  simp only [quad_eval_lerp, affine_lerp]
  rfl
theorem cubic_eval_commutes (A : Affine K) (c : CubicBez K) (t : K) : (A * c).eval t = A * (c.eval t) := by
  simp only [cubic_eval_lerp, affine_lerp]
  rfl
theorem pathSeg_eval_commutes (A : Affine K) (s : PathSeg K) (t : K) : (A * s).eval t = A * (s.eval t) := by
  cases s with
  | Line l => exact line_eval_commutes A l t
  | Quad q => exact quad_eval_commutes A q t
  | Cubic c => exact cubic_eval_commutes A c t

theorem subsegment_commutes (A : Affine K) (t0 t1 : K) :
    (∀ l : Line K, (A * l).subsegment ⟨t0, t1⟩ = A * l.subsegment ⟨t0, t1⟩) ∧
    (∀ q : QuadBez K, (A * q).subsegment ⟨t0, t1⟩ = A * q.subsegment ⟨t0, t1⟩) ∧
    (∀ c : CubicBez K, (A * c).subsegment ⟨t0, t1⟩ = A * c.subsegment ⟨t0, t1⟩) := by
  -- both sides trace `u ↦ A * eval (t0 + u·(t1 − t0))`
  refine ⟨fun l => line_ext_eval fun u => ?_, fun q => quad_ext_eval fun u => ?_, fun c => cubic_ext_eval fun u => ?_⟩
  · rw [Line.subsegment_eval, line_eval_commutes, line_eval_commutes, Line.subsegment_eval]
  · rw [QuadBez.subsegment_eval, quad_eval_commutes, quad_eval_commutes, QuadBez.subsegment_eval]
  · rw [CubicBez.subsegment_eval, cubic_eval_commutes, cubic_eval_commutes, CubicBez.subsegment_eval]

end Kurbo

namespace Kurbo
section structural
/-! structure theorems: hold for every `Scalar` (also `Float`), no arithmetic law is used -/
variable {K' : Type} [Scalar K']

theorem affine_mul_line (A : Affine K') (l : Line K') : A * l = ⟨A * l.p0, A * l.p1⟩ := rfl
theorem affine_mul_quad (A : Affine K') (q : QuadBez K') : A * q = ⟨A * q.p0, A * q.p1, A * q.p2⟩ := rfl
theorem affine_mul_cubic (A : Affine K') (c : CubicBez K') : A * c = ⟨A * c.p0, A * c.p1, A * c.p2, A * c.p3⟩ := rfl

theorem affine_mul_pathSeg (A : Affine K') :
    (∀ l : Line K', A * PathSeg.Line l = PathSeg.Line (A * l)) ∧
    (∀ q : QuadBez K', A * PathSeg.Quad q = PathSeg.Quad (A * q)) ∧
    (∀ c : CubicBez K', A * PathSeg.Cubic c = PathSeg.Cubic (A * c)) := ⟨fun _ => rfl, fun _ => rfl, fun _ => rfl⟩

theorem affine_mul_pathEl (A : Affine K') :
    (∀ p : Point K', A * PathEl.MoveTo p = PathEl.MoveTo (A * p)) ∧
    (∀ p : Point K', A * PathEl.LineTo p = PathEl.LineTo (A * p)) ∧
    (∀ p1 p2 : Point K', A * PathEl.QuadTo p1 p2 = PathEl.QuadTo (A * p1) (A * p2)) ∧
    (∀ p1 p2 p3 : Point K', A * PathEl.CurveTo p1 p2 p3 = PathEl.CurveTo (A * p1) (A * p2) (A * p3)) ∧
    A * (PathEl.ClosePath : PathEl K') = PathEl.ClosePath :=
  ⟨fun _ => rfl, fun _ => rfl, fun _ _ => rfl, fun _ _ _ => rfl, rfl⟩

theorem pathSeg_start_end_commute (A : Affine K') (s : PathSeg K') :
    (A * s).start = A * s.start ∧ (A * s).end = A * s.end :=
  ⟨affine_start A s, affine_end A s⟩

theorem pathSeg_as_path_el_commutes (A : Affine K') (s : PathSeg K') : (A * s).as_path_el = A * s.as_path_el := by
  cases s <;> rfl

theorem pathEl_end_point_commutes (A : Affine K') (e : PathEl K') :
    (A * e).end_point = e.end_point.map (fun p : Point K' => A * p) := by
  cases e <;> rfl

end structural
end Kurbo

namespace Kurbo
variable {K : Type} [Field K] [LinearOrder K] [IsStrictOrderedRing K] [FloorRing K] [Scalar K] [LawfulScalar K]

/-! ### a `TranslateScale` behaves exactly like the `Affine` it converts to -/

theorem ts_act_formula (T : TranslateScale K) (p : Point K) :
    T * p = ⟨T.scale * p.x + T.translation.x, T.scale * p.y + T.translation.y⟩ := by
  simp only [ts_mul_point_def, TranslateScale.mul_Point, Point.to_vec2, Vec2.to_point, vec2_smul, point_add_vec, sn_mul,
    sn_add, mul_comm]
theorem ts_to_affine_act (T : TranslateScale K) (p : Point K) : T.to_affine * p = T * p := by
  simp only [ts_act_formula, TranslateScale.to_affine_eq, Affine.act_eq, zero_mul, add_zero, zero_add]
theorem ts_mul_action (S T : TranslateScale K) (p : Point K) : (S * T) * p = S * (T * p) := by
  simp only [ts_act_formula, ts_mul_ts_def, TranslateScale.mul_TranslateScale, vec2_add, vec2_smul, sn_mul, sn_add,
    Point.mk.injEq]
  constructor <;> ring
theorem ts_mul_to_affine (S T : TranslateScale K) : (S * T).to_affine = S.to_affine * T.to_affine :=
  Affine.ext_act fun p => by
    rw [ts_to_affine_act, ts_mul_action, affine_mul_action, ts_to_affine_act, ts_to_affine_act]
theorem ts_to_affine_det (T : TranslateScale K) : T.to_affine.determinant = T.scale * T.scale := by
  simp only [TranslateScale.to_affine_eq, Affine.determinant_eq, mul_zero, sub_zero]
/-- `TranslateScale.scalar_mul` is `impl Mul<TranslateScale> for f64` -/
theorem ts_scalar_mul_to_affine (k : K) (T : TranslateScale K) :
    (TranslateScale.scalar_mul k T).to_affine = Affine.scalar_mul k T.to_affine := by
  simp only [TranslateScale.scalar_mul, Affine.scalar_mul, TranslateScale.to_affine_eq, vec2_mul, sn_mul, mul_zero,
    mul_comm]

theorem ts_mul_inverse (T : TranslateScale K) (h : T.scale ≠ 0) :
    T * T.inverse = ⟨⟨0, 0⟩, 1⟩ ∧ T.inverse * T = ⟨⟨0, 0⟩, 1⟩ := by
  have hs : T.scale * (1 / T.scale) = 1 := mul_one_div_cancel h
  simp only [ts_mul_ts_def, TranslateScale.mul_TranslateScale, TranslateScale.inverse, vec2_add, vec2_mul, vec2_smul,
    scalar_norm, TranslateScale.mk.injEq, Vec2.mk.injEq]
  refine ⟨⟨⟨?_, ?_⟩, hs⟩, ⟨?_, ?_⟩, (mul_comm _ _).trans hs⟩
  · linear_combination (-T.translation.x) * hs
  · linear_combination (-T.translation.y) * hs
  · ring
  · ring
theorem ts_inverse_to_affine (T : TranslateScale K) (h : T.scale ≠ 0) :
    T.inverse.to_affine = T.to_affine.inverse := by
  have hd : T.to_affine.determinant ≠ 0 := by rw [ts_to_affine_det]; exact mul_ne_zero h h
  apply Affine.inverse_unique hd
  rw [← ts_mul_to_affine, (ts_mul_inverse T h).2, TranslateScale.to_affine_eq, Affine.scale_eq]
theorem ts_inverse_act (T : TranslateScale K) (h : T.scale ≠ 0) (p : Point K) :
    T * (T.inverse * p) = p ∧ T.inverse * (T * p) = p := by
  have hd : T.to_affine.determinant ≠ 0 := by rw [ts_to_affine_det]; exact mul_ne_zero h h
  simp only [← ts_to_affine_act, ts_inverse_to_affine T h]
  exact (affine_inverse_act _ hd p).symm

example : (TranslateScale.mk (⟨3, -2⟩ : Vec2 Rat) (-5/2)).scale ≠ 0 := by decide +kernel

theorem ts_mul_line (T : TranslateScale K) (l : Line K) : T.mul_Line l = T.to_affine * l := by
  simp only [TranslateScale.mul_Line, Line.new, ← ts_to_affine_act]
  rfl
theorem ts_mul_quad (T : TranslateScale K) (q : QuadBez K) : T.mul_QuadBez q = T.to_affine * q := by
  simp only [TranslateScale.mul_QuadBez, QuadBez.new, ← ts_to_affine_act]
  rfl
theorem ts_mul_cubic (T : TranslateScale K) (c : CubicBez K) : T.mul_CubicBez c = T.to_affine * c := by
  simp only [TranslateScale.mul_CubicBez, CubicBez.new, ← ts_to_affine_act]
  rfl

theorem ts_translate_to_affine (v : Vec2 K) : (TranslateScale.translate v).to_affine = Affine.translate v := by kaff
theorem ts_from_scale_about_to_affine (s : K) (c : Point K) :
    (TranslateScale.from_scale_about s c).to_affine = Affine.scale_about s c := by
  show _ = (Affine.scale s * Affine.translate (-c.to_vec2)).then_translate c.to_vec2
  rw [Affine.about_eq]
  simp only [Affine.scale_eq, TranslateScale.to_affine_eq, TranslateScale.from_scale_about,
    TranslateScale.new, Point.to_vec2, vec2_sub, vec2_mul, sn_sub, sn_mul, Affine.mk.injEq, true_and]
  constructor <;> ring
theorem ts_from_scale_about_fixes (s : K) (c : Point K) : TranslateScale.from_scale_about s c * c = c := by
  rw [← ts_to_affine_act, ts_from_scale_about_to_affine, scale_about_fixes_center]
theorem ts_add_sub_vec2 (T : TranslateScale K) (v : Vec2 K) (p : Point K) :
    (T.add_Vec2 v).to_affine = T.to_affine.then_translate v ∧ (T.sub_Vec2 v).to_affine = T.to_affine.then_translate (-v) ∧
    T.add_Vec2 v * p = T * p + v ∧ T.sub_Vec2 v * p = T * p - v := by
  simp only [ts_act_formula, TranslateScale.to_affine_eq, Affine.then_translate_eq, TranslateScale.add_Vec2,
    TranslateScale.sub_Vec2, vec2_add, vec2_sub, vec2_neg, point_add_vec, point_sub_vec, scalar_norm, sub_eq_add_neg,
    add_assoc, and_self]

/-! ### `transform_rect_bbox` encloses the image of the rectangle; `TranslateScale.mul_Rect` is an instance -/

theorem ts_mul_rect (T : TranslateScale K) (r : Rect K) : T.mul_Rect r = T.to_affine.transform_rect_bbox r := by
  simp only [TranslateScale.mul_Rect, Affine.transform_rect_bbox, ts_to_affine_act, ts_act_formula, Point.new,
    Rect.from_points_eq, Rect.union_eq, min_self, max_self]

theorem transform_rect_bbox_contains (A : Affine K) (r : Rect K) (p : Point K)
    (hx0 : min r.x0 r.x1 ≤ p.x) (hx1 : p.x ≤ max r.x0 r.x1) (hy0 : min r.y0 r.y1 ≤ p.y) (hy1 : p.y ≤ max r.y0 r.y1) :
    (A.transform_rect_bbox r).x0 ≤ (A * p).x ∧ (A * p).x ≤ (A.transform_rect_bbox r).x1 ∧
    (A.transform_rect_bbox r).y0 ≤ (A * p).y ∧ (A * p).y ≤ (A.transform_rect_bbox r).y1 := by
  have hx := c12_bilin_between A.c0 A.c2 A.c4 hx0 hx1 hy0 hy1
  have hy := c12_bilin_between A.c1 A.c3 A.c5 hx0 hx1 hy0 hy1
  simp only [Affine.transform_rect_bbox, Point.new, Affine.act_eq, Rect.from_points_eq, Rect.union_eq]
  exact ⟨hx.1, hx.2, hy.1, hy.2⟩

example : min (3 : Rat) 1 ≤ 2 ∧ (2 : Rat) ≤ max 3 1 := by decide +kernel

theorem transform_rect_bbox_contains_corners (A : Affine K) (r : Rect K) (p : Point K)
    (hp : p = ⟨r.x0, r.y0⟩ ∨ p = ⟨r.x0, r.y1⟩ ∨ p = ⟨r.x1, r.y0⟩ ∨ p = ⟨r.x1, r.y1⟩) :
    (A.transform_rect_bbox r).x0 ≤ (A * p).x ∧ (A * p).x ≤ (A.transform_rect_bbox r).x1 ∧
    (A.transform_rect_bbox r).y0 ≤ (A * p).y ∧ (A * p).y ≤ (A.transform_rect_bbox r).y1 := by
  rcases hp with rfl | rfl | rfl | rfl
  · exact transform_rect_bbox_contains A r _ (min_le_left _ _) (le_max_left _ _) (min_le_left _ _) (le_max_left _ _)
  · exact transform_rect_bbox_contains A r _ (min_le_left _ _) (le_max_left _ _) (min_le_right _ _) (le_max_right _ _)
  · exact transform_rect_bbox_contains A r _ (min_le_right _ _) (le_max_right _ _) (min_le_left _ _) (le_max_left _ _)
  · exact transform_rect_bbox_contains A r _ (min_le_right _ _) (le_max_right _ _) (min_le_right _ _) (le_max_right _ _)

theorem transform_rect_bbox_tight (A : Affine K) (r : Rect K) :
    let corners : List (Point K) := [⟨r.x0, r.y0⟩, ⟨r.x0, r.y1⟩, ⟨r.x1, r.y0⟩, ⟨r.x1, r.y1⟩]
    (∃ p ∈ corners, (A * p).x = (A.transform_rect_bbox r).x0) ∧ (∃ p ∈ corners, (A * p).x = (A.transform_rect_bbox r).x1) ∧
    (∃ p ∈ corners, (A * p).y = (A.transform_rect_bbox r).y0) ∧ (∃ p ∈ corners, (A * p).y = (A.transform_rect_bbox r).y1) :=
  let ⟨hx0, hy0, hx1, hy1⟩ := (A.transform_rect_bbox_touches r).sides
    (Q := fun c v => ∃ p ∈ ([⟨r.x0, r.y0⟩, ⟨r.x0, r.y1⟩, ⟨r.x1, r.y0⟩, ⟨r.x1, r.y1⟩] : List (Point K)), c (A * p) = v)
    fun c _ ⟨p, hp, e⟩ => ⟨p, hp, congrArg c e⟩
  ⟨hx0, hx1, hy0, hy1⟩

theorem transform_rect_bbox_nonneg (A : Affine K) (r : Rect K) :
    (A.transform_rect_bbox r).x0 ≤ (A.transform_rect_bbox r).x1 ∧ (A.transform_rect_bbox r).y0 ≤ (A.transform_rect_bbox r).y1 := by
  obtain ⟨h1, h2, h3, h4⟩ := transform_rect_bbox_contains_corners A r ⟨r.x0, r.y0⟩ (Or.inl rfl)
  exact ⟨le_trans h1 h2, le_trans h3 h4⟩


theorem ts_mul_rect_contains (T : TranslateScale K) (r : Rect K) (p : Point K)
    (hx0 : min r.x0 r.x1 ≤ p.x) (hx1 : p.x ≤ max r.x0 r.x1) (hy0 : min r.y0 r.y1 ≤ p.y) (hy1 : p.y ≤ max r.y0 r.y1) :
    (T.mul_Rect r).x0 ≤ (T * p).x ∧ (T * p).x ≤ (T.mul_Rect r).x1 ∧
    (T.mul_Rect r).y0 ≤ (T * p).y ∧ (T * p).y ≤ (T.mul_Rect r).y1 := by
  rw [ts_mul_rect, ← ts_to_affine_act]
  exact transform_rect_bbox_contains _ r p hx0 hx1 hy0 hy1

theorem ts_mul_rect_image (T : TranslateScale K) (h : T.scale ≠ 0) (r : Rect K) (p : Point K) :
    ((T.mul_Rect r).x0 ≤ (T * p).x ∧ (T * p).x ≤ (T.mul_Rect r).x1 ∧
      (T.mul_Rect r).y0 ≤ (T * p).y ∧ (T * p).y ≤ (T.mul_Rect r).y1) ↔
    (min r.x0 r.x1 ≤ p.x ∧ p.x ≤ max r.x0 r.x1 ∧ min r.y0 r.y1 ≤ p.y ∧ p.y ≤ max r.y0 r.y1) := by
  constructor
  · simp only [TranslateScale.mul_Rect, Rect.from_points_eq, ts_act_formula, Point.new]
    rintro ⟨h1, h2, h3, h4⟩
    obtain ⟨a, b⟩ := c12_between_of_scaled _ _ _ _ _ h h1 h2
    obtain ⟨c, d⟩ := c12_between_of_scaled _ _ _ _ _ h h3 h4
    exact ⟨a, b, c, d⟩
  · rintro ⟨h1, h2, h3, h4⟩
    exact ts_mul_rect_contains T r p h1 h2 h3 h4

/-! ### paths: the segments of the transformed element list are the transformed segments (non-singular map)
    `segs` models `BezPath::segments().collect()` (`none` = the iterator panics).  For a *singular* map the statement
    fails in a harmless way: a `ClosePath` whose closing line collapses to a point no longer emits that zero-length
    line (see the `example` below), which is why `det ≠ 0` is assumed. -/

theorem path_segments_commute (A : Affine K) (h : A.determinant ≠ 0) (els : List (PathEl K)) :
    segs (els.map (fun e : PathEl K => A * e)) = (segs els).map (List.map (fun s : PathSeg K => A * s)) := by
  have key := segsIdxFrom_commutes A (affine_act_injective A h) els none 0
  have e0 : mapSegSt A (none : SegSt K) = none := rfl
  rw [e0] at key
  simp only [segs, segsIdx, key]
  cases segsIdxFrom none 0 els with
  | none => rfl
  | some l => simp only [Option.map_some, List.map_map]; rfl

theorem path_eval_commutes (A : Affine K) (h : A.determinant ≠ 0) (els : List (PathEl K)) (ss : List (PathSeg K))
    (hs : segs els = some ss) :
    ∃ ss', segs (els.map (fun e : PathEl K => A * e)) = some ss' ∧ ss'.length = ss.length ∧
      ∀ (i : Nat) (t : K) (h1 : i < ss'.length) (h2 : i < ss.length), (ss'[i]).eval t = A * (ss[i]).eval t := by
  refine ⟨ss.map (fun s : PathSeg K => A * s), ?_, List.length_map _, ?_⟩
  · rw [path_segments_commute A h, hs]; rfl
  · intro i t h1 h2
    rw [List.getElem_map, pathSeg_eval_commutes]

example : (Affine.scale (2 : Rat)).determinant ≠ 0 ∧
    segs [PathEl.MoveTo ⟨0, 0⟩, PathEl.LineTo ⟨(1 : Rat), 0⟩, PathEl.ClosePath]
      = some [PathSeg.Line ⟨⟨0, 0⟩, ⟨1, 0⟩⟩, PathSeg.Line ⟨⟨1, 0⟩, ⟨0, 0⟩⟩] := by decide +kernel
/-- the singular map `scale 0` loses the closing segment -/
example : let els := [PathEl.MoveTo ⟨0, 0⟩, PathEl.LineTo ⟨(1 : Rat), 0⟩, PathEl.ClosePath]
    segs (els.map (fun e : PathEl Rat => Affine.scale (0 : Rat) * e)) ≠ (segs els).map (List.map (fun s : PathSeg Rat => Affine.scale (0 : Rat) * s)) := by
  decide +kernel

end Kurbo
