import Mathlib.Tactic.Attr.Register
/-- simp set rewriting `Scalar` operations of a lawful scalar into ordinary field arithmetic -/
register_simp_attr scalar_norm
/-- simp set unfolding the kernel model (structure-level helpers: operators, constructors, projections) -/
register_simp_attr kdefs
/-- simp set of the `GenEquiv` fallback: the kernel definitions of the model and the equations `f_g = f` that precede the one at hand -/
register_simp_attr ge_eqs
