import Proofs.Lemmas.C11EKummer
import Proofs.Lemmas.C11ELoop
/-! # C11E – `Ellipse::perimeter`: the Kummer series, the AGM loop, bounded work (extension of C11 and C14)

The model is `Kurbo/EllipsePerimeter.lean` (`kummerEllipticPerimeter`, `kummerEllipticPerimeterRange`, `agmState`, `agmStep`,
`agmExit`, `agmLoop` (fuelled, counts its passes), `agmEllipticPerimeterFuel`, `Ellipse.perimeterFuel`, `Ellipse.perimeter`);
the crate agrees with its `Float` instantiation bit for bit, including the number of passes (see gen/c11.py `ellperim_model`,
gen/c14.py `ellperim_work`).  Everything below is over ℝ with the exact laws (`LawfulScalar ℝ`, `LawfulReal`: `Scalar.sqrt = √`,
`LawfulRealAngle`: `Scalar.pi = π`; all inhabited by `realScalar`, last example), or over an arbitrary lawful ordered field
where no square root is involved.  `agmSeq s n` (Lemmas/C11EAgm) is the state at the head of pass `n` (`agmStep` iterated).
A bare numeric `example` after a theorem evaluates the numeric hypotheses of that theorem at one input (those on the state – `AgmInv` –,
on the fuel and on `Scalar.pi` are not instantiated there).

## Proved
(a) AGM invariants (`0 < y ≤ x`, `a₀ = 1`, `g₀ = y/x`, `c₀ = √(1 − g₀²)`):
    `agm_invariant_init`, `agm_invariant_step` (one pass keeps `0 < g ≤ a ≤ 1`, `0 ≤ c`, `c² = a² − g²`, `mul = 2ⁿ/2`; `g` does not
    decrease, `a` does not increase, `c' = (a − g)/2`, **`c' ≤ c/2`** – the claim of the source comment is correct as stated –
    and `term' ≤ term/2`), `agm_sequence` (all of it along the whole sequence, `term_n ≤ c₀²/2^(n+1)`, `g_m ≤ g_n ≤ a_n ≤ a_m`
    for `m ≤ n`).
(b) Bounded work (C14): `agmLoop_bounded_work` (from an invariant state with `c₀² ≤ 2^N·acc·g₀`, `acc > 0`: with any fuel
    `≥ max N 1` the loop returns the same state after the same number `≤ max N 1` of passes, and it left by the stopping rule),
    `agmEllipticPerimeter_bounded_work` (for radii `> 0` and every `accuracy > 0`: the explicit `agmPassBound`
    `= max(1, ⌈log₂⌈c₀²/(acc'·g₀)⌉⌉)`, `acc' = accuracy/(2πx)`), `ellipse_perimeter_bounded_work` (the same for
    `Ellipse::perimeter` of any ellipse: value and pass count do not depend on the fuel once it is `≥ agmPassBound`;
    in particular for the model's `agmFuel = 4096` whenever the bound is below it: `ellipse_perimeter_eq_of_bound`).
(c) What the stopping rule guarantees: `agmLoop_exit_guarantee` (at exit `term_n ≤ acc'·g_n`; the returned `sum` is
    `1 − Σ_{i≤n} term_i − term_n`; every longer partial sum `S_m = 1 − Σ_{i<m} term_i`, `m > n`, lies in
    `[sum, sum + term_n] ⊆ [sum, sum + acc'·g_n]`), `agm_tail_bound` (`Σ_{i=n+1}^{n+m} term_i ≤ term_n`),
    `agmEllipticPerimeter_value_bracket` (in terms of the returned value `P = 2πx/a_{n+1}·sum` – the model follows the crate at
    93c0fd9, where the loop sets `a = (a + g)/2` at the `break`, so the divisor is the next arithmetic mean:
    `P ≤ 2πx/a_{n+1}·S_m ≤ P + accuracy·g_n/a_{n+1} ≤ P + accuracy` for every `m > n`).
(c') The divisor: `agm_exit_divisor` (the exit state's `a` is `a_{n+1}`; `g_n ≤ g_{n+1} ≤ a_{n+2} ≤ a_{n+1} ≤ a_n`;
    `a_{n+1} − g_{n+1} = c_{n+1}²/(a_{n+1} + g_{n+1}) ≤ c_{n+1}²/(2g_{n+1})`; every later `g_m ≤ a_m`, `m ≥ n + 1`, lies in
    `[g_{n+1}, a_{n+1}]`, so `0 ≤ a_{n+1} − a_m ≤ c_{n+1}²/(a_{n+1} + g_{n+1})`: second order in `c_{n+1}`; the arithmetic mean `a_n`
    of the pass itself satisfies `a_n − a_m ≥ c_{n+1}`: first order), `agmEllipticPerimeter_later_approximants` (both defects together, at every
    finite stage: for every later approximant `T = 2πx/a_m·S_k`, `m ≥ n + 1`, `k ≥ n + 1`:
    `P ≤ T ≤ (P + accuracy·g_n/a_{n+1})·(1 + c_{n+1}²/((a_{n+1} + g_{n+1})·g_{n+1}))`; uses that all partial sums `S_k` are positive).
(d) Kummer: `kummer_symm`, `kummer_circle` (`= 2πr`, exactly), `kummerRange_nonneg`, `kummerRange_circle` (`= 0`),
    `kummer_le_upper`, `kummer_scale` and `kummerRange_scale` (both scale linearly with the radii: comparing the range with an
    absolute accuracy is right), `kummer_is_truncated_series` (the value is `π(x+y)·Σ_{n<7} binom(1/2,n)² hⁿ`),
    `kummer_longer_series_le_upper` (for `x, y ≥ 0`: every longer truncation whose coefficient sum is `≤ 4/π` [Jolley 274, taken
    as a hypothesis for that `m`] is `≤ kummer + range`: uses `hⁿ ≤ h⁷` for `n ≥ 7`, `0 ≤ h ≤ 1`, and
    `0.00101416479131503 ≥ 4/π − Σ_{n<7} binom(1/2,n)²` (true by a margin of 1e-19, checked with π to 20 digits)).
(+) `Ellipse::perimeter` branches: `ellipse_perimeter_degenerate` (a zero radius: `4·max`), `ellipse_perimeter_kummer`,
    `ellipse_perimeter_agm` (which function is called when), `ellipse_perimeter_circle` (equal radii: exactly `2πr`, the doc claim).

## Not proved
* That `2π·x/M·(1 − Σ_{n≥0} 2^(n−1) c_n²)` (`M` the common limit of `a_n`, `g_n`) is the perimeter of the ellipse (DLMF 19.8.6), and
  that Kummer's series sums to it: the perimeter integral is not defined here; Jolley's `Σ binom(1/2,n)² = 4/π` is a hypothesis of
  `kummer_longer_series_le_upper`, for the single `m` used.
* An error bound `|result − true perimeter| ≤ accuracy` for the AGM branch.  The limit `M` of the `a_n`, `g_n` is not defined here, so
  the statement stops at the finite stages: (c') bounds the distance of `P` from every later approximant by `accuracy·g_n/a_{n+1}` plus
  a relative `c_{n+1}²/((a_{n+1}+g_{n+1})·g_{n+1})`; that this sum is `≤ accuracy` is not proved; it was
  evaluated in exact 90-digit arithmetic over aspect ratios 2..1e6 and every exit pass: worst `|true − P|/accuracy` is below 1
  (supremum 1, approached as `c_n → 0`; `P` never exceeds the true value); with the divisor `a_n` instead the same evaluation gives
  1.09 (finding C11-ellipse-perimeter-high-aspect, which 93c0fd9 of the crate repairs).
* Anything about binary64 rounding: in `Float` the loop does not terminate for every positive accuracy (`a` and `g` can stay one
  ulp apart, then `term` grows; seen for accuracy below 1e-30 × size) – the pass bound is a theorem about exact arithmetic; for
  `Float` the pass counts are compared with the crate and with `agmPassBound + 1` on sampled inputs. -/
set_option linter.unusedSectionVars false
namespace Kurbo
open Real

section kummer
variable {K : Type} [Field K] [LinearOrder K] [IsStrictOrderedRing K] [FloorRing K] [Scalar K] [LawfulScalar K]

theorem kummer_symm (x y : K) :
    kummerEllipticPerimeter (⟨x, y⟩ : Vec2 K) = kummerEllipticPerimeter (⟨y, x⟩ : Vec2 K) ∧
      kummerEllipticPerimeterRange (⟨x, y⟩ : Vec2 K) = kummerEllipticPerimeterRange (⟨y, x⟩ : Vec2 K) := by
  rw [kummer_eq, kummer_eq, kummerRange_eq, kummerRange_eq, kummerH_symm x y, add_comm x y]
  exact ⟨rfl, rfl⟩

/-- on a circle the truncated series is exactly `2·π·r` -/
theorem kummer_circle (r : K) : kummerEllipticPerimeter (⟨r, r⟩ : Vec2 K) = 2 * (Scalar.pi : K) * r := by
  rw [kummer_eq, kummerH_self]; ring

/-- on a circle the remainder bound is 0 (so `perimeter` never enters the loop for a circle and `accuracy ≥ 0`) -/
theorem kummerRange_circle (r : K) : kummerEllipticPerimeterRange (⟨r, r⟩ : Vec2 K) = 0 := by
  rw [kummerRange_eq, kummerH_self]; ring

theorem kummerRange_nonneg {x y : K} (hpi : 0 ≤ (Scalar.pi : K)) (hxy : 0 ≤ x + y) :
    0 ≤ kummerEllipticPerimeterRange (⟨x, y⟩ : Vec2 K) := by
  rw [kummerRange_eq]
  exact mul_nonneg (mul_nonneg (mul_nonneg hpi (by norm_num)) (pow_nonneg (kummerH_nonneg x y) 7)) hxy
example : (0 : ℚ) ≤ 3 + 1 / 2 := by norm_num

theorem kummer_le_upper {x y : K} (hpi : 0 ≤ (Scalar.pi : K)) (hxy : 0 ≤ x + y) :
    kummerEllipticPerimeter (⟨x, y⟩ : Vec2 K) ≤
      kummerEllipticPerimeter (⟨x, y⟩ : Vec2 K) + kummerEllipticPerimeterRange (⟨x, y⟩ : Vec2 K) :=
  le_add_of_nonneg_right (kummerRange_nonneg hpi hxy)

/-- the series value scales linearly with the radii -/
theorem kummer_scale (t x y : K) :
    kummerEllipticPerimeter (⟨t * x, t * y⟩ : Vec2 K) = t * kummerEllipticPerimeter (⟨x, y⟩ : Vec2 K) := by
  rcases eq_or_ne t 0 with rfl | ht
  · rw [kummer_eq]; simp
  · rw [kummer_eq, kummer_eq, kummerH_scale t x y ht]; ring

/-- the remainder bound scales linearly with the radii: it is an absolute error bound, rightly compared with `accuracy` -/
theorem kummerRange_scale (t x y : K) :
    kummerEllipticPerimeterRange (⟨t * x, t * y⟩ : Vec2 K) = t * kummerEllipticPerimeterRange (⟨x, y⟩ : Vec2 K) := by
  rcases eq_or_ne t 0 with rfl | ht
  · rw [kummerRange_eq]; simp
  · rw [kummerRange_eq, kummerRange_eq, kummerH_scale t x y ht]; ring

end kummer

section real
variable [Scalar ℝ] [LawfulScalar ℝ] [LawfulReal] [LawfulRealAngle]

/-- the value is Kummer's series `π(x+y)·Σ binom(1/2,n)² hⁿ` truncated after the term `h⁶` -/
theorem kummer_is_truncated_series (x y : ℝ) :
    kummerEllipticPerimeter (⟨x, y⟩ : Vec2 ℝ) = (x + y) * (π * kummerPartial (kummerH x y) 7) := by
  rw [kummer_eq, kummerPartial_seven, LawfulRealAngle.pi_eq]

/-- every longer truncation of the series whose coefficients sum to at most `4/π` lies below `kummer + range` -/
theorem kummer_longer_series_le_upper {x y : ℝ} (hx : 0 ≤ x) (hy : 0 ≤ y) (m : ℕ)
    (hJ : kummerPartial 1 (7 + m) ≤ 4 / π) :
    (x + y) * (π * kummerPartial (kummerH x y) (7 + m)) ≤
      kummerEllipticPerimeter (⟨x, y⟩ : Vec2 ℝ) + kummerEllipticPerimeterRange (⟨x, y⟩ : Vec2 ℝ) := by
  rw [kummer_is_truncated_series, kummerRange_eq, LawfulRealAngle.pi_eq]
  have h0 := kummerH_nonneg x y
  have hR : kummerPartial 1 (7 + m) - kummerPartial 1 7 ≤ 101416479131503 / 100000000000000000 :=
    (sub_le_sub_right hJ _).trans binomSquaredRemainder_ge
  have key : kummerPartial (kummerH x y) (7 + m) ≤
      kummerPartial (kummerH x y) 7 + kummerH x y ^ 7 * (101416479131503 / 100000000000000000) :=
    sub_le_iff_le_add'.1 ((kummerPartial_tail_le h0 (kummerH_le_one hx hy) m).trans
      (mul_le_mul_of_nonneg_left hR (pow_nonneg h0 7)))
  calc (x + y) * (π * kummerPartial (kummerH x y) (7 + m))
      ≤ (x + y) * (π * (kummerPartial (kummerH x y) 7 + kummerH x y ^ 7 * (101416479131503 / 100000000000000000))) :=
        mul_le_mul_of_nonneg_left (mul_le_mul_of_nonneg_left key Real.pi_pos.le) (add_nonneg hx hy)
    _ = _ := by ring
/-- the hypothesis holds e.g. for `m = 1` (8 terms: `Σ = 1.272485… ≤ 4/π = 1.273239…`) -/
example : kummerPartial 1 (7 + 1) ≤ 4 / π := by
  have h7 := kummerPartial_seven 1
  have e : kummerPartial 1 (7 + 1) = kummerPartial 1 7 + (kummerCoeff 7 : ℝ) * 1 ^ 7 := kummerPartial_succ 1 7
  have c7 : (kummerCoeff 7 : ℝ) = 1089 / 4194304 := by
    have : kummerCoeff 7 = 1089 / 4194304 := by simp only [kummerCoeff, halfChoose]; norm_num
    rw [this]; norm_num
  rw [e, h7, c7, le_div_iff₀ Real.pi_pos]
  have := Real.pi_lt_d4
  norm_num at this ⊢
  linarith

/-- the state before the first pass satisfies the invariant -/
theorem agm_invariant_init {x y : ℝ} (hy : 0 < y) (hyx : y ≤ x) :
    AgmInv (agmState x y) 0 ∧ (agmState x y).a = 1 ∧ (agmState x y).g = y / x ∧ (agmState x y).c = √(1 - (y / x) ^ 2) ∧
      (agmState x y).sum = 1 :=
  ⟨agmInv_init hy hyx, agmState_a x y, agmState_g x y, agmState_c x y, agmState_sum x y⟩
example : (0 : ℝ) < 1 ∧ (1 : ℝ) ≤ 300 := by norm_num

/-- one pass: the invariant is kept, `g ≤ g'`, `a' ≤ a`, `c' = (a − g)/2`, `c' ≤ c/2`, `term' ≤ term/2` -/
theorem agm_invariant_step {s : AgmState ℝ} {n : ℕ} (h : AgmInv s n) :
    AgmInv (agmStep s) (n + 1) ∧ s.g ≤ (agmStep s).g ∧ (agmStep s).a ≤ s.a ∧ (agmStep s).c = (s.a - s.g) / 2 ∧
      (agmStep s).c ≤ s.c / 2 ∧ (agmStep s).term ≤ s.term / 2 :=
  ⟨agmInv_step h, agmStep_g_ge h, agmStep_a_le h, agmStep_c s, agmStep_c_le h, agmStep_term_le h⟩

theorem agm_sequence {x y : ℝ} (hy : 0 < y) (hyx : y ≤ x) (n : ℕ) :
    AgmInv (agmSeq (agmState x y) n) n ∧
      (agmSeq (agmState x y) (n + 1)).c = ((agmSeq (agmState x y) n).a - (agmSeq (agmState x y) n).g) / 2 ∧
      (agmSeq (agmState x y) (n + 1)).c ≤ (agmSeq (agmState x y) n).c / 2 ∧
      (agmSeq (agmState x y) (n + 1)).term ≤ (agmSeq (agmState x y) n).term / 2 ∧
      (agmSeq (agmState x y) n).term ≤ (1 - (y / x) ^ 2) / 2 ^ (n + 1) ∧
      ∀ m ≤ n, (agmSeq (agmState x y) m).g ≤ (agmSeq (agmState x y) n).g ∧
        (agmSeq (agmState x y) n).a ≤ (agmSeq (agmState x y) m).a := by
  have h0 := agmInv_init hy hyx
  have hn := agmInv_seq h0 n
  exact ⟨hn, agmStep_c _, agmStep_c_le hn, agmStep_term_le hn, agmState_c_sq hy hyx ▸ agmSeq_term_le h0 n,
    fun m hm => ⟨agmSeq_g_mono h0 hm, agmSeq_a_anti h0 hm⟩⟩

/-- `Σ_{i=n+1}^{n+m} 2^(i−1) c_i² ≤ 2^(n−1) c_n²`: the remainder of the series is at most the last term -/
theorem agm_tail_bound {x y : ℝ} (hy : 0 < y) (hyx : y ≤ x) (n m : ℕ) :
    ∑ i ∈ Finset.range m, (agmSeq (agmState x y) (n + 1 + i)).term ≤ (agmSeq (agmState x y) n).term :=
  agmSeq_tail (agmInv_init hy hyx) n m

/-- from an invariant state, with `acc > 0` and `c² ≤ 2^N·acc·g`: the loop with any fuel `≥ max N 1` returns what it returns
    with fuel `max N 1`; it made at most `max N 1` passes and left by the stopping rule -/
theorem agmLoop_bounded_work {s : AgmState ℝ} (h : AgmInv s 0) {acc : ℝ} (hacc : 0 < acc) {N : ℕ}
    (hb : s.c ^ 2 ≤ 2 ^ N * (acc * s.g)) :
    (∀ fuel, max N 1 ≤ fuel → agmLoop acc fuel 0 s = agmLoop acc (max N 1) 0 s) ∧
      (agmLoop acc (max N 1) 0 s).2 ≤ max N 1 ∧ 1 ≤ (agmLoop acc (max N 1) 0 s).2 ∧
      (agmLoop acc (max N 1) 0 s).1.term ≤ acc * (agmLoop acc (max N 1) 0 s).1.g := by
  obtain ⟨n, hn, hstop, _, hloop⟩ := agmLoop_exit h hacc hb
  have e := hloop (max N 1) hn
  refine ⟨fun fuel hf => by rw [hloop fuel (lt_of_lt_of_le hn hf), e], by rw [e]; exact hn, by rw [e]; exact Nat.succ_pos n, ?_⟩
  rw [e, agm_term_eq]
  rw [agm_term_eq] at hstop
  -- `agmExit` changes `sum` and `a` only
  exact hstop
/-- e.g. `s = agmState 2 1`, `acc = 3/8`, `N = 2`: `c² = 3/4 ≤ 4·(3/8)·(1/2)` -/
example : (3 / 4 : ℝ) ≤ 2 ^ 2 * (3 / 8 * (1 / 2)) := by norm_num

/-- the state and the number of passes at exit, and what they guarantee: with `n + 1` passes,
    * the test held: `term_n ≤ acc·g_n`;
    * returned `sum = 1 − Σ_{i≤n} term_i − term_n`;
    * every longer partial sum `S_m = 1 − Σ_{i<n+1+m} term_i` of the series lies in `[sum, sum + term_n]`. -/
theorem agmLoop_exit_guarantee {x y : ℝ} (hy : 0 < y) (hyx : y ≤ x) {acc : ℝ} (hacc : 0 < acc) {fuel : ℕ}
    (hf : agmPassBound (acc * (2 * π * x)) x y ≤ fuel) :
    ∃ n, n < agmPassBound (acc * (2 * π * x)) x y ∧
      agmLoop acc fuel 0 (agmState x y) = (agmExit (agmSeq (agmState x y) n), n + 1) ∧
      (agmSeq (agmState x y) n).term ≤ acc * (agmSeq (agmState x y) n).g ∧
      (∀ i < n, acc * (agmSeq (agmState x y) i).g < (agmSeq (agmState x y) i).term) ∧
      (agmExit (agmSeq (agmState x y) n)).sum =
        1 - ∑ i ∈ Finset.range (n + 1), (agmSeq (agmState x y) i).term - (agmSeq (agmState x y) n).term ∧
      ∀ m, (agmExit (agmSeq (agmState x y) n)).sum ≤ 1 - ∑ i ∈ Finset.range (n + 1 + m), (agmSeq (agmState x y) i).term ∧
        1 - ∑ i ∈ Finset.range (n + 1 + m), (agmSeq (agmState x y) i).term ≤
          (agmExit (agmSeq (agmState x y) n)).sum + (agmSeq (agmState x y) n).term := by
  have h0 := agmInv_init hy hyx
  have h2px : 0 < 2 * π * x := mul_pos (mul_pos two_pos Real.pi_pos) (hy.trans_le hyx)
  have hb := agmPassBound_spec (mul_pos hacc h2px) hy hyx
  rw [mul_div_cancel_right₀ _ h2px.ne'] at hb
  obtain ⟨n, hn, hstop, hno, hloop⟩ := agmLoop_exit h0 hacc hb
  rw [max_eq_left (agmPassBound_pos _ _ _)] at hn
  have hsum : (agmExit (agmSeq (agmState x y) n)).sum =
      1 - ∑ i ∈ Finset.range (n + 1), (agmSeq (agmState x y) i).term - (agmSeq (agmState x y) n).term := by
    rw [agmExit_sum, agmSeq_sum, agmState_sum, Finset.sum_range_succ]; ring
  refine ⟨n, hn, hloop fuel (lt_of_lt_of_le hn hf), hstop, hno, hsum, fun m => ?_⟩
  have htail := agmSeq_tail h0 n m
  have hpos : 0 ≤ ∑ i ∈ Finset.range m, (agmSeq (agmState x y) (n + 1 + i)).term :=
    Finset.sum_nonneg fun i _ => agm_term_nonneg (agmInv_seq h0 (n + 1 + i))
  have hsplit : ∑ i ∈ Finset.range (n + 1 + m), (agmSeq (agmState x y) i).term =
      ∑ i ∈ Finset.range (n + 1), (agmSeq (agmState x y) i).term +
        ∑ i ∈ Finset.range m, (agmSeq (agmState x y) (n + 1 + i)).term := Finset.sum_range_add _ _ _
  rw [hsum, hsplit]
  exact ⟨by linarith only [htail], by linarith only [hpos]⟩
example : (0 : ℝ) < 1 ∧ (1 : ℝ) ≤ 300 ∧ (0 : ℝ) < 1 / 1000 := by norm_num

/-- `agm_elliptic_perimeter(accuracy, radii)` for radii `> 0` and every `accuracy > 0`: value and number of passes do not depend on
    the fuel once `fuel ≥ agmPassBound accuracy (max rx ry) (min rx ry)`, and the number of passes is at most that bound -/
theorem agmEllipticPerimeter_bounded_work {r : Vec2 ℝ} (hx : 0 < r.x) (hy : 0 < r.y) {accuracy : ℝ} (hacc : 0 < accuracy)
    {fuel : ℕ} (hf : agmPassBound accuracy (max r.x r.y) (min r.x r.y) ≤ fuel) :
    agmEllipticPerimeterFuel fuel accuracy r =
        agmEllipticPerimeterFuel (agmPassBound accuracy (max r.x r.y) (min r.x r.y)) accuracy r ∧
      (agmEllipticPerimeterFuel fuel accuracy r).2 ≤ agmPassBound accuracy (max r.x r.y) (min r.x r.y) ∧
      1 ≤ (agmEllipticPerimeterFuel fuel accuracy r).2 := by
  have hmin : 0 < min r.x r.y := lt_min hx hy
  have hle : min r.x r.y ≤ max r.x r.y := min_le_max
  have h2px : 0 < 2 * π * max r.x r.y := mul_pos (mul_pos two_pos Real.pi_pos) (hmin.trans_le hle)
  obtain ⟨hind, hcnt, hpos, _⟩ :=
    agmLoop_bounded_work (agmInv_init hmin hle) (div_pos hacc h2px) (agmPassBound_spec hacc hmin hle)
  rw [max_eq_left (agmPassBound_pos _ _ _)] at hind hcnt hpos
  rw [agmEllipticPerimeterFuel_eq, agmEllipticPerimeterFuel_eq, hind fuel hf]
  exact ⟨rfl, hcnt, hpos⟩
example : (0 : ℝ) < 261 ∧ (0 : ℝ) < 9 / 10 ∧ (0 : ℝ) < 7 / 10 := by norm_num

/-- a zero radius: four times the other one -/
theorem ellipse_perimeter_degenerate (fuel : ℕ) (e : Ellipse ℝ) (accuracy : ℝ) (h : e.radii.x = 0 ∨ e.radii.y = 0) :
    e.perimeterFuel fuel accuracy = (4 * max e.radii.x e.radii.y, 0) := by
  rw [ellipse_perimeterFuel_eq, if_pos h]

/-- non-zero radii and `range ≤ accuracy`: the Kummer value, no pass of the loop -/
theorem ellipse_perimeter_kummer (fuel : ℕ) (e : Ellipse ℝ) (accuracy : ℝ) (hx : e.radii.x ≠ 0) (hy : e.radii.y ≠ 0)
    (hr : kummerEllipticPerimeterRange e.radii ≤ accuracy) :
    e.perimeterFuel fuel accuracy = (kummerEllipticPerimeter e.radii, 0) := by
  rw [ellipse_perimeterFuel_eq, if_neg (not_or.2 ⟨hx, hy⟩), if_pos hr]

/-- equal non-zero radii `r` and `accuracy ≥ 0`: exactly `2·π·r`, without a pass of the loop -/
theorem ellipse_perimeter_circle (fuel : ℕ) (e : Ellipse ℝ) {accuracy : ℝ} (hacc : 0 ≤ accuracy) (hr : e.radii.x = e.radii.y)
    (h0 : e.radii.x ≠ 0) : e.perimeterFuel fuel accuracy = (2 * π * e.radii.x, 0) := by
  have e1 : e.radii = ⟨e.radii.x, e.radii.x⟩ := by
    cases hv : e.radii with
    | mk a b => rw [hv] at hr; simp only at hr; rw [hr]
  have hrange : kummerEllipticPerimeterRange e.radii ≤ accuracy := by rw [e1, kummerRange_circle]; exact hacc
  rw [ellipse_perimeter_kummer fuel e accuracy h0 (hr ▸ h0) hrange, e1, kummer_circle, LawfulRealAngle.pi_eq]

/-- non-zero radii and `accuracy < range`: the AGM iteration -/
theorem ellipse_perimeter_agm (fuel : ℕ) (e : Ellipse ℝ) (accuracy : ℝ) (hx : e.radii.x ≠ 0) (hy : e.radii.y ≠ 0)
    (hr : accuracy < kummerEllipticPerimeterRange e.radii) :
    e.perimeterFuel fuel accuracy = agmEllipticPerimeterFuel fuel accuracy e.radii := by
  rw [ellipse_perimeterFuel_eq, if_neg (not_or.2 ⟨hx, hy⟩), if_neg (not_le.2 hr)]

/-- bounded work of `Ellipse::perimeter` (C14), for every ellipse and every `accuracy > 0`: value and number of loop passes do not
    depend on the fuel once `fuel ≥ agmPassBound accuracy (max rx ry) (min rx ry)`, and the passes are at most that many -/
theorem ellipse_perimeter_bounded_work (e : Ellipse ℝ) {accuracy : ℝ} (hacc : 0 < accuracy) {fuel : ℕ}
    (hf : agmPassBound accuracy (max e.radii.x e.radii.y) (min e.radii.x e.radii.y) ≤ fuel) :
    e.perimeterFuel fuel accuracy =
        e.perimeterFuel (agmPassBound accuracy (max e.radii.x e.radii.y) (min e.radii.x e.radii.y)) accuracy ∧
      (e.perimeterFuel fuel accuracy).2 ≤ agmPassBound accuracy (max e.radii.x e.radii.y) (min e.radii.x e.radii.y) := by
  obtain ⟨hx0, hy0⟩ := ellipse_radii_nonneg e
  by_cases hz : e.radii.x = 0 ∨ e.radii.y = 0
  · rw [ellipse_perimeter_degenerate _ _ _ hz, ellipse_perimeter_degenerate _ _ _ hz]
    exact ⟨rfl, Nat.zero_le _⟩
  · rw [not_or] at hz
    rcases le_or_gt (kummerEllipticPerimeterRange e.radii) accuracy with hr | hr
    · rw [ellipse_perimeter_kummer _ _ _ hz.1 hz.2 hr, ellipse_perimeter_kummer _ _ _ hz.1 hz.2 hr]
      exact ⟨rfl, Nat.zero_le _⟩
    · rw [ellipse_perimeter_agm _ _ _ hz.1 hz.2 hr, ellipse_perimeter_agm _ _ _ hz.1 hz.2 hr]
      have := agmEllipticPerimeter_bounded_work (lt_of_le_of_ne hx0 (Ne.symm hz.1)) (lt_of_le_of_ne hy0 (Ne.symm hz.2)) hacc hf
      exact ⟨this.1, this.2.1⟩
example : (0 : ℝ) < 1 / 1000000 := by norm_num

/-- hence the executable model's fixed fuel `agmFuel = 4096` is enough whenever the bound is below it -/
theorem ellipse_perimeter_eq_of_bound (e : Ellipse ℝ) {accuracy : ℝ} (hacc : 0 < accuracy) {fuel : ℕ}
    (hb : agmPassBound accuracy (max e.radii.x e.radii.y) (min e.radii.x e.radii.y) ≤ agmFuel)
    (hf : agmPassBound accuracy (max e.radii.x e.radii.y) (min e.radii.x e.radii.y) ≤ fuel) :
    e.perimeter accuracy = (e.perimeterFuel fuel accuracy).1 := by
  unfold Ellipse.perimeter
  rw [(ellipse_perimeter_bounded_work e hacc hb).1, (ellipse_perimeter_bounded_work e hacc hf).1]

/-- the divisor of the returned value: at exit of pass `n` the state's `a` is the next arithmetic mean
    `A = a_{n+1}` (`G = g_{n+1}`, `c = c_{n+1}`), and
    * `g_n ≤ G ≤ a_{n+2} ≤ A ≤ a_n`;
    * `A − G = c²/(A + G) ≤ c²/(2G)`: every later `g_m`, `a_m` (`m ≥ n + 1`; their common limit is what the formula wants) lies in
      `[G, A]`, hence within `c²/(A + G)` of the divisor used – second order in `c_{n+1}`;
    * whereas `a_n`, the state's `a` without the update at the `break`, is at least `c_{n+1}` above every later `a_m` – first order. -/
theorem agm_exit_divisor {x y : ℝ} (hy : 0 < y) (hyx : y ≤ x) (n : ℕ) :
    (agmExit (agmSeq (agmState x y) n)).a = (agmSeq (agmState x y) (n + 1)).a ∧
      (agmSeq (agmState x y) n).g ≤ (agmSeq (agmState x y) (n + 1)).g ∧
      (agmSeq (agmState x y) (n + 1)).g ≤ (agmSeq (agmState x y) (n + 2)).a ∧
      (agmSeq (agmState x y) (n + 2)).a ≤ (agmSeq (agmState x y) (n + 1)).a ∧
      (agmSeq (agmState x y) (n + 1)).a ≤ (agmSeq (agmState x y) n).a ∧
      (agmSeq (agmState x y) (n + 1)).a - (agmSeq (agmState x y) (n + 1)).g =
        (agmSeq (agmState x y) (n + 1)).c ^ 2 / ((agmSeq (agmState x y) (n + 1)).a + (agmSeq (agmState x y) (n + 1)).g) ∧
      (agmSeq (agmState x y) (n + 1)).c ^ 2 / ((agmSeq (agmState x y) (n + 1)).a + (agmSeq (agmState x y) (n + 1)).g) ≤
        (agmSeq (agmState x y) (n + 1)).c ^ 2 / (2 * (agmSeq (agmState x y) (n + 1)).g) ∧
      ∀ m, n + 1 ≤ m →
        (agmSeq (agmState x y) (n + 1)).g ≤ (agmSeq (agmState x y) m).g ∧
        (agmSeq (agmState x y) m).g ≤ (agmSeq (agmState x y) m).a ∧
        (agmSeq (agmState x y) m).a ≤ (agmSeq (agmState x y) (n + 1)).a ∧
        (agmSeq (agmState x y) (n + 1)).a - (agmSeq (agmState x y) m).a ≤
          (agmSeq (agmState x y) (n + 1)).c ^ 2 / ((agmSeq (agmState x y) (n + 1)).a + (agmSeq (agmState x y) (n + 1)).g) ∧
        (agmSeq (agmState x y) (n + 1)).c ≤ (agmSeq (agmState x y) n).a - (agmSeq (agmState x y) m).a := by
  have h0 := agmInv_init hy hyx
  have hgap := agmInv_gap (agmInv_seq h0 (n + 1))
  have hdrop : (agmSeq (agmState x y) n).a - (agmSeq (agmState x y) (n + 1)).a = (agmSeq (agmState x y) (n + 1)).c :=
    agmStep_a_drop (agmSeq (agmState x y) n)
  refine ⟨agmExit_a_eq_step _, agmSeq_g_mono h0 (Nat.le_succ n),
    (agmSeq_g_mono h0 (Nat.le_succ (n + 1))).trans (agmInv_seq h0 (n + 2)).g_le_a, agmSeq_a_anti h0 (Nat.le_succ (n + 1)),
    agmSeq_a_anti h0 (Nat.le_succ n), hgap.1, hgap.2, fun m hm => ?_⟩
  have c1 := agmSeq_g_mono h0 hm
  have c2 := (agmInv_seq h0 m).g_le_a
  have c3 := agmSeq_a_anti h0 hm
  exact ⟨c1, c2, c3, agmSeq_a_sub_le h0 hm, hdrop ▸ sub_le_sub_left c3 _⟩
example : (0 : ℝ) < 1 ∧ (1 : ℝ) ≤ 300 := by norm_num

/-- the guarantee of the stopping rule in terms of the returned value `P = 2πx/a_{n+1}·sum` (`x ≥ y > 0` the radii; `n + 1` passes;
    the divisor is the next arithmetic mean `a_{n+1}`): for every longer partial sum `S_m` of the
    series, `P ≤ 2πx/a_{n+1}·S_m ≤ P + accuracy·g_n/a_{n+1} ≤ P + accuracy`.  (`a_{n+1}` is not yet the limit of the `a`'s: how far it
    can be from every later `a_m` is `agm_exit_divisor`; both together: `agmEllipticPerimeter_later_approximants`.) -/
theorem agmEllipticPerimeter_value_bracket {x y : ℝ} (hy : 0 < y) (hyx : y ≤ x) {accuracy : ℝ} (hacc : 0 < accuracy) {fuel : ℕ}
    (hf : agmPassBound accuracy x y ≤ fuel) :
    ∃ n, (agmEllipticPerimeterFuel fuel accuracy ⟨x, y⟩).2 = n + 1 ∧
      ∀ m, (agmEllipticPerimeterFuel fuel accuracy ⟨x, y⟩).1 ≤
          2 * π * x / (agmSeq (agmState x y) (n + 1)).a * (1 - ∑ i ∈ Finset.range (n + 1 + m), (agmSeq (agmState x y) i).term) ∧
        2 * π * x / (agmSeq (agmState x y) (n + 1)).a * (1 - ∑ i ∈ Finset.range (n + 1 + m), (agmSeq (agmState x y) i).term) ≤
          (agmEllipticPerimeterFuel fuel accuracy ⟨x, y⟩).1
            + accuracy * ((agmSeq (agmState x y) n).g / (agmSeq (agmState x y) (n + 1)).a) ∧
        accuracy * ((agmSeq (agmState x y) n).g / (agmSeq (agmState x y) (n + 1)).a) ≤ accuracy := by
  have h2px : 0 < 2 * π * x := mul_pos (mul_pos two_pos Real.pi_pos) (hy.trans_le hyx)
  have hf' : agmPassBound (accuracy / (2 * π * x) * (2 * π * x)) x y ≤ fuel := by rwa [div_mul_cancel₀ _ h2px.ne']
  obtain ⟨n, _, hloop, hstop, _, _, hbr⟩ := agmLoop_exit_guarantee hy hyx (div_pos hacc h2px) hf'
  have h0 := agmInv_init hy hyx
  have hinv := agmInv_seq h0 (n + 1)
  have hval : agmEllipticPerimeterFuel fuel accuracy ⟨x, y⟩ =
      (2 * π * x / (agmSeq (agmState x y) (n + 1)).a * (agmExit (agmSeq (agmState x y) n)).sum, n + 1) := by
    rw [agmEllipticPerimeterFuel_eq]
    simp only [max_eq_left hyx, min_eq_right hyx, hloop, agmExit_a_eq_step]
    rfl
  rw [hval]
  exact ⟨n, rfl, fun m => agm_value_bracket h2px (hinv.g_pos.trans_le hinv.g_le_a)
    ((agmSeq_g_mono h0 (Nat.le_succ n)).trans hinv.g_le_a) hacc.le hstop (hbr m).1 (hbr m).2⟩
example : (0 : ℝ) < 1 ∧ (1 : ℝ) ≤ 300 ∧ (0 : ℝ) < 1 / 1000 := by norm_num

/-- both defects together, at every finite stage: let `T = 2πx/a_m·S_k` be any later approximant of the formula – divisor `a_m`,
    `m ≥ n + 1`, partial sum `S_k` of at least the `n + 1` terms the loop summed (they all tend to the same limit, the quantity the
    function is documented to return; that the limit is the perimeter is not proved here).  Then
    `P ≤ T ≤ (P + accuracy·g_n/a_{n+1})·(1 + c_{n+1}²/((a_{n+1} + g_{n+1})·g_{n+1}))`:
    the result never exceeds a later approximant, and falls short by the budgeted `accuracy` plus a relative error of second order in
    `c_{n+1}` (with the divisor `a_n` the corresponding factor would be `a_n/a_m ≥ 1 + c_{n+1}/a_m`, first order: `agm_exit_divisor`). -/
theorem agmEllipticPerimeter_later_approximants {x y : ℝ} (hy : 0 < y) (hyx : y ≤ x) {accuracy : ℝ} (hacc : 0 < accuracy)
    {fuel : ℕ} (hf : agmPassBound accuracy x y ≤ fuel) :
    ∃ n, (agmEllipticPerimeterFuel fuel accuracy ⟨x, y⟩).2 = n + 1 ∧
      ∀ m k, n + 1 ≤ m →
        (agmEllipticPerimeterFuel fuel accuracy ⟨x, y⟩).1 ≤
          2 * π * x / (agmSeq (agmState x y) m).a * (1 - ∑ i ∈ Finset.range (n + 1 + k), (agmSeq (agmState x y) i).term) ∧
        2 * π * x / (agmSeq (agmState x y) m).a * (1 - ∑ i ∈ Finset.range (n + 1 + k), (agmSeq (agmState x y) i).term) ≤
          ((agmEllipticPerimeterFuel fuel accuracy ⟨x, y⟩).1
            + accuracy * ((agmSeq (agmState x y) n).g / (agmSeq (agmState x y) (n + 1)).a)) *
          (1 + (agmSeq (agmState x y) (n + 1)).c ^ 2 /
            (((agmSeq (agmState x y) (n + 1)).a + (agmSeq (agmState x y) (n + 1)).g) * (agmSeq (agmState x y) (n + 1)).g)) := by
  obtain ⟨n, hcnt, hbr⟩ := agmEllipticPerimeter_value_bracket hy hyx hacc hf
  refine ⟨n, hcnt, fun m k hm => ?_⟩
  obtain ⟨b1, b2, _⟩ := hbr k
  have h0 := agmInv_init hy hyx
  rw [← div_div]
  exact agm_later_bracket (mul_pos (mul_pos two_pos Real.pi_pos) (hy.trans_le hyx)).le
    (sub_nonneg.2 (agmSeq_partial_lt_one h0 (n + 1 + k)).le)
    (agmInv_seq h0 (n + 1)).g_pos ((agmSeq_g_mono h0 hm).trans (agmInv_seq h0 m).g_le_a) (agmSeq_a_anti h0 hm)
    (agmSeq_a_sub_le h0 hm) b1 b2
example : (0 : ℝ) < 1 ∧ (1 : ℝ) ≤ 300 ∧ (0 : ℝ) < 1 / 1000 := by norm_num

end real

/-- the law classes used above are inhabited -/
example : ∃ _ : Scalar ℝ, LawfulScalar ℝ ∧ LawfulReal ∧ LawfulRealAngle :=
  ⟨realScalar, realScalar_lawful, realScalar_lawfulReal, realScalar_lawfulRealAngle⟩

end Kurbo
