import Proofs.Lemmas.Svd
import Proofs.Lemmas.C12SArc
import Proofs.Lemmas.C12SPts
/-! C12S – affine images of ellipses, circles and elliptical arcs (supplement to `Proofs/C12.lean`).

    Property text (C12): "Transforming a point, segment, path or shape and then evaluating it gives the transform of the
    evaluation – in particular the image of a circle, ellipse or elliptical arc is the ellipse or arc through the image
    points, traversed in the image direction."

    Model: `Affine.svd`, `Ellipse.new/private_new/center`, `Affine.mul_Ellipse`, `Affine.mul_Arc`, `sampleEllipse` of
    `Kurbo/Shapes.lean`, exactly as they are.  Notation of this file (definitions in `Proofs/Lemmas/C12S*.lean`; `sgnNeg`, `svdPhase` in `Lemmas/Svd.lean`):
    * `e.pts = { e.inner * u | u.x² + u.y² = 1 }` – the ideal point set of an `Ellipse` (image of the unit circle);
    * `e.svdPts = { e.center + sampleEllipse radii rot θ | θ }` with `(radii, rot) = e.inner.svd` – the ellipse that
      `Ellipse::radii_and_rotation`/`path_elements` describe;
    * `c.pts` – the circle `|p − center|² = radius²`; `c.toEllipse = Ellipse.new c.center (r, r) 0` – what
      `impl Mul<Circle> for Affine` multiplies (`self * Ellipse::from(circle)`; the model has no separate definition for
      it, `Kurbo/OpsShapes.lean` uses the same expression);
    * `a.pointAt θ = a.center + sampleEllipse a.radii a.x_rotation θ`; `a.pts = { a.pointAt (start + s·sweep) | 0 ≤ s ≤ 1 }`;
    * `sgnNeg D = −1` if `D < 0`, else `+1`; `svdPhase B` – the angle of the right orthogonal factor of the SVD.

    Proved
    A. any lawful scalar:
       1. `(A * e).pts = A '' e.pts` and `(A * e).center = A * e.center` (every `A`, also singular).
    B. over ℝ with `LawfulTrig` (`sin cos` real) and `LawfulReal` (`sqrt`, `atan2 = arg`):
       2. the SVD as a statement about points: for non-singular `B`,
          `B * (cos θ, sin θ) = B.translation + sampleEllipse B.svd.1 B.svd.2 (σ·(θ − ψ))`, `σ = sgnNeg (det B)`,
          `ψ = svdPhase B`, and conversely every sample is the image of the unit vector at `σ·θ' + ψ`.  Both singular
          values are positive.  This covers the circle case `rx = ry` (where `atan2(0, 0) = 0` fixes an arbitrary
          rotation): no hypothesis `rx ≠ ry` is needed.
          Singular `B`: `ry = 0 ≤ rx` and `B * (cos θ, sin θ)` is the sample at `θ − ψ` (`svd_parametrisation_singular`).
       3. `e.pts = e.svdPts` for every `e` (also singular: the degenerate ellipse is a segment or a point); hence
          `(A * e).svdPts = A '' e.svdPts` for every `A`, `e`.
       4. circles: `c.toEllipse.pts = c.pts` (every radius, also negative or zero), `(A * c.toEllipse).pts = A '' c.pts
          = (A * c.toEllipse).svdPts` and `(A * c.toEllipse).center = A * c.center` (every `A`).
       5. arcs, parameter-wise, the full statement: for `det A ≠ 0`, radii `> 0` and every real `s`
          `(A*arc).center + sampleEllipse (A*arc).radii (A*arc).x_rotation ((A*arc).start_angle + s·(A*arc).sweep_angle)
             = A * (arc.center + sampleEllipse arc.radii arc.x_rotation (arc.start_angle + s·arc.sweep_angle))`
          (`arc_image_param`); start point (`s = 0`), end point (`s = 1`), the point sets (`s ∈ [0,1]`), and
          `(A*arc).sweep_angle = ± arc.sweep_angle` with `−` exactly for `det A < 0`; every image point satisfies the
          implicit equation of the image ellipse; with `LawfulCount` (C10 item 8): the Bezier outline of `A * arc`
          starts with `MoveTo (A * start point)` and ends on `A * end point`.
       6. the same for radii of any signs (`≠ 0`): the point of `A * arc` at `s` is the image of the point of `arc` at
          `start + τ·s·sweep`, `τ = sgnNeg (rx·ry)` (`arc_image_param_signed`).  So for radii of equal sign (also both
          negative) 5. holds as it stands.

    A behaviour of the model (hence of the crate) that violates the property text
       7. for radii of opposite signs `A * arc` starts at the image of the start point but traverses the image of the
          arc with the sweep negated (`arc_image_mixed_radii`); concretely `Affine.scale 1` (the identity) times the arc
          `center (0,0), radii (−1, 1), start 0, sweep π/2, x_rotation 0` ends at `(0, −1)` whereas the arc ends at `(0, 1)`
          (`arc_image_mixed_radii_counterexample`).  Cause: `Ellipse::new` takes `abs` of the radii (a reflection when
          exactly one is negative) but the sweep is flipped only according to `det A`.  `Arc::path_elements`/
          `sample_ellipse` use the signed radii, so such an `Arc` is a meaningful value of the crate.  The crate does the
          same (harness op `shape.affine`, identity, this arc, tolerance 0.1): the outline of `A * arc` runs
          `(−1, 0) → (0, −1)`, the image of the outline of `arc` runs `(−1, 0) → (0, 1)`.

    Not proved
    * arcs (5./6.) for a singular `A` or a zero radius (excluded by hypothesis).  The hypothesis is necessary: the image
      ellipse then has `ry' = 0` and the start angle is `atan2(y·rx', x·0)`, which forgets `x` (e.g. the identity times
      the arc with radii `(1, 0)`, start `π/3` does not start at the arc's start point).  Not formalised.
    * nothing about `Float`: all statements of part B use exact real arithmetic; how far the `f64` results are from
      the image (conditioning of the SVD near `rx = ry`, `atan2` near the branch cut) is left to the oracle.
    * the outlines (`path_elements`) of the image shapes are related to the image point sets only through C10
      (`arc_end_point`, `ellipse_endpoints_on_affine_image`, …); no statement "the Bezier outline of `A * arc` is the
      image of the Bezier outline of `arc`" is made (it is false: the subdivision depends on the image radii). -/
set_option linter.unusedSectionVars false

namespace Kurbo
section lawful
variable {K : Type} [Field K] [LinearOrder K] [IsStrictOrderedRing K] [FloorRing K] [Scalar K] [LawfulScalar K]

theorem ellipse_image_pts (A : Affine K) (e : Ellipse K) :
    (A.mul_Ellipse e).pts = (fun p : Point K => A * p) '' e.pts := by
  ext p
  constructor
  · rintro ⟨u, hu, rfl⟩
    exact ⟨e.inner * u, ⟨u, hu, rfl⟩, (Affine.mul_act A e.inner u).symm⟩
  · rintro ⟨q, ⟨u, hu, rfl⟩, rfl⟩
    exact ⟨u, hu, (Affine.mul_act A e.inner u).symm⟩

/-- membership form, without `Set` notation -/
theorem ellipse_image_pts_iff (A : Affine K) (e : Ellipse K) (p : Point K) :
    (∃ u : Point K, u.x ^ 2 + u.y ^ 2 = 1 ∧ p = (A.mul_Ellipse e).inner * u)
      ↔ ∃ q : Point K, (∃ u : Point K, u.x ^ 2 + u.y ^ 2 = 1 ∧ q = e.inner * u) ∧ A * q = p :=
  iff_of_eq (congrArg (fun S => p ∈ S) (ellipse_image_pts A e))

theorem ellipse_image_center (A : Affine K) (e : Ellipse K) : (A.mul_Ellipse e).center = A * e.center := by
  simp only [Affine.mul_Ellipse, Ellipse.center, Affine.translation, Vec2.to_point, Affine.mul_eq, Affine.act_eq]

theorem ellipse_new_spec (c : Point K) (radii : Vec2 K) (rot : K) (p : Point K) :
    (Ellipse.new c radii rot).center = c ∧
    (Ellipse.new c radii rot).inner * p
      = ⟨c.x + (Scalar.cos rot * (|radii.x| * p.x) - Scalar.sin rot * (|radii.y| * p.y)),
         c.y + (Scalar.sin rot * (|radii.x| * p.x) + Scalar.cos rot * (|radii.y| * p.y))⟩ :=
  ⟨ellipse_new_center c radii rot, ellipse_new_act c radii rot p⟩

end lawful
end Kurbo

namespace Kurbo
open Real

-- the class assumptions are satisfiable: ℝ with Mathlib's functions
example : @LawfulScalar ℝ _ _ _ _ realScalar ∧ @LawfulTrig realScalar ∧ @LawfulReal realScalar :=
  ⟨realScalar_lawful, realScalar_lawfulTrig, realScalar_lawfulReal⟩

section real
variable [Scalar ℝ] [LawfulScalar ℝ] [LawfulTrig] [LawfulReal]

theorem svd_radii_positive (B : Affine ℝ) (hdet : B.determinant ≠ 0) :
    0 < B.svd.1.x ∧ 0 < B.svd.1.y ∧ B.svd.1.x * B.svd.1.y = |B.determinant| :=
  ⟨(svd_radii_pos B hdet).1, (svd_radii_pos B hdet).2, svd_radii_prod B⟩

/-- `B_lin = R(rot)·diag(rx, ry)·W` with `W` orthogonal: `W` is the rotation by `−ψ` for `det B > 0`, the reflection
    `θ ↦ ψ − θ` for `det B < 0` -/
theorem svd_parametrisation (B : Affine ℝ) (hdet : B.determinant ≠ 0) :
    ∃ ψ : ℝ,
      (∀ θ : ℝ, B * (⟨cos θ, sin θ⟩ : Point ℝ)
        = B.translation.to_point + sampleEllipse B.svd.1 B.svd.2 (sgnNeg B.determinant * (θ - ψ))) ∧
      (∀ θ' : ℝ, B.translation.to_point + sampleEllipse B.svd.1 B.svd.2 θ'
        = B * (⟨cos (sgnNeg B.determinant * θ' + ψ), sin (sgnNeg B.determinant * θ' + ψ)⟩ : Point ℝ)) :=
  ⟨svdPhase B, svd_point B, svd_point_inv B⟩

theorem sgnNeg_spec (D : ℝ) : (D < 0 → sgnNeg D = -1) ∧ (¬ D < 0 → sgnNeg D = 1) :=
  ⟨sgnNeg_of_neg, sgnNeg_of_nonneg⟩

-- non-vacuity: a shear (det 1), a reflection composed with a scaling (det −2), and a map with `rx = ry` (circle case)
example : letI := realScalar; (⟨1, 0, 1, 1, 3, 4⟩ : Affine ℝ).determinant ≠ 0 := by
  show ((1 : ℝ) * 1 - 0 * 1 ≠ 0); norm_num
example : letI := realScalar; (⟨2, 0, 0, -1, 0, 0⟩ : Affine ℝ).determinant ≠ 0 := by
  show ((2 : ℝ) * (-1) - 0 * 0 ≠ 0); norm_num
example : letI := realScalar; (⟨0, 3, -3, 0, 1, 1⟩ : Affine ℝ).determinant ≠ 0 := by
  show ((0 : ℝ) * 0 - 3 * (-3) ≠ 0); norm_num

theorem ellipse_pts_parametric (e : Ellipse ℝ) :
    e.pts = {p | ∃ θ : ℝ, p = e.inner * (⟨cos θ, sin θ⟩ : Point ℝ)} := by
  ext p
  constructor
  · rintro ⟨u, hu, rfl⟩
    exact ⟨_, by rw [← unit_circle_param u hu]⟩
  · rintro ⟨θ, rfl⟩
    exact ⟨_, Real.cos_sq_add_sin_sq θ, rfl⟩

theorem ellipse_pts_eq_svd (e : Ellipse ℝ) : e.pts = e.svdPts := by
  rw [ellipse_pts_parametric]
  ext p
  constructor
  · rintro ⟨θ, rfl⟩
    exact ⟨_, svd_point e.inner θ⟩
  · rintro ⟨θ', rfl⟩
    exact ⟨_, svd_point_inv e.inner θ'⟩

theorem svd_parametrisation_singular (B : Affine ℝ) (hdet : B.determinant = 0) :
    B.svd.1.y = 0 ∧ B.svd.1.y ≤ B.svd.1.x ∧
    ∃ ψ : ℝ, ∀ θ : ℝ, B * (⟨cos θ, sin θ⟩ : Point ℝ)
        = B.translation.to_point + sampleEllipse B.svd.1 B.svd.2 (θ - ψ) :=
  ⟨svd_radii_y_of_det_eq_zero B hdet, svd_radii_le B, svdPhase B, fun θ => by
    -- `sgnNeg 0 = 1`
    have h := svd_point B θ
    rwa [hdet, sgnNeg_of_nonneg (lt_irrefl 0), one_mul] at h⟩

-- non-vacuity: a rank-one map
example : letI := realScalar; (⟨1, 2, 2, 4, 0, 0⟩ : Affine ℝ).determinant = 0 := by
  show ((1 : ℝ) * 4 - 2 * 2 = 0); norm_num

theorem ellipse_image_svd (A : Affine ℝ) (e : Ellipse ℝ) :
    (A.mul_Ellipse e).svdPts = (fun p : Point ℝ => A * p) '' e.svdPts := by
  rw [← ellipse_pts_eq_svd, ← ellipse_pts_eq_svd e, ellipse_image_pts]

-- non-vacuity: the ellipse with semi-axes 2 and 1 turned by an arbitrary angle is non-singular
example (c : Point ℝ) (rot : ℝ) : (Ellipse.new c ⟨2, 1⟩ rot).inner.determinant ≠ 0 := by
  rw [ellipse_new_det_real]; norm_num

theorem circle_as_ellipse_pts (c : Circle ℝ) : c.toEllipse.pts = c.pts := by
  have hact : ∀ u : Point ℝ, c.toEllipse.inner * u = ⟨c.center.x + |c.radius| * u.x, c.center.y + |c.radius| * u.y⟩ := by
    intro u
    rw [Circle.toEllipse, ellipse_new_act, ofNat_zero_eq, LawfulTrig.sin_eq, LawfulTrig.cos_eq, Real.sin_zero,
      Real.cos_zero]
    congr 1 <;> ring
  ext p
  simp only [Ellipse.pts, Circle.pts, Set.mem_ofPred_eq, hact]
  rw [← sq_abs c.radius]
  generalize |c.radius| = ρ
  constructor
  · rintro ⟨u, hu, rfl⟩
    linear_combination (ρ ^ 2) * hu
  · intro hp
    by_cases hr : ρ = 0
    · rw [hr, zero_pow two_ne_zero] at hp
      obtain ⟨hx, hy⟩ := (add_eq_zero_iff_of_nonneg (sq_nonneg _) (sq_nonneg _)).mp hp
      refine ⟨⟨1, 0⟩, by norm_num, ?_⟩
      cases p
      simp only [hr, Point.mk.injEq, zero_mul, add_zero]
      exact ⟨sub_eq_zero.mp (pow_eq_zero_iff two_ne_zero |>.mp hx), sub_eq_zero.mp (pow_eq_zero_iff two_ne_zero |>.mp hy)⟩
    · refine ⟨⟨(p.x - c.center.x) / ρ, (p.y - c.center.y) / ρ⟩, ?_, ?_⟩
      · rw [div_pow, div_pow, ← add_div, hp, div_self (pow_ne_zero 2 hr)]
      · cases p
        simp only [mul_div_cancel₀ _ hr, add_sub_cancel]

theorem circle_image_pts (A : Affine ℝ) (c : Circle ℝ) :
    (A.mul_Ellipse c.toEllipse).pts = (fun p : Point ℝ => A * p) '' c.pts := by
  rw [ellipse_image_pts, circle_as_ellipse_pts]

theorem circle_image_svd (A : Affine ℝ) (c : Circle ℝ) :
    (A.mul_Ellipse c.toEllipse).svdPts = (fun p : Point ℝ => A * p) '' c.pts ∧
    (A.mul_Ellipse c.toEllipse).center = A * c.center := by
  refine ⟨?_, ?_⟩
  · rw [← ellipse_pts_eq_svd, circle_image_pts]
  · rw [ellipse_image_center, Circle.toEllipse, ellipse_new_center]

theorem arc_image_fields (A : Affine ℝ) (arc : Arc ℝ) :
    (A.mul_Arc arc).center = (A.mul_Ellipse (Ellipse.new arc.center arc.radii arc.x_rotation)).center ∧
    (A.mul_Arc arc).center = A * arc.center ∧
    ((A.mul_Arc arc).radii, (A.mul_Arc arc).x_rotation)
      = (A.mul_Ellipse (Ellipse.new arc.center arc.radii arc.x_rotation)).inner.svd ∧
    (A.mul_Arc arc).sweep_angle = sgnNeg A.determinant * arc.sweep_angle ∧
    (A.determinant < 0 → (A.mul_Arc arc).sweep_angle = -arc.sweep_angle) ∧
    (¬ A.determinant < 0 → (A.mul_Arc arc).sweep_angle = arc.sweep_angle) := by
  refine ⟨rfl, ?_, rfl, mul_Arc_sweep A arc, fun h => ?_, fun h => ?_⟩
  · show (A.mul_Ellipse (Ellipse.new arc.center arc.radii arc.x_rotation)).center = _
    rw [ellipse_image_center, ellipse_new_center]
  · rw [mul_Arc_sweep, sgnNeg_of_neg h]; ring
  · rw [mul_Arc_sweep, sgnNeg_of_nonneg h]; ring

/-- "the arc through the image points, traversed in the image direction", parameter-wise and for every real `s` -/
theorem arc_image_param (A : Affine ℝ) (arc : Arc ℝ) (hdet : A.determinant ≠ 0)
    (hx : 0 < arc.radii.x) (hy : 0 < arc.radii.y) (s : ℝ) :
    (A.mul_Arc arc).center + sampleEllipse (A.mul_Arc arc).radii (A.mul_Arc arc).x_rotation
        ((A.mul_Arc arc).start_angle + s * (A.mul_Arc arc).sweep_angle)
      = A * (arc.center + sampleEllipse arc.radii arc.x_rotation (arc.start_angle + s * arc.sweep_angle)) := by
  have h := mul_Arc_point_general A arc hdet hx.ne' hy.ne' s
  rw [sgnNeg_of_nonneg (not_lt.mpr (mul_pos hx hy).le), one_mul] at h
  exact h

-- non-vacuity: a shear and a reflecting map, an arc with radii (2, 1)
example : letI := realScalar; (⟨1, 0, 1, 1, 3, 4⟩ : Affine ℝ).determinant ≠ 0 ∧
    0 < (⟨⟨0, 0⟩, ⟨2, 1⟩, 1, 2, 3⟩ : Arc ℝ).radii.x ∧ 0 < (⟨⟨0, 0⟩, ⟨2, 1⟩, 1, 2, 3⟩ : Arc ℝ).radii.y := by
  refine ⟨?_, ?_, ?_⟩
  · show ((1 : ℝ) * 1 - 0 * 1 ≠ 0); norm_num
  · show (0 : ℝ) < 2; norm_num
  · show (0 : ℝ) < 1; norm_num
example : letI := realScalar; (⟨2, 0, 0, -1, 0, 0⟩ : Affine ℝ).determinant < 0 := by
  show ((2 : ℝ) * (-1) - 0 * 0 < 0); norm_num

theorem arc_image_endpoints (A : Affine ℝ) (arc : Arc ℝ) (hdet : A.determinant ≠ 0)
    (hx : 0 < arc.radii.x) (hy : 0 < arc.radii.y) :
    (A.mul_Arc arc).center + sampleEllipse (A.mul_Arc arc).radii (A.mul_Arc arc).x_rotation (A.mul_Arc arc).start_angle
      = A * (arc.center + sampleEllipse arc.radii arc.x_rotation arc.start_angle) ∧
    (A.mul_Arc arc).center + sampleEllipse (A.mul_Arc arc).radii (A.mul_Arc arc).x_rotation
        ((A.mul_Arc arc).start_angle + (A.mul_Arc arc).sweep_angle)
      = A * (arc.center + sampleEllipse arc.radii arc.x_rotation (arc.start_angle + arc.sweep_angle)) := by
  have h0 := arc_image_param A arc hdet hx hy 0
  have h1 := arc_image_param A arc hdet hx hy 1
  simp only [zero_mul, add_zero, one_mul] at h0 h1
  exact ⟨h0, h1⟩

theorem arc_image_pts (A : Affine ℝ) (arc : Arc ℝ) (hdet : A.determinant ≠ 0)
    (hx : 0 < arc.radii.x) (hy : 0 < arc.radii.y) :
    (A.mul_Arc arc).pts = (fun p : Point ℝ => A * p) '' arc.pts := by
  ext p
  constructor
  · rintro ⟨s, h0, h1, rfl⟩
    exact ⟨_, ⟨s, h0, h1, rfl⟩, (arc_image_param A arc hdet hx hy s).symm⟩
  · rintro ⟨q, ⟨s, h0, h1, rfl⟩, rfl⟩
    exact ⟨s, h0, h1, (arc_image_param A arc hdet hx hy s).symm⟩

theorem arc_image_on_ellipse (A : Affine ℝ) (arc : Arc ℝ) (hdet : A.determinant ≠ 0)
    (hx : 0 < arc.radii.x) (hy : 0 < arc.radii.y) (s : ℝ) :
    OnEllipse (A.mul_Arc arc).center (A.mul_Arc arc).radii.x (A.mul_Arc arc).radii.y (A.mul_Arc arc).x_rotation
      (A * (arc.center + sampleEllipse arc.radii arc.x_rotation (arc.start_angle + s * arc.sweep_angle))) := by
  rw [← arc_image_param A arc hdet hx hy s]
  obtain ⟨h1, h2⟩ := mul_Arc_radii_pos A arc hdet hx.ne' hy.ne'
  exact center_add_onEllipse _ _ _ _ h1.ne' h2.ne'

section outline
variable [LawfulCount]

/-- the Bezier outline of `A * arc` begins with `MoveTo (A * start point of arc)` and, after all its pieces, leaves the
    pen on `A * end point of arc` – for every tolerance -/
theorem arc_image_outline_endpoints (A : Affine ℝ) (arc : Arc ℝ) (tol : ℝ) (hdet : A.determinant ≠ 0)
    (hx : 0 < arc.radii.x) (hy : 0 < arc.radii.y) :
    (A.mul_Arc arc).path_elements tol
      = PathEl.MoveTo (A * (arc.center + sampleEllipse arc.radii arc.x_rotation arc.start_angle))
          :: (A.mul_Arc arc).append_iter tol ∧
    penAfter (A * (arc.center + sampleEllipse arc.radii arc.x_rotation arc.start_angle)) ((A.mul_Arc arc).append_iter tol)
      = A * (arc.center + sampleEllipse arc.radii arc.x_rotation (arc.start_angle + arc.sweep_angle)) := by
  obtain ⟨h0, h1⟩ := arc_image_endpoints A arc hdet hx hy
  refine ⟨?_, ?_⟩
  · rw [← h0]; rfl
  · rw [← h0, ← h1]
    exact penAfter_arc_real (A.mul_Arc arc) tol

end outline

theorem arc_image_param_signed (A : Affine ℝ) (arc : Arc ℝ) (hdet : A.determinant ≠ 0)
    (hx : arc.radii.x ≠ 0) (hy : arc.radii.y ≠ 0) (s : ℝ) :
    (A.mul_Arc arc).center + sampleEllipse (A.mul_Arc arc).radii (A.mul_Arc arc).x_rotation
        ((A.mul_Arc arc).start_angle + s * (A.mul_Arc arc).sweep_angle)
      = A * (arc.center + sampleEllipse arc.radii arc.x_rotation
          (arc.start_angle + sgnNeg (arc.radii.x * arc.radii.y) * (s * arc.sweep_angle))) :=
  mul_Arc_point_general A arc hdet hx hy s

/-- radii of opposite signs: `A * arc` traverses the image of the arc with the sweep negated – it starts at the image
    of the start point and then runs the wrong way (a violation of the property text by the model, hence the crate) -/
theorem arc_image_mixed_radii (A : Affine ℝ) (arc : Arc ℝ) (hdet : A.determinant ≠ 0)
    (hxy : arc.radii.x * arc.radii.y < 0) (s : ℝ) :
    (A.mul_Arc arc).center + sampleEllipse (A.mul_Arc arc).radii (A.mul_Arc arc).x_rotation
        ((A.mul_Arc arc).start_angle + s * (A.mul_Arc arc).sweep_angle)
      = A * (arc.center + sampleEllipse arc.radii arc.x_rotation (arc.start_angle - s * arc.sweep_angle)) := by
  have hx : arc.radii.x ≠ 0 := fun h => by rw [h, zero_mul] at hxy; exact lt_irrefl _ hxy
  have hy : arc.radii.y ≠ 0 := fun h => by rw [h, mul_zero] at hxy; exact lt_irrefl _ hxy
  have h := mul_Arc_point_general A arc hdet hx hy s
  rw [sgnNeg_of_neg hxy, show arc.start_angle + -1 * (s * arc.sweep_angle) = arc.start_angle - s * arc.sweep_angle by ring] at h
  exact h

theorem arc_image_mixed_radii_counterexample :
    let A : Affine ℝ := ⟨1, 0, 0, 1, 0, 0⟩
    let arc : Arc ℝ := ⟨⟨0, 0⟩, ⟨-1, 1⟩, 0, Real.pi / 2, 0⟩
    (A.mul_Arc arc).center + sampleEllipse (A.mul_Arc arc).radii (A.mul_Arc arc).x_rotation
        ((A.mul_Arc arc).start_angle + (A.mul_Arc arc).sweep_angle) = (⟨0, -1⟩ : Point ℝ) ∧
    A * (arc.center + sampleEllipse arc.radii arc.x_rotation (arc.start_angle + arc.sweep_angle)) = (⟨0, 1⟩ : Point ℝ) := by
  intro A arc
  have hdet : A.determinant ≠ 0 := by rw [Affine.determinant_eq]; norm_num [A]
  have hxy : arc.radii.x * arc.radii.y < 0 := by norm_num [arc]
  have h := arc_image_mixed_radii A arc hdet hxy 1
  rw [one_mul, one_mul] at h
  have key : ∀ θ : ℝ, A * (arc.center + sampleEllipse arc.radii arc.x_rotation θ) = ⟨-Real.cos θ, Real.sin θ⟩ := by
    intro θ
    rw [sampleEllipse_real]
    simp only [A, arc, kdefs, scalar_norm, Real.cos_zero, Real.sin_zero, Point.mk.injEq]
    constructor <;> ring
  rw [h, key, key]
  simp only [arc, zero_sub, zero_add, Real.cos_neg, Real.sin_neg, Real.cos_pi_div_two, Real.sin_pi_div_two, neg_zero,
    and_self]

end real
end Kurbo
