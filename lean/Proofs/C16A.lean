import Proofs.Lemmas.C16ASweep
import Proofs.Lemmas.C16AMain
/-! C16A – the geometry of `Arc::from_svg_arc` over ℝ (supplement to `Proofs/C16.lean`).

    Property text (C16), the clause treated here: "an elliptical arc command produces a curve from the current point to the
    stated end point with the requested sweep direction and large-arc choice".  `cmd_arc` of `C16.lean` shows that the parser
    hands the current point, the end point, the radii, the rotation (in radians) and the two flags to `Arc.from_svg_arc`;
    this file is about what that function returns; `Proofs/C16G.lean` composes the two.

    Model: `Arc.from_svg_arc`, `SvgArc`, `SvgArc.is_straight_line`, `sampleEllipse`, `rotatePt` of
    `Kurbo/Shapes.lean` and `Arc` of `Kurbo/Types.lean`, exactly as they are (transcription of kurbo/src/svg.rs `Arc::from_svg_arc`).  The curve of an
    `Arc a` is `θ ↦ a.center + sampleEllipse a.radii a.x_rotation θ` for `θ` from `a.start_angle` to
    `a.start_angle + a.sweep_angle` (C10, C12S).

    Scalars: ℝ with any `Scalar ℝ` structure satisfying `LawfulScalar` (field operations, comparisons), `LawfulReal`
    (`Lemmas/RealLaws.lean`: `sqrt`, `sin`, `cos` are the real functions, `y.atan2(x) = arg (x + iy) ∈ (−π, π]`) and `LawfulRealAngle` (C11: `pi = π`,
    `a % b = a − b·trunc(a/b)`).  From `LawfulRealAngle.fmod_eq` the law "`x % 2π` differs from `x` by an integer multiple of
    `2π`, lies in `(−2π, 2π)` and has the sign of `x`" follows (`SvgArcR.fmodR_two_pi_spec` in `Lemmas/Angle.lean`).  The
    classes are inhabited by `realScalar` (example at the end), so no law is merely postulated.

    Notation (definitions in `Proofs/Lemmas/C16AStage.lean`; `rf_explicit` below spells `rfR` out):
    * `pX arc, pY arc` – half the chord `(from − to)/2` turned by `−x_rotation` (F.6.5.1);
    * `rfR arc = pX²/rx² + pY²/ry²` – the `rf` of the code (F.6.6.2): `> 1` iff the radii are too small for the chord.

    Proved, for every `SvgArc` over ℝ with `is_straight_line = false` (⇔ `|rx|, |ry| > 10⁻⁵` and `from ≠ to`:
    `is_straight_line_false_iff'`), every `x_rotation`, both flags, `a` = the returned arc:
     0. `from_svg_arc_none_iff` (any `Scalar K`): `none` exactly for straight lines.
     1. `svg_arc_start_point`: `a.center + sampleEllipse a.radii a.x_rotation a.start_angle = arc.from` (exact).
     2. `svg_arc_end_point`: `a.center + sampleEllipse a.radii a.x_rotation (a.start_angle + a.sweep_angle) = arc.to`.
     3. `svg_arc_radii`: `rf ≤ 1` ⇒ radii `(|rx|, |ry|)`; `rf > 1` ⇒ radii `(|rx|·√rf, |ry|·√rf)` with `√rf > 1`;
        `a.x_rotation = arc.x_rotation` (equal, not only mod 2π: the code stores the unreduced angle and uses the reduced
        one only for `sin`/`cos`); the centre is the chord midpoint iff `1 ≤ rf` (so in particular whenever the radii were
        scaled up).
     4. `svg_arc_sweep_direction`: sweep flag set ⇒ `0 < sweep_angle < 2π`; clear ⇒ `−2π < sweep_angle < 0`.  (Exact
        range: the `%` is the identity here because the difference of two `atan2` values is already in `(−2π, 2π)`; the
        value `0` cannot occur because `start_v ≠ end_v`; `±2π` cannot occur.  Up to the sign of the flag the sweep angle is the
        turn `redAngle` of `Lemmas/Angle.lean` from `start_v` to `end_v` (`svgSweep_eq`, `svgSweep_spec`), the number that
        `CircleSegment::winding` (C11) compares with `|sweep|`.)  `svg_arc_sweep_iff`: `0 ≤ sweep_angle`
        iff `0 < sweep_angle` iff the flag is set; `|sweep_angle| < 2π`.
     5. `svg_arc_large_arc`: for `rf < 1`: `π < |sweep_angle|` iff the large-arc flag is set, and `|sweep_angle| ≠ π`.
        `svg_arc_half_turn`: `|sweep_angle| = π` iff `1 ≤ rf` iff the centre is the chord midpoint – then both values of
        the large-arc flag give a half turn (the two candidate arcs are the two halves of the same ellipse, the flag
        cannot distinguish them; the sweep flag still picks the side).  `svg_arc_large_arc_weak` (all cases):
        flag set ⇒ `π ≤ |sweep_angle|`, flag clear ⇒ `|sweep_angle| ≤ π`.

    Not proved / not covered
    * Floating point: everything is over ℝ.  In `f64` the start/end points are hit only approximately, `rf` slightly above
      `1` by rounding makes `coe` a small non-zero number (through the `.abs()`), and for `rf` extremely close to 1 the
      choice in 5 is decided by rounding.  The oracle comparison of C16 covers `f64`.
    * The conversion of the `Arc` to cubic Béziers (`append_iter`, C10) and its use by the parser (C16) are other files;
      this file does not restate that the emitted cubics approximate the arc.
    * Inputs with `is_straight_line = true` (`from = to` or a radius `≤ 10⁻⁵` in absolute value): the function returns
      `none` and the parser emits a `LineTo` (C16); for `from = to` the SVG specification says to omit the segment, kurbo
      emits a zero-length `LineTo` – no point of the clause is violated. -/
set_option linter.unusedSectionVars false
namespace Kurbo
open Real SvgArcR

theorem from_svg_arc_none_iff {K : Type} [Scalar K] (arc : SvgArc K) :
    Arc.from_svg_arc arc = none ↔ arc.is_straight_line = true := by
  rw [from_svg_arc_stages]
  cases arc.is_straight_line <;> simp

section real
variable [Scalar ℝ] [LawfulScalar ℝ] [LawfulReal] [LawfulRealAngle]

theorem is_straight_line_false_iff' (arc : SvgArc ℝ) :
    arc.is_straight_line = false ↔ (1/100000 < |arc.radii.x| ∧ 1/100000 < |arc.radii.y| ∧ arc.from ≠ arc.to) :=
  is_straight_line_false_iff arc

theorem rf_explicit (arc : SvgArc ℝ) :
    rfR arc
      = (cos arc.x_rotation * ((arc.from.x - arc.to.x) * (1/2)) + sin arc.x_rotation * ((arc.from.y - arc.to.y) * (1/2))) ^ 2
          / arc.radii.x ^ 2
        + (-sin arc.x_rotation * ((arc.from.x - arc.to.x) * (1/2)) + cos arc.x_rotation * ((arc.from.y - arc.to.y) * (1/2))) ^ 2
          / arc.radii.y ^ 2 := by
  unfold rfR pX pY
  rw [abs_mul_abs_self, abs_mul_abs_self, pow_two, pow_two, pow_two, pow_two]

theorem svg_arc_start_point (arc : SvgArc ℝ) (a : Arc ℝ) (h : arc.is_straight_line = false)
    (ha : Arc.from_svg_arc arc = some a) :
    a.center + sampleEllipse a.radii a.x_rotation a.start_angle = arc.from := by
  obtain rfl := eq_arcR arc h a ha
  have hf := svg_fits arc h
  refine (arcR_point arc (ε := 1) ?_ ?_).trans ?_
  · rw [one_mul]; exact (congrArg _ (cos_arg_unit hf.startV_norm)).trans (mul_div_cancel₀ _ hf.rx_pos.ne')
  · rw [one_mul]; exact (congrArg _ (sin_arg_unit hf.startV_norm)).trans (mul_div_cancel₀ _ hf.ry_pos.ne')
  · show _ = (⟨arc.from.x, arc.from.y⟩ : Point ℝ)
    congr 1 <;> ring

theorem svg_arc_end_point (arc : SvgArc ℝ) (a : Arc ℝ) (h : arc.is_straight_line = false)
    (ha : Arc.from_svg_arc arc = some a) :
    a.center + sampleEllipse a.radii a.x_rotation (a.start_angle + a.sweep_angle) = arc.to := by
  obtain rfl := eq_arcR arc h a ha
  have hf := svg_fits arc h
  refine (arcR_point arc (ε := -1) ?_ ?_).trans ?_
  · rw [neg_one_mul]; exact (congrArg _ hf.cos_sin_end.1).trans (mul_div_cancel₀ _ hf.rx_pos.ne')
  · rw [neg_one_mul]; exact (congrArg _ hf.cos_sin_end.2).trans (mul_div_cancel₀ _ hf.ry_pos.ne')
  · show _ = (⟨arc.to.x, arc.to.y⟩ : Point ℝ)
    congr 1 <;> ring

theorem svg_arc_radii (arc : SvgArc ℝ) (a : Arc ℝ) (h : arc.is_straight_line = false)
    (ha : Arc.from_svg_arc arc = some a) :
    (rfR arc ≤ 1 → a.radii = ⟨|arc.radii.x|, |arc.radii.y|⟩) ∧
    (1 < rfR arc → a.radii = ⟨|arc.radii.x| * √(rfR arc), |arc.radii.y| * √(rfR arc)⟩ ∧ 1 < √(rfR arc)) ∧
    a.x_rotation = arc.x_rotation ∧
    (a.center = ⟨(arc.from.x + arc.to.x) * (1/2), (arc.from.y + arc.to.y) * (1/2)⟩ ↔ 1 ≤ rfR arc) := by
  refine ⟨fun hle => ?_, fun hlt => ⟨?_, ?_⟩, ?_, center_mid_iff arc h a ha⟩
  · rw [eq_arcR arc h a ha, arcR, tailR, radX, radY, scaleR, if_neg (not_lt.mpr hle), mul_one, mul_one]
  · rw [eq_arcR arc h a ha, arcR, tailR, radX, radY, scaleR, if_pos hlt]
  · exact (Real.lt_sqrt zero_le_one).mpr (by rw [one_pow]; exact hlt)
  · rw [eq_arcR arc h a ha, arcR, tailR]

theorem svg_arc_sweep_direction (arc : SvgArc ℝ) (a : Arc ℝ) (h : arc.is_straight_line = false)
    (ha : Arc.from_svg_arc arc = some a) :
    (arc.sweep = true → 0 < a.sweep_angle ∧ a.sweep_angle < 2 * π) ∧
    (arc.sweep = false → -(2 * π) < a.sweep_angle ∧ a.sweep_angle < 0) := by
  obtain rfl := eq_arcR arc h a ha
  obtain ⟨r, hr, e, -⟩ := (svg_fits arc h).sweep_turn (la := arc.large_arc) (sw := arc.sweep)
  have e : (arcR arc).sweep_angle = swSign arc.sweep * r := e
  rw [e]
  constructor <;> intro hs <;> rw [hs]
  · rw [swSign_true, one_mul]; exact hr
  · rw [swSign_false, neg_one_mul]; exact ⟨neg_lt_neg hr.2, neg_neg_of_pos hr.1⟩

theorem svg_arc_sweep_iff (arc : SvgArc ℝ) (a : Arc ℝ) (h : arc.is_straight_line = false)
    (ha : Arc.from_svg_arc arc = some a) :
    (0 ≤ a.sweep_angle ↔ arc.sweep = true) ∧ (0 < a.sweep_angle ↔ arc.sweep = true) ∧ |a.sweep_angle| < 2 * π := by
  obtain ⟨h1, h2⟩ := svg_arc_sweep_direction arc a h ha
  cases hs : arc.sweep
  · obtain ⟨r1, r2⟩ := h2 hs
    exact ⟨⟨fun h0 => absurd h0 (not_le.mpr r2), nofun⟩, ⟨fun h0 => absurd h0.le (not_le.mpr r2), nofun⟩,
      abs_lt.mpr ⟨r1, r2.trans Real.two_pi_pos⟩⟩
  · obtain ⟨r1, r2⟩ := h1 hs
    exact ⟨⟨fun _ => rfl, fun _ => r1.le⟩, ⟨fun _ => rfl, fun _ => r1⟩,
      abs_lt.mpr ⟨(neg_neg_of_pos Real.two_pi_pos).trans r1, r2⟩⟩

theorem svg_arc_large_arc (arc : SvgArc ℝ) (a : Arc ℝ) (h : arc.is_straight_line = false)
    (ha : Arc.from_svg_arc arc = some a) (hrf : rfR arc < 1) :
    (π < |a.sweep_angle| ↔ arc.large_arc = true) ∧ |a.sweep_angle| ≠ π := by
  obtain rfl := eq_arcR arc h a ha
  obtain ⟨l1, l2⟩ := (svg_fits arc h).large_arc_strict (la := arc.large_arc) (sw := arc.sweep)
    ((sumSq_lt_iff arc h).mpr hrf)
  cases hl : arc.large_arc
  · have := l2 hl
    exact ⟨⟨fun h0 => absurd h0 (not_lt.mpr this.le), fun h0 => by cases h0⟩, this.ne⟩
  · have := l1 hl
    exact ⟨⟨fun _ => rfl, fun _ => this⟩, this.ne'⟩

theorem svg_arc_half_turn (arc : SvgArc ℝ) (a : Arc ℝ) (h : arc.is_straight_line = false)
    (ha : Arc.from_svg_arc arc = some a) :
    (|a.sweep_angle| = π ↔ 1 ≤ rfR arc) ∧
    (|a.sweep_angle| = π ↔ a.center = ⟨(arc.from.x + arc.to.x) * (1/2), (arc.from.y + arc.to.y) * (1/2)⟩) := by
  have hmain : |a.sweep_angle| = π ↔ 1 ≤ rfR arc := by
    constructor
    · intro he
      by_contra hlt
      exact (svg_arc_large_arc arc a h ha (not_le.mp hlt)).2 he
    · intro hge
      obtain rfl := eq_arcR arc h a ha
      exact (svg_fits arc h).half_turn ((sumSq_eq_iff arc h).mpr hge)
  exact ⟨hmain, hmain.trans (center_mid_iff arc h a ha).symm⟩

theorem svg_arc_large_arc_weak (arc : SvgArc ℝ) (a : Arc ℝ) (h : arc.is_straight_line = false)
    (ha : Arc.from_svg_arc arc = some a) :
    (arc.large_arc = true → π ≤ |a.sweep_angle|) ∧ (arc.large_arc = false → |a.sweep_angle| ≤ π) := by
  rcases lt_or_ge (rfR arc) 1 with hrf | hrf
  · obtain ⟨l1, -⟩ := svg_arc_large_arc arc a h ha hrf
    constructor
    · intro hl; exact (l1.mpr hl).le
    · intro hl; by_contra hc
      have := l1.mp (not_le.mp hc); rw [hl] at this; cases this
  · have := (svg_arc_half_turn arc a h ha).1.mpr hrf
    exact ⟨fun _ => this.ge, fun _ => this.le⟩

/-! `exFit`: `(0,0) → (2,0)`, radii `(1,1)` (`rf = 1`); `exBig`: radii `(2,−2)`, large arc, negative direction (`rf = 1/4`);
    `exSmall`: radii `(1/2,1/2)` (`rf = 4`) – definitions in `Lemmas/C16AMain.lean`. -/

example : exFit.is_straight_line = false := exFit_ok
example : exBig.is_straight_line = false := exBig_ok
example : exSmall.is_straight_line = false := exSmall_ok

example : rfR exFit = 1 := rfR_exFit
example : rfR exBig = 1/4 := rfR_exBig
example : rfR exSmall = 4 := rfR_exSmall

example : ∃ a, Arc.from_svg_arc exFit = some a ∧ a.center = ⟨1, 0⟩ ∧ a.radii = ⟨1, 1⟩ ∧ a.sweep_angle = π ∧
    a.center + sampleEllipse a.radii a.x_rotation a.start_angle = ⟨0, 0⟩ ∧
    a.center + sampleEllipse a.radii a.x_rotation (a.start_angle + a.sweep_angle) = ⟨2, 0⟩ := by
  have h : exFit.is_straight_line = false := exFit_ok
  have hrf : rfR exFit = 1 := rfR_exFit
  refine ⟨_, from_svg_arc_real exFit h, ?_⟩
  have ha := from_svg_arc_real exFit h
  obtain ⟨r1, -, -, r4⟩ := svg_arc_radii exFit _ h ha
  obtain ⟨s1, -⟩ := svg_arc_sweep_direction exFit _ h ha
  have ht := (svg_arc_half_turn exFit _ h ha).1.mpr hrf.ge
  refine ⟨?_, ?_, ?_, svg_arc_start_point exFit _ h ha, svg_arc_end_point exFit _ h ha⟩
  · rw [r4.mpr hrf.ge]; norm_num [exFit]
  · rw [r1 hrf.le]; norm_num [exFit]
  · rw [← ht, abs_of_pos (s1 rfl).1]

example : ∃ a, Arc.from_svg_arc exBig = some a ∧ a.radii = ⟨2, 2⟩ ∧ -(2 * π) < a.sweep_angle ∧ a.sweep_angle < -π := by
  have h : exBig.is_straight_line = false := exBig_ok
  have hrf : rfR exBig < 1 := by rw [rfR_exBig]; norm_num
  have ha := from_svg_arc_real exBig h
  refine ⟨_, ha, ?_⟩
  obtain ⟨r1, -⟩ := svg_arc_radii exBig _ h ha
  obtain ⟨-, s2⟩ := svg_arc_sweep_direction exBig _ h ha
  obtain ⟨l1, -⟩ := svg_arc_large_arc exBig _ h ha hrf
  have hl := l1.mpr rfl
  obtain ⟨s3, s4⟩ := s2 rfl
  rw [abs_of_neg s4] at hl
  refine ⟨?_, s3, by linarith⟩
  rw [r1 hrf.le]; norm_num [exBig]

example : ∃ a, Arc.from_svg_arc exSmall = some a ∧ a.radii = ⟨1/2 * √4, 1/2 * √4⟩ ∧ a.center = ⟨1, 0⟩ := by
  have h : exSmall.is_straight_line = false := exSmall_ok
  have hrf : rfR exSmall = 4 := rfR_exSmall
  have ha := from_svg_arc_real exSmall h
  refine ⟨_, ha, ?_⟩
  obtain ⟨-, r2, -, r4⟩ := svg_arc_radii exSmall _ h ha
  constructor
  · rw [(r2 (by rw [hrf]; norm_num)).1, hrf]; norm_num [exSmall]
  · rw [r4.mpr (by rw [hrf]; norm_num)]; norm_num [exSmall]

end real

example : ∃ (_ : Scalar ℝ) (_ : LawfulScalar ℝ) (_ : LawfulReal), LawfulRealAngle :=
  ⟨realScalar, realScalar_lawful, realScalar_lawfulReal, realScalar_lawfulRealAngle⟩

end Kurbo
