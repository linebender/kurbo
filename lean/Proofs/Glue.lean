import Proofs.C01
import Proofs.C05
import Proofs.C09
import Proofs.C15
import Proofs.C17
import Proofs.Lemmas.Glue
/-! # Glue – theorems that combine property files so that hypotheses disappear

Several property files state a theorem under a hypothesis that is exactly what another property file proves.  Here the
two sides are put together.  Helper lemmas: `Proofs/Lemmas/Glue.lean` (prefix `glue_`).

## Proved

**C09 × C17 (× C15)** – ℝ, any `Scalar ℝ` structure with `LawfulScalar`, `LawfulReal` (`Lemmas/RealLaws.lean`: the real
`sqrt cbrt sin cos atan2`) and `LawfulPowf` (C17: `powf x y = x^y` for `x ≥ 0`, `x as usize = min ⌊x⌋₊ (2⁶⁴−1)`).
One structure meets all of them: `glue_realScalar` (`lawClasses_inhabited`).
* `toQuadsWithin_real` – the hypothesis `ToQuadsWithin c a` of C09 is a theorem (from C17's `toQuadsN_sufficient` +
  `toQuads_error_bound` through C09's `toQuadsWithin_of_squared_bound`), for `a > 0` and C17's non-saturation side
  condition `(|D|²/(432a²))^(1/6) ≤ 2⁶⁴−1`, `D = p3 − 3p2 + 3p1 − p0`.
* `cubic_nearest_within_unconditional` – the conclusion of C09's `cubic_nearest_within_real` (`t ∈ [0,1]`,
  `|√distance_sq − dist(p, cubic)| ≤ a`, `|p − c(t)| ≤ dist(p, cubic) + 2a`) with no `ToQuadsWithin` and no solver
  hypothesis: for every cubic, every point, every `a > 0` under the non-saturation side condition.
  `cubic_nearest_within_unconditional'` – the same with the side condition in polynomial form
  `|D|² ≤ 432·a²·(2⁶⁴−1)⁶` (no real power).
* `pathSeg_nearest_within_unconditional` (`'`) – the property text of C09 for every `PathSeg` (line, quadratic, cubic);
  the side condition is asked for cubic segments only.

**C01 × C15** – ℝ, `LawfulScalar` + `LawfulReal`:
* `windingInner_quad_monotone_unconditional`, `windingInner_cubic_monotone_unconditional` – C01's
  `windingInner_quad_monotone` / `windingInner_cubic_monotone` without the solver hypothesis `hsolve`; the geometric
  hypotheses (y injective on [0,1], `tS ∈ [0,1]` with `y(tS) = p.y`) stay.  `hsolve` comes from C15
  (`solveQuadratic_spec_real`, `solveCubic_mem_iff`, `solveCubic_of_c3_zero`); the "not the zero polynomial" side
  condition of C15 follows from injectivity (`quad_row_poly_nonzero_of_injOn`, `cubic_row_poly_nonzero_of_injOn` in
  `Proofs/Lemmas/C01Curve.lean`: a constant `y(t)` is not injective), so no row hypothesis is needed.
* `windingInner_quad_monotone_real_unconditional` – C01's `windingInner_quad_monotone_real` (strictly monotone `y`,
  `p.y` in the half-open row: the crossing parameter exists, is unique, and is counted) without `hsolve`;
  `windingInner_cubic_monotone_real_unconditional` – the cubic analogue (C01 has no such statement; proved here the
  same way from `cubic_row_root_exists`).
  `windingInner_quad_hsolve`, `windingInner_cubic_hsolve` are the discharged hypotheses themselves.

**C05 × C17** – ℝ, `LawfulScalar` + `LawfulSqrt` (C05) + `LawfulPowf` (C17):
* `cubic_flatten_vertices_near_cubic` – every vertex that `flattenCubic c tol s` (`s ≥ 0`, `tol > 0`) emits before the
  stored end point is `quad.eval t` of a piece `(t0, t1, quad)` of `to_quads(tol·0.1)` (written `c.to_quads (tol / 10)`;
  `mul_toQuadTol_eq` identifies it with the model's argument) with `t ∈ [0,1)`, groups in the
  order of the pieces, and lies within `tol/10` of the cubic at the corresponding parameter `t0 + t·(t1 − t0)`
  (Euclidean distance `≤ tol/10`), under the non-saturation side condition for accuracy `tol/10`; `'`: polynomial side
  condition.  `flatten_curveTo_vertices_near_cubic` – the same for the run `flatten` emits for a `CurveTo` element
  (`sqrt_tol = √tol ≥ 0` is discharged there).

## Not proved
* The non-saturation side condition remains (it is a real restriction: when `as usize` saturates the piece count is
  too small and C17's bound is lost), as does `a > 0` (for `a = 0` the piece count divides by zero and C17 proves
  nothing; C09's `pathSeg_nearest_within_real` allows `a = 0`, the glued theorems do not).
* No single `Scalar ℝ` meets *all* law classes of the project: C17's `LawfulPowf` (saturating `as usize`) contradicts
  C10's `LawfulCount` / C15-ITP's `LawfulRealLog` (non-saturating) – `glue_lawfulPowf_not_lawfulCount`.  The glue
  theorems only use classes that are jointly satisfiable, and say so by exhibiting `glue_realScalar`.
* Here only the solver hypothesis of C01's single-piece theorems is discharged.  That the pieces between the extrema
  tile every curved segment and that `winding` / `pathWinding` is the signed ray-crossing count is `Proofs/C01P.lean`
  (from the same C15 theorems); that the crossing count of a closed curved path is its topological winding number
  (homotopy to a polygon) is proved nowhere.
* C05 × C17 gives the distance of each flatten *vertex* to the cubic; the chord–curve flattening error is not claimed
  (not claimed by C05 either).
* Nothing about `Float`. -/
namespace Kurbo
open C09

/-- the law classes of the development over ℝ (those the glue theorems assume, and the two `hypot` laws of C17 and
    C05) are met by one `Scalar ℝ` structure -/
theorem lawClasses_inhabited : ∃ inst : Scalar ℝ, @LawfulScalar ℝ _ _ _ _ inst ∧ @LawfulReal inst ∧ @LawfulPowf inst ∧
    @LawfulSqrt inst ∧ @LawfulHypot ℝ _ _ inst ∧ @LawfulHypotR inst :=
  ⟨glue_realScalar, glue_realScalar_lawful, glue_realScalar_lawfulReal, glue_realScalar_lawfulPowf,
    glue_realScalar_lawfulSqrt, glue_realScalar_lawfulHypot, glue_realScalar_lawfulHypotR⟩

/-! ## 1. C09 × C17: `nearest` on cubics without the `to_quads` hypothesis -/
section nearest
variable [Scalar ℝ] [LawfulScalar ℝ]

/-- C09's hypothesis `ToQuadsWithin` from C17 -/
theorem toQuadsWithin_real [LawfulPowf] (c : CubicBez ℝ) (a : ℝ) (ha : 0 < a)
    (hsat : (((c.p3.x - 3 * c.p2.x + 3 * c.p1.x - c.p0.x) ^ 2
        + (c.p3.y - 3 * c.p2.y + 3 * c.p1.y - c.p0.y) ^ 2) / (432 * a ^ 2)) ^ ((1 : ℝ) / 6) ≤ 2 ^ 64 - 1) :
    ToQuadsWithin c a :=
  toQuadsWithin_of_squared_bound c a ha.le fun i p hp s hs0 hs1 =>
    toQuads_error_bound c a (toQuadsN_sufficient c a ha.ne' hsat) i p hp s hs0 hs1

/-- **`CubicBez::nearest` is within the accuracy** – no `to_quads` hypothesis, no solver hypothesis -/
theorem cubic_nearest_within_unconditional [LawfulReal] [LawfulPowf] (c : CubicBez ℝ) (p : Point ℝ) (a : ℝ)
    (ha : 0 < a)
    (hsat : (((c.p3.x - 3 * c.p2.x + 3 * c.p1.x - c.p0.x) ^ 2
        + (c.p3.y - 3 * c.p2.y + 3 * c.p1.y - c.p0.y) ^ 2) / (432 * a ^ 2)) ^ ((1 : ℝ) / 6) ≤ 2 ^ 64 - 1) :
    0 ≤ (c.nearest p a).t ∧ (c.nearest p a).t ≤ 1 ∧
    |Real.sqrt (c.nearest p a).distance_sq - curveDist c.eval p| ≤ a ∧
    pdist p (c.eval (c.nearest p a).t) ≤ curveDist c.eval p + 2 * a :=
  cubic_nearest_within_real c p a (toQuadsWithin_real c a ha hsat)

/-- the same, side condition without the sixth root: `|D|² ≤ 432·a²·(2⁶⁴−1)⁶` -/
theorem cubic_nearest_within_unconditional' [LawfulReal] [LawfulPowf] (c : CubicBez ℝ) (p : Point ℝ) (a : ℝ)
    (ha : 0 < a)
    (hsat : (c.p3.x - 3 * c.p2.x + 3 * c.p1.x - c.p0.x) ^ 2 + (c.p3.y - 3 * c.p2.y + 3 * c.p1.y - c.p0.y) ^ 2
        ≤ 432 * a ^ 2 * (2 ^ 64 - 1) ^ 6) :
    0 ≤ (c.nearest p a).t ∧ (c.nearest p a).t ≤ 1 ∧
    |Real.sqrt (c.nearest p a).distance_sq - curveDist c.eval p| ≤ a ∧
    pdist p (c.eval (c.nearest p a).t) ≤ curveDist c.eval p + 2 * a :=
  cubic_nearest_within_unconditional c p a ha (glue_sat_of_poly _ a (by positivity) ha.ne' hsat)

/-- **the property text of C09 for every segment kind**; the side condition concerns cubic segments only -/
theorem pathSeg_nearest_within_unconditional [LawfulReal] [LawfulPowf] (s : PathSeg ℝ) (p : Point ℝ) (a : ℝ)
    (ha : 0 < a)
    (hsat : ∀ c, s = .Cubic c → (((c.p3.x - 3 * c.p2.x + 3 * c.p1.x - c.p0.x) ^ 2
        + (c.p3.y - 3 * c.p2.y + 3 * c.p1.y - c.p0.y) ^ 2) / (432 * a ^ 2)) ^ ((1 : ℝ) / 6) ≤ 2 ^ 64 - 1) :
    0 ≤ (s.nearest p a).t ∧ (s.nearest p a).t ≤ 1 ∧
    |Real.sqrt (s.nearest p a).distance_sq - curveDist s.eval p| ≤ a ∧
    pdist p (s.eval (s.nearest p a).t) ≤ curveDist s.eval p + 2 * a :=
  pathSeg_nearest_within_real s p a ha.le fun c hc => toQuadsWithin_real c a ha (hsat c hc)

theorem pathSeg_nearest_within_unconditional' [LawfulReal] [LawfulPowf] (s : PathSeg ℝ) (p : Point ℝ) (a : ℝ)
    (ha : 0 < a)
    (hsat : ∀ c, s = .Cubic c →
      (c.p3.x - 3 * c.p2.x + 3 * c.p1.x - c.p0.x) ^ 2 + (c.p3.y - 3 * c.p2.y + 3 * c.p1.y - c.p0.y) ^ 2
        ≤ 432 * a ^ 2 * (2 ^ 64 - 1) ^ 6) :
    0 ≤ (s.nearest p a).t ∧ (s.nearest p a).t ≤ 1 ∧
    |Real.sqrt (s.nearest p a).distance_sq - curveDist s.eval p| ≤ a ∧
    pdist p (s.eval (s.nearest p a).t) ≤ curveDist s.eval p + 2 * a :=
  pathSeg_nearest_within_unconditional s p a ha fun c hc =>
    glue_sat_of_poly _ a (by positivity) ha.ne' (hsat c hc)

end nearest

/-- non-vacuity: the instance exists and a genuinely cubic curve (`D = (−2, 0) ≠ 0`) with `a = 1/20` meets both forms of
    the side condition -/
example : ∃ (_ : Scalar ℝ) (_ : LawfulScalar ℝ) (_ : LawfulReal) (_ : LawfulPowf),
    let c : CubicBez ℝ := ⟨⟨0, 0⟩, ⟨1, 2⟩, ⟨3, 2⟩, ⟨4, 0⟩⟩
    (0 : ℝ) < 1 / 20 ∧
    ((c.p3.x - 3 * c.p2.x + 3 * c.p1.x - c.p0.x) ^ 2 + (c.p3.y - 3 * c.p2.y + 3 * c.p1.y - c.p0.y) ^ 2
        ≤ 432 * (1 / 20 : ℝ) ^ 2 * (2 ^ 64 - 1) ^ 6) ∧
    (((c.p3.x - 3 * c.p2.x + 3 * c.p1.x - c.p0.x) ^ 2
        + (c.p3.y - 3 * c.p2.y + 3 * c.p1.y - c.p0.y) ^ 2) / (432 * (1 / 20 : ℝ) ^ 2)) ^ ((1 : ℝ) / 6) ≤ 2 ^ 64 - 1 := by
  refine ⟨glue_realScalar, glue_realScalar_lawful, glue_realScalar_lawfulReal, glue_realScalar_lawfulPowf, ?_⟩
  have h : ((4 : ℝ) - 3 * 3 + 3 * 1 - 0) ^ 2 + ((0 : ℝ) - 3 * 2 + 3 * 2 - 0) ^ 2
      ≤ 432 * (1 / 20 : ℝ) ^ 2 * (2 ^ 64 - 1) ^ 6 := by norm_num
  exact ⟨by norm_num, h, glue_sat_of_poly _ _ (by positivity) (by norm_num) h⟩

/-- … so the conclusion holds for that cubic, every query point, in the instance `glue_realScalar` -/
example (p : Point ℝ) : letI := glue_realScalar
    let c : CubicBez ℝ := ⟨⟨0, 0⟩, ⟨1, 2⟩, ⟨3, 2⟩, ⟨4, 0⟩⟩
    |Real.sqrt (c.nearest p (1 / 20)).distance_sq - curveDist c.eval p| ≤ 1 / 20 := by
  let _ := glue_realScalar
  have := glue_realScalar_lawful
  have := glue_realScalar_lawfulReal
  have := glue_realScalar_lawfulPowf
  exact (cubic_nearest_within_unconditional' _ p (1 / 20) (by norm_num) (by norm_num)).2.2.1

/-! ## 2. C01 × C15: `winding_inner` on a y-injective curved piece without the solver hypothesis -/
section winding
variable [Scalar ℝ] [LawfulScalar ℝ] [LawfulReal]

/-- the solver behaviour that C01 takes as hypothesis `hsolve`, quadratic branch – from C15 -/
theorem windingInner_quad_hsolve (q : QuadBez ℝ) (p : Point ℝ)
    (hinj : Set.InjOn (fun t => (q.eval t).y) (Set.Icc 0 1)) (x : ℝ) :
    x ∈ solveQuadratic (q.p0.y - p.y) (2 * (q.p1.y - q.p0.y)) (q.p2.y - 2 * q.p1.y + q.p0.y) ↔
      (q.p0.y - p.y) + (2 * (q.p1.y - q.p0.y)) * x + (q.p2.y - 2 * q.p1.y + q.p0.y) * x ^ 2 = 0 :=
  (solveQuadratic_spec_real _ _ _ (quad_row_poly_nonzero_of_injOn q p hinj)).1 x

/-- the solver behaviour that C01 takes as hypothesis `hsolve`, cubic branch – from C15, in the form in which C09
    uses it (`C09.cubicSolverSpec_real`) -/
theorem windingInner_cubic_hsolve (c : CubicBez ℝ) (p : Point ℝ)
    (hinj : Set.InjOn (fun t => (c.eval t).y) (Set.Icc 0 1)) (x : ℝ) :
    x ∈ solveCubic (c.p0.y - p.y) (3 * (c.p1.y - c.p0.y)) (3 * (c.p2.y - 2 * c.p1.y + c.p0.y))
          (c.p3.y - 3 * c.p2.y + 3 * c.p1.y - c.p0.y) ↔
      (c.p0.y - p.y) + (3 * (c.p1.y - c.p0.y)) * x + (3 * (c.p2.y - 2 * c.p1.y + c.p0.y)) * x ^ 2
        + (c.p3.y - 3 * c.p2.y + 3 * c.p1.y - c.p0.y) * x ^ 3 = 0 :=
  cubicSolverSpec_real.roots_iff _ _ _ _ (cubic_row_poly_nonzero_of_injOn c p hinj) x

/-- **quadratic piece, no solver hypothesis** (statement of C01's `windingInner_quad_monotone` minus `hsolve`) -/
theorem windingInner_quad_monotone_unconditional (q : QuadBez ℝ) (p : Point ℝ) (tS : ℝ)
    (hinj : Set.InjOn (fun t => (q.eval t).y) (Set.Icc 0 1))
    (h0 : 0 ≤ tS) (h1 : tS ≤ 1) (hy : (q.eval tS).y = p.y) :
    PathSeg.winding_inner (.Quad q) p = rowSign q.p0.y q.p2.y p.y * (if (q.eval tS).x ≤ p.x then 1 else 0) :=
  windingInner_quad_monotone q p tS (windingInner_quad_hsolve q p hinj) hinj h0 h1 hy

/-- **cubic piece, no solver hypothesis** (statement of C01's `windingInner_cubic_monotone` minus `hsolve`) -/
theorem windingInner_cubic_monotone_unconditional (c : CubicBez ℝ) (p : Point ℝ) (tS : ℝ)
    (hinj : Set.InjOn (fun t => (c.eval t).y) (Set.Icc 0 1))
    (h0 : 0 ≤ tS) (h1 : tS ≤ 1) (hy : (c.eval tS).y = p.y) :
    PathSeg.winding_inner (.Cubic c) p = rowSign c.p0.y c.p3.y p.y * (if (c.eval tS).x ≤ p.x then 1 else 0) :=
  windingInner_cubic_monotone c p tS (windingInner_cubic_hsolve c p hinj) hinj h0 h1 hy

/-- strictly y-monotone quadratic piece whose half-open row contains `p.y`: the crossing parameter exists, is unique
    and is counted – C01's `windingInner_quad_monotone_real` minus `hsolve` -/
theorem windingInner_quad_monotone_real_unconditional (q : QuadBez ℝ) (p : Point ℝ)
    (hmono : StrictMonoOn (fun t => (q.eval t).y) (Set.Icc 0 1) ∨ StrictAntiOn (fun t => (q.eval t).y) (Set.Icc 0 1))
    (hrow : q.p0.y ≤ p.y ∧ p.y < q.p2.y ∨ q.p2.y ≤ p.y ∧ p.y < q.p0.y) :
    ∃ tS : ℝ, 0 ≤ tS ∧ tS ≤ 1 ∧ (q.eval tS).y = p.y ∧ (∀ t, 0 ≤ t → t ≤ 1 → (q.eval t).y = p.y → t = tS) ∧
      PathSeg.winding_inner (.Quad q) p
        = (if q.p0.y < q.p2.y then -1 else 1) * (if (q.eval tS).x ≤ p.x then 1 else 0) :=
  windingInner_quad_monotone_real q p
    (fun x => (solveQuadratic_spec_real _ _ _ (quad_row_poly_nonzero q p hrow)).1 x) hmono hrow

/-- the cubic analogue (not stated in C01): strictly y-monotone cubic piece whose half-open row contains `p.y` – the
    crossing parameter exists (intermediate value theorem, `cubic_row_root_exists`), is unique and is counted; no
    solver hypothesis -/
theorem windingInner_cubic_monotone_real_unconditional (c : CubicBez ℝ) (p : Point ℝ)
    (hmono : StrictMonoOn (fun t => (c.eval t).y) (Set.Icc 0 1) ∨ StrictAntiOn (fun t => (c.eval t).y) (Set.Icc 0 1))
    (hrow : c.p0.y ≤ p.y ∧ p.y < c.p3.y ∨ c.p3.y ≤ p.y ∧ p.y < c.p0.y) :
    ∃ tS : ℝ, 0 ≤ tS ∧ tS ≤ 1 ∧ (c.eval tS).y = p.y ∧ (∀ t, 0 ≤ t → t ≤ 1 → (c.eval t).y = p.y → t = tS) ∧
      PathSeg.winding_inner (.Cubic c) p
        = (if c.p0.y < c.p3.y then -1 else 1) * (if (c.eval tS).x ≤ p.x then 1 else 0) :=
  monotone_row_crossing (X := fun t => (c.eval t).x) (Y := fun t => (c.eval t).y) hmono hrow (cubic_row_root_exists c p.y)
    fun tS hinj h0 h1 hy => windingInner_cubic_monotone_unconditional c p tS hinj h0 h1 hy

end winding

/-- non-vacuity (ℝ): the instance exists; the quadratic `y(t) = t²`, `x(t) = 2t(1−t)` and the same curve degree-raised
    to a cubic (vanishing leading coefficient: the `solveCubic_of_c3_zero` path) are y-injective on [0,1], and the row
    `y = 1/4` is met at `tS = 1/2` -/
example : ∃ (_ : Scalar ℝ) (_ : LawfulScalar ℝ) (_ : LawfulReal),
    Set.InjOn (fun t => ((⟨⟨0, 0⟩, ⟨1, 0⟩, ⟨0, 1⟩⟩ : QuadBez ℝ).eval t).y) (Set.Icc 0 1) ∧
    ((⟨⟨0, 0⟩, ⟨1, 0⟩, ⟨0, 1⟩⟩ : QuadBez ℝ).eval (1 / 2)).y = 1 / 4 ∧
    Set.InjOn (fun t => ((⟨⟨0, 0⟩, ⟨2/3, 0⟩, ⟨2/3, 1/3⟩, ⟨0, 1⟩⟩ : CubicBez ℝ).eval t).y) (Set.Icc 0 1) ∧
    ((⟨⟨0, 0⟩, ⟨2/3, 0⟩, ⟨2/3, 1/3⟩, ⟨0, 1⟩⟩ : CubicBez ℝ).eval (1 / 2)).y = 1 / 4 := by
  let _ := glue_realScalar
  have := glue_realScalar_lawful
  refine ⟨glue_realScalar, glue_realScalar_lawful, glue_realScalar_lawfulReal, ?_, ?_, ?_, ?_⟩
  · intro s hs t ht h
    simp only [glue_exQuad_y] at h
    exact (pow_left_inj₀ hs.1 ht.1 two_ne_zero).mp h
  · rw [glue_exQuad_y]; norm_num
  · intro s hs t ht h
    simp only [glue_exRaised_y] at h
    exact (pow_left_inj₀ hs.1 ht.1 two_ne_zero).mp h
  · rw [glue_exRaised_y]; norm_num

/-- a cubic piece with non-vanishing leading coefficient (`y(t) = t³`: the `solveCubic_mem_iff` path) -/
example : ∃ (_ : Scalar ℝ) (_ : LawfulScalar ℝ) (_ : LawfulReal),
    Set.InjOn (fun t => ((⟨⟨0, 0⟩, ⟨1, 0⟩, ⟨1, 0⟩, ⟨0, 1⟩⟩ : CubicBez ℝ).eval t).y) (Set.Icc 0 1) ∧
    ((⟨⟨0, 0⟩, ⟨1, 0⟩, ⟨1, 0⟩, ⟨0, 1⟩⟩ : CubicBez ℝ).eval (1 / 2)).y = 1 / 8 ∧
    (⟨⟨0, 0⟩, ⟨1, 0⟩, ⟨1, 0⟩, ⟨0, 1⟩⟩ : CubicBez ℝ).p3.y - 3 * (⟨⟨0, 0⟩, ⟨1, 0⟩, ⟨1, 0⟩, ⟨0, 1⟩⟩ : CubicBez ℝ).p2.y
      + 3 * (⟨⟨0, 0⟩, ⟨1, 0⟩, ⟨1, 0⟩, ⟨0, 1⟩⟩ : CubicBez ℝ).p1.y - (⟨⟨0, 0⟩, ⟨1, 0⟩, ⟨1, 0⟩, ⟨0, 1⟩⟩ : CubicBez ℝ).p0.y ≠ 0 := by
  let _ := glue_realScalar
  have := glue_realScalar_lawful
  refine ⟨glue_realScalar, glue_realScalar_lawful, glue_realScalar_lawfulReal, ?_, ?_, ?_⟩
  · intro s hs t ht h
    simp only [glue_exCubic_y] at h
    exact (pow_left_inj₀ hs.1 ht.1 three_ne_zero).mp h
  · rw [glue_exCubic_y]; norm_num
  · norm_num

/-- hypotheses of `windingInner_quad_monotone_real_unconditional`: strict monotonicity and the row, `y(t) = t²` -/
example : ∃ (_ : Scalar ℝ) (_ : LawfulScalar ℝ) (_ : LawfulReal),
    StrictMonoOn (fun t => ((⟨⟨0, 0⟩, ⟨1, 0⟩, ⟨0, 1⟩⟩ : QuadBez ℝ).eval t).y) (Set.Icc 0 1) ∧
    (⟨⟨0, 0⟩, ⟨1, 0⟩, ⟨0, 1⟩⟩ : QuadBez ℝ).p0.y ≤ (1/4 : ℝ) ∧ (1/4 : ℝ) < (⟨⟨0, 0⟩, ⟨1, 0⟩, ⟨0, 1⟩⟩ : QuadBez ℝ).p2.y := by
  refine ⟨glue_realScalar, glue_realScalar_lawful, glue_realScalar_lawfulReal, ?_, by norm_num, by norm_num⟩
  let _ := glue_realScalar
  have := glue_realScalar_lawful
  intro s hs t ht hst
  simp only [glue_exQuad_y]
  exact pow_lt_pow_left₀ hst hs.1 two_ne_zero

/-- hypotheses of `windingInner_cubic_monotone_real_unconditional`: strict monotonicity and the row, `y(t) = t³` -/
example : ∃ (_ : Scalar ℝ) (_ : LawfulScalar ℝ) (_ : LawfulReal),
    StrictMonoOn (fun t => ((⟨⟨0, 0⟩, ⟨1, 0⟩, ⟨1, 0⟩, ⟨0, 1⟩⟩ : CubicBez ℝ).eval t).y) (Set.Icc 0 1) ∧
    (⟨⟨0, 0⟩, ⟨1, 0⟩, ⟨1, 0⟩, ⟨0, 1⟩⟩ : CubicBez ℝ).p0.y ≤ (1/8 : ℝ) ∧
    (1/8 : ℝ) < (⟨⟨0, 0⟩, ⟨1, 0⟩, ⟨1, 0⟩, ⟨0, 1⟩⟩ : CubicBez ℝ).p3.y := by
  refine ⟨glue_realScalar, glue_realScalar_lawful, glue_realScalar_lawfulReal, ?_, by norm_num, by norm_num⟩
  let _ := glue_realScalar
  have := glue_realScalar_lawful
  intro s hs t ht hst
  simp only [glue_exCubic_y]
  exact pow_lt_pow_left₀ hst hs.1 three_ne_zero

/-! ## 3. C05 × C17: the vertices of a flattened cubic are near the cubic -/
section flattenCubic
variable [Scalar ℝ] [LawfulScalar ℝ] [LawfulSqrt] [LawfulPowf]

/-- C05's `cubic_vertices_monotone` with C17's accuracy of `to_quads` added; `sqrt_tol = s ≥ 0` always holds inside
    `flatten` (`flatten_sqrt_tol_nonneg`) -/
theorem cubic_flatten_vertices_near_cubic (c : CubicBez ℝ) (tol s : ℝ) (hs : 0 ≤ s) (htol : 0 < tol)
    (hsat : (((c.p3.x - 3 * c.p2.x + 3 * c.p1.x - c.p0.x) ^ 2
        + (c.p3.y - 3 * c.p2.y + 3 * c.p1.y - c.p0.y) ^ 2) / (432 * (tol / 10) ^ 2)) ^ ((1 : ℝ) / 6) ≤ 2 ^ 64 - 1) :
    ∃ groups : List (List (PathEl ℝ)),
      flattenCubic c tol s = groups.flatten ++ [PathEl.LineTo c.p3] ∧
      List.Forall₂ (fun (tq : ℝ × ℝ × QuadBez ℝ) g =>
        ∃ ts : List ℝ, g = ts.map (fun t => PathEl.LineTo (tq.2.2.eval t)) ∧ ts.Pairwise (· < ·) ∧
          ∀ t ∈ ts, 0 ≤ t ∧ t < 1 ∧
            Real.sqrt (((tq.2.2.eval t).x - (c.eval (tq.1 + t * (tq.2.1 - tq.1))).x) ^ 2
              + ((tq.2.2.eval t).y - (c.eval (tq.1 + t * (tq.2.1 - tq.1))).y) ^ 2) ≤ tol / 10)
        (c.to_quads (tol / 10)) groups := by
  have ha : 0 < tol / 10 := by positivity
  obtain ⟨groups, h1, h2, -⟩ := cubic_vertices_monotone c tol s hs
  rw [mul_toQuadTol_eq] at h2
  refine ⟨groups, h1, glue_forall₂_imp_mem h2 ?_⟩
  rintro tq g htq ⟨ts, hg, hpw, hts⟩
  refine ⟨ts, hg, hpw, fun t ht => ⟨(hts t ht).1, (hts t ht).2, ?_⟩⟩
  obtain ⟨i, hi⟩ := List.mem_iff_getElem?.mp htq
  rw [Real.sqrt_le_left ha.le]
  exact toQuads_error_bound c (tol / 10) (toQuadsN_sufficient c (tol / 10) ha.ne' hsat) i tq hi t (hts t ht).1
    (hts t ht).2.le

/-- the same, side condition without the sixth root -/
theorem cubic_flatten_vertices_near_cubic' (c : CubicBez ℝ) (tol s : ℝ) (hs : 0 ≤ s) (htol : 0 < tol)
    (hsat : (c.p3.x - 3 * c.p2.x + 3 * c.p1.x - c.p0.x) ^ 2 + (c.p3.y - 3 * c.p2.y + 3 * c.p1.y - c.p0.y) ^ 2
        ≤ 432 * (tol / 10) ^ 2 * (2 ^ 64 - 1) ^ 6) :
    ∃ groups : List (List (PathEl ℝ)),
      flattenCubic c tol s = groups.flatten ++ [PathEl.LineTo c.p3] ∧
      List.Forall₂ (fun (tq : ℝ × ℝ × QuadBez ℝ) g =>
        ∃ ts : List ℝ, g = ts.map (fun t => PathEl.LineTo (tq.2.2.eval t)) ∧ ts.Pairwise (· < ·) ∧
          ∀ t ∈ ts, 0 ≤ t ∧ t < 1 ∧
            Real.sqrt (((tq.2.2.eval t).x - (c.eval (tq.1 + t * (tq.2.1 - tq.1))).x) ^ 2
              + ((tq.2.2.eval t).y - (c.eval (tq.1 + t * (tq.2.1 - tq.1))).y) ^ 2) ≤ tol / 10)
        (c.to_quads (tol / 10)) groups :=
  cubic_flatten_vertices_near_cubic c tol s hs htol
    (glue_sat_of_poly _ (tol / 10) (by positivity) (by positivity) hsat)

/-- the same inside `flatten`: the run that `flatten els tol` emits for a `CurveTo` element when the current point is
    `c.p0` (`flatten_runs`: the run is `flattenRun state el tol (sqrt tol)`) – no hypothesis on `sqrt_tol` is left -/
theorem flatten_curveTo_vertices_near_cubic (st : Option (Point ℝ) × Option (Point ℝ)) (c : CubicBez ℝ) (tol : ℝ)
    (hst : st.1 = some c.p0) (htol : 0 < tol)
    (hsat : (c.p3.x - 3 * c.p2.x + 3 * c.p1.x - c.p0.x) ^ 2 + (c.p3.y - 3 * c.p2.y + 3 * c.p1.y - c.p0.y) ^ 2
        ≤ 432 * (tol / 10) ^ 2 * (2 ^ 64 - 1) ^ 6) :
    ∃ groups : List (List (PathEl ℝ)),
      flattenRun st (.CurveTo c.p1 c.p2 c.p3) tol (Scalar.sqrt tol) = groups.flatten ++ [PathEl.LineTo c.p3] ∧
      List.Forall₂ (fun (tq : ℝ × ℝ × QuadBez ℝ) g =>
        ∃ ts : List ℝ, g = ts.map (fun t => PathEl.LineTo (tq.2.2.eval t)) ∧ ts.Pairwise (· < ·) ∧
          ∀ t ∈ ts, 0 ≤ t ∧ t < 1 ∧
            Real.sqrt (((tq.2.2.eval t).x - (c.eval (tq.1 + t * (tq.2.1 - tq.1))).x) ^ 2
              + ((tq.2.2.eval t).y - (c.eval (tq.1 + t * (tq.2.1 - tq.1))).y) ^ 2) ≤ tol / 10)
        (c.to_quads (tol / 10)) groups := by
  obtain ⟨p0, p1, p2, p3⟩ := c
  rw [(flatten_run_ends_exact_cubic st p0 p1 p2 p3 tol (Scalar.sqrt tol) hst).1]
  exact cubic_flatten_vertices_near_cubic' ⟨p0, p1, p2, p3⟩ tol _ (flatten_sqrt_tol_nonneg tol) htol hsat

end flattenCubic

/-- non-vacuity: the instance exists (`LawfulSqrt` and `LawfulPowf` together), and the cubic of the first example with
    `tol = 1/2`, `s = √tol` meets the hypotheses -/
example : ∃ (_ : Scalar ℝ) (_ : LawfulScalar ℝ) (_ : LawfulSqrt) (_ : LawfulPowf),
    let c : CubicBez ℝ := ⟨⟨0, 0⟩, ⟨1, 2⟩, ⟨3, 2⟩, ⟨4, 0⟩⟩
    (0 : ℝ) ≤ Scalar.sqrt (1 / 2 : ℝ) ∧ (0 : ℝ) < 1 / 2 ∧
    ((c.p3.x - 3 * c.p2.x + 3 * c.p1.x - c.p0.x) ^ 2 + (c.p3.y - 3 * c.p2.y + 3 * c.p1.y - c.p0.y) ^ 2
        ≤ 432 * ((1 / 2 : ℝ) / 10) ^ 2 * (2 ^ 64 - 1) ^ 6) ∧
    (((c.p3.x - 3 * c.p2.x + 3 * c.p1.x - c.p0.x) ^ 2 + (c.p3.y - 3 * c.p2.y + 3 * c.p1.y - c.p0.y) ^ 2)
        / (432 * ((1 / 2 : ℝ) / 10) ^ 2)) ^ ((1 : ℝ) / 6) ≤ 2 ^ 64 - 1 ∧
    ((some c.p0, none) : Option (Point ℝ) × Option (Point ℝ)).1 = some c.p0 := by
  refine ⟨glue_realScalar, glue_realScalar_lawful, glue_realScalar_lawfulSqrt, glue_realScalar_lawfulPowf, ?_⟩
  have h : ((4 : ℝ) - 3 * 3 + 3 * 1 - 0) ^ 2 + ((0 : ℝ) - 3 * 2 + 3 * 2 - 0) ^ 2
      ≤ 432 * ((1 / 2 : ℝ) / 10) ^ 2 * (2 ^ 64 - 1) ^ 6 := by norm_num
  exact ⟨Real.sqrt_nonneg _, by norm_num, h, glue_sat_of_poly _ _ (by positivity) (by norm_num) h, rfl⟩

end Kurbo
