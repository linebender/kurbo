import Proofs.KDefs
import Proofs.Lemmas.C18SOut
/-! C18S – structure clause of C18: "Simplifying a path keeps sub-path structure, closedness, corners and end points".

    Subject: the hand-written model `Kurbo/Simplify.lean` of the control skeleton of `simplify::simplify_bezpath`
    (element loop, corner test through `PathSeg::tangents`, `SimplifyState::{add_seg, flush}`), exactly as it is.  The curve
    fitter is the parameter `fit`; what is assumed of it is the explicit specification `C18FitSpec fit`
    (`Proofs/Lemmas/C18S.lean`): on a queue `MoveTo a :: ds` of at least two drawing elements it returns `MoveTo a`
    followed by one or more `CurveTo`s ending where `ds` ends.  `fitSkeleton_meets_spec`: the stand-in of the model file
    meets it, so the specification is satisfiable.  `flush_calls_fit_within_spec`: the loop calls `fit` only on such queues.

    Everything in sections 0–7 holds for every `[Scalar K]` (also `Float`): points are copied, never computed; the only
    scalar operations are the `==` of the degenerate-segment test and the corner test `simpCorner`, both used as opaque
    Boolean functions.  Only the two theorems about `simpCorner` in section 8 use a lawful ordered field.

    The vocabulary of the statements (definitions in `Proofs/Lemmas/C18S*.lean`, all by structural recursion):
    * `simpLead els` – number of `ClosePath`s at the head of the input; `els.drop (simpLead els)` is the rest.
    * `simpChunks rest : List (SimpChunk K)` – the input sub-paths as the loop sees them: `start` point, the non-degenerate
      segments `segs`, `closed`.  A sub-path begins at every `MoveTo p` (start `p`) and after every `ClosePath` (start = start
      of the sub-path just closed).  `simpChunks_moveTo` and `simpChunksFrom_*` below are its equations on `M p ds… (M|Z|end)`.
    * `simpSplitGo th [] segs` – the split of the segments into smooth stretches at the corners (`simpCorner`).
    * `simpStretchOut fit g` – a one-segment stretch verbatim, otherwise `fit` of the queue without its `MoveTo`.
    * `simpChunkOut fit th c` – the output of one input sub-path; `simpSpec fit th els` – the whole specification.

    What is proved:
    0. `simplify_eq_spec` (master equation): under `C18FitSpec fit`, `simplifyBezpath fit els th = simpSpec fit th els`, i.e.
       leading `ClosePath`s are copied, then the outputs of the input sub-paths in order; `.panic` iff the first element that
       is not `ClosePath` is a drawing element.  `simplify_eq_chunks`, `simpChunkOut_empty/_nonempty` spell it out.
    1. `simplify_total` (any `fit`): a path beginning with `MoveTo` never panics; `simplify_leading_draw_panics`;
       `simplify_panic_iff` (any `fit`): the exact panic condition; leading `ClosePath`: `simplify_closepaths_only`,
       `simplify_closepaths_then_moveTo`, `simplify_closepaths_then_draw`.
    2. `flush_spec_empty/_single/_fit`, `flush_post`, `add_seg_spec` (any `fit`); queue invariant `SimpQueueInv`:
       `queue_inv_init/_add_seg/_flush/_push`, and as a loop invariant `simplifyLoop_cons` + `queue_inv_step` (the loop is
       the iteration of `simpStep`, every pass keeps the invariant); the master lemma `c18s_loop_spec` carries the
       stronger form `queue = simpQueue pend`.  `flush_calls_fit_within_spec`.
    3. `simplify_output_subpaths`, `simplify_output_wellformed`: output = the input's leading `ClosePath`s, then sub-paths
       `MoveTo p, drawing elements…, [ClosePath]` with at least one drawing element unless it is the closed point `M p Z`.
       `simplify_starts_with_closepath_iff`: the output begins with `ClosePath` iff the input does (leading
       `ClosePath`s of the input are copied; nothing else can put a `ClosePath` first).
       `simplify_no_draw_after_closepath`: a drawing element never directly follows a `ClosePath`.
    4. `simplify_closepath_count`; `simplify_closed_flags`: for any list of input sub-paths, `simpChunkSub` yields those that
       emit something, in order, with their start points and closed flags (a statement about `simpChunkSub` alone; with
       `simplify_output_subpaths` it speaks about the output).
    5. `simplify_start_points`: the `MoveTo` points of the output are, in order, the start points of the input sub-paths that
       emit something (every one with a non-degenerate segment or closed), bit for bit.
    6. `simplify_corner_is_vertex`, `simplify_end_points` (`simpChunkOut_nonempty`).
    7. `single_segment_verbatim` (any `fit`), `single_segment_in_output`.
    8. `simpCorner_reversal` (threshold `> 0`), `simpCorner_collinear_same_direction` (threshold `≥ 0`).
       Also (section 7) `stretch_is_smooth`: no corner inside a stretch (with `c18s_split_append_corner`: every corner separates
       two stretches – the split is exactly at the corners); `stretches_partition`: the stretches, joined, are the segments.

    What is not proved / limits:
    * Nothing about the real fitter (`fit_to_bezpath(_opt)`): that it meets `C18FitSpec` is an assumption here (its accuracy
      is the subject of the oracle part of C18).  The spec demands `MoveTo a` with the same point `a` and an end point equal
      bit for bit; a fitter that recomputes them would fall outside.
    * `simpCorner_reversal` needs `0 < angle_thresh`: for `angle_thresh = 0` an exact reversal (cross = 0, dot < 0) is not a
      corner in the model (`0 < 0` is false) – see the `example` below it.  The default threshold is `1e-3`.
    * The model's `.panic` stands for `last_pt.unwrap()` only.  For an input that begins with `ClosePath` the crate calls
      `BezPath::close_path` on an empty result, which hits `debug_assert!(!self.0.is_empty())` in DEBUG builds; the model
      (and `simplify_closepaths_only/_then_moveTo`) describe the release behaviour: the `ClosePath`s are copied and the output
      begins with `ClosePath`.
    * An open input sub-path without any non-degenerate segment (`M p` alone, or `M p L p`) emits nothing: that sub-path
      disappears from the output (`SimpChunk.emits`, `simpChunkOut_empty`); a closed one becomes the closed point `M p Z`.
    * Item 6 speaks about consecutive non-degenerate segments of one sub-path (`c.segs = A ++ s :: s' :: B`); degenerate
      elements in between are skipped by the model and `last_seg` survives them, which the parse `simpHeadSegs` mirrors.
      `subpath_segs_chain` / `subpath_segs_sublist` tie `segs` to the input elements. -/
set_option linter.unusedSectionVars false
namespace Kurbo

section structural
variable {K : Type} [Scalar K]

/-! ### 0. the fit specification is satisfiable; the master equation -/

theorem fitSkeleton_meets_spec : C18FitSpec (fitSkeleton (K := K)) := by
  constructor
  intro a ds hds hlen
  cases ds with
  | nil => simp at hlen
  | cons d r =>
    have hl : (PathEl.MoveTo a :: d :: r).getLast? = (d :: r).getLast? := List.getLast?_cons_cons
    obtain ⟨e, he⟩ : ∃ e, (d :: r).getLast? = some e := ⟨_, List.getLast?_cons⟩
    have hem : e ∈ d :: r := List.mem_of_getLast? he
    have hed : e.simpDraw = true := hds e hem
    obtain ⟨b, hb⟩ : ∃ b, e.end_point = some b := by
      cases e <;> first | exact ⟨_, rfl⟩ | cases hed
    refine ⟨[.CurveTo a b b], ?_, by simp, ?_, ?_⟩
    · unfold fitSkeleton
      rw [hl, he]
      simp only [List.head?_cons, hb]
    · intro x hx; simp at hx; subst hx; rfl
    · unfold simpLastEnd
      rw [he]
      exact hb.symm

example : fitSkeleton (K := Rat) [.MoveTo ⟨0,0⟩, .LineTo ⟨1,0⟩, .QuadTo ⟨2,0⟩ ⟨3,1⟩]
    = [.MoveTo ⟨0,0⟩, .CurveTo ⟨0,0⟩ ⟨3,1⟩ ⟨3,1⟩] := by decide +kernel

/-- Master equation: the model computes exactly the specification `simpSpec` -/
theorem simplify_eq_spec {fit : List (PathEl K) → List (PathEl K)} (hfit : C18FitSpec fit) (th : K)
    (els : List (PathEl K)) : simplifyBezpath fit els th = simpSpec fit th els := by
  rw [c18s_bezpath_pre, simpSpec]
  split
  · rfl
  · rename_i p r _
    have h := c18s_loop_spec hfit th r p p [] (List.replicate (simpLead els) .ClosePath) true (by simp) (by simp)
    simp only [List.getLast?_nil, simpQueue] at h
    rw [h]
    simp [simpChunks, simpChunkOut]
  · rfl

/-- … spelled out for a successful run: leading `ClosePath`s, then the outputs of the input sub-paths in order -/
theorem simplify_eq_chunks {fit : List (PathEl K) → List (PathEl K)} (hfit : C18FitSpec fit) (th : K)
    (els out : List (PathEl K)) (h : simplifyBezpath fit els th = .ok out) :
    out = List.replicate (simpLead els) .ClosePath ++
      ((simpChunks (els.drop (simpLead els))).map (simpChunkOut fit th)).flatten := by
  rw [simplify_eq_spec hfit, simpSpec] at h
  split at h
  · rename_i hd; cases h; simp [hd, simpChunks]
  · rename_i p r hd; cases h; rw [hd]
  · cases h

/-- an input sub-path without non-degenerate segment: the closed point `M p Z` if closed, nothing otherwise -/
theorem simpChunkOut_empty (fit : List (PathEl K) → List (PathEl K)) (th : K) (start : Point K) (closed : Bool) :
    simpChunkOut fit th ⟨start, [], closed⟩ = if closed then [.MoveTo start, .ClosePath] else [] :=
  c18s_chunkOut_nil fit th start closed

/-- an input sub-path with segments: `MoveTo start`, a non-empty run of drawing elements that ends (bit for bit) at the end
    point of the last non-degenerate segment (`simplify_end_points`), `ClosePath` iff closed -/
theorem simpChunkOut_nonempty {fit : List (PathEl K) → List (PathEl K)} (hfit : C18FitSpec fit) (th : K)
    (c : SimpChunk K) (hne : c.segs ≠ []) :
    ∃ draws, simpChunkOut fit th c = .MoveTo c.start :: draws ++ (if c.closed then [.ClosePath] else []) ∧
      draws ≠ [] ∧ (∀ e ∈ draws, e.simpDraw = true) ∧ simpLastEnd draws = c.segs.getLast?.map PathSeg.end := by
  obtain ⟨start, segs, closed⟩ := c
  cases segs with
  | nil => exact absurd rfl hne
  | cons a r =>
    obtain ⟨h1, h2, h3⟩ := c18s_chunkDraws_spec hfit th (a :: r) (by simp)
    exact ⟨simpChunkDraws fit th (a :: r), c18s_chunkOut_cons fit th start a r closed, h1, h2, h3⟩

/-- the equations of the parse `simpChunks` (`ds` = drawing elements) -/
theorem simpChunks_moveTo (p : Point K) (r : List (PathEl K)) : simpChunks (.MoveTo p :: r) = simpChunksFrom p p r := rfl
theorem simpChunksFrom_end (start last : Point K) (ds : List (PathEl K)) (hds : ∀ e ∈ ds, e.simpDraw = true) :
    simpChunksFrom start last ds = [⟨start, simpHeadSegs last ds, false⟩] := by
  simpa [simpHeadClosed, simpTailChunks] using c18s_chunksFrom_append start last ds [] hds (by simp)
theorem simpChunksFrom_moveTo (start last q : Point K) (ds r : List (PathEl K)) (hds : ∀ e ∈ ds, e.simpDraw = true) :
    simpChunksFrom start last (ds ++ .MoveTo q :: r) = ⟨start, simpHeadSegs last ds, false⟩ :: simpChunksFrom q q r :=
  c18s_chunksFrom_append start last ds _ hds (by simp [PathEl.simpDraw])
/-- after `ClosePath` the next sub-path starts, without `MoveTo`, at the start of the one just closed -/
theorem simpChunksFrom_closePath (start last : Point K) (ds r : List (PathEl K)) (hds : ∀ e ∈ ds, e.simpDraw = true) :
    simpChunksFrom start last (ds ++ .ClosePath :: r) = ⟨start, simpHeadSegs last ds, true⟩ :: simpChunksFrom start start r :=
  c18s_chunksFrom_append start last ds _ hds (by simp [PathEl.simpDraw])
/-- the segments of a sub-path are a connected chain from its current point (each start is the previous end) … -/
theorem subpath_segs_chain (last : Point K) (ds : List (PathEl K)) : simpChain last (simpHeadSegs last ds) :=
  c18s_headSegs_chain ds last
/-- … and their drawing elements are the input's own (a sub-list: the degenerate ones are dropped, nothing is altered) -/
theorem subpath_segs_sublist (last : Point K) (ds : List (PathEl K)) :
    ((simpHeadSegs last ds).map PathSeg.drawEl).Sublist ds :=
  c18s_headSegs_sublist ds last

/-! ### 1. totality and the exact panic condition (any `fit`) -/

theorem simplify_total (fit : List (PathEl K) → List (PathEl K)) (th : K) (p : Point K) (r : List (PathEl K)) :
    ∃ out, simplifyBezpath fit (.MoveTo p :: r) th = .ok out := by
  unfold simplifyBezpath
  simp only [simplifyLoop]
  exact c18s_loop_total fit th r _ rfl rfl

/-- panics exactly when the first element that is not a `ClosePath` is a drawing element -/
theorem simplify_panic_iff (fit : List (PathEl K) → List (PathEl K)) (th : K) (els : List (PathEl K)) :
    simplifyBezpath fit els th = .panic ↔ ∃ e r, els.drop (simpLead els) = e :: r ∧ e.simpDraw = true := by
  rw [c18s_bezpath_pre]
  have hz := c18s_lead_drop_head els
  cases hd : els.drop (simpLead els) with
  | nil =>
    constructor
    · intro h; cases h
    · rintro ⟨_, _, h, -⟩; cases h
  | cons e r =>
    rw [hd] at hz
    cases e with
    | MoveTo p =>
      obtain ⟨out, ho⟩ := c18s_loop_total fit th r
        ⟨some p, some p, none, ⟨[], List.replicate (simpLead els) .ClosePath, true⟩⟩ rfl rfl
      simp only [ho]
      constructor
      · intro h; cases h
      · rintro ⟨_, _, h, hd⟩; cases h; cases hd
    | ClosePath => exact absurd (hz _ rfl) (by simp [PathEl.simpClose])
    | _ => exact ⟨fun _ => ⟨_, _, rfl, rfl⟩, fun _ => rfl⟩

theorem simplify_leading_draw_panics (fit : List (PathEl K) → List (PathEl K)) (th : K) (el : PathEl K)
    (r : List (PathEl K)) (h : el.simpDraw = true) : simplifyBezpath fit (el :: r) th = .panic := by
  rw [simplify_panic_iff]
  refine ⟨el, r, ?_, h⟩
  cases el <;> first | rfl | cases h

/-- leading `ClosePath`, case 1: nothing but `ClosePath`s – they are returned as they are -/
theorem simplify_closepaths_only (fit : List (PathEl K) → List (PathEl K)) (th : K) (k : Nat) :
    simplifyBezpath fit (List.replicate k .ClosePath) th = .ok (List.replicate k .ClosePath) := by
  obtain ⟨h1, h2⟩ := c18s_lead_replicate ([] : List (PathEl K)) rfl k
  simp only [List.append_nil] at h1 h2
  rw [c18s_bezpath_pre, h1, h2]

/-- leading `ClosePath`, case 2: then a drawing element – panic -/
theorem simplify_closepaths_then_draw (fit : List (PathEl K) → List (PathEl K)) (th : K) (k : Nat) (e : PathEl K)
    (r : List (PathEl K)) (he : e.simpDraw = true) :
    simplifyBezpath fit (List.replicate k .ClosePath ++ e :: r) th = .panic := by
  rw [simplify_panic_iff]
  have h0 : simpLead (e :: r) = 0 := by cases e <;> first | rfl | cases he
  obtain ⟨h1, h2⟩ := c18s_lead_replicate (e :: r) h0 k
  exact ⟨e, r, by rw [h1, h2], he⟩

/-- leading `ClosePath`, case 3: then a `MoveTo` – the `ClosePath`s are copied in front of the output of the rest
    (so the output begins with `ClosePath`: the model, like the crate, does not repair such input) -/
theorem simplify_closepaths_then_moveTo {fit : List (PathEl K) → List (PathEl K)} (hfit : C18FitSpec fit) (th : K)
    (k : Nat) (p : Point K) (r out : List (PathEl K)) (h : simplifyBezpath fit (.MoveTo p :: r) th = .ok out) :
    simplifyBezpath fit (List.replicate k .ClosePath ++ .MoveTo p :: r) th = .ok (List.replicate k .ClosePath ++ out) := by
  obtain ⟨h1, h2⟩ := c18s_lead_replicate (.MoveTo p :: r) rfl k
  rw [simplify_eq_spec hfit, simpSpec] at h ⊢
  rw [h1, h2]
  simp only [simpLead, List.drop_zero, List.replicate_zero, List.nil_append] at h
  cases h
  rfl

/-! ### 2. `flush`, `add_seg` and the queue invariant (any `fit`) -/

theorem flush_spec_empty (fit : List (PathEl K) → List (PathEl K)) (s : SimpSt K) (h : s.queue = []) :
    s.flush fit = s := by
  simp [SimpSt.flush, h]

/-- one queued segment (`MoveTo` + one element): emitted verbatim, with its `MoveTo` iff `needs_moveto` -/
theorem flush_spec_single (fit : List (PathEl K) → List (PathEl K)) (s : SimpSt K) (a d : PathEl K)
    (h : s.queue = [a, d]) :
    s.flush fit = ⟨[], s.result ++ (if s.needs_moveto then [a, d] else [d]), false⟩ := by
  cases hn : s.needs_moveto <;> simp [SimpSt.flush, h, hn]

/-- otherwise: `fit queue`, minus its first element unless `needs_moveto` -/
theorem flush_spec_fit (fit : List (PathEl K) → List (PathEl K)) (s : SimpSt K) (h0 : s.queue ≠ [])
    (h2 : s.queue.length ≠ 2) :
    s.flush fit = ⟨[], s.result ++ (if s.needs_moveto then fit s.queue else (fit s.queue).drop 1), false⟩ := by
  cases hn : s.needs_moveto <;> simp [SimpSt.flush, h0, h2, hn]

/-- after `flush` the queue is empty; `needs_moveto` is cleared whenever something was queued (an empty queue leaves the
    state untouched, `needs_moveto` included) -/
theorem flush_post (fit : List (PathEl K) → List (PathEl K)) (s : SimpSt K) :
    (s.flush fit).queue = [] ∧ (s.queue ≠ [] → (s.flush fit).needs_moveto = false) := by
  refine ⟨c18s_flush_queue fit s, fun h => ?_⟩
  simp [SimpSt.flush, h]

theorem add_seg_spec (s : SimpSt K) (seg : PathSeg K) :
    s.add_seg seg =
      ⟨(if s.queue.isEmpty then [.MoveTo seg.start] else s.queue) ++ [seg.drawEl], s.result, s.needs_moveto⟩ := rfl

theorem queue_inv_init : SimpQueueInv ({} : SimpSt K).queue := Or.inl rfl
theorem queue_inv_add_seg (s : SimpSt K) (seg : PathSeg K) (h : SimpQueueInv s.queue) :
    SimpQueueInv (s.add_seg seg).queue := by
  right
  rcases h with h | ⟨p, ds, h, -, hd⟩
  · refine ⟨seg.start, [seg.drawEl], by simp [SimpSt.add_seg, h], by simp, ?_⟩
    intro e he; simp at he; subst he; exact c18s_drawEl_draw seg
  · refine ⟨p, ds ++ [seg.drawEl], by simp [SimpSt.add_seg, h], by simp, ?_⟩
    intro e he
    rcases List.mem_append.1 he with h' | h'
    · exact hd e h'
    · simp at h'; subst h'; exact c18s_drawEl_draw seg
theorem queue_inv_flush (fit : List (PathEl K) → List (PathEl K)) (s : SimpSt K) : SimpQueueInv (s.flush fit).queue :=
  Or.inl (c18s_flush_queue fit s)
theorem queue_inv_push (fit : List (PathEl K) → List (PathEl K)) (th : K) (l : SimpLoop K) (seg : PathSeg K)
    (h : SimpQueueInv l.st.queue) : SimpQueueInv (l.push fit th seg).st.queue := by
  unfold SimpLoop.push
  simp only []
  apply queue_inv_add_seg
  cases l.last_seg with
  | none => exact h
  | some last =>
    simp only []
    split
    · exact queue_inv_flush fit _
    · exact h

/-- the loop is the iteration of `simpStep` (one pass of the loop body as a state transformer, `none` = panic) … -/
theorem simplifyLoop_cons (fit : List (PathEl K) → List (PathEl K)) (th : K) (l : SimpLoop K) (el : PathEl K)
    (r : List (PathEl K)) :
    simplifyLoop fit th (el :: r) l =
      match simpStep fit th l el with
      | none => .panic
      | some l' => simplifyLoop fit th r l' :=
  c18s_loop_cons fit th l el r

/-- … and every pass keeps the queue invariant: loop invariant (it holds initially by `queue_inv_init`) -/
theorem queue_inv_step (fit : List (PathEl K) → List (PathEl K)) (th : K) (l l' : SimpLoop K) (el : PathEl K)
    (h : SimpQueueInv l.st.queue) (hs : simpStep fit th l el = some l') : SimpQueueInv l'.st.queue := by
  by_cases hd : el.simpDraw = true
  · rw [c18s_step_draw fit th l hd] at hs
    cases hl : l.last_pt with
    | none => rw [hl] at hs; cases hs
    | some last =>
      rw [hl] at hs
      simp only [] at hs
      cases he : simpElSeg last el with
      | none => rw [he] at hs; cases hs; exact h
      | some s => rw [he] at hs; cases hs; exact queue_inv_push fit th l s h
  · cases el with
    | MoveTo p => simp only [simpStep] at hs; cases hs; exact Or.inl (c18s_flush_queue fit _)
    | ClosePath =>
      simp only [simpStep] at hs
      cases hs
      left
      simp only []
      split
      · split
        · exact c18s_flush_queue fit _
        · exact c18s_flush_queue fit _
      · exact c18s_flush_queue fit _
    | _ => exact absurd rfl hd

/-- under the invariant, `flush` hands `fit` only queues inside the precondition of `C18FitSpec` -/
theorem flush_calls_fit_within_spec (s : SimpSt K) (h : SimpQueueInv s.queue) (h0 : s.queue ≠ [])
    (h2 : s.queue.length ≠ 2) :
    ∃ a ds, s.queue = .MoveTo a :: ds ∧ (∀ e ∈ ds, e.simpDraw = true) ∧ 2 ≤ ds.length := by
  rcases h with h | ⟨p, ds, h, hne, hd⟩
  · exact absurd h h0
  · refine ⟨p, ds, h, hd, ?_⟩
    rw [h] at h2
    cases ds with
    | nil => exact absurd rfl hne
    | cons d r => cases r with
      | nil => simp at h2
      | cons d' r' => simp

example : SimpQueueInv (K := Rat) [.MoveTo ⟨0,0⟩, .LineTo ⟨1,0⟩] :=
  Or.inr ⟨⟨0,0⟩, [.LineTo ⟨1,0⟩], rfl, by simp, by intro e he; simp at he; subst he; rfl⟩

/-! ### 3. shape of the output -/

/-- the output is: the input's leading `ClosePath`s, then well-formed sub-paths (`MoveTo`, drawing elements, optional
    `ClosePath`; at least one drawing element unless it is a closed point `M p Z`).  The sub-paths are those of the input
    sub-paths that emit something (`simpChunkSub`), in order. -/
theorem simplify_output_subpaths {fit : List (PathEl K) → List (PathEl K)} (hfit : C18FitSpec fit) (th : K)
    (els out : List (PathEl K)) (h : simplifyBezpath fit els th = .ok out) :
    out = List.replicate (simpLead els) .ClosePath ++
        (((simpChunks (els.drop (simpLead els))).filterMap (simpChunkSub fit th)).map SimpSub.els).flatten ∧
      ∀ s ∈ (simpChunks (els.drop (simpLead els))).filterMap (simpChunkSub fit th), s.WF := by
  refine ⟨?_, ?_⟩
  · rw [← c18s_chunks_out_subs]; exact simplify_eq_chunks hfit th els out h
  · intro s hs
    obtain ⟨c, -, hc⟩ := List.mem_filterMap.1 hs
    exact c18s_chunkSub_wf hfit th c s hc

theorem simplify_output_wellformed {fit : List (PathEl K) → List (PathEl K)} (hfit : C18FitSpec fit) (th : K)
    (els out : List (PathEl K)) (h : simplifyBezpath fit els th = .ok out) :
    ∃ subs : List (SimpSub K),
      out = List.replicate (simpLead els) .ClosePath ++ (subs.map SimpSub.els).flatten ∧ ∀ s ∈ subs, s.WF :=
  ⟨_, simplify_output_subpaths hfit th els out h⟩

theorem simplify_starts_with_closepath_iff {fit : List (PathEl K) → List (PathEl K)} (hfit : C18FitSpec fit) (th : K)
    (els out : List (PathEl K)) (h : simplifyBezpath fit els th = .ok out) :
    out.head? = some .ClosePath ↔ els.head? = some .ClosePath := by
  obtain ⟨subs, ho, -⟩ := simplify_output_wellformed hfit th els out h
  have hsub : ((subs.map SimpSub.els).flatten).head? ≠ some (PathEl.ClosePath : PathEl K) := by
    cases subs with
    | nil => simp
    | cons s r => simp [SimpSub.els]
  cases els with
  | nil => simp [simpLead] at ho; subst ho; simpa using hsub
  | cons e r =>
    cases e with
    | ClosePath => simp [simpLead, List.replicate_succ] at ho; subst ho; simp
    | _ => simp [simpLead] at ho; subst ho; simpa using hsub

/-- a drawing element never follows a `ClosePath` directly (a `MoveTo` is always put in between) -/
theorem simplify_no_draw_after_closepath {fit : List (PathEl K) → List (PathEl K)} (hfit : C18FitSpec fit) (th : K)
    (els out : List (PathEl K)) (h : simplifyBezpath fit els th = .ok out) :
    ∀ A e B, out = A ++ PathEl.ClosePath :: e :: B → e.simpDraw = false := by
  obtain ⟨subs, ho, hwf⟩ := simplify_output_wellformed hfit th els out h
  intro A e B hA
  exact (List.isChain_iff_forall_rel_of_append_cons_cons (R := NoDrawAfterClose)).1
    (ho ▸ c18s_out_chain _ subs hwf) hA rfl

/-! ### 4. closedness -/

theorem simplify_closepath_count {fit : List (PathEl K) → List (PathEl K)} (hfit : C18FitSpec fit) (th : K)
    (els out : List (PathEl K)) (h : simplifyBezpath fit els th = .ok out) :
    out.countP PathEl.simpClose = els.countP PathEl.simpClose := by
  obtain ⟨ho, hwf⟩ := simplify_output_subpaths hfit th els out h
  have hsplit := c18s_lead_split els
  have hin : els.countP PathEl.simpClose =
      simpLead els + (els.drop (simpLead els)).countP PathEl.simpClose := by
    conv_lhs => rw [hsplit]
    rw [List.countP_append, c18s_replicate_close_count]
  rw [hin, ho, List.countP_append, c18s_replicate_close_count, c18s_subs_closeCount _ hwf, c18s_filterMap_sub_closed]
  congr 1
  cases hd : els.drop (simpLead els) with
  | nil => rfl
  | cons e r =>
    cases e with
    | MoveTo p =>
      rw [simpChunks_moveTo, simpChunksFrom, c18s_closed_count]
      simp [PathEl.simpClose]
    | ClosePath => exact absurd (c18s_lead_drop_head els _ (by rw [hd]; rfl)) (by simp [PathEl.simpClose])
    | _ =>
      exfalso
      have := (simplify_panic_iff fit th els).2 ⟨_, _, hd, rfl⟩
      rw [this] at h; cases h

/-- a statement about `simpChunkSub` alone (the model does not occur).  With `simplify_output_subpaths` (the output consists
    of `simpChunkSub` of the input's sub-paths) it says: the closed flags (and the start points, section 5) of the output
    sub-paths are, in order, those of the input sub-paths that emit something. -/
theorem simplify_closed_flags (fit : List (PathEl K) → List (PathEl K)) (th : K) (cs : List (SimpChunk K)) :
    (cs.filterMap (simpChunkSub fit th)).map (fun s => (s.start, s.closed)) =
      (cs.filter SimpChunk.emits).map (fun c => (c.start, c.closed)) :=
  c18s_filterMap_sub_flags fit th cs

/-! ### 5. start points -/

/-- the `MoveTo` points of the output are, in order and bit for bit, the start points of the input sub-paths that emit
    something: the point of the input `MoveTo`, or, for a sub-path that follows a `ClosePath` without `MoveTo`, the start
    of the sub-path just closed (see `simpChunksFrom_closePath`) -/
theorem simplify_start_points {fit : List (PathEl K) → List (PathEl K)} (hfit : C18FitSpec fit) (th : K)
    (els out : List (PathEl K)) (h : simplifyBezpath fit els th = .ok out) :
    out.filterMap PathEl.simpMovePt =
      ((simpChunks (els.drop (simpLead els))).filter SimpChunk.emits).map SimpChunk.start := by
  obtain ⟨ho, hwf⟩ := simplify_output_subpaths hfit th els out h
  rw [ho, List.filterMap_append, c18s_replicate_movePts, List.nil_append, c18s_subs_movePts _ hwf]
  simpa [List.map_map, Function.comp_def] using congrArg (List.map Prod.fst) (simplify_closed_flags fit th _)

/-! ### 6. corners are vertices; end points -/

/-- a corner between two consecutive non-degenerate segments of an input sub-path is the end point of an output element -/
theorem simplify_corner_is_vertex {fit : List (PathEl K) → List (PathEl K)} (hfit : C18FitSpec fit) (th : K)
    (els out : List (PathEl K)) (h : simplifyBezpath fit els th = .ok out)
    (c : SimpChunk K) (hc : c ∈ simpChunks (els.drop (simpLead els)))
    (A : List (PathSeg K)) (s s' : PathSeg K) (B : List (PathSeg K)) (hsegs : c.segs = A ++ s :: s' :: B)
    (hcorner : simpCorner th s s' = true) :
    ∃ e ∈ out, e.end_point = some s.end := by
  obtain ⟨e, he, hend⟩ := c18s_corner_vertex_chunk hfit th c.segs A s s' B hsegs hcorner
  refine ⟨e, ?_, hend⟩
  rw [simplify_eq_chunks hfit th els out h]
  refine List.mem_append_right _ (List.mem_flatten.2 ⟨simpChunkOut fit th c, List.mem_map.2 ⟨c, hc, rfl⟩, ?_⟩)
  exact c18s_chunkDraws_mem_out fit th c e he

/-- the last drawing element of the output of an input sub-path ends where its last non-degenerate segment ends -/
theorem simplify_end_points {fit : List (PathEl K) → List (PathEl K)} (hfit : C18FitSpec fit) (th : K)
    (els out : List (PathEl K)) (h : simplifyBezpath fit els th = .ok out)
    (c : SimpChunk K) (hc : c ∈ simpChunks (els.drop (simpLead els))) (hne : c.segs ≠ []) :
    ∃ pre post draws, out = pre ++ (.MoveTo c.start :: draws ++ (if c.closed then [.ClosePath] else [])) ++ post ∧
      draws ≠ [] ∧ (∀ e ∈ draws, e.simpDraw = true) ∧ simpLastEnd draws = c.segs.getLast?.map PathSeg.end := by
  obtain ⟨draws, h1, h2, h3, h4⟩ := simpChunkOut_nonempty hfit th c hne
  obtain ⟨X, Y, hXY⟩ := c18s_flatten_map_mem (simpChunkOut fit th) _ c hc
  refine ⟨List.replicate (simpLead els) .ClosePath ++ X, Y, draws, ?_, h2, h3, h4⟩
  rw [simplify_eq_chunks hfit th els out h, hXY, h1]
  simp

/-! ### 7. a one-segment stretch is emitted verbatim (any `fit`) -/

/-- a segment `s` with a corner (or the sub-path's beginning) before it and a corner (or the sub-path's end) after it is
    emitted as its own drawing element, between the outputs of what precedes and what follows -/
theorem single_segment_verbatim (fit : List (PathEl K) → List (PathEl K)) (th : K) (c : SimpChunk K)
    (A : List (PathSeg K)) (s : PathSeg K) (B : List (PathSeg K)) (hsegs : c.segs = A ++ s :: B)
    (hA : ∀ a, A.getLast? = some a → simpCorner th a s = true)
    (hB : ∀ b, B.head? = some b → simpCorner th s b = true) :
    simpChunkOut fit th c =
      .MoveTo c.start :: (simpChunkDraws fit th A ++ s.drawEl :: simpChunkDraws fit th B) ++
        (if c.closed then [.ClosePath] else []) := by
  obtain ⟨start, segs, closed⟩ := c
  simp only at hsegs
  subst hsegs
  have hne : A ++ s :: B ≠ [] := by simp
  cases hAB : A ++ s :: B with
  | nil => exact absurd hAB hne
  | cons x r =>
    rw [c18s_chunkOut_cons, ← hAB]
    simp only [simpChunkDraws, c18s_split_single th A s B hA hB, List.map_append, List.map_cons,
      List.flatten_append, List.flatten_cons, c18s_stretchOut_single, List.singleton_append]

theorem single_segment_in_output {fit : List (PathEl K) → List (PathEl K)} (hfit : C18FitSpec fit) (th : K)
    (els out : List (PathEl K)) (h : simplifyBezpath fit els th = .ok out)
    (c : SimpChunk K) (hc : c ∈ simpChunks (els.drop (simpLead els)))
    (A : List (PathSeg K)) (s : PathSeg K) (B : List (PathSeg K)) (hsegs : c.segs = A ++ s :: B)
    (hA : ∀ a, A.getLast? = some a → simpCorner th a s = true)
    (hB : ∀ b, B.head? = some b → simpCorner th s b = true) :
    ∃ pre post, out = pre ++ s.drawEl :: post := by
  obtain ⟨X, Y, hXY⟩ := c18s_flatten_map_mem (simpChunkOut fit th) _ c hc
  rw [simplify_eq_chunks hfit th els out h, hXY, single_segment_verbatim fit th c A s B hsegs hA hB]
  exact ⟨List.replicate (simpLead els) .ClosePath ++ X ++ .MoveTo c.start :: simpChunkDraws fit th A,
    simpChunkDraws fit th B ++ (if c.closed then [.ClosePath] else []) ++ Y, by simp⟩

/-- the split is exact: no corner inside a stretch (and by `c18s_split_append_corner` every corner separates stretches) -/
theorem stretch_is_smooth (th : K) (segs : List (PathSeg K)) (g : List (PathSeg K)) (hg : g ∈ simpSplitGo th [] segs)
    (X : List (PathSeg K)) (s s' : PathSeg K) (Y : List (PathSeg K)) (h : g = X ++ s :: s' :: Y) :
    simpCorner th s s' = false := by
  rw [c18s_split_eq_splitBy] at hg
  have hc := List.isChain_of_mem_splitBy hg
  rw [h, List.isChain_append] at hc
  simpa [simpSmooth] using (List.isChain_cons_cons.1 hc.2.1).1

theorem stretches_partition (th : K) (segs : List (PathSeg K)) :
    (simpSplitGo th [] segs).flatten = segs ∧ ∀ g ∈ simpSplitGo th [] segs, g ≠ [] :=
  ⟨c18s_split_flatten th segs, c18s_split_ne th segs⟩

/-! ### concrete runs (`Rat`, the stand-in fitter, default threshold 1e-3) -/

/-- a corner: two one-segment stretches, both verbatim -/
example : simplifyBezpath (K := Rat) fitSkeleton [.MoveTo ⟨0,0⟩, .LineTo ⟨1,0⟩, .LineTo ⟨1,1⟩]
    = .ok [.MoveTo ⟨0,0⟩, .LineTo ⟨1,0⟩, .LineTo ⟨1,1⟩] := by decide +kernel
/-- a smooth stretch of two segments is fitted, the corner after it is kept as a vertex, the single segment is verbatim -/
example : simplifyBezpath (K := Rat) fitSkeleton [.MoveTo ⟨0,0⟩, .LineTo ⟨1,0⟩, .LineTo ⟨2,0⟩, .LineTo ⟨2,1⟩]
    = .ok [.MoveTo ⟨0,0⟩, .CurveTo ⟨0,0⟩ ⟨2,0⟩ ⟨2,0⟩, .LineTo ⟨2,1⟩] := by decide +kernel
/-- a closed sub-path followed by drawing without `MoveTo`: a `MoveTo` to the start of the closed sub-path is supplied -/
example : simplifyBezpath (K := Rat) fitSkeleton
      [.MoveTo ⟨0,0⟩, .LineTo ⟨1,0⟩, .LineTo ⟨1,1⟩, .ClosePath, .LineTo ⟨5,5⟩]
    = .ok [.MoveTo ⟨0,0⟩, .LineTo ⟨1,0⟩, .LineTo ⟨1,1⟩, .ClosePath, .MoveTo ⟨0,0⟩, .LineTo ⟨5,5⟩] := by decide +kernel
/-- an empty closed sub-path `M p Z` is kept as a closed point; an empty open one (`M p` alone) emits nothing -/
example : simplifyBezpath (K := Rat) fitSkeleton [.MoveTo ⟨3,4⟩, .ClosePath, .MoveTo ⟨7,7⟩, .MoveTo ⟨1,1⟩, .LineTo ⟨2,1⟩]
    = .ok [.MoveTo ⟨3,4⟩, .ClosePath, .MoveTo ⟨1,1⟩, .LineTo ⟨2,1⟩] := by decide +kernel
/-- a degenerate element is skipped; `ClosePath ClosePath` gives a second closed point -/
example : simplifyBezpath (K := Rat) fitSkeleton [.MoveTo ⟨0,0⟩, .LineTo ⟨0,0⟩, .LineTo ⟨1,0⟩, .ClosePath, .ClosePath]
    = .ok [.MoveTo ⟨0,0⟩, .LineTo ⟨1,0⟩, .ClosePath, .MoveTo ⟨0,0⟩, .ClosePath] := by decide +kernel
/-- leading `ClosePath`s are copied -/
example : simplifyBezpath (K := Rat) fitSkeleton [.ClosePath, .MoveTo ⟨0,0⟩, .LineTo ⟨1,0⟩]
    = .ok [.ClosePath, .MoveTo ⟨0,0⟩, .LineTo ⟨1,0⟩] := by decide +kernel
example : simplifyBezpath (K := Rat) fitSkeleton [.ClosePath, .LineTo ⟨1,0⟩] = .panic := by decide +kernel
/-- the parse of the third example: two sub-paths, the second starting at the start of the first -/
example : simpChunks (K := Rat) [.MoveTo ⟨0,0⟩, .LineTo ⟨1,0⟩, .LineTo ⟨1,1⟩, .ClosePath, .LineTo ⟨5,5⟩]
    = [⟨⟨0,0⟩, [.Line ⟨⟨0,0⟩,⟨1,0⟩⟩, .Line ⟨⟨1,0⟩,⟨1,1⟩⟩], true⟩, ⟨⟨0,0⟩, [.Line ⟨⟨0,0⟩,⟨5,5⟩⟩], false⟩] := by
  decide +kernel
/-- `simplify_corner_is_vertex` applied to the second example: the corner point (2,0) is a vertex of the output -/
example : ∃ e ∈ ([.MoveTo ⟨0,0⟩, .CurveTo ⟨0,0⟩ ⟨2,0⟩ ⟨2,0⟩, .LineTo ⟨2,1⟩] : List (PathEl Rat)),
    e.end_point = some ⟨2,0⟩ :=
  simplify_corner_is_vertex (K := Rat) fitSkeleton_meets_spec (Scalar.ofRat (1/1000))
    [.MoveTo ⟨0,0⟩, .LineTo ⟨1,0⟩, .LineTo ⟨2,0⟩, .LineTo ⟨2,1⟩] _ (by decide +kernel)
    ⟨⟨0,0⟩, [.Line ⟨⟨0,0⟩,⟨1,0⟩⟩, .Line ⟨⟨1,0⟩,⟨2,0⟩⟩, .Line ⟨⟨2,0⟩,⟨2,1⟩⟩], false⟩ (by decide +kernel)
    [.Line ⟨⟨0,0⟩,⟨1,0⟩⟩] (.Line ⟨⟨1,0⟩,⟨2,0⟩⟩) (.Line ⟨⟨2,0⟩,⟨2,1⟩⟩) [] rfl (by decide +kernel)
/-- hypotheses of `simplify_corner_is_vertex` / `single_segment_verbatim` are satisfiable -/
example : simpCorner (K := Rat) (Scalar.ofRat (1/1000)) (.Line ⟨⟨0,0⟩,⟨1,0⟩⟩) (.Line ⟨⟨1,0⟩,⟨1,1⟩⟩) = true := by
  decide +kernel

end structural

/-! ### 8. the corner test over a lawful ordered field -/
section lawful
variable {K : Type} [Field K] [LinearOrder K] [IsStrictOrderedRing K] [FloorRing K] [Scalar K] [LawfulScalar K]

/-- a reversal of direction (negative dot product of the tangents) is a corner for every positive threshold -/
theorem simpCorner_reversal (th : K) (hth : 0 < th) (last seg : PathSeg K)
    (h : last.tangents.2.dot seg.tangents.1 < 0) : simpCorner th last seg = true := by
  simp only [simpCorner, scalar_norm, decide_eq_true_eq]
  have : last.tangents.2.dot seg.tangents.1 * th < 0 := mul_neg_of_neg_of_pos h hth
  exact lt_of_lt_of_le this (abs_nonneg _)

/-- parallel tangents pointing the same way (zero cross product, non-negative dot product) are not a corner -/
theorem simpCorner_collinear_same_direction (th : K) (hth : 0 ≤ th) (last seg : PathSeg K)
    (hcross : last.tangents.2.cross seg.tangents.1 = 0) (hdot : 0 ≤ last.tangents.2.dot seg.tangents.1) :
    simpCorner th last seg = false := by
  simp only [simpCorner, scalar_norm, decide_eq_false_iff_not, hcross, abs_zero, not_lt]
  exact mul_nonneg hdot hth

example : (PathSeg.Line (K := Rat) ⟨⟨0,0⟩,⟨1,0⟩⟩).tangents.2.dot (PathSeg.Line (K := Rat) ⟨⟨1,0⟩,⟨0,0⟩⟩).tangents.1 < 0 := by
  decide +kernel
/-- with threshold 0 an exact reversal is not a corner (why `simpCorner_reversal` asks `0 < th`) -/
example : simpCorner (K := Rat) 0 (.Line ⟨⟨0,0⟩,⟨1,0⟩⟩) (.Line ⟨⟨1,0⟩,⟨0,0⟩⟩) = false := by decide +kernel
example : simpCorner (K := Rat) (Scalar.ofRat (1/1000)) (.Line ⟨⟨0,0⟩,⟨1,0⟩⟩) (.Line ⟨⟨1,0⟩,⟨0,0⟩⟩) = true := by
  decide +kernel
example : (PathSeg.Line (K := Rat) ⟨⟨0,0⟩,⟨1,0⟩⟩).tangents.2.cross (PathSeg.Line (K := Rat) ⟨⟨1,0⟩,⟨3,0⟩⟩).tangents.1 = 0
    ∧ 0 ≤ (PathSeg.Line (K := Rat) ⟨⟨0,0⟩,⟨1,0⟩⟩).tangents.2.dot (PathSeg.Line (K := Rat) ⟨⟨1,0⟩,⟨3,0⟩⟩).tangents.1 := by
  decide +kernel

end lawful
end Kurbo
