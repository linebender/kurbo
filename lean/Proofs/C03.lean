import Proofs.Lemmas.C03GL
import Kurbo.Arclen
/-! C03 – arc length.  Proved here:
    * `gl*_exact`: for each of the 15 Gauss–Legendre tables of common.rs (as the exact rationals of the printed decimals, re-extracted
      from the source on every run and proved equal to the tables of `Kurbo/GLTables.lean` in `Proofs/GenEquivGL.lean`) the monomial
      moments are right to 1e-13: |Σ wᵢ xᵢᵏ − ∫₋₁¹ xᵏ| ≤ 1e-13 for every k < 2n (`fullOk`; half tables, `halfOk`: the positive
      half of a symmetric rule, even moments doubled), all weights positive, all nodes in [−1, 1] (`nodesOk`).  These are the
      moments that a rule exact for polynomials of degree ≤ 2n − 1 reproduces.  A finite table: `decide +kernel` over the whole
      table is a proof; a mistyped node or weight (≥ 1e-13) breaks it.
    * `gl_table_sizes`; `cubic_arclen_depth`, `pathPerimeter_eq`: `CubicBez::arclen` and `Segments::perimeter` written out (`rfl`).  The
      bound on the number of recursive calls is `arclenRecCalls_le` in `Proofs/C14.lean`.
    The closed form of `QuadBez::arclen` against the arc length integral is in `Proofs/C03Q.lean`.
    Not proved: the accuracy claim for cubics (the subdivision decision uses an error estimate with fitted constants); accuracy and
    monotonicity of `inv_arclen` – both are decided by the oracle in gen/c03.py. -/
namespace Kurbo
open Kurbo.GL

theorem gl3_exact : fullOk gl3 = true ∧ nodesOk gl3 = true := by decide +kernel
theorem gl4_exact : fullOk gl4 = true ∧ nodesOk gl4 = true := by decide +kernel
theorem gl5_exact : fullOk gl5 = true ∧ nodesOk gl5 = true := by decide +kernel
theorem gl6_exact : fullOk gl6 = true ∧ nodesOk gl6 = true := by decide +kernel
theorem gl7_exact : fullOk gl7 = true ∧ nodesOk gl7 = true := by decide +kernel
theorem gl8_exact : fullOk gl8 = true ∧ nodesOk gl8 = true := by decide +kernel
theorem gl9_exact : fullOk gl9 = true ∧ nodesOk gl9 = true := by decide +kernel
theorem gl11_exact : fullOk gl11 = true ∧ nodesOk gl11 = true := by decide +kernel
theorem gl16_exact : fullOk gl16 = true ∧ nodesOk gl16 = true := by decide +kernel
theorem gl24_exact : fullOk gl24 = true ∧ nodesOk gl24 = true := by decide +kernel
theorem gl32_exact : fullOk gl32 = true ∧ nodesOk gl32 = true := by decide +kernel
theorem gl8Half_exact : halfOk gl8Half = true ∧ nodesOk gl8Half = true := by decide +kernel
theorem gl16Half_exact : halfOk gl16Half = true ∧ nodesOk gl16Half = true := by decide +kernel
theorem gl24Half_exact : halfOk gl24Half = true ∧ nodesOk gl24Half = true := by decide +kernel
theorem gl32Half_exact : halfOk gl32Half = true ∧ nodesOk gl32Half = true := by decide +kernel

theorem gl_table_sizes :
    gl3.length = 3 ∧ gl4.length = 4 ∧ gl5.length = 5 ∧ gl6.length = 6 ∧ gl7.length = 7 ∧ gl8.length = 8 ∧ gl9.length = 9 ∧
    gl11.length = 11 ∧ gl16.length = 16 ∧ gl24.length = 24 ∧ gl32.length = 32 ∧ gl8Half.length = 4 ∧ gl16Half.length = 8 ∧
    gl24Half.length = 12 ∧ gl32Half.length = 16 := by decide

section structural
variable {K : Type} [Scalar K]

theorem pathPerimeter_eq (els : List (PathEl K)) (acc : K) :
    pathPerimeter els acc = (segs els).map fun ss => ss.foldl (fun a s => Scalar.add a (s.arclen acc)) (Scalar.ofRat 0) := rfl

/-- `CubicBez::arclen` starts the recursion with 20 levels of subdivision left (`arclenRec` recurses structurally on that number;
    the crate's guard is `depth >= 20`) -/
theorem cubic_arclen_depth (c : CubicBez K) (acc : K) : c.arclen acc = arclenRec 20 c acc := rfl

end structural
end Kurbo
