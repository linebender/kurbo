import Kurbo.Gen.Kernel2
import Proofs.KDefs
/-! GENERATED by tools/gen_equiv2.py. One obligation per translated item: the definition regenerated from
    the current Rust source (`f_g`) equals the pinned HAND-WRITTEN model (`f`) for every lawful scalar.
    `rfl` when the source is unchanged; an algebraic normal-form proof after a refactoring. -/
namespace Kurbo
variable {K : Type} [Field K] [LinearOrder K] [IsStrictOrderedRing K] [FloorRing K] [Scalar K] [LawfulScalar K]
set_option maxRecDepth 4000
set_option linter.unusedSectionVars false
set_option linter.unusedTactic false
set_option linter.unreachableTactic false

attribute [local ge_eqs] Vec2.dot Vec2.cross Vec2.hypot2 Vec2.hypot Vec2.atan2 Vec2.lerp Vec2.normalize Vec2.turn_90
attribute [local ge_eqs] Vec2.rotate_scale Vec2.round Vec2.ceil Vec2.floor Vec2.expand Vec2.trunc Vec2.is_finite Vec2.is_nan
attribute [local ge_eqs] Point.lerp Point.midpoint Point.distance Point.distance_squared Point.round Point.ceil Point.floor Point.expand
attribute [local ge_eqs] Point.trunc Point.is_finite Point.is_nan Size.round Size.ceil Size.floor Size.expand Size.trunc
attribute [local ge_eqs] Size.area Size.max_side Size.min_side Rect.width Rect.height Rect.min_x Rect.max_x Rect.min_y
attribute [local ge_eqs] Rect.max_y Rect.area Rect.origin Rect.size Rect.center Rect.is_zero_area Rect.contains Rect.abs
attribute [local ge_eqs] Rect.from_points Rect.union Rect.union_pt Rect.intersect Rect.overlaps Rect.contains_rect Rect.inflate Rect.round
attribute [local ge_eqs] Rect.ceil Rect.floor Rect.expand Rect.trunc Rect.scale_from_origin Rect.add_Vec2 Rect.sub_Vec2 Rect.sub_Rect
attribute [local ge_eqs] Rect.perimeter Rect.winding Rect.bounding_box Rect.add_Insets Rect.sub_Insets Affine.mul_Point Affine.mul_Affine Affine.scale
attribute [local ge_eqs] Affine.scale_non_uniform Affine.translate Affine.skew Affine.rotate Affine.then_translate Affine.then_rotate Affine.then_scale Affine.then_scale_non_uniform
attribute [local ge_eqs] Affine.scale_about Affine.rotate_about Affine.then_rotate_about Affine.then_scale_about Affine.pre_rotate Affine.pre_rotate_about Affine.pre_scale Affine.pre_scale_non_uniform
attribute [local ge_eqs] Affine.pre_translate Affine.reflect Affine.map_unit_square Affine.determinant Affine.inverse Affine.transform_rect_bbox Affine.translation Affine.with_translation
attribute [local ge_eqs] Affine.mul_Line Affine.mul_QuadBez Affine.mul_CubicBez Affine.mul_PathSeg Affine.mul_PathEl Vec2.div_exact Affine.scalar_mul Triangle.area
attribute [local ge_eqs] Triangle.perimeter Triangle.bounding_box Circle.area Circle.perimeter Circle.winding pointOnCircle CircleSegment.outer_arc CircleSegment.inner_arc
attribute [local ge_eqs] CircleSegment.area CircleSegment.perimeter CircleSegment.winding Affine.svd Ellipse.private_new Ellipse.center Affine.mul_Ellipse Ellipse.radii
attribute [local ge_eqs] Ellipse.radii_and_rotation Ellipse.area Ellipse.winding Ellipse.bounding_box rotatePt sampleEllipse Affine.mul_Arc RoundedRectRadii.abs
attribute [local ge_eqs] RoundedRectRadii.clamp approxParabolaIntegral approxParabolaInvIntegral QuadBez.determine_subdiv_t QuadBez.arclen Line.crossing_point

@[local ge_eqs]
theorem ge2_Triangle_area : (Triangle.area_g (K := K)) = Triangle.area := by
  first
  | rfl
  | (funext_all; simp only [Triangle.area_g, Triangle.area, paraD, paraB]; norm_num; done)
  | (funext_all; ge_alg [Triangle.area_g])

@[local ge_eqs]
theorem ge2_Triangle_perimeter : (Triangle.perimeter_g (K := K)) = Triangle.perimeter := by
  first
  | rfl
  | (funext_all; simp only [Triangle.perimeter_g, Triangle.perimeter, paraD, paraB]; norm_num; done)
  | (funext_all; ge_alg [Triangle.perimeter_g])

@[local ge_eqs]
theorem ge2_Triangle_bounding_box : (Triangle.bounding_box_g (K := K)) = Triangle.bounding_box := by
  first
  | rfl
  | (funext_all; simp only [Triangle.bounding_box_g, Triangle.bounding_box, paraD, paraB]; norm_num; done)
  | (funext_all; ge_alg [Triangle.bounding_box_g])

@[local ge_eqs]
theorem ge2_Circle_area : (Circle.area_g (K := K)) = Circle.area := by
  first
  | rfl
  | (funext_all; simp only [Circle.area_g, Circle.area, paraD, paraB]; norm_num; done)
  | (funext_all; ge_alg [Circle.area_g])

@[local ge_eqs]
theorem ge2_Circle_perimeter : (Circle.perimeter_g (K := K)) = Circle.perimeter := by
  first
  | rfl
  | (funext_all; simp only [Circle.perimeter_g, Circle.perimeter, paraD, paraB]; norm_num; done)
  | (funext_all; ge_alg [Circle.perimeter_g])

@[local ge_eqs]
theorem ge2_Circle_winding : (Circle.winding_g (K := K)) = Circle.winding := by
  first
  | rfl
  | (funext_all; simp only [Circle.winding_g, Circle.winding, paraD, paraB]; norm_num; done)
  | (funext_all; ge_alg [Circle.winding_g])

@[local ge_eqs]
theorem ge2_pointOnCircle : (pointOnCircle_g (K := K)) = pointOnCircle := by
  first
  | rfl
  | (funext_all; simp only [pointOnCircle_g, pointOnCircle, paraD, paraB]; norm_num; done)
  | (funext_all; ge_alg [pointOnCircle_g])

@[local ge_eqs]
theorem ge2_CircleSegment_outer_arc : (CircleSegment.outer_arc_g (K := K)) = CircleSegment.outer_arc := by
  first
  | rfl
  | (funext_all; simp only [CircleSegment.outer_arc_g, CircleSegment.outer_arc, paraD, paraB]; norm_num; done)
  | (funext_all; ge_alg [CircleSegment.outer_arc_g])

@[local ge_eqs]
theorem ge2_CircleSegment_inner_arc : (CircleSegment.inner_arc_g (K := K)) = CircleSegment.inner_arc := by
  first
  | rfl
  | (funext_all; simp only [CircleSegment.inner_arc_g, CircleSegment.inner_arc, paraD, paraB]; norm_num; done)
  | (funext_all; ge_alg [CircleSegment.inner_arc_g])

@[local ge_eqs]
theorem ge2_CircleSegment_area : (CircleSegment.area_g (K := K)) = CircleSegment.area := by
  first
  | rfl
  | (funext_all; simp only [CircleSegment.area_g, CircleSegment.area, paraD, paraB]; norm_num; done)
  | (funext_all; ge_alg [CircleSegment.area_g])

@[local ge_eqs]
theorem ge2_CircleSegment_perimeter : (CircleSegment.perimeter_g (K := K)) = CircleSegment.perimeter := by
  first
  | rfl
  | (funext_all; simp only [CircleSegment.perimeter_g, CircleSegment.perimeter, paraD, paraB]; norm_num; done)
  | (funext_all; ge_alg [CircleSegment.perimeter_g])

@[local ge_eqs]
theorem ge2_CircleSegment_winding : (CircleSegment.winding_g (K := K)) = CircleSegment.winding := by
  first
  | rfl
  | (funext_all; simp only [CircleSegment.winding_g, CircleSegment.winding, paraD, paraB]; norm_num; done)
  | (funext_all; ge_alg [CircleSegment.winding_g])

@[local ge_eqs]
theorem ge2_Affine_svd : (Affine.svd_g (K := K)) = Affine.svd := by
  first
  | rfl
  | (funext_all; simp only [Affine.svd_g, Affine.svd, paraD, paraB]; norm_num; done)
  | (funext_all; ge_alg [Affine.svd_g])

@[local ge_eqs]
theorem ge2_Ellipse_private_new : (Ellipse.private_new_g (K := K)) = Ellipse.private_new := by
  first
  | rfl
  | (funext_all; simp only [Ellipse.private_new_g, Ellipse.private_new, paraD, paraB]; norm_num; done)
  | (funext_all; ge_alg [Ellipse.private_new_g])

@[local ge_eqs]
theorem ge2_Ellipse_center : (Ellipse.center_g (K := K)) = Ellipse.center := by
  first
  | rfl
  | (funext_all; simp only [Ellipse.center_g, Ellipse.center, paraD, paraB]; norm_num; done)
  | (funext_all; ge_alg [Ellipse.center_g])

@[local ge_eqs]
theorem ge2_Affine_mul_Ellipse : (Affine.mul_Ellipse_g (K := K)) = Affine.mul_Ellipse := by
  first
  | rfl
  | (funext_all; simp only [Affine.mul_Ellipse_g, Affine.mul_Ellipse, paraD, paraB]; norm_num; done)
  | (funext_all; ge_alg [Affine.mul_Ellipse_g])

@[local ge_eqs]
theorem ge2_Ellipse_radii : (Ellipse.radii_g (K := K)) = Ellipse.radii := by
  first
  | rfl
  | (funext_all; simp only [Ellipse.radii_g, Ellipse.radii, paraD, paraB]; norm_num; done)
  | (funext_all; ge_alg [Ellipse.radii_g])

@[local ge_eqs]
theorem ge2_Ellipse_radii_and_rotation : (Ellipse.radii_and_rotation_g (K := K)) = Ellipse.radii_and_rotation := by
  first
  | rfl
  | (funext_all; simp only [Ellipse.radii_and_rotation_g, Ellipse.radii_and_rotation, paraD, paraB]; norm_num; done)
  | (funext_all; ge_alg [Ellipse.radii_and_rotation_g])

@[local ge_eqs]
theorem ge2_Ellipse_area : (Ellipse.area_g (K := K)) = Ellipse.area := by
  first
  | rfl
  | (funext_all; simp only [Ellipse.area_g, Ellipse.area, paraD, paraB]; norm_num; done)
  | (funext_all; ge_alg [Ellipse.area_g])

@[local ge_eqs]
theorem ge2_Ellipse_winding : (Ellipse.winding_g (K := K)) = Ellipse.winding := by
  first
  | rfl
  | (funext_all; simp only [Ellipse.winding_g, Ellipse.winding, paraD, paraB]; norm_num; done)
  | (funext_all; ge_alg [Ellipse.winding_g])

@[local ge_eqs]
theorem ge2_Ellipse_bounding_box : (Ellipse.bounding_box_g (K := K)) = Ellipse.bounding_box := by
  first
  | rfl
  | (funext_all; simp only [Ellipse.bounding_box_g, Ellipse.bounding_box, paraD, paraB]; norm_num; done)
  | (funext_all; ge_alg [Ellipse.bounding_box_g])

@[local ge_eqs]
theorem ge2_rotatePt : (rotatePt_g (K := K)) = rotatePt := by
  first
  | rfl
  | (funext_all; simp only [rotatePt_g, rotatePt, paraD, paraB]; norm_num; done)
  | (funext_all; ge_alg [rotatePt_g])

@[local ge_eqs]
theorem ge2_sampleEllipse : (sampleEllipse_g (K := K)) = sampleEllipse := by
  first
  | rfl
  | (funext_all; simp only [sampleEllipse_g, sampleEllipse, paraD, paraB]; norm_num; done)
  | (funext_all; ge_alg [sampleEllipse_g])

@[local ge_eqs]
theorem ge2_Affine_mul_Arc : (Affine.mul_Arc_g (K := K)) = Affine.mul_Arc := by
  first
  | rfl
  | (funext_all; simp only [Affine.mul_Arc_g, Affine.mul_Arc, paraD, paraB]; norm_num; done)
  | (funext_all; ge_alg [Affine.mul_Arc_g])

@[local ge_eqs]
theorem ge2_RoundedRectRadii_abs : (RoundedRectRadii.abs_g (K := K)) = RoundedRectRadii.abs := by
  first
  | rfl
  | (funext_all; simp only [RoundedRectRadii.abs_g, RoundedRectRadii.abs, paraD, paraB]; norm_num; done)
  | (funext_all; ge_alg [RoundedRectRadii.abs_g])

@[local ge_eqs]
theorem ge2_RoundedRectRadii_clamp : (RoundedRectRadii.clamp_g (K := K)) = RoundedRectRadii.clamp := by
  first
  | rfl
  | (funext_all; simp only [RoundedRectRadii.clamp_g, RoundedRectRadii.clamp, paraD, paraB]; norm_num; done)
  | (funext_all; ge_alg [RoundedRectRadii.clamp_g])

@[local ge_eqs]
theorem ge2_approxParabolaIntegral : (approxParabolaIntegral_g (K := K)) = approxParabolaIntegral := by
  first
  | rfl
  | (funext_all; simp only [approxParabolaIntegral_g, approxParabolaIntegral, paraD, paraB]; norm_num; done)
  | (funext_all; ge_alg [approxParabolaIntegral_g])

@[local ge_eqs]
theorem ge2_approxParabolaInvIntegral : (approxParabolaInvIntegral_g (K := K)) = approxParabolaInvIntegral := by
  first
  | rfl
  | (funext_all; simp only [approxParabolaInvIntegral_g, approxParabolaInvIntegral, paraD, paraB]; norm_num; done)
  | (funext_all; ge_alg [approxParabolaInvIntegral_g])

@[local ge_eqs]
theorem ge2_QuadBez_determine_subdiv_t : (QuadBez.determine_subdiv_t_g (K := K)) = QuadBez.determine_subdiv_t := by
  first
  | rfl
  | (funext_all; simp only [QuadBez.determine_subdiv_t_g, QuadBez.determine_subdiv_t, paraD, paraB]; norm_num; done)
  | (funext_all; ge_alg [QuadBez.determine_subdiv_t_g])

@[local ge_eqs]
theorem ge2_QuadBez_arclen : (QuadBez.arclen_g (K := K)) = QuadBez.arclen := by
  first
  | rfl
  | (funext_all; simp only [QuadBez.arclen_g, QuadBez.arclen, paraD, paraB]; norm_num; done)
  | (funext_all; ge_alg [QuadBez.arclen_g])

@[local ge_eqs]
theorem ge2_Line_crossing_point : (Line.crossing_point_g (K := K)) = Line.crossing_point := by
  first
  | rfl
  | (funext_all; simp only [Line.crossing_point_g, Line.crossing_point, paraD, paraB]; norm_num; done)
  | (funext_all; ge_alg [Line.crossing_point_g])

end Kurbo
