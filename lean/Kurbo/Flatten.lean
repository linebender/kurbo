import Kurbo.Quads
/-! Hand-written model of `flatten` (bezpath.rs) with `QuadBez::estimate_subdiv`, `determine_subdiv_t` and the two parabola
    integral approximations (quadbez.rs).  C05. -/
namespace Kurbo
open Ops
variable {K : Type} [Scalar K]

structure FlattenParams (K : Type) where
  a0 : K
  a2 : K
  u0 : K
  uscale : K
  val : K

def paraD : Rat := 67/100
def paraB : Rat := 39/100
def toQuadTol : Rat := 1/10

/-- `approx_parabola_integral` -/
def approxParabolaIntegral (x : K) : K :=
  let d : K := Scalar.ofRat paraD
  x / ((1 : K) - d + Scalar.sqrt (Scalar.sqrt (spowi d 4 + (Scalar.ofRat (1/4) : K) * x * x)))

/-- `approx_parabola_inv_integral` -/
def approxParabolaInvIntegral (x : K) : K :=
  let b : K := Scalar.ofRat paraB
  x * ((1 : K) - b + Scalar.sqrt (b * b + (Scalar.ofRat (1/4) : K) * x * x))

/-- `QuadBez::estimate_subdiv` -/
def QuadBez.estimate_subdiv (self : QuadBez K) (sqrt_tol : K) : FlattenParams K :=
  let d01 := self.p1 - self.p0
  let d12 := self.p2 - self.p1
  let dd := d01 - d12
  let cross := (self.p2 - self.p0).cross dd
  let x0 := d01.dot dd * srecip cross
  let x2 := d12.dot dd * srecip cross
  let den := dd.hypot * (x2 - x0)
  let scale := sabs (cross / den)
  let a0 := approxParabolaIntegral x0
  let a2 := approxParabolaIntegral x2
  -- `scale.is_finite()`: scale is a quotient by `den` (for `cross = 0` the floats x0, x2 are infinite/NaN and so is `den` or
  -- `scale`; in a lawful field `cross = 0` gives x0 = x2 = 0 and den = 0, the same branch)
  let val := if Scalar.finQuot den scale then
      let da := sabs (a2 - a0)
      let sqrt_scale := Scalar.sqrt scale
      if Scalar.signum x0 ==. Scalar.signum x2 then da * sqrt_scale
      else
        let xmin := sqrt_tol / sqrt_scale
        sqrt_tol * da / approxParabolaIntegral xmin
    else (0 : K)
  let u0 := approxParabolaInvIntegral a0
  let u2 := approxParabolaInvIntegral a2
  let uscale := srecip (u2 - u0)
  { a0 := a0, a2 := a2, u0 := u0, uscale := uscale, val := val }

/-- `QuadBez::determine_subdiv_t` -/
def QuadBez.determine_subdiv_t (_self : QuadBez K) (params : FlattenParams K) (x : K) : K :=
  let a := params.a0 + (params.a2 - params.a0) * x
  let u := approxParabolaInvIntegral a
  (u - params.u0) * params.uscale

/-- the run emitted for a `QuadTo` when there is a current point -/
def flattenQuad (q : QuadBez K) (sqrt_tol : K) : List (PathEl K) :=
  let params := q.estimate_subdiv sqrt_tol
  let n0 := Scalar.toUSize (Scalar.ceil ((Scalar.ofRat (1/2) : K) * params.val / sqrt_tol))
  let n := if n0 < 1 then 1 else n0
  let step : K := (1 : K) / natK n
  ((List.range (n - 1)).map fun k =>
    let i := k + 1
    let u := natK i * step
    let t := q.determine_subdiv_t params u
    PathEl.LineTo (q.eval t)) ++ [PathEl.LineTo q.p2]

/-- state of the cubic emission loop: index `i` of the next point and the running `val_sum` -/
structure CubicFlatSt (K : Type) where
  i : Nat
  val_sum : K
  out : List (PathEl K)
  done : Bool        -- the `i == n + 1` break left the while loop (the for loop continues, adding val only)

/-- the `while target < val_sum + params.val` loop for one quadratic (fuelled by the number of points still allowed) -/
def cubicWhile (q : QuadBez K) (params : FlattenParams K) (step : K) (n : Nat) (val_sum recip_val : K) :
    Nat → Nat → List (PathEl K) → Nat × List (PathEl K)
  | 0, i, out => (i, out)
  | fuel + 1, i, out =>
    let target := natK i * step
    if target <. val_sum + params.val then
      let u := (target - val_sum) * recip_val
      let t := q.determine_subdiv_t params u
      let out' := out ++ [PathEl.LineTo (q.eval t)]
      let i' := i + 1
      if i' == n + 1 then (i', out') else cubicWhile q params step n val_sum recip_val fuel i' out'
    else (i, out)

/-- the run emitted for a `CurveTo` when there is a current point -/
def flattenCubic (c : CubicBez K) (tolerance sqrt_tol : K) : List (PathEl K) :=
  let quads := c.to_quads (tolerance * (Scalar.ofRat toQuadTol : K))
  let sqrt_remain_tol := sqrt_tol * Scalar.sqrt ((1 : K) - (Scalar.ofRat toQuadTol : K))
  let buf := quads.map fun (_, _, q) => (q, q.estimate_subdiv sqrt_remain_tol)
  let sum := buf.foldl (fun acc qp => acc + qp.2.val) (0 : K)
  let n0 := Scalar.toUSize (Scalar.ceil ((Scalar.ofRat (1/2) : K) * sum / sqrt_remain_tol))
  let n := if n0 < 1 then 1 else n0
  let step := sum / natK n
  let (_, _, out) := buf.foldl (fun (acc : Nat × K × List (PathEl K)) qp =>
      let (i, val_sum, out) := acc
      let (q, params) := qp
      let recip_val := srecip params.val
      -- once `i == n + 1` the inner loop can emit nothing more: `target = (n+1)·step > sum ≥ val_sum + val`… the crate
      -- recomputes `target = i·step` at the top of every pass of the `for` loop (as `cubicWhile` does on entry), so the
      -- `while` is re-entered with `i = n + 1` only where that inequality fails (REMARK in the header of `Proofs/C05.lean`)
      let (i', out') := cubicWhile q params step n val_sum recip_val (n + 2) i out
      (i', val_sum + params.val, out')) (1, (0 : K), [])
  out ++ [PathEl.LineTo c.p3]

/-- `flatten(path, tolerance, callback)`: the list of callback arguments.  State = (last_pt, start_pt). -/
def flatten (path : List (PathEl K)) (tolerance : K) : List (PathEl K) :=
  let sqrt_tol := Scalar.sqrt tolerance
  let (_, _, out) := path.foldl (fun (acc : Option (Point K) × Option (Point K) × List (PathEl K)) el =>
      let (last_pt, start_pt, out) := acc
      match el with
      | .MoveTo p => (some p, some p, out ++ [.MoveTo p])
      | .LineTo p => (some p, start_pt, out ++ [.LineTo p])
      | .QuadTo p1 p2 =>
        match last_pt with
        | some p0 => (some p2, start_pt, out ++ flattenQuad ⟨p0, p1, p2⟩ sqrt_tol)
        | none => (some p2, start_pt, out)
      | .CurveTo p1 p2 p3 =>
        match last_pt with
        | some p0 => (some p3, start_pt, out ++ flattenCubic ⟨p0, p1, p2, p3⟩ tolerance sqrt_tol)
        | none => (some p3, start_pt, out)
      | .ClosePath => (start_pt, start_pt, out ++ [.ClosePath])) (none, none, [])
  out

end Kurbo
